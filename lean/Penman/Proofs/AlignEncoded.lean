/-
  Penman.Proofs.AlignEncoded — `configure` on a well-formed graph WITH alignments:
  the store (as in ConfigureVersion, without `NoAlign`) and what is known about each
  of its edges.
-/
import Penman.Proofs.AlignReadEdge
namespace Penman
namespace Cfg
namespace Al


/-- `Encoded` (ConfigureVersion) with the `plain` clause replaced by the marker bookkeeping -/
structure EncodedAl (m : Model) (g : Graph) (t : Str) (T : Tree) (st : St) (l : List Triple) : Prop where
  store : storeOf m g t = .ok st
  build : buildNode st.cells (2 * st.cells.length + 2) t = .ok T.node
  metaEq : T.metadata = g.metadata
  perm : l.Perm (placed st.cells)
  version : ∀ x ∈ l, ∃ t0 ∈ g.triples, x = t0 ∨ (x = m.invert t0 ∧ (∃ b, t0.tgt = .str b) ∧ t0.role ≠ CONCEPT_ROLE)
  notNull : ∀ x ∈ l, ¬ NullInst x
  same : (g.triples.map (deinvert1 m g)).Perm
    (l.map (deinvert1 m g) ++ (g.triples.filter nullB).map (deinvert1 m g))
  keys : ∀ k, k ∈ ckeys st.cells ↔ k ∈ g.variables
  edges : CellsOK m g st.cells
  inst : ∀ t0 ∈ g.triples, t0.role = CONCEPT_ROLE → nullB t0 = false → t0 ∈ l

/-- the bookkeeping of a `configure` that succeeded (no connectivity hypothesis) -/
theorem encodedAl_of_ok {m : Model} {g : Graph} {top : Option Str} {T : Tree} (hw : ModelWf m) (hg : WfGraphAl m g)
    (hpv : PushVars g) (h : configure m g top = .ok T) :
    ∃ t st l, topOf g top = some t ∧ t ∈ g.variables ∧ EncodedAl m g t T st l := by
  have hr2 : ∀ x ∈ g.triples, RoleOK2 m x := fun x hx => roleOK2_of_colon m x (hg.roles x hx).1
  rcases configure_cases m g top with ⟨he, _⟩ | ⟨_, _, h'⟩ | ⟨t, _, ht, htv, ⟨e, _, h'⟩ | ⟨st, node, hs, _, hb, h'⟩⟩
  · rw [hg.nonempty] at he; simp at he
  · rw [h'] at h; simp at h
  · rw [h'] at h; simp at h
  · rw [h'] at h; simp only [Except.ok.injEq] at h; subst h
    obtain ⟨l1, hpre, l, hcorr, hperm⟩ := storeOf_sound hs hr2
    have hsub := keys_subset_variables hg.noInstOf hpv htv hs
    have hnd : ∀ x ∈ g.triples, nullB x = false → ∀ t1, PreStep m x t1 → ¬ Step m t1 none :=
      fun x hx hn t1 h1 => no_drop hg.noInstOf hx hn h1
    have hsrc : ∀ x ∈ l, x.src ∈ g.variables :=
      fun x hx => hsub _ (placed_src_key (hperm.subset hx))
    have hver : ∀ x ∈ l, ∃ t0 ∈ g.triples, x = t0 ∨ (x = m.invert t0 ∧ (∃ b, t0.tgt = .str b) ∧ t0.role ≠ CONCEPT_ROLE) := by
      intro x hx
      obtain ⟨t0, ht0, t1, h1, h2⟩ := chain_back hpre hcorr x hx
      exact ⟨t0, ht0, two_steps hw (hg.roles t0 ht0).2.2 h1 h2⟩
    have hnn : ∀ x ∈ l, ¬ NullInst x := by
      intro x hx
      obtain ⟨t0, _, t1, _, h2⟩ := chain_back hpre hcorr x hx
      cases h2 with
      | keep h => exact h
      | inv _ _ _ h => exact h
    have hinst : ∀ t0 ∈ g.triples, t0.role = CONCEPT_ROLE → nullB t0 = false → t0 ∈ l := by
      intro t0 ht0 hr0 hn0
      obtain ⟨t1, h1, h2⟩ := chain_fwd hpre hcorr t0 ht0
      rcases h2 with h2 | ⟨x, hx, h2⟩
      · exact absurd h2 (hnd t0 ht0 hn0 t1 h1)
      · have hx0 : x = t0 := by
          cases h1 with
          | same =>
            cases h2 with
            | keep => rfl
            | inv v hv hr => exact absurd hr0 hr
          | inv v hv hr => exact absurd hr0 hr
        subst hx0; exact hx
    refine ⟨t, st, l, ht, htv, ⟨hs, hb, rfl, hperm, hver, hnn, ?_, ?_, storeOf_cellsOK hr2 hs, hinst⟩⟩
    · apply chain_map (deinvert1 m g) (deinvert1 m g) (fun x => x.src ∈ g.variables) hpre hcorr hnd _ hsrc
      intro t0 ht0 t1 t2 h1 h2 hq
      exact deinvert1_version hw ht0 (hg.roles t0 ht0).2.2 (two_steps hw (hg.roles t0 ht0).2.2 h1 h2) hq
    · intro k
      refine ⟨hsub k, ?_⟩
      intro hk
      obtain ⟨t0, ht0, hs0, hr0⟩ := hg.labelled k hk
      rw [← hs0]
      exact storeOf_ownInst hs t0 ht0 hr0

theorem encodedAl {m : Model} {g : Graph} {top : Option Str} {t : Str} (hw : ModelWf m) (hg : WfGraphAl m g)
    (hpv : PushVars g) (hps : PushSrcOK g) (ht : topOf g top = some t) (htv : t ∈ g.variables)
    (hreach : ∀ v ∈ g.variables, Reach g t v) :
    ∃ T st l, configure m g top = .ok T ∧ EncodedAl m g t T st l := by
  obtain ⟨T, hT⟩ := configure_complete hg.noInstOf hps ht htv hreach
  obtain ⟨t', st, l, ht', _, E⟩ := encodedAl_of_ok hw hg hpv hT
  rw [ht] at ht'; cases ht'
  exact ⟨T, st, l, hT, E⟩

theorem _root_.Penman.Cfg.Encoded.toAl {m : Model} {g : Graph} {t : Str} {T : Tree} {st : St} {l : List Triple}
    (hr : ∀ x ∈ g.triples, RoleOK2 m x) (E : Encoded m g t T st l) : EncodedAl m g t T st l :=
  ⟨E.store, E.build, E.metaEq, E.perm, E.version, E.notNull, E.same, E.keys, storeOf_cellsOK hr E.store, E.inst⟩

theorem EncodedAl.toEncoded {m : Model} {g : Graph} {t : Str} {T : Tree} {st : St} {l : List Triple}
    (hr : ∀ x ∈ g.triples, RoleOK2 m x) (hna : NoAlign g) (E : EncodedAl m g t T st l) : Encoded m g t T st l :=
  ⟨E.store, E.build, E.metaEq, E.perm, E.version, E.notNull, E.same, E.keys, storeOf_plain hr hna E.store, E.inst⟩

theorem _root_.Penman.Cfg.encoded {m : Model} {g : Graph} {top : Option Str} {t : Str} (hw : ModelWf m) (hg : WfGraph m g)
    (hpv : PushVars g) (hps : PushSrcOK g) (ht : topOf g top = some t) (htv : t ∈ g.variables)
    (hreach : ∀ v ∈ g.variables, Reach g t v) :
    ∃ T st l, configure m g top = .ok T ∧ Encoded m g t T st l := by
  obtain ⟨T, st, l, hT, E⟩ := encodedAl hw ((wfGraph_iff m g).1 hg).1 hpv hps ht htv hreach
  exact ⟨T, st, l, hT, E.toEncoded (fun x hx => roleOK2_of_colon m x (hg.roles x hx).1) hg.noAlign⟩

theorem goodT_of_version_al {m : Model} {g : Graph} (hw : ModelWf m) (hg : WfGraphAl m g) {x t0 : Triple}
    (ht0 : t0 ∈ g.triples)
    (h : x = t0 ∨ (x = m.invert t0 ∧ (∃ b, t0.tgt = .str b) ∧ t0.role ≠ CONCEPT_ROLE)) : GoodT m x := by
  obtain ⟨r1, r2, r3⟩ := hg.roles t0 ht0
  rcases h with rfl | ⟨rfl, _, _⟩
  · exact ⟨r1, r2, r3, hg.tgts _ ht0⟩
  · refine ⟨by rw [invert_role]; exact head_invertRole m _ r1, by rw [invert_role]; exact invertRole_noTilde m r2,
      by rw [invert_role]; exact canon_invertRole hw r3, ?_⟩
    rw [invert_tgt]; exact Or.inl (hg.srcs t0 ht0)

theorem _root_.Penman.Cfg.goodT_of_version {m : Model} {g : Graph} (hw : ModelWf m) (hg : WfGraph m g) {x t0 : Triple}
    (ht0 : t0 ∈ g.triples)
    (h : x = t0 ∨ (x = m.invert t0 ∧ (∃ b, t0.tgt = .str b) ∧ t0.role ≠ CONCEPT_ROLE)) : GoodT m x :=
  goodT_of_version_al hw ((wfGraph_iff m g).1 hg).1 ht0 h

theorem filter_alnEpis (es : List Epi) (k : Nat) (hk : k ≠ 0) :
    ((alnEpis es).filter fun x => x.mode = k) = es.filter fun x => x.mode = k := by
  unfold alnEpis
  rw [List.filter_filter]
  apply List.filter_congr
  intro x _
  cases x with
  | push _ => simp [Epi.mode, Epi.isLayout]; exact decide_eq_false (fun h => hk h.symm)
  | pop => simp [Epi.mode, Epi.isLayout]; exact decide_eq_false (fun h => hk h.symm)
  | roleAln _ _ => simp [Epi.mode, Epi.isLayout]
  | aln _ _ => simp [Epi.mode, Epi.isLayout]

section
variable {isAlpha : Char → Bool} {m : Model} {g : Graph} {t : Str} {T : Tree} {st : St} {l : List Triple}

theorem mem_placed {c : Cells} {p : Str × List Edge} (hp : p ∈ c) {e : Edge} (he : e ∈ p.2) :
    Cfg.denote p.1 e ∈ placed c := by
  simp only [placed, List.mem_flatMap, List.mem_map]; exact ⟨p, hp, e, he, rfl⟩

/-- each edge of the store: the graph triple it expresses, as it is or inverted once, with its alignments -/
theorem edge_resolved (hw : ModelWf m) (hg : WfGraphAl m g) (E : EncodedAl m g t T st l)
    {p : Str × List Edge} (hp : p ∈ st.cells) {e : Edge} (he : e ∈ p.2) :
    e.role ≠ CONCEPT_ROLE ∧ ∃ t1 ∈ g.triples, e.epis = alnEpis (episOf g t1) ∧
      (Cfg.denote p.1 e = t1 ∨ (Cfg.denote p.1 e = m.invert t1 ∧ (∃ b, t1.tgt = .str b) ∧ t1.role ≠ CONCEPT_ROLE)) := by
  obtain ⟨h1, t1, ht1, tr, hpre, hep, hd⟩ := E.edges p hp e he
  have hl := E.perm.symm.subset (mem_placed hp he)
  have hnn := E.notNull _ hl
  have hstep := step_some hd hnn
  exact ⟨h1, t1, ht1, hep, two_steps hw (hg.roles t1 ht1).2.2 hpre hstep⟩

/-- the facts needed to read an edge back, from `AlignOK` -/
theorem edgeFacts (hw : ModelWf m) (hg : WfGraphAl m g) (hal : AlignOK isAlpha m g)
    (E : EncodedAl m g t T st l) {vars : List Str} (hvmem : ∀ s, s ∈ vars ↔ s ∈ g.variables)
    (hforest : Forest st.cells)
    {p : Str × List Edge} (hp : p ∈ st.cells) {e : Edge} (he : e ∈ p.2) :
    EdgeFacts isAlpha m vars p.1 e ∧ ∃ t1 ∈ g.triples,
      (Cfg.denote p.1 e = t1 ∨ (Cfg.denote p.1 e = m.invert t1 ∧ (∃ b, t1.tgt = .str b) ∧ t1.role ≠ CONCEPT_ROLE)) ∧
      deinvert1 m g (Cfg.denote p.1 e) = deinvert1 m g t1 ∧
      (e.epis.filter fun x => x.mode = 1).getLast? = roleAlnOf g t1 ∧
      (e.epis.filter fun x => x.mode = 2).getLast? = tgtAlnOf g t1 := by
  obtain ⟨hni, t1, ht1, hep, hv⟩ := edge_resolved hw hg E hp he
  have hkey : p.1 ∈ g.variables := (E.keys _).1 (mem_keys_of_mem hp)
  have hf1 : (e.epis.filter fun x => x.mode = 1) = (episOf g t1).filter fun x => x.mode = 1 := by
    rw [hep, filter_alnEpis _ 1 (by decide)]
  have hf2 : (e.epis.filter fun x => x.mode = 2) = (episOf g t1).filter fun x => x.mode = 2 := by
    rw [hep, filter_alnEpis _ 2 (by decide)]
  have hgoodT := goodT_of_version_al hw hg ht1 hv
  refine ⟨⟨hni, hgoodT, ?_, ?_, ?_, ?_, ?_, ?_⟩, t1, ht1, hv, ?_, by rw [hf1]; rfl, by rw [hf2]; rfl⟩
  · -- `node`: an edge to a node points to a cell, and the cells are the variables
    intro w hw'
    exact (hvmem w).2 ((E.keys w).1 (hforest p hp e he w hw').2)
  · rw [hf1]; exact (hal.one t1 ht1).1
  · rw [hf2]; exact (hal.one t1 ht1).2
  · intro x hx
    rw [hep] at hx
    exact hal.markers t1 ht1 x (List.mem_filter.1 hx).1
  · -- `ra`: a role alignment sits on a relation (`AlignOK.roleAln`), inverted or not, never on `/`
    intro hne hs
    rw [hf1] at hne
    have hr1 : t1.role ≠ CONCEPT_ROLE := hal.roleAln t1 ht1 (by
      unfold roleAlnOf; intro hh; exact hne (List.getLast?_eq_none_iff.1 hh))
    have hdr : (Cfg.denote p.1 e).role = CONCEPT_ROLE := by simp [Cfg.denote, hs]
    rcases hv with h | ⟨h, _, _⟩
    · rw [h] at hdr; exact hr1 hdr
    · rw [h, invert_role] at hdr; exact (hg.noInstOf t1 ht1 hr1).1 hdr
  · -- `ta`: an alignment sits on a constant text that is no variable (`AlignOK.tgtAln`); such a
    -- triple is stored as it is (its inversion would have the constant as source) with an atomic target
    intro hne
    rw [hf2] at hne
    have hat := hal.tgtAln t1 ht1 (by
      unfold tgtAlnOf; intro hh; exact hne (List.getLast?_eq_none_iff.1 hh))
    cases htg : t1.tgt with
    | none => rw [htg] at hat; exact absurd hat (by simp [AlnTgtOK])
    | num _ => rw [htg] at hat; exact absurd hat (by simp [AlnTgtOK])
    | str s =>
      rw [htg] at hat
      obtain ⟨hsv, hst⟩ := hat
      have hd1 : Cfg.denote p.1 e = t1 := by
        rcases hv with h | ⟨h, ⟨b, hb⟩, _⟩
        · exact h
        · exfalso
          have : (m.invert t1).src = b := invert_src m t1 b hb
          rw [← h] at this
          have hb' : b = s := by rw [htg] at hb; simpa using hb.symm
          apply hsv; rw [← hb', ← this]; exact hkey
      have htgt : (Cfg.denote p.1 e).tgt = .str s := by rw [hd1, htg]
      refine ⟨s, ?_, fun h => hsv ((hvmem s).1 h), hst⟩
      cases hte : e.tgt with
      | atom a => simp only [Cfg.denote, hte] at htgt; rw [htgt]
      | node w =>
        exfalso
        simp only [Cfg.denote, hte, Atom.str.injEq] at htgt
        have := (E.keys w).1 (hforest p hp e he w hte).2
        rw [htgt] at this; exact hsv this
  · exact deinvert1_version hw ht1 (hg.roles t1 ht1).2.2 hv hkey
end

end Al
end Cfg
end Penman
