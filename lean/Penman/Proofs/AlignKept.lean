/-
  Penman.Proofs.AlignKept — the alignments of the decoded graph: `interpret` files
  the markers of the first written occurrence of each triple (`Decoded.epimap_proj`),
  so the role alignment / alignment reported for a decoded triple are those of the
  graph triple it came from.  Stated once over the function `K` that sends a graph triple to its
  decoded form.
-/
import Penman.Proofs.AlignRoundTrip
namespace Penman
namespace Cfg
namespace Al
open Penman.Spec.Reading Penman.Interp

theorem find?_firstOccAux {α κ : Type} [DecidableEq κ] (key : α → κ) (k : κ) : ∀ (l : List α) (seen : List κ),
    k ∉ seen → (firstOccAux key seen l).find? (fun x => decide (key x = k)) = l.find? (fun x => decide (key x = k)) := by
  intro l
  induction l with
  | nil => intro _ _; rfl
  | cons x xs ih =>
    intro seen hk
    simp only [firstOccAux]
    split
    · rename_i hs
      have hne : key x ≠ k := by rintro rfl; exact hk hs
      rw [ih seen hk, List.find?_cons]
      simp [hne]
    · by_cases he : key x = k
      · simp [he]
      · rw [List.find?_cons, List.find?_cons]
        simp only [he, decide_false]
        apply ih
        simp only [List.mem_cons, not_or]
        exact ⟨fun h => he h.symm, hk⟩

theorem lookup_proj : ∀ (es : List (Triple × List Epi)) (L : List Denoted), es.map entryProj = L.map denProj → ∀ k,
    ((AList.get? es k).map fun e => (roleProj e, tgtProj e)) =
      (L.find? (fun d => decide (d.triple = k))).map (fun d => (denProj d).2) := by
  intro es
  induction es with
  | nil =>
    intro L h k
    cases L with
    | nil => rfl
    | cons _ _ => simp at h
  | cons x es ih =>
    intro L h k
    cases L with
    | nil => simp at h
    | cons d L =>
      simp only [List.map_cons, List.cons.injEq] at h
      obtain ⟨h1, h2⟩ := h
      obtain ⟨t, e⟩ := x
      simp only [entryProj, denProj, Prod.mk.injEq] at h1
      obtain ⟨hk, hr, hta⟩ := h1
      have := ih L h2 k
      simp only [AList.get?, List.find?_cons] at this ⊢
      by_cases hd : d.triple = k
      · simp [hd, hk, denProj, hr, hta]
      · have : ¬ t = k := by rw [hk]; exact hd
        simp only [hd, this, decide_false]
        assumption

/-- **the alignments survive.** `K t0` is the decoded form of a graph triple `t0` (`deinvert1 m g t0`, or
    that of its written form when constants went through text).  Every `K t0` is a triple of `g'` and
    reports the role alignment and the alignment of `t0`; every triple of `g'` arises in this way. -/
theorem alignments_kept_key {isAlpha : Char → Bool} {m : Model} {g g' : Graph} {T : Tree} {v : Option Str}
    {ds : List Denoted} (K : Triple → Triple) (hidem : ∀ t ∈ g.triples, deinvert1 m g (K t) = K t)
    (hagree : ∀ t ∈ g.triples, ∀ t' ∈ g.triples, K t = K t' →
      roleAlnOf g t = roleAlnOf g t' ∧ tgtAlnOf g t = tgtAlnOf g t')
    (hg' : interpret isAlpha m T = .ok g')
    (hread : Spec.Reading.read isAlpha m T.node = .ok ⟨v, ds⟩)
    (hperm : (g'.triples.map (deinvert1 m g)).Perm (g.triples.map K))
    (hds : ∀ d ∈ ds, ∃ t1 ∈ g.triples, d.triple = K t1 ∧ colon d.triple = d.triple ∧
        d.roleAln.map (fun a => Epi.roleAln a.1 a.2) = roleAlnOf g t1 ∧
        d.tgtAln.map (fun a => Epi.aln a.1 a.2) = tgtAlnOf g t1) :
    (∀ t0 ∈ g.triples, K t0 ∈ g'.triples ∧
      roleAlnOf g' (K t0) = roleAlnOf g t0 ∧ tgtAlnOf g' (K t0) = tgtAlnOf g t0) ∧
    (∀ x ∈ g'.triples, ∃ t0 ∈ g.triples, x = K t0) := by
  obtain ⟨v', ds', es, Dd⟩ := decoded hg'
  have hrd := Dd.rd
  rw [hread] at hrd
  simp only [Except.ok.injEq, Reading.mk.injEq] at hrd
  obtain ⟨_, rfl⟩ := hrd
  have htr : g'.triples = ds.map (·.triple) := by
    rw [Dd.triples]
    apply List.map_congr_left
    intro d hd
    obtain ⟨_, _, _, hc, _⟩ := hds d hd
    exact hc
  have hall : ∀ x ∈ g'.triples, ∃ t0 ∈ g.triples, x = K t0 := by
    intro x hx
    rw [htr] at hx
    obtain ⟨d, hd, rfl⟩ := List.mem_map.1 hx
    obtain ⟨t1, ht1, h1, _⟩ := hds d hd
    exact ⟨t1, ht1, h1⟩
  refine ⟨?_, hall⟩
  intro t0 ht0
  have hmem : K t0 ∈ g'.triples := by
    obtain ⟨x, hx, hxe⟩ := List.mem_map.1 (hperm.symm.subset (List.mem_map.2 ⟨t0, ht0, rfl⟩))
    obtain ⟨t1, ht1, rfl⟩ := hall x hx
    rw [hidem t1 ht1] at hxe
    rw [← hxe]; exact hx
  refine ⟨hmem, ?_⟩
  rw [htr] at hmem
  obtain ⟨d0, hd0, hd0k⟩ := List.mem_map.1 hmem
  -- the first relation of the reading that denotes `K t0`: its markers are the ones filed
  obtain ⟨d, hfd⟩ : ∃ d, ds.find? (fun d => decide (d.triple = K t0)) = some d := by
    cases hf : ds.find? (fun d => decide (d.triple = K t0)) with
    | some d => exact ⟨d, rfl⟩
    | none =>
      have := List.find?_eq_none.1 hf d0 hd0
      simp [hd0k] at this
  have hdm : d ∈ ds := List.mem_of_find?_eq_some hfd
  have hdk : d.triple = K t0 := by
    have := List.find?_some hfd; simpa using this
  have hlook := lookup_proj g'.epidata (firstOccBy (·.triple) ds) Dd.epimap_proj (K t0)
  unfold firstOccBy at hlook
  rw [find?_firstOccAux (fun d : Denoted => d.triple) (K t0) ds [] (by simp), hfd] at hlook
  obtain ⟨t1, ht1, h1, _, hra, hta⟩ := hds d hdm
  have hagree' := hagree t0 ht0 t1 ht1 (by rw [← h1, hdk])
  cases hget : AList.get? g'.epidata (K t0) with
  | none => rw [hget] at hlook; simp at hlook
  | some e =>
    rw [hget] at hlook
    simp only [Option.map_some, Option.some.injEq, denProj, Prod.mk.injEq] at hlook
    obtain ⟨hr, htg⟩ := hlook
    constructor
    · show ((episOf g' (K t0)).filter fun e => e.mode = 1).getLast? = _
      unfold episOf; rw [hget]
      simp only [Option.getD_some]
      have : roleProj e = (e.filter fun x => x.mode = 1).getLast? := rfl
      rw [← this, hr, hra, hagree'.1]
    · show ((episOf g' (K t0)).filter fun e => e.mode = 2).getLast? = _
      unfold episOf; rw [hget]
      simp only [Option.getD_some]
      have : tgtProj e = (e.filter fun x => x.mode = 2).getLast? := rfl
      rw [← this, htg, hta, hagree'.2]

/-- `alignments_kept_key` at `K = deinvert1 m g`: the triple itself, or inverted if it was written with
    an inverted role to a variable -/
theorem alignments_kept {isAlpha : Char → Bool} {m : Model} {g g' : Graph} {T : Tree} {ds : List Denoted}
    (hw : ModelWf m) (hg : WfGraphAl m g) (hal : AlignOK isAlpha m g)
    (hg' : interpret isAlpha m T = .ok g')
    (hread : Spec.Reading.read isAlpha m T.node = .ok ⟨T.node.var, ds⟩)
    (hperm : (g'.triples.map (deinvert1 m g)).Perm (g.triples.map (deinvert1 m g)))
    (hds : ∀ d ∈ ds, ∃ t1 ∈ g.triples, d.triple = deinvert1 m g t1 ∧ colon d.triple = d.triple ∧
        d.roleAln.map (fun a => Epi.roleAln a.1 a.2) = roleAlnOf g t1 ∧
        d.tgtAln.map (fun a => Epi.aln a.1 a.2) = tgtAlnOf g t1) :
    (∀ t0 ∈ g.triples, deinvert1 m g t0 ∈ g'.triples ∧
      roleAlnOf g' (deinvert1 m g t0) = roleAlnOf g t0 ∧ tgtAlnOf g' (deinvert1 m g t0) = tgtAlnOf g t0) ∧
    (∀ x ∈ g'.triples, ∃ t0 ∈ g.triples, x = deinvert1 m g t0) :=
  alignments_kept_key (deinvert1 m g) (fun t ht => deinvert1_idem hw (hg.roles t ht).2.2) hal.agree hg' hread hperm hds

end Al
end Cfg
end Penman
