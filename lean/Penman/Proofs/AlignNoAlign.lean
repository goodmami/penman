/-
  Penman.Proofs.AlignNoAlign — a graph without alignment markers satisfies `AlignOK` and, if it is
  `GraphTextOK`, `GraphTextOKal` (so C03al contains C03, and C03al_text contains C03_text).
-/
import Penman.Spec.AlignTextOK
namespace Penman
namespace Cfg
namespace Al
open Penman.Spec Penman.C03Text

theorem filter_mode_of_noAlign {g : Graph} (h : NoAlign g) {t : Triple} (ht : t ∈ g.triples) (k : Nat) (hk : k ≠ 0) :
    ((episOf g t).filter fun e => e.mode = k) = [] := by
  rw [List.filter_eq_nil_iff]
  intro e he
  have := h t ht e he
  simp only [decide_eq_true_eq]
  omega

theorem alnOf_of_noAlign {g : Graph} (h : NoAlign g) {t : Triple} (ht : t ∈ g.triples) :
    roleAlnOf g t = none ∧ tgtAlnOf g t = none := by
  unfold roleAlnOf tgtAlnOf
  rw [filter_mode_of_noAlign h ht 1 (by decide), filter_mode_of_noAlign h ht 2 (by decide)]
  exact ⟨rfl, rfl⟩

theorem alignOK_of_noAlign (isAlpha : Char → Bool) (m : Model) {g : Graph} (h : NoAlign g) : AlignOK isAlpha m g := by
  refine ⟨?_, ?_, ?_, ?_, ?_⟩
  · intro t ht
    rw [filter_mode_of_noAlign h ht 1 (by decide), filter_mode_of_noAlign h ht 2 (by decide)]; simp
  · intro t ht e he
    have := h t ht e he
    cases e <;> simp [Epi.mode] at this <;> trivial
  · intro t ht hne; exact absurd (alnOf_of_noAlign h ht).1 hne
  · intro t ht hne; exact absurd (alnOf_of_noAlign h ht).2 hne
  · intro t ht t' ht' _
    rw [(alnOf_of_noAlign h ht).1, (alnOf_of_noAlign h ht).2, (alnOf_of_noAlign h ht').1, (alnOf_of_noAlign h ht').2]
    exact ⟨rfl, rfl⟩


theorem graphTextOKal_of_noAlign {cfg : LexCfg} {isSpace : Char → Bool} {m : Model} {g : Graph}
    (h : GraphTextOK cfg isSpace m g) (hna : NoAlign g) : GraphTextOKal cfg isSpace m g := by
  refine ⟨h, ?_, ?_⟩
  · intro t ht e he hm
    exact absurd (hna t ht e he) hm
  · intro t ht t' ht' _
    rw [(alnOf_of_noAlign hna ht).1, (alnOf_of_noAlign hna ht).2, (alnOf_of_noAlign hna ht').1,
      (alnOf_of_noAlign hna ht').2]
    exact ⟨rfl, rfl⟩

end Al
end Cfg
end Penman
