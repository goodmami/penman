/-
  Penman.Proofs.AlignReadEdge — reading one edge of the store that carries alignment
  markers: the written relation denotes the store's triple (deinverted once if
  needed) together with exactly the edge's role alignment and alignment.
-/
import Penman.Proofs.AlignSuffix
namespace Penman
namespace Cfg
namespace Al
open Penman.Spec.Reading

/-- what is known about an edge of the final store -/
structure EdgeFacts (isAlpha : Char → Bool) (m : Model) (vars : List Str) (v : Str) (e : Edge) : Prop where
  notInst : e.role ≠ CONCEPT_ROLE
  good : GoodT m (Cfg.denote v e)
  node : ∀ w, e.tgt = .node w → w ∈ vars
  one1 : (e.epis.filter fun x => x.mode = 1).length ≤ 1
  one2 : (e.epis.filter fun x => x.mode = 2).length ≤ 1
  ok : ∀ x ∈ e.epis, EpiOK isAlpha x
  ra : (e.epis.filter fun x => x.mode = 1) ≠ [] → e.role ≠ ['/']
  ta : (e.epis.filter fun x => x.mode = 2) ≠ [] → ∃ s, e.tgt = .atom (.str s) ∧ s ∉ vars ∧ TextOKal s

theorem filter_cases {es : List Epi} {k : Nat} (h : (es.filter fun x => x.mode = k).length ≤ 1) :
    (es.filter fun x => x.mode = k) = [] ∨
      ∃ x, x ∈ es ∧ x.mode = k ∧ (es.filter fun x => x.mode = k) = [x] := by
  cases hf : (es.filter fun x => x.mode = k) with
  | nil => exact Or.inl rfl
  | cons x r =>
    right
    have hx : x ∈ es.filter fun x => x.mode = k := by rw [hf]; exact List.mem_cons_self
    have hr : r = [] := by
      rw [hf] at h
      cases r with
      | nil => rfl
      | cons _ _ => simp at h
    simp only [List.mem_filter, decide_eq_true_eq] at hx
    exact ⟨x, hx.1, hx.2, by rw [hr]⟩

variable {isAlpha : Char → Bool} {m : Model} {vars : List Str} {v : Str} {e : Edge}

theorem denote_role_slash (v : Str) (e : Edge) : (Cfg.denote v e).role = slashRole e.role := by
  simp [Cfg.denote, slashRole]

theorem edge_role_noTilde (F : EdgeFacts isAlpha m vars v e) : '~' ∉ e.role := by
  have := F.good.roleTilde
  rw [denote_role_slash] at this
  unfold slashRole at this
  split at this
  · rename_i h; rw [h]; decide
  · exact this

/-- the role text of an edge: the role, followed by the printed form of its role alignment if it has one -/
theorem outRole_cases (F : EdgeFacts isAlpha m vars v e) :
    ((e.epis.filter fun x => x.mode = 1) = [] ∧ outRole e = e.role) ∨
    ∃ p i, Epi.roleAln p i ∈ e.epis ∧ (e.epis.filter fun x => x.mode = 1) = [.roleAln p i] ∧
      outRole e = e.role ++ '~' :: alnBody p i ∧ MarkerOK isAlpha p i ∧ e.role ≠ ['/'] := by
  rw [outRole_eq]
  rcases filter_cases F.one1 with h0 | ⟨x, hx, hm, h1⟩
  · exact Or.inl ⟨h0, by simp [raStr, h0]⟩
  · cases x with
    | push _ => simp [Epi.mode] at hm
    | pop => simp [Epi.mode] at hm
    | aln _ _ => simp [Epi.mode] at hm
    | roleAln p i =>
      exact Or.inr ⟨p, i, hx, h1, by simp [raStr, h1, Epi.toStr, alnToString_eq], F.ok _ hx, F.ra (by rw [h1]; simp)⟩

/-- the target text of an atomic edge: the atom, or — only for a constant text that is no variable —
    the text followed by the printed form of its alignment -/
theorem outAtom_cases (F : EdgeFacts isAlpha m vars v e) {a : Atom} (ha : e.tgt = .atom a) :
    ((e.epis.filter fun x => x.mode = 2) = [] ∧ outAtom e a = a) ∨
    ∃ s p i, a = .str s ∧ Epi.aln p i ∈ e.epis ∧ (e.epis.filter fun x => x.mode = 2) = [.aln p i] ∧
      outAtom e a = .str (s ++ '~' :: alnBody p i) ∧ MarkerOK isAlpha p i ∧ s ∉ vars ∧ TextOKal s := by
  rw [outAtom_eq]
  rcases filter_cases F.one2 with h0 | ⟨x, hx, hm, h1⟩
  · exact Or.inl ⟨h0, if_pos h0⟩
  · obtain ⟨s, hs, hsv, hst⟩ := F.ta (by rw [h1]; simp)
    have has : a = .str s := by rw [ha] at hs; simpa using hs
    cases x with
    | push _ => simp [Epi.mode] at hm
    | pop => simp [Epi.mode] at hm
    | roleAln _ _ => simp [Epi.mode] at hm
    | aln p i =>
      refine Or.inr ⟨s, p, i, has, hx, h1, ?_, F.ok _ hx, hsv, hst⟩
      rw [if_neg (by rw [h1]; simp), has]
      simp [taStr, h1, Epi.toStr, alnToString_eq, atomStr]

theorem no_aln_of_node (F : EdgeFacts isAlpha m vars v e) {w : Str} (h : e.tgt = .node w) :
    (e.epis.filter fun x => x.mode = 2) = [] := by
  apply Decidable.byContradiction
  intro hne
  obtain ⟨s, hs, _⟩ := F.ta hne
  rw [h] at hs; cases hs

/-- the role text: its name is the role of the store's triple, its alignment suffix the edge's role alignment -/
theorem role_part (F : EdgeFacts isAlpha m vars v e) :
    roleName (outRole e) = (Cfg.denote v e).role ∧
    ∃ ra, parseAln? isAlpha (roleAlnText (outRole e)) = .ok ra ∧
      ra.map (fun a => Epi.roleAln a.1 a.2) = (e.epis.filter fun x => x.mode = 1).getLast? := by
  have hr := edge_role_noTilde F
  rw [denote_role_slash]
  rcases outRole_cases F with ⟨h0, ho⟩ | ⟨p, i, _, h1, ho, hok, hns⟩
  · rw [ho, h0]
    exact ⟨roleName_plain hr, none, by simp [roleAlnText_plain hr, parseAln?], rfl⟩
  · rw [ho, h1, roleName_append hr, roleAlnText_append hr]
    exact ⟨by simp [slashRole, hns], some (p, i), by simp [parseAln?, hok.1, Except.map], rfl⟩

/-- Reading the relation an edge is written as.  The role part is `role_part` throughout; the target is
    a node (no alignment: `no_aln_of_node`), a constant without alignment (`splitTarget_ok`), or a
    constant text with its alignment appended, which `splitTarget_append` takes apart again. -/
theorem denote_edge_al (hnoop : m.noop = false) (F : EdgeFacts isAlpha m vars v e)
    (hnumE : notNum (Cfg.denote v e).tgt = true) :
    ∃ d, Spec.Reading.denote isAlpha m vars (edgeWritten v e) = .ok d ∧
      d.triple = readTriple m vars (Cfg.denote v e) ∧
      d.roleAln.map (fun a => Epi.roleAln a.1 a.2) = (e.epis.filter fun x => x.mode = 1).getLast? ∧
      d.tgtAln.map (fun a => Epi.aln a.1 a.2) = (e.epis.filter fun x => x.mode = 2).getLast? := by
  obtain ⟨hrn, ra, hpa, hra⟩ := role_part F
  cases e with
  | mk role tgt epis =>
    simp only [] at hrn hpa hra
    cases tgt with
    | node w =>
      have hw := F.node w rfl
      have h2 : (epis.filter fun x => x.mode = 2) = [] := no_aln_of_node F rfl
      have hden : Cfg.denote v ⟨role, .node w, epis⟩ = ⟨v, roleName (outRole ⟨role, .node w, epis⟩), .str w⟩ := by
        rw [hrn]; simp [Cfg.denote]
      rw [hden]
      simp only [edgeWritten, Spec.Reading.denote, hpa, h2, List.getLast?_nil]
      refine ⟨_, rfl, ?_, hra, rfl⟩
      simp only [readTriple, orientTriple, hnoop, Bool.not_false, Bool.true_and, atomInVars, hw, decide_true, and_true]
    | atom a =>
      have hden : Cfg.denote v ⟨role, .atom a, epis⟩ = ⟨v, roleName (outRole ⟨role, .atom a, epis⟩), a⟩ := by
        rw [hrn]; simp [Cfg.denote]
      have hnum := hnumE
      have hgood := F.good
      rw [hden] at hnum hgood ⊢
      rcases outAtom_cases F rfl with ⟨h0, hoa⟩ | ⟨s, p, i, rfl, _, h1, hoa, hok, hsv, hst⟩
      · simp only [] at h0
        rw [h0]
        cases a with
        | none =>
          simp only [edgeWritten, hoa, Spec.Reading.denote, hpa]
          exact ⟨_, rfl, by simp [readTriple, atomInVars], hra, rfl⟩
        | num x => simp [notNum] at hnum
        | str s =>
          have hs : TextOK s := hgood.tgt
          have hpn : parseAln? isAlpha none = .ok none := rfl
          simp only [edgeWritten, hoa, Spec.Reading.denote, hpa, splitTarget_ok hs, hpn]
          refine ⟨_, rfl, ?_, hra, rfl⟩
          simp only [readTriple, orientTriple, hnoop, Bool.not_false, Bool.true_and, atomInVars,
            Bool.and_eq_true, decide_eq_true_eq]
      · simp only [] at h1
        obtain ⟨b', hsp, hb'⟩ := splitTarget_append isAlpha hst hok.2
        rw [h1]
        have hpt : parseAln? isAlpha (some b') = .ok (some (p, i)) := by
          simp [parseAln?, hb', hok.1, Except.map]
        simp only [edgeWritten, hoa, Spec.Reading.denote, hpa, hsp, hpt]
        refine ⟨_, rfl, ?_, hra, rfl⟩
        simp [readTriple, orientTriple, atomInVars, hsv]

theorem roleName_outRole (F : EdgeFacts isAlpha m vars v e) : roleName (outRole e) = (Cfg.denote v e).role :=
  (role_part F).1

end Al
end Cfg
end Penman
