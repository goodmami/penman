/-
  Penman.Proofs.AlignRoundTrip — C03 with alignments, graph level: `configure` then `interpret` on a
  well-formed connected graph without numbers whose alignment markers satisfy `AlignOK`.  Without
  numbers every written relation of the configured tree is its own written form, so this is
  `decode_core` at the configured tree itself.
-/
import Penman.Proofs.ReadConfigured
namespace Penman
namespace Cfg
namespace Al
open Penman.Spec.Reading Penman.C03Text

theorem encode_decode_core (isAlpha : Char → Bool) {m : Model} {g : Graph} {top : Option Str} {t : Str}
    (hw : ModelWf m) (hnoop : m.noop = false) (hg : WfGraphAl m g) (hal : AlignOK isAlpha m g) (hnum : NoNum g)
    (hpv : PushVars g) (hps : PushSrcOK g) (ht : topOf g top = some t) (htv : t ∈ g.variables)
    (hreach : ∀ v ∈ g.variables, Reach g t v) :
    ∃ T g' ds, configure m g top = .ok T ∧ interpret isAlpha m T = .ok g' ∧
      Spec.Reading.read isAlpha m T.node = .ok ⟨T.node.var, ds⟩ ∧
      g'.getTop = some t ∧ (∀ x, x ∈ g'.variables ↔ x ∈ g.variables) ∧
      (g'.triples.map (deinvert1 m g)).Perm (g.triples.map (deinvert1 m g)) ∧
      (∀ x ∈ g'.triples, ∃ t0 ∈ g.triples, x = t0 ∨ x = m.invert t0) ∧
      (∀ d ∈ ds, ∃ t1 ∈ g.triples, d.triple = deinvert1 m g t1 ∧ colon d.triple = d.triple ∧
        d.roleAln.map (fun a => Epi.roleAln a.1 a.2) = roleAlnOf g t1 ∧
        d.tgtAln.map (fun a => Epi.aln a.1 a.2) = tgtAlnOf g t1) := by
  obtain ⟨T, st, l, hT, E⟩ := encodedAl hw hg hpv hps ht htv hreach
  have hr2 : ∀ x ∈ g.triples, RoleOK2 m x := fun x hx => roleOK2_of_colon m x (hg.roles x hx).1
  obtain ⟨hW, _⟩ := storeOf_tree hr2 E.store E.build
  have hwW : ∀ w ∈ Node.written T.node, wW w = w := by
    intro w hw'
    have := (hW.trans (flat_ownW_split st.cells)).subset hw'
    simp only [List.mem_append, nullsW, flat, List.mem_flatMap, List.mem_map] at this
    rcases this with ⟨p, _, rfl⟩ | ⟨p, hp, e, he, rfl⟩
    · rfl
    · rw [edgeWritten_wE, wE_of_notNum]
      obtain ⟨t0, ht0, hv⟩ := E.version _ (E.perm.symm.subset (mem_placed hp he))
      rcases hv with hv | ⟨hv, _, _⟩
      · rw [hv]; exact hnum t0 ht0
      · rw [hv, invert_tgt]; rfl
  have hnumok : ∀ x ∈ g.triples, ∀ s, x.tgt = .num s → '~' ∉ s := by
    intro x hx s hs
    have := hnum x hx
    rw [hs] at this; cases this
  obtain ⟨g', ds, h1, h2, h3, h4, h5, h6, _, h8⟩ := decode_core (T' := T) isAlpha hw hnoop hg hal hnumok E
    ((List.map_congr_left hwW).trans (List.map_id _)).symm rfl rfl rfl
  have hwt : ∀ t0 ∈ g.triples, writtenTriple t0 = t0 := fun t0 h0 => written_of_notNum (hnum t0 h0)
  rw [writtenTriple_of_noNum hnum] at h5
  refine ⟨T, g', ds, hT, h1, h2, h3, h4, h5, ?_, ?_⟩
  · intro x hx
    obtain ⟨t0, h0, h⟩ := h6 x hx
    rw [hwt t0 h0] at h; exact ⟨t0, h0, h⟩
  · intro d hd
    obtain ⟨t1, ht1, h⟩ := h8 d hd
    rw [hwt t1 ht1] at h; exact ⟨t1, ht1, h⟩

end Al
end Cfg
end Penman
