/-
  Penman.Proofs.AlignStore — `configure` with alignment markers: every edge of the
  final store carries exactly the non-layout markers of the graph triple it
  expresses (as it is, or inverted): `storeOf_cellsOK`.  For any property of cells kept by the
  four ways in which a cell changes (`CellInv`), `getOrEstablish` and `configureNode` keep it,
  hence so does the whole run (`storeOf_inv`, from `storeOf_state`).
  Namespace `Cfg` holds the `configure` development; `Cfg.Al` its part with ALignment markers kept.
-/
import Penman.Proofs.ConfigureTree
import Penman.Proofs.ConfigureConverse
import Penman.Spec.AlignOK
namespace Penman
namespace Cfg

theorem cell_cases (st : St) (v : Str) : st.cell v = [] ∨ (v, st.cell v) ∈ st.cells := by
  unfold St.cell
  cases hg : AList.get? st.cells v with
  | none => exact Or.inl rfl
  | some es => exact Or.inr (mem_of_get? hg)

namespace Al

/-- the non-layout markers of a marker list, in order -/
def alnEpis (es : List Epi) : List Epi := es.filter fun e => !e.isLayout

/-- a pending datum: some graph triple, possibly inverted by `_preconfigure`, with that triple's alignments -/
def DatOK (m : Model) (g : Graph) (tr : Triple) (es : List Epi) : Prop :=
  ∃ t1 ∈ g.triples, PreStep m t1 tr ∧ es = alnEpis (episOf g t1)

/-- an edge of the store: some graph triple, through `_preconfigure` and the orientation step, with that
    triple's alignments -/
def EdgeOK (m : Model) (g : Graph) (v : Str) (e : Edge) : Prop :=
  e.role ≠ CONCEPT_ROLE ∧ ∃ t1 ∈ g.triples, ∃ tr, PreStep m t1 tr ∧ e.epis = alnEpis (episOf g t1) ∧
    (Cfg.denote v e = tr ∨ ∃ w, tr.tgt = .str w ∧ tr.role ≠ CONCEPT_ROLE ∧ Cfg.denote v e = m.invert tr)

def CellsOK (m : Model) (g : Graph) (c : Cells) : Prop := ∀ p ∈ c, ∀ e ∈ p.2, EdgeOK m g p.1 e
def DataOK (m : Model) (g : Graph) (l : List Datum) : Prop :=
  ∀ tr p es, Datum.t tr p es ∈ l → DatOK m g tr es ∧ RoleOK m tr

/-- A cell is only ever created empty, changed by establishing a site in it, by a node label put in
    front, or by another edge appended; each new edge is `EdgeOK`.  A property `I` of cells closed
    under these four steps holds of every cell of the final store (`storeOf_inv`). -/
structure CellInv (m : Model) (g : Graph) (I : Str → List Edge → Prop) : Prop where
  nil : ∀ v, I v []
  establish : ∀ {u v es}, I u es → I u (establishIn v es)
  front : ∀ {var a epis es}, EdgeOK m g var ⟨['/'], .atom a, epis⟩ → I var es →
    I var (⟨['/'], .atom a, epis⟩ :: es)
  back : ∀ {var e es}, EdgeOK m g var e → e.role ≠ ['/'] → I var es → I var (es ++ [e])

def Inv (I : Str → List Edge → Prop) (c : Cells) : Prop := ∀ p ∈ c, I p.1 p.2

variable {m : Model} {g : Graph} {I : Str → List Edge → Prop}

theorem inv_set {c : Cells} {k : Str} {es : List Edge} (h : Inv I c) (hes : I k es) : Inv I (AList.set c k es) := by
  intro p hp
  rcases mem_set hp with h1 | h1
  · exact h p h1
  · subst h1; exact hes

theorem inv_cell (S : CellInv m g I) {st : St} (h : Inv I st.cells) (v : Str) : I v (st.cell v) := by
  rcases cell_cases st v with h1 | h1
  · rw [h1]; exact S.nil v
  · exact h _ h1

theorem inv_getOrEstablish (S : CellInv m g I) {st : St} {v : Str} (h : Inv I st.cells) :
    Inv I (getOrEstablish st v).2.cells := by
  unfold getOrEstablish
  split
  · exact h
  · exact inv_set (inv_set h (S.establish (inv_cell S h _))) (S.nil v)
  · exact h

theorem slash_ne_concept : ['/'] ≠ CONCEPT_ROLE := fun h => by cases h

theorem inv_cn (S : CellInv m g I) : ∀ f var data st s, Inv I st.cells → DataOK m g data →
    Inv I (configureNode m f var data st s).2.1.cells := by
  intro f var data st s
  -- the edge made from the first datum: it denotes `(var, role, target)`
  have hedge : ∀ {var tr push epis s role target push' s'} {data : List Datum},
      DataOK m g (.t tr push epis :: data) → orient m var tr push s = some (role, target, push', s') →
      role ≠ ['/'] ∧ ∀ e : Edge, e.role ≠ CONCEPT_ROLE → e.epis = epis → Cfg.denote var e = ⟨var, role, target⟩ →
        EdgeOK m g var e := by
    intro var tr push epis s role target push' s' data hd hor
    obtain ⟨⟨t1, ht1, hpre, hep⟩, hrole⟩ := hd tr push epis List.mem_cons_self
    obtain ⟨hns, hden⟩ := orient_spec hor hrole
    exact ⟨hns, fun e h1 h2 h3 => ⟨h1, t1, ht1, tr, hpre, h2.trans hep, h3 ▸ hden⟩⟩
  have htl : ∀ {d : Datum} {data : List Datum}, DataOK m g (d :: data) → DataOK m g data :=
    fun hd tr p es hm => hd tr p es (List.mem_cons_of_mem _ hm)
  fun_induction configureNode m f var data st s <;> intro h hd
  · exact h
  · exact h
  · exact h
  · exact h
  · rename_i ih; exact ih h (htl hd)
  · rename_i f var tr push epis data st s target push' s' hmiss hor ih
    refine ih (inv_set h (S.front ((hedge hd hor).2 _ slash_ne_concept rfl ?_) (inv_cell S h var))) (htl hd)
    simp [Cfg.denote]
  · rename_i f var tr push epis data st s role target push' s' hor hncr v hp r ih1 ih2
    obtain ⟨hns, he⟩ := hedge hd hor
    obtain ⟨htv, _⟩ := pushVar_some hp
    have h2 := ih1 (inv_set h (S.nil v)) (htl hd)
    refine ih2 (inv_set h2 (S.back (he _ hncr rfl ?_) hns (inv_cell S h2 var)))
      fun tr p es hm => htl hd tr p es ((cn_suffix m f v data (st.newCell v) false).subset hm)
    simp [Cfg.denote, hns, htv]
  · rename_i f var tr push epis data st s role target push' s' hor hncr hp ih
    obtain ⟨hns, he⟩ := hedge hd hor
    have h1 : Inv I (st.noteSite var target).cells := by rw [cells_noteSite]; exact h
    refine ih (inv_set h1 (S.back (he _ hncr rfl ?_) hns (inv_cell S h1 var))) (htl hd)
    simp [Cfg.denote, hns]

/-- the marker scan keeps the non-layout markers, in order -/
theorem preconfEpis_epis (m : Model) (orig : Triple) : ∀ es tr push epis pops pushed r,
    preconfEpis m orig es tr push epis pops pushed = .ok r → r.2.2.1 = epis.reverse ++ alnEpis es := by
  intro es tr push epis pops pushed
  fun_induction preconfEpis m orig es tr push epis pops pushed <;> intro r h
  · simp only [Except.ok.injEq] at h; subst h; exact (List.append_nil _).symm
  · rename_i ih; exact ih r h
  · rename_i ih; exact ih r h
  · rename_i ih; exact ih r h
  · simp at h
  · rename_i ih; exact ih r h
  · rename_i ih; exact ih r h
  · rename_i e rest tr push epis pops pushed hnpush hnpop ih
    have hl : alnEpis (e :: rest) = e :: alnEpis rest := by
      cases e with
      | push v => exact absurd rfl (hnpush v)
      | pop => exact absurd rfl hnpop
      | roleAln _ _ => rfl
      | aln _ _ => rfl
    rw [ih r h, hl, List.reverse_cons, List.append_assoc]; rfl

theorem preconfigure_dataOK (m : Model) (g : Graph) (hr : ∀ t ∈ g.triples, RoleOK2 m t) : ∀ ts pushed data,
    (∀ t ∈ ts, t ∈ g.triples) → preconfigure m g.epidata ts pushed = .ok data → DataOK m g data := by
  intro ts
  induction ts with
  | nil => intro pushed data _ h; cases h; exact fun _ _ _ hm => nomatch hm
  | cons t ts ih =>
    intro pushed data hts h
    obtain ⟨tr', push, epis, pops, pushed', more, h1, h2, rfl⟩ := preconfigure_cons_ok h
    have hp := preconfEpis_epis m t _ _ _ _ _ _ _ h1
    have hs := preconfEpis_spec m t _ _ _ _ _ _ _ (Or.inl rfl) h1
    simp only [List.reverse_nil, List.nil_append] at hp
    intro tr p es hm
    rcases List.mem_cons.1 hm with hm | hm
    · cases hm
      exact ⟨⟨t, hts t List.mem_cons_self, hs, hp⟩, roleOK_of_pre hs (hr t (hts t List.mem_cons_self))⟩
    · rcases List.mem_append.1 hm with hm | hm
      · cases (List.mem_replicate.1 hm).2
      · exact ih _ _ (fun t ht => hts t (List.mem_cons_of_mem _ ht)) h2 tr p es hm

theorem storeOf_inv (S : CellInv m g I) {top : Str} {st : St} (hr : ∀ t ∈ g.triples, RoleOK2 m t)
    (h : storeOf m g top = .ok st) : Inv I st.cells :=
  storeOf_state (P := fun s => Inv I s.cells)
    (D := fun d => ∀ tr p es, d = .t tr p es → DatOK m g tr es ∧ RoleOK m tr)
    (fun _ _ _ => inv_getOrEstablish S)
    (fun f var data st s _ _ hd hI => inv_cn S f var data st s hI fun tr p es hm => hd _ hm tr p es rfl)
    (fun data hp d hd tr p es e => preconfigure_dataOK m g hr _ _ _ (fun _ ht => ht) hp tr p es (e ▸ hd))
    (fun p hp => by cases List.mem_singleton.1 hp; exact S.nil top) h

theorem edgeOK_establish {u v : Str} {e : Edge} (h : EdgeOK m g u e) (ht : e.tgt = .atom (.str v)) :
    EdgeOK m g u { e with tgt := .node v } := by
  obtain ⟨h1, t1, ht1, tr, hp, hep, hd⟩ := h
  refine ⟨h1, t1, ht1, tr, hp, hep, ?_⟩
  have : Cfg.denote u { e with tgt := .node v } = Cfg.denote u e := by simp [Cfg.denote, ht]
  rw [this]; exact hd

theorem establishIn_ok {u v : Str} : ∀ {es : List Edge}, (∀ e ∈ es, EdgeOK m g u e) →
    ∀ e ∈ establishIn v es, EdgeOK m g u e := by
  intro es
  induction es with
  | nil => intro _ e he; simp [establishIn] at he
  | cons a r ih =>
    intro h e he
    simp only [establishIn] at he
    split at he
    · rename_i hc
      simp only [List.mem_cons] at he
      rcases he with rfl | he
      · exact edgeOK_establish (h a List.mem_cons_self) hc.1
      · exact h e (List.mem_cons_of_mem _ he)
    · simp only [List.mem_cons] at he
      rcases he with rfl | he
      · exact h _ List.mem_cons_self
      · exact ih (fun x hx => h x (List.mem_cons_of_mem _ hx)) e he

/-- every edge of the final store carries the alignments of the graph triple it expresses -/
theorem storeOf_cellsOK {top : Str} {st : St} (hr : ∀ t ∈ g.triples, RoleOK2 m t)
    (h : storeOf m g top = .ok st) : CellsOK m g st.cells :=
  storeOf_inv (I := fun v es => ∀ e ∈ es, EdgeOK m g v e)
    ⟨fun _ _ he => absurd he (by simp), establishIn_ok,
     fun he h x hx => by
       rcases List.mem_cons.1 hx with rfl | hx
       · exact he
       · exact h x hx,
     fun he _ h x hx => by
       rcases List.mem_append.1 hx with hx | hx
       · exact h x hx
       · rw [List.mem_singleton.1 hx]; exact he⟩ hr h

end Al
end Cfg
end Penman
