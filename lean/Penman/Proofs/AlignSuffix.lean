/-
  Penman.Proofs.AlignSuffix — text facts: a role / target text followed by the printed
  form of a marker is split again into the text and the marker.
-/
import Penman.Proofs.ConfigureRead
import Penman.Proofs.AlignStore
namespace Penman
namespace Cfg
namespace Al
open Penman.Spec.Reading

theorem alnToString_eq (p : Option Str) (i : List Nat) : alnToString p i = '~' :: alnBody p i := rfl

theorem alnFromString_tilde (isAlpha : Char → Bool) (b : Str) :
    alnFromString isAlpha ('~' :: b) = alnFromString isAlpha b := by
  unfold alnFromString
  have : lstripChar '~' ('~' :: b) = lstripChar '~' b := by simp [lstripChar, List.dropWhile]
  rw [this]

theorem beforeTilde_append {r b : Str} (h : '~' ∉ r) : beforeTilde (r ++ '~' :: b) = r := by
  unfold beforeTilde
  rw [List.takeWhile_append_of_pos]
  · simp
  · intro x hx
    simp only [ne_eq, decide_not, Bool.not_eq_eq_eq_not, Bool.not_true, decide_eq_false_iff_not]
    rintro rfl; exact h hx

theorem afterTilde_append {r b : Str} (h : '~' ∉ r) : afterTilde (r ++ '~' :: b) = b := by
  unfold afterTilde
  rw [List.dropWhile_append_of_pos]
  · simp
  · intro x hx
    simp only [ne_eq, decide_not, Bool.not_eq_eq_eq_not, Bool.not_true, decide_eq_false_iff_not]
    rintro rfl; exact h hx

theorem tilde_append_ne_slash (r b : Str) : r ++ '~' :: b ≠ ['/'] := by
  intro e
  have : '~' ∈ r ++ '~' :: b := by simp
  rw [e] at this; simp at this

theorem roleName_append {r b : Str} (h : '~' ∉ r) : roleName (r ++ '~' :: b) = r := by
  unfold roleName
  rw [if_neg (tilde_append_ne_slash r b), beforeTilde_append h]

theorem roleAlnText_append {r b : Str} (h : '~' ∉ r) : roleAlnText (r ++ '~' :: b) = some b := by
  unfold roleAlnText
  rw [if_neg (tilde_append_ne_slash r b), if_pos (by simp), afterTilde_append h]

/-- a target text followed by `~body`: the text, and an alignment text that parses like `body` -/
theorem splitTarget_append (isAlpha : Char → Bool) {s b : Str} (hs : TextOKal s) (hb : '"' ∉ b) :
    ∃ b', splitTarget (s ++ '~' :: b) = (s, some b') ∧ alnFromString isAlpha b' = alnFromString isAlpha b := by
  unfold splitTarget
  rw [if_pos (by simp)]
  rcases hs with ⟨h1, h2⟩ | ⟨h1, h2⟩
  · have hh : (s ++ '~' :: b).head? ≠ some '"' := by
      cases s with
      | nil => simp
      | cons c cs => simpa using h1
    rw [if_neg hh, beforeTilde_append h2, afterTilde_append h2]
    exact ⟨b, rfl, rfl⟩
  · have hh : (s ++ '~' :: b).head? = some '"' := by
      cases s with
      | nil => simp at h1
      | cons c cs => simpa using h1
    rw [if_pos hh]
    have hrev : (s ++ '~' :: b).reverse = (b.reverse ++ ['~']) ++ s.reverse := by simp
    have hall : ∀ x ∈ b.reverse ++ ['~'], (decide (x ≠ '"')) = true := by
      intro x hx
      simp only [List.mem_append, List.mem_reverse, List.mem_singleton] at hx
      simp only [ne_eq, decide_not, Bool.not_eq_eq_eq_not, Bool.not_true, decide_eq_false_iff_not]
      rcases hx with hx | rfl
      · rintro rfl; exact hb hx
      · decide
    have htw : s.reverse.takeWhile (fun x => decide (x ≠ '"')) = [] := by
      unfold afterLastQuoteText at h2
      simpa using h2
    have hdw : s.reverse.dropWhile (fun x => decide (x ≠ '"')) = s.reverse := by
      have := List.takeWhile_append_dropWhile (p := fun x => decide (x ≠ '"')) (l := s.reverse)
      rw [htw] at this; simpa using this
    have e1 : afterLastQuoteText (s ++ '~' :: b) = '~' :: b := by
      unfold afterLastQuoteText
      rw [hrev, List.takeWhile_append_of_pos hall, htw]; simp
    have e2 : throughLastQuote (s ++ '~' :: b) = s := by
      unfold throughLastQuote
      rw [hrev, List.dropWhile_append_of_pos hall, hdw]; simp
    rw [e1, e2, if_neg (by simp)]
    exact ⟨'~' :: b, rfl, alnFromString_tilde isAlpha b⟩

/-- what `applyEpis` appends to the role text (`raStr`) and to the target text (`taStr`): the printed
    role alignments, resp. alignments, of the marker list in order -/
def raStr (es : List Epi) : Str := (es.filter fun x => x.mode = 1).flatMap Epi.toStr
def taStr (es : List Epi) : Str := (es.filter fun x => x.mode = 2).flatMap Epi.toStr

theorem applyEpis_eq (role : Str) (t : Option Str) (es : List Epi) :
    applyEpis role t es = (role ++ raStr es, t.map (· ++ taStr es)) := by
  induction es generalizing role t with
  | nil => cases t <;> simp [applyEpis, raStr, taStr]
  | cons e es ih =>
    simp only [applyEpis]
    by_cases h1 : e.mode = 1
    · rw [if_pos h1, ih]
      simp [raStr, taStr, h1]
    · rw [if_neg h1]
      by_cases h2 : e.mode = 2
      · rw [if_pos h2]
        cases t with
        | none => simp only []; rw [ih]; simp [raStr, taStr, h2]
        | some t0 => simp only []; rw [ih]; simp [raStr, taStr, h2]
      · rw [if_neg h2, ih]
        simp [raStr, taStr, h1, h2]

theorem outRole_eq (e : Edge) : outRole e = e.role ++ raStr e.epis := by
  simp [outRole, applyEpis_eq]

theorem any_mode2_eq_false_iff (es : List Epi) :
    es.any (fun x => decide (x.mode = 2)) = false ↔ (es.filter fun x => x.mode = 2) = [] :=
  List.any_eq_false.trans List.filter_eq_nil_iff.symm

theorem outAtom_eq (e : Edge) (a : Atom) :
    outAtom e a = if (e.epis.filter fun x => x.mode = 2) = [] then a else .str (atomStr a ++ taStr e.epis) := by
  unfold outAtom
  by_cases h : (e.epis.filter fun x => x.mode = 2) = []
  · simp [(any_mode2_eq_false_iff _).2 h, h]
  · have : e.epis.any (fun x => decide (x.mode = 2)) = true := by
      cases hh : e.epis.any (fun x => decide (x.mode = 2)) with
      | true => rfl
      | false => exact absurd ((any_mode2_eq_false_iff _).1 hh) h
    simp [this, h, applyEpis_eq]

end Al
end Cfg
end Penman
