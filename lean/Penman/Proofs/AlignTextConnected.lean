/-
  Penman.Proofs.AlignTextConnected — C03 with alignments at the level of TEXT, for a connected graph:
  `configure` succeeds (`configure_complete`), and `decode_encode` applies.
-/
import Penman.Proofs.EncodeDecode
namespace Penman
namespace Cfg
namespace Al
open Penman.Spec Penman.C03Text

variable {cfg : LexCfg}

/-- **C03 with alignments at the level of text** -/
theorem encode_decode_text_al (hcfg : FmtCfgWf cfg = true) (isSpace isAlpha : Char → Bool) {m : Model} {g : Graph}
    {top : Option Str} {t : Str} (hw : ModelWf m) (hnoop : m.noop = false) (hg : WfGraphAl m g)
    (hal : AlignOK isAlpha m g) (htx : GraphTextOKal cfg isSpace m g) (hpv : PushVars g) (hps : PushSrcOK g)
    (ht : topOf g top = some t) (htv : t ∈ g.variables) (hreach : ∀ v ∈ g.variables, Reach g t v)
    (i : Indent) (c : Bool) :
    ∃ s g', encode m g top i c = .ok s ∧ decode cfg isSpace isAlpha m s = .ok g' ∧
      g'.getTop = some t ∧ (∀ x, x ∈ g'.variables ↔ x ∈ g.variables) ∧
      (g'.triples.map (deinvert1 m g)).Perm ((g.triples.map writtenTriple).map (deinvert1 m g)) ∧
      (∀ x ∈ g'.triples, ∃ t0 ∈ g.triples, x = writtenTriple t0 ∨ x = m.invert (writtenTriple t0)) ∧
      (∀ t0 ∈ g.triples, deinvert1 m g (writtenTriple t0) ∈ g'.triples ∧
        roleAlnOf g' (deinvert1 m g (writtenTriple t0)) = roleAlnOf g t0 ∧
        tgtAlnOf g' (deinvert1 m g (writtenTriple t0)) = tgtAlnOf g t0) ∧
      (∀ x ∈ g'.triples, ∃ t0 ∈ g.triples, x = deinvert1 m g (writtenTriple t0)) ∧
      g'.metadata = g.metadata := by
  obtain ⟨T, hT⟩ := configure_complete hg.noInstOf hps ht htv hreach
  obtain ⟨t', g', ht', h⟩ := decode_encode hcfg isSpace isAlpha hw hnoop hg hal htx hpv hT i c
  rw [ht] at ht'; cases ht'
  exact ⟨format T i c, g', encode_of_configure hT rfl, h⟩

/-- the `encode`/`parse` half on its own, for a graph with alignments -/
theorem encode_parse_text_al (hcfg : FmtCfgWf cfg = true) (isSpace isAlpha : Char → Bool) {m : Model} {g : Graph}
    {top : Option Str} {t : Str} (hw : ModelWf m) (hg : WfGraphAl m g)
    (hal : AlignOK isAlpha m g) (htx : GraphTextOKal cfg isSpace m g) (hpv : PushVars g) (hps : PushSrcOK g)
    (ht : topOf g top = some t) (htv : t ∈ g.variables) (hreach : ∀ v ∈ g.variables, Reach g t v)
    (i : Indent) (c : Bool) :
    ∃ T, configure m g top = .ok T ∧ WfTreeText cfg (writtenForm T.node) ∧
      encode m g top i c = .ok (format T i c) ∧
      C01.parse cfg isSpace (format T i c) = .ok ⟨writtenForm T.node, T.metadata⟩ := by
  obtain ⟨T, hT⟩ := configure_complete hg.noInstOf hps ht htv hreach
  obtain ⟨hwf, hmeta⟩ := configured_tree_wf_al hw hg hal htx hpv hT
  exact ⟨T, hT, hwf, encode_of_configure hT rfl, parse_format_num hcfg isSpace T.node T.metadata hwf hmeta i c⟩

end Al
end Cfg
end Penman
