/-
  Penman.Proofs.AlignTree — tree level of C03 with alignments: each branch of the
  configured tree is a triple of the graph (as it is, or inverted once) with the
  printed form of that triple's role alignment appended to the role and of its
  alignment appended to the target.
-/
import Penman.Proofs.AlignKept
import Penman.Proofs.AlignNoAlign
namespace Penman
namespace Cfg
namespace Al
open Penman.Spec.Reading

variable {isAlpha : Char → Bool} {m : Model} {vars : List Str} {v : Str} {e : Edge}

/-- what an edge of the store is written as -/
theorem rawTriple_al (F : EdgeFacts isAlpha m vars v e) :
    rawTriple v e = ⟨v, (Cfg.denote v e).role ++ alnText (e.epis.filter fun x => x.mode = 1).getLast?,
        withAln (Cfg.denote v e).tgt (e.epis.filter fun x => x.mode = 2).getLast?⟩ ∧
    stripAln (rawTriple v e) = Cfg.denote v e := by
  have hr := edge_role_noTilde F
  have hrole : slashRole (outRole e) = (Cfg.denote v e).role ++ alnText (e.epis.filter fun x => x.mode = 1).getLast? ∧
      beforeTilde (slashRole (outRole e)) = (Cfg.denote v e).role := by
    have hdt := F.good.roleTilde
    rw [denote_role_slash] at hdt ⊢
    rcases outRole_cases F with ⟨h0, ho⟩ | ⟨p, i, _, h1, ho, _, hns⟩
    · rw [ho, h0]
      exact ⟨by simp [alnText], beforeTilde_of_noTilde hdt⟩
    · rw [ho, h1]
      simp only [slashRole, tilde_append_ne_slash, hns, if_false, List.getLast?_singleton, alnText, Epi.toStr,
        alnToString_eq]
      exact ⟨trivial, beforeTilde_append hr⟩
  have htgt : (match e.tgt with | .atom a => outAtom e a | .node w => Atom.str w) =
        withAln (Cfg.denote v e).tgt (e.epis.filter fun x => x.mode = 2).getLast? ∧
      (match (match e.tgt with | .atom a => outAtom e a | .node w => Atom.str w) with
        | .str s => Atom.str (splitTarget s).1 | a => a) = (Cfg.denote v e).tgt := by
    have hgt := F.good.tgt
    cases hte : e.tgt with
    | node w =>
      have hd : (Cfg.denote v e).tgt = .str w := by simp [Cfg.denote, hte]
      rw [hd] at hgt ⊢
      rw [no_aln_of_node F hte]
      exact ⟨rfl, by simp only [splitTarget_ok hgt]⟩
    | atom a =>
      have hd : (Cfg.denote v e).tgt = a := by simp [Cfg.denote, hte]
      rw [hd] at hgt ⊢
      rcases outAtom_cases F hte with ⟨h0, hoa⟩ | ⟨s, p, i, rfl, _, h1, hoa, hok, _, hst⟩
      · rw [h0]
        simp only [hoa]
        refine ⟨rfl, ?_⟩
        cases a with
        | none => rfl
        | num _ => rfl
        | str s => simp only [splitTarget_ok hgt]
      · obtain ⟨b', hsp, _⟩ := splitTarget_append isAlpha hst hok.2
        rw [h1]
        simp only [hoa, withAln, atomStr, List.getLast?_singleton, Epi.toStr, alnToString_eq, hsp, and_self]
  refine ⟨?_, ?_⟩
  · show (⟨v, slashRole (outRole e), _⟩ : Triple) = _
    rw [hrole.1]; exact congrArg (Triple.mk v _) htgt.1
  · show (⟨v, beforeTilde (slashRole (outRole e)), _⟩ : Triple) = ⟨v, (Cfg.denote v e).role, (Cfg.denote v e).tgt⟩
    rw [hrole.2]; exact congrArg (Triple.mk v _) htgt.2

/-- **C03 with alignments, tree level.** -/
theorem encode_tree_al (isAlpha : Char → Bool) {m : Model} {g : Graph} {top : Option Str} {t : Str}
    (hw : ModelWf m) (hg : WfGraphAl m g) (hal : AlignOK isAlpha m g)
    (hpv : PushVars g) (hps : PushSrcOK g) (ht : topOf g top = some t) (htv : t ∈ g.variables)
    (hreach : ∀ v ∈ g.variables, Reach g t v) :
    ∃ T, configure m g top = .ok T ∧ T.metadata = g.metadata ∧ T.node.var = some t ∧
      (∀ x, x ∈ T.node.vars ↔ x ∈ g.variables) ∧ T.node.vars.Nodup ∧
      ((T.node.edgeTriples.map stripAln).map (deinvert1 m g)).Perm
        ((g.triples.filter (fun x => !nullB x)).map (deinvert1 m g)) ∧
      ∀ x ∈ T.node.edgeTriples, ∃ t0 ∈ g.triples,
        (stripAln x = t0 ∨ (stripAln x = m.invert t0 ∧ (∃ b, t0.tgt = .str b) ∧ t0.role ≠ CONCEPT_ROLE)) ∧
        x.role = (stripAln x).role ++ alnText (roleAlnOf g t0) ∧
        x.tgt = withAln (stripAln x).tgt (tgtAlnOf g t0) := by
  obtain ⟨T, st, l, hT, E⟩ := encodedAl hw hg hpv hps ht htv hreach
  have hr2 : ∀ x ∈ g.triples, RoleOK2 m x := fun x hx => roleOK2_of_colon m x (hg.roles x hx).1
  obtain ⟨_, hvars, h3, hnd, hvar⟩ := storeOf_tree hr2 E.store E.build
  have hgood := storeOf_good E.store
  have hEF := fun p hp e he => edgeFacts (isAlpha := isAlpha) (vars := g.variables) (p := p) (e := e) hw hg hal E
    (fun _ => Iff.rfl) hgood.forest hp he
  have hstrip : (flat (fun v es => es.map (rawTriple v)) st.cells).map stripAln = placed st.cells := by
    unfold flat placed
    rw [List.map_flatMap]
    apply flatMap_congr'
    intro p hpm
    rw [List.map_map]
    apply List.map_congr_left
    intro e he
    exact (rawTriple_al (hEF p hpm e he).1).2
  have htt : (T.node.edgeTriples.map stripAln).Perm (placed st.cells) := by
    rw [← hstrip]; exact h3.map _
  refine ⟨T, hT, E.metaEq, hvar, ?_, (hvars.nodup_iff).2 hnd, ?_, ?_⟩
  · intro x; rw [← E.keys x]; exact hvars.mem_iff
  · refine ((htt.trans E.perm.symm).map _).trans ?_
    have hsplit : (g.triples.map (deinvert1 m g)).Perm
        ((g.triples.filter (fun x => !nullB x)).map (deinvert1 m g) ++ (g.triples.filter nullB).map (deinvert1 m g)) := by
      rw [← List.map_append]
      apply List.Perm.map
      have := List.filter_append_perm (fun x => !nullB x) g.triples
      simpa using this.symm
    exact (List.perm_append_right_iff _).1 (E.same.symm.trans hsplit)
  · intro x hx
    have := h3.subset hx
    simp only [flat, List.mem_flatMap, List.mem_map] at this
    obtain ⟨p, hp, e, he, rfl⟩ := this
    obtain ⟨F, t1, ht1, hv, _, hra, hta⟩ := hEF p hp e he
    obtain ⟨h1, h2⟩ := rawTriple_al F
    refine ⟨t1, ht1, by rw [h2]; exact hv, ?_, ?_⟩
    · rw [h2, ← hra]; rw [h1]
    · rw [h2, ← hta]; rw [h1]

end Al
end Cfg
end Penman
