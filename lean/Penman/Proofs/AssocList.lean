/-
  Penman.Proofs.AssocList — association lists (`AList`, the model of a Python
  `dict`): lookup after `set`, `set` and lookup on appended lists, and
  `dict(pairs)` of pairs with distinct keys.
-/
import Penman.Basic
namespace Penman
namespace C02

variable {α β : Type} [DecidableEq α]

theorem get?_cons (k' : α) (v' : β) (r : AList α β) (k : α) :
    AList.get? ((k', v') :: r) k = if k' = k then some v' else AList.get? r k := by
  by_cases h : k' = k <;> simp [AList.get?, List.find?, h]

theorem set_cons (k' : α) (v' : β) (r : AList α β) (k : α) (v : β) :
    AList.set ((k', v') :: r) k v = if k' = k then (k', v) :: r else (k', v') :: AList.set r k v := rfl

omit [DecidableEq α] in
theorem keys_cons (k' : α) (v' : β) (r : AList α β) : AList.keys ((k', v') :: r) = k' :: AList.keys r := rfl

theorem get?_set_same (c : AList α β) (k : α) (v : β) : AList.get? (AList.set c k v) k = some v := by
  induction c with
  | nil => simp [AList.set, get?_cons]
  | cons p r ih =>
    obtain ⟨k', v'⟩ := p
    by_cases h : k' = k <;> simp [set_cons, get?_cons, h, ih]

theorem get?_set_other (c : AList α β) (k w : α) (v : β) (hw : w ≠ k) :
    AList.get? (AList.set c k v) w = AList.get? c w := by
  induction c with
  | nil => simp [AList.set, Ne.symm hw, AList.get?]
  | cons p r ih =>
    obtain ⟨k', v'⟩ := p
    by_cases h : k' = k
    · subst h; simp [set_cons, get?_cons, Ne.symm hw]
    · simp [set_cons, get?_cons, h, ih]

theorem get?_append_left (l r : AList α β) (k : α) (h : k ∈ AList.keys l) :
    AList.get? (l ++ r) k = AList.get? l k := by
  induction l with
  | nil => cases h
  | cons p l ih =>
    obtain ⟨k', v'⟩ := p
    rw [List.cons_append, get?_cons, get?_cons]
    split
    · rfl
    · rename_i hk
      exact ih ((List.mem_cons.1 h).resolve_left fun e => hk e.symm)

theorem set_append_left (l r : AList α β) (k : α) (v : β) (h : k ∈ AList.keys l) :
    AList.set (l ++ r) k v = AList.set l k v ++ r := by
  induction l with
  | nil => cases h
  | cons p l ih =>
    obtain ⟨k', v'⟩ := p
    rw [List.cons_append, set_cons, set_cons]
    split
    · rfl
    · rename_i hk
      rw [ih ((List.mem_cons.1 h).resolve_left fun e => hk e.symm)]; rfl

theorem set_append_right (l r : AList α β) (k : α) (v : β) (h : k ∉ AList.keys l) :
    AList.set (l ++ r) k v = l ++ AList.set r k v := by
  induction l with
  | nil => rfl
  | cons p l ih =>
    obtain ⟨k', v'⟩ := p
    rw [keys_cons, List.mem_cons, not_or] at h
    rw [List.cons_append, set_cons, if_neg fun e => h.1 e.symm, ih h.2]; rfl

theorem set_new (l : AList α β) (k : α) (v : β) (h : k ∉ AList.keys l) :
    AList.set l k v = l ++ [(k, v)] := by
  simpa [AList.set] using set_append_right l [] k v h

theorem set_set (l : AList α β) (k : α) (v v' : β) :
    AList.set (AList.set l k v) k v' = AList.set l k v' := by
  induction l with
  | nil => simp [AList.set]
  | cons p l ih =>
    obtain ⟨k', w⟩ := p
    by_cases hk : k' = k <;> simp [set_cons, hk, ih]

theorem set_self (l : AList α β) (k : α) (v : β) (h : AList.get? l k = some v) : AList.set l k v = l := by
  induction l with
  | nil => cases h
  | cons p l ih =>
    obtain ⟨k', v'⟩ := p
    rw [get?_cons] at h
    rw [set_cons]
    split at h
    · cases h; rw [if_pos ‹_›]
    · rw [if_neg ‹_›, ih h]

theorem keys_set_mem (l : AList α β) (k : α) (v : β) (h : k ∈ AList.keys l) :
    AList.keys (AList.set l k v) = AList.keys l := by
  induction l with
  | nil => cases h
  | cons p l ih =>
    obtain ⟨k', w⟩ := p
    rw [set_cons]
    split
    · rfl
    · rename_i hk
      rw [keys_cons, keys_cons, ih ((List.mem_cons.1 h).resolve_left fun e => hk e.symm)]

theorem mem_keys_set (l : AList α β) (k x : α) (v : β) (h : x ∈ AList.keys l) :
    x ∈ AList.keys (AList.set l k v) := by
  induction l with
  | nil => cases h
  | cons p l ih =>
    obtain ⟨k', w⟩ := p
    rw [set_cons]
    split
    · exact h
    · rcases List.mem_cons.1 h with rfl | h
      · exact List.mem_cons_self
      · exact List.mem_cons_of_mem _ (ih h)

theorem get?_of_mem_nodup {l : AList α β} (hn : (AList.keys l).Nodup) {k : α} {v : β} (h : (k, v) ∈ l) :
    AList.get? l k = some v := by
  induction l with
  | nil => cases h
  | cons p l ih =>
    obtain ⟨k', v'⟩ := p
    rw [keys_cons, List.nodup_cons] at hn
    rw [get?_cons]
    rcases List.mem_cons.1 h with h | h
    · cases h; rw [if_pos rfl]
    · have hk : ¬ k' = k := fun e => hn.1 (e ▸ List.mem_map.2 ⟨(k, v), h, rfl⟩)
      rw [if_neg hk, ih hn.2 h]

theorem ofList_aux (l acc : AList α β) (h : (AList.keys acc ++ AList.keys l).Nodup) :
    l.foldl (fun d p => d.set p.1 p.2) acc = acc ++ l := by
  induction l generalizing acc with
  | nil => simp
  | cons p l ih =>
    obtain ⟨k, v⟩ := p
    simp only [List.foldl_cons]
    have hk : k ∉ AList.keys acc := by
      intro hm
      simp only [AList.keys, List.map_cons] at h
      have := (List.nodup_append.1 h).2.2 k hm k (by simp)
      exact this rfl
    rw [set_new acc k v hk, ih]
    · simp
    · simp only [AList.keys, List.map_append, List.map_cons, List.map_nil] at h ⊢
      simpa using h

theorem ofList_nodup (l : AList α β) (h : (AList.keys l).Nodup) : AList.ofList l = l := by
  have := ofList_aux l [] (by simpa [AList.keys] using h)
  simpa [AList.ofList] using this

end C02
end Penman
