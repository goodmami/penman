/-
  Penman.Proofs.CheckCli — the command-line part of property C16:
  "The command-line tool with --check exits non-zero exactly when at least
  one graph in any of its inputs has an error, and records every offending
  triple in that graph's metadata."

  `m.errors g` is kept opaque throughout. The command is read through
  Penman.Proofs.Cli: a run over one input is `Cli.runInput` of the parsed trees,
  its exit status `Cli.exitOf` of the statuses of the graphs.
-/
import Penman.Spec.Reach
import Penman.Proofs.Cli
import Penman.Proofs.GraphLemmas
import Std.Data.String.ToNat
import Penman.Proofs.Eval
namespace Penman

theorem natToStr_inj {a b : Nat} (h : natToStr a = natToStr b) : a = b := by
  unfold natToStr at h
  exact Nat.repr_inj.1 (String.toList_inj.1 h)

/-- the metadata key `error-i` -/
def errKey (i : Nat) : Str := "error-".toList ++ natToStr i

theorem errKey_inj {a b : Nat} (h : errKey a = errKey b) : a = b :=
  natToStr_inj (List.append_cancel_left h)

/-- the text `checkGraph` puts in front of the message: the offending triple -/
def errCtx : Option Triple → Str
  | some t => '(' :: t.src ++ [' '] ++ t.role ++ [' '] ++ atomStr t.tgt ++ ") ".toList
  | none => []

/-- one iteration of the `for i, (triple, msgs) in enumerate(...)` loop of `_check` -/
def checkStep (acc : AList Str Str × Nat) (p : Option Triple × List Nat) : AList Str Str × Nat :=
  (p.2.foldl (fun md e => AList.set md (errKey acc.2) (errCtx p.1 ++ errMsg e)) acc.1, acc.2 + 1)

theorem checkGraph_eq (m : Model) (g : Graph) :
    checkGraph m g = if m.errors g = [] then (g, 0)
      else ({ g with metadata := ((m.errors g).foldl checkStep (g.metadata, 1)).1 }, 1) := by
  unfold checkGraph
  simp only [List.isEmpty_iff]
  split
  · rfl
  · congr 2

theorem checkGraph_code (m : Model) (g : Graph) :
    (checkGraph m g).2 = if m.errors g = [] then 0 else 1 := by
  rw [checkGraph_eq]; split <;> rfl

theorem checkGraph_triples (m : Model) (g : Graph) : (checkGraph m g).1.triples = g.triples := by
  rw [checkGraph_eq]; split <;> rfl

theorem checkGraph_top (m : Model) (g : Graph) : (checkGraph m g).1.top = g.top := by
  rw [checkGraph_eq]; split <;> rfl

theorem checkGraph_epidata (m : Model) (g : Graph) : (checkGraph m g).1.epidata = g.epidata := by
  rw [checkGraph_eq]; split <;> rfl

theorem checkGraph_metadata (m : Model) (g : Graph) (h : m.errors g ≠ []) :
    (checkGraph m g).1.metadata = ((m.errors g).foldl checkStep (g.metadata, 1)).1 := by
  rw [checkGraph_eq, if_neg h]

theorem checkGraph_noerr (m : Model) (g : Graph) (h : m.errors g = []) : checkGraph m g = (g, 0) := by
  rw [checkGraph_eq, if_pos h]

/-- inner loop: another key is untouched -/
theorem get?_msgs_ne (key key' : Str) (c : Str) (cs : List Nat) (md : AList Str Str) (h : key ≠ key') :
    AList.get? (cs.foldl (fun md e => AList.set md key (c ++ errMsg e)) md) key' = AList.get? md key' := by
  induction cs generalizing md with
  | nil => rfl
  | cons e r ih => simp only [List.foldl_cons]; rw [ih, AList.get?_set, if_neg h]

/-- inner loop: the last message wins -/
theorem get?_msgs_eq (key : Str) (c : Str) (cs : List Nat) (md : AList Str Str) (hcs : cs ≠ []) :
    AList.get? (cs.foldl (fun md e => AList.set md key (c ++ errMsg e)) md) key
      = some (c ++ errMsg (cs.getLast hcs)) := by
  induction cs generalizing md with
  | nil => exact absurd rfl hcs
  | cons e r ih =>
    simp only [List.foldl_cons]
    cases r with
    | nil => simp [AList.get?_set]
    | cons e' r' =>
      rw [ih _ (by simp)]
      simp

theorem checkStep_eq (md : AList Str Str) (i : Nat) (p : Option Triple × List Nat) :
    checkStep (md, i) p
      = (p.2.foldl (fun md e => AList.set md (errKey i) (errCtx p.1 ++ errMsg e)) md, i + 1) := rfl

theorem checkStep_snd (errs : List (Option Triple × List Nat)) (md0 : AList Str Str) (i0 : Nat) :
    (errs.foldl checkStep (md0, i0)).2 = i0 + errs.length := by
  induction errs generalizing md0 i0 with
  | nil => rfl
  | cons p r ih =>
    simp only [List.foldl_cons, List.length_cons]; rw [checkStep_eq, ih]; omega

/-- keys with a smaller number than the running counter are not written any more -/
theorem get?_checkFold_lt (errs : List (Option Triple × List Nat)) (md0 : AList Str Str) (i0 i : Nat)
    (h : i < i0) :
    AList.get? (errs.foldl checkStep (md0, i0)).1 (errKey i) = AList.get? md0 (errKey i) := by
  induction errs generalizing md0 i0 with
  | nil => rfl
  | cons p r ih =>
    simp only [List.foldl_cons]
    rw [checkStep_eq, ih _ _ (by omega)]
    apply get?_msgs_ne
    intro e; have := errKey_inj e; omega

theorem get?_checkFold (errs : List (Option Triple × List Nat)) (md0 : AList Str Str) (i0 j : Nat)
    (k : Option Triple) (cs : List Nat) (hj : errs[j]? = some (k, cs)) (hcs : cs ≠ []) :
    AList.get? (errs.foldl checkStep (md0, i0)).1 (errKey (i0 + j))
      = some (errCtx k ++ errMsg (cs.getLast hcs)) := by
  induction errs generalizing md0 i0 j with
  | nil => simp at hj
  | cons p r ih =>
    simp only [List.foldl_cons]
    rw [checkStep_eq]
    cases j with
    | zero =>
      simp at hj; subst hj
      rw [get?_checkFold_lt _ _ _ _ (by omega)]
      exact get?_msgs_eq _ _ _ _ hcs
    | succ j =>
      simp at hj
      have := ih (p.2.foldl (fun md e => AList.set md (errKey i0) (errCtx p.1 ++ errMsg e)) md0)
        (i0 + 1) j hj
      rw [show i0 + (j + 1) = i0 + 1 + j by omega]
      exact this

/-- C16 (metadata): the `j`-th entry of `m.errors g` is recorded under `error-(j+1)` -/
theorem check_metadata_entry (m : Model) (g : Graph) (j : Nat) (k : Option Triple) (cs : List Nat)
    (hj : (m.errors g)[j]? = some (k, cs)) (hcs : cs ≠ []) :
    AList.get? (checkGraph m g).1.metadata ("error-".toList ++ natToStr (j+1))
      = some (errCtx k ++ errMsg (cs.getLast hcs)) := by
  have hne : m.errors g ≠ [] := by intro h; rw [h] at hj; simp at hj
  rw [checkGraph_metadata m g hne]
  have := get?_checkFold (m.errors g) g.metadata 1 j k cs hj hcs
  rw [Nat.add_comm 1 j] at this
  exact this

theorem check_metadata (m : Model) (g : Graph) (t : Triple) (cs : List Nat)
    (hmem : (some t, cs) ∈ m.errors g) (hcs : cs ≠ []) :
    ∃ i, 1 ≤ i ∧ i ≤ (m.errors g).length ∧ ∃ v,
      AList.get? (checkGraph m g).1.metadata ("error-".toList ++ natToStr i) = some v ∧
      (errCtx (some t)).isPrefixOf v = true ∧ errCtx (some t) <+: v := by
  obtain ⟨j, hlt, hj⟩ := List.getElem_of_mem hmem
  refine ⟨j + 1, by omega, by omega, _, check_metadata_entry m g j (some t) cs ?_ hcs, ?_, ?_⟩
  · rw [List.getElem?_eq_getElem hlt, hj]
  · simp
  · simp

/-- `(a :instance alpha) (a :foo bar) (b :instance beta)` under the default model:
    `:foo` is an invalid role and `b` is unreachable -/
def exCheckGraph : Graph :=
  { triples := [⟨"a".toList, ":instance".toList, .str "alpha".toList⟩,
      ⟨"a".toList, ":foo".toList, .str "bar".toList⟩,
      ⟨"b".toList, ":instance".toList, .str "beta".toList⟩] }

attribute [eval_unfold] exCheckGraph

example : ({} : Model).errors exCheckGraph
    = [(some ⟨"a".toList, ":foo".toList, .str "bar".toList⟩, [0]),
       (some ⟨"b".toList, ":instance".toList, .str "beta".toList⟩, [1])] := by eval_decide

example : (checkGraph {} exCheckGraph).2 = 1 := by eval_decide

example : (checkGraph {} exCheckGraph).1.metadata
    = [("error-1".toList, "(a :foo bar) invalid role".toList),
       ("error-2".toList, "(b :instance beta) unreachable".toList)] := by eval_decide

theorem status_eq (m : Model) (o : Opts) (g : Graph) :
    Cli.status m o g = if o.check = true ∧ m.errors g ≠ [] then 1 else 0 := by
  rw [Cli.status, checkGraph_code]
  cases o.check <;> by_cases h : m.errors g = [] <;> simp [h]

theorem processTree_code {u : UTables} {m : Model} {o : Opts} {t : Tree} {s : Str} {code : Nat}
    (h : processTree u m o t = .ok (s, code)) :
    ∃ g, processIn u m o t = .ok g ∧
      code = (if o.check = true ∧ m.errors g ≠ [] then 1 else 0) := by
  obtain ⟨g, hg, _, rfl⟩ := Cli.pipelineFull_ok (Cli.processTree_eq_pipelineFull u m o t ▸ h)
  exact ⟨g, by rw [Cli.processIn_eq_graphOf, hg], status_eq m o g⟩

theorem outcome_ok {u : UTables} {m : Model} {o : Opts} {t : Tree} {k : Nat} :
    Cli.outcome u m o t = .ok k ↔ ∃ s, processTree u m o t = .ok (s, k) := by
  rw [Cli.outcome, ← Cli.processTree_eq_pipelineFull]
  cases processTree u m o t with
  | error e => simp [Except.map]
  | ok r => simp [Except.map, Prod.ext_iff, eq_comm]

/-- `ParsedTrees` describes the normal termination of `iterparseLoop` -/
theorem parsedTrees_iff {c : PCtx} {sp : Char → Bool} (f : Nat) {toks : List Tok} {trees : List Tree}
    (hf : toks.length < f) :
    ParsedTrees c sp toks trees ↔ iterparseLoop c sp f toks [] = (trees, none) := by
  constructor
  · intro h
    induction h generalizing f with
    | nil =>
      cases f with
      | zero => omega
      | succ f => rfl
    | stop hn =>
      cases f with
      | zero => omega
      | succ f => rw [iterparseLoop, if_neg hn]; rfl
    | cons hy hp _ ih =>
      cases f with
      | zero => omega
      | succ f =>
        rw [iterparseLoop, if_pos hy, hp]
        simp only
        rw [Cli.iterparseLoop_acc, ih f (Cli.parseTree_fits hp hf)]
        rfl
  · intro h
    induction f generalizing toks trees with
    | zero => omega
    | succ f ih =>
      cases toks with
      | nil => cases h; exact .nil
      | cons t ts =>
        rw [iterparseLoop] at h
        split at h
        · rename_i hy
          split at h
          · rename_i tree rest hp
            rw [Cli.iterparseLoop_acc] at h
            cases hl : iterparseLoop c sp f rest [] with
            | mk l pe =>
              rw [hl] at h
              cases h
              exact .cons hy hp (ih (Cli.parseTree_fits hp hf) hl)
          · cases h
        · rename_i hn
          cases h
          exact .stop hn

theorem ParsedTrees_unique {c : PCtx} {sp : Char → Bool} {toks : List Tok} {l₁ l₂ : List Tree}
    (h₁ : ParsedTrees c sp toks l₁) (h₂ : ParsedTrees c sp toks l₂) : l₁ = l₂ := by
  have e₁ := (parsedTrees_iff _ (Nat.lt_succ_self _)).1 h₁
  have e₂ := (parsedTrees_iff _ (Nat.lt_succ_self _)).1 h₂
  rw [e₁] at e₂
  cases e₂
  rfl

theorem InputTrees_unique {cfg : LexCfg} {u : UTables} {input : Str} {l₁ l₂ : List Tree}
    (h₁ : InputTrees cfg u input l₁) (h₂ : InputTrees cfg u input l₂) : l₁ = l₂ :=
  ParsedTrees_unique h₁ h₂

theorem inputTrees_iff {cfg : LexCfg} {u : UTables} {input : Str} {trees : List Tree} :
    InputTrees cfg u input trees ↔ Cli.parseInput cfg u input = (trees, none) :=
  parsedTrees_iff _ (Nat.lt_succ_self _)

/-- a run over one input that ends with status `c`: the parser raised nothing, every tree was
    processed, and `c` is 0 or 1, non-zero exactly when checking is on and some graph has an error -/
theorem runInput_code {u : UTables} {m : Model} {o : Opts} {p : List Tree × Option PyErr} {c : Nat}
    (h : (Cli.runInput u m o p).2 = .ok c) :
    p.2 = none ∧ (∀ tree ∈ p.1, ∃ r, processTree u m o tree = .ok r) ∧ c ≤ 1 ∧
      (c ≠ 0 ↔ o.check = true ∧ ∃ tree ∈ p.1, ∃ g, processIn u m o tree = .ok g ∧ m.errors g ≠ []) := by
  obtain ⟨hp, he⟩ := Cli.runInput_snd_ok.1 h
  obtain ⟨h1, h2, h3⟩ := Cli.exitOf_ok he
  have hall : ∀ tree ∈ p.1, ∃ s k, processTree u m o tree = .ok (s, k) := by
    intro tree ht
    obtain ⟨k, hk⟩ := h1 _ (List.mem_map_of_mem ht)
    obtain ⟨s, hs⟩ := outcome_ok.1 hk
    exact ⟨s, k, hs⟩
  have key : ∀ k, (.ok k : Except PyErr Nat) ∈ p.1.map (Cli.outcome u m o) ↔
      ∃ tree ∈ p.1, ∃ s, processTree u m o tree = .ok (s, k) := by
    intro k
    simp only [List.mem_map, outcome_ok]
  refine ⟨hp, fun tree ht => ?_, h3 (Nat.zero_le 1) fun k hk => ?_, ?_⟩
  · obtain ⟨s, k, hs⟩ := hall tree ht
    exact ⟨_, hs⟩
  · obtain ⟨tree, _, s, hs⟩ := (key k).1 hk
    obtain ⟨g, _, rfl⟩ := processTree_code hs
    split <;> omega
  · rw [h2]
    simp only [ne_eq, not_true_eq_false, false_or, key]
    constructor
    · rintro ⟨k, ⟨tree, ht, s, hs⟩, hk⟩
      obtain ⟨g, hg, rfl⟩ := processTree_code hs
      split at hk
      · rename_i hc
        exact ⟨hc.1, tree, ht, g, hg, hc.2⟩
      · exact absurd rfl hk
    · rintro ⟨hc, tree, ht, g, hg, he⟩
      obtain ⟨s, k, hs⟩ := hall tree ht
      obtain ⟨g', hg', rfl⟩ := processTree_code hs
      rw [hg] at hg'
      cases hg'
      exact ⟨_, ⟨tree, ht, s, hs⟩, by rw [if_pos ⟨hc, he⟩]; exact Nat.one_ne_zero⟩

/-- an input runs to a status exactly when it parses into trees that are all processed -/
theorem runInput_ok_iff_trees {cfg : LexCfg} {u : UTables} {m : Model} {o : Opts} {input : Str} :
    (∃ c, (Cli.runInput u m o (Cli.parseInput cfg u input)).2 = .ok c) ↔
      ∃ trees, InputTrees cfg u input trees ∧ ∀ tree ∈ trees, ∃ r, processTree u m o tree = .ok r := by
  constructor
  · rintro ⟨c, hc⟩
    obtain ⟨hp, hall, _⟩ := runInput_code hc
    exact ⟨_, inputTrees_iff.2 (Prod.ext rfl hp), hall⟩
  · rintro ⟨trees, hit, hall⟩
    rw [inputTrees_iff.1 hit]
    obtain ⟨c, hc⟩ := Cli.exitOf_of_all_ok (rs := trees.map (Cli.outcome u m o)) (fun r hr => by
      obtain ⟨tree, ht, rfl⟩ := List.mem_map.1 hr
      obtain ⟨⟨s, k⟩, hs⟩ := hall tree ht
      exact ⟨k, outcome_ok.2 ⟨s, hs⟩⟩) 0
    exact ⟨c, Cli.runInput_snd_ok.2 ⟨rfl, hc⟩⟩

theorem mainRun_snd (cfg : LexCfg) (u : UTables) (m : Model) (o : Opts) (inputs : List Str) (out : Str)
    (code : Nat) :
    (mainRun cfg u m o inputs out code).2 =
      Cli.exitOf (inputs.map fun i => (Cli.runInput u m o (Cli.parseInput cfg u i)).2) code := by
  rw [Cli.mainRun_eq, Cli.runAll_snd, List.map_map]
  rfl

theorem exit_status (cfg : LexCfg) (u : UTables) (m : Model) (o : Opts) (inputs : List Str) (out : Str) (code : Nat)
    (h : mainRun cfg u m o inputs [] 0 = (out, .ok code)) :
    (code ≠ 0 ↔ o.check = true ∧ ∃ input ∈ inputs, ∃ trees, InputTrees cfg u input trees ∧
        ∃ tree ∈ trees, ∃ g, processIn u m o tree = .ok g ∧ m.errors g ≠ [])
    ∧ code ≤ 1 := by
  have h' := mainRun_snd cfg u m o inputs [] 0
  rw [h] at h'
  obtain ⟨h1, h2, h3⟩ := Cli.exitOf_ok h'.symm
  refine ⟨?_, h3 (Nat.zero_le 1) fun k hk => ?_⟩
  · rw [h2]
    simp only [ne_eq, not_true_eq_false, false_or, List.mem_map]
    constructor
    · rintro ⟨k, ⟨input, hin, hk⟩, hne⟩
      obtain ⟨hp, _, _, hiff⟩ := runInput_code hk
      obtain ⟨hc, herr⟩ := hiff.1 hne
      exact ⟨hc, input, hin, _, inputTrees_iff.2 (Prod.ext rfl hp), herr⟩
    · rintro ⟨hc, input, hin, trees, hit, herr⟩
      obtain ⟨k, hk⟩ := h1 _ (List.mem_map_of_mem hin)
      obtain ⟨_, _, _, hiff⟩ := runInput_code hk
      rw [inputTrees_iff.1 hit] at hiff
      exact ⟨k, ⟨input, hin, hk⟩, hiff.2 ⟨hc, herr⟩⟩
  · obtain ⟨input, _, hi⟩ := List.mem_map.1 hk
    exact (runInput_code hi).2.2.1

/-- the command exits with a status (no exception escapes) exactly when every input
    parses into trees that are all processed without an exception -/
theorem mainRun_ok_iff (cfg : LexCfg) (u : UTables) (m : Model) (o : Opts) (inputs : List Str) :
    (∃ out code, mainRun cfg u m o inputs [] 0 = (out, .ok code)) ↔
    ∀ input ∈ inputs, ∃ trees, InputTrees cfg u input trees ∧
      ∀ tree ∈ trees, ∃ r, processTree u m o tree = .ok r := by
  simp only [← runInput_ok_iff_trees]
  constructor
  · rintro ⟨out, code, h⟩ input hin
    have h' := mainRun_snd cfg u m o inputs [] 0
    rw [h] at h'
    exact (Cli.exitOf_ok h'.symm).1 _ (List.mem_map_of_mem hin)
  · intro hall
    obtain ⟨c, hc⟩ := Cli.exitOf_of_all_ok
      (rs := inputs.map fun i => (Cli.runInput u m o (Cli.parseInput cfg u i)).2) (fun r hr => by
        obtain ⟨input, hin, rfl⟩ := List.mem_map.1 hr
        exact hall input hin) 0
    rw [← mainRun_snd] at hc
    exact ⟨_, c, Prod.ext rfl hc⟩

theorem exit_status_all_ok (cfg : LexCfg) (u : UTables) (m : Model) (o : Opts) (inputs : List Str) (out : Str) (code : Nat)
    (h : mainRun cfg u m o inputs [] 0 = (out, .ok code)) :
    ∀ input ∈ inputs, ∃ trees, InputTrees cfg u input trees ∧
      ∀ tree ∈ trees, ∃ r, processTree u m o tree = .ok r :=
  (mainRun_ok_iff cfg u m o inputs).1 ⟨out, code, h⟩

/-- without `--check` the exit status is `0` -/
theorem exit_status_nocheck (cfg : LexCfg) (u : UTables) (m : Model) (o : Opts) (inputs : List Str)
    (out : Str) (code : Nat) (hc : o.check = false)
    (h : mainRun cfg u m o inputs [] 0 = (out, .ok code)) : code = 0 :=
  Decidable.byContradiction fun hne => by
    have := ((exit_status cfg u m o inputs out code h).1.1 hne).1
    rw [hc] at this
    cases this

/-- `processInput` never runs out of fuel: any larger fuel gives the same result -/
theorem processInput_fuel (cfg : LexCfg) (u : UTables) (m : Model) (o : Opts) (input : Str) (f : Nat)
    (hf : (lexLines cfg cfg.penmanOrder (fileLines input)).length < f) :
    processInput cfg u m o input
      = processLoop u m o ⟨eofPos (lexLines cfg cfg.penmanOrder (fileLines input))⟩ f
          (lexLines cfg cfg.penmanOrder (fileLines input)) true [] 0 :=
  Cli.processLoop_fuel _ _ _ _ _ _ _ _ _ _ (Nat.lt_succ_self _) hf

/-- with enough fuel, an exception escaping `processLoop` is the exception of a `parseTree` or
    `processTree` call (never the loop's own "fuel" marker) -/
theorem processLoop_error_source {u : UTables} {m : Model} {o : Opts} {c : PCtx} (f : Nat) (toks : List Tok)
    (first : Bool) (out : Str) (code0 : Nat) (out' : Str) (e : PyErr) (hf : toks.length < f)
    (h : processLoop u m o c f toks first out code0 = (out', .error e)) :
    ∃ toks', parseTree c u.isSpace toks' = .error e ∨
      ∃ tree rest, parseTree c u.isSpace toks' = .ok (tree, rest) ∧ processTree u m o tree = .error e := by
  induction f generalizing toks first out code0 with
  | zero => omega
  | succ f ih =>
    cases toks with
    | nil => cases h
    | cons t ts =>
      rw [processLoop] at h
      by_cases hy : t.ty = .COMMENT ∨ t.ty = .LPAREN
      · rw [if_pos hy] at h
        cases hp : parseTree c u.isSpace (t :: ts) with
        | error e' =>
          rw [hp] at h
          cases h
          exact ⟨_, Or.inl hp⟩
        | ok v =>
          obtain ⟨tree, rest⟩ := v
          rw [hp] at h
          simp only [] at h
          cases hq : processTree u m o tree with
          | error e' =>
            rw [hq] at h
            cases h
            exact ⟨_, Or.inr ⟨tree, rest, hp, hq⟩⟩
          | ok w =>
            rw [hq] at h
            exact ih _ _ _ _ (Cli.parseTree_fits hp hf) h
      · rw [if_neg hy] at h
        cases h

/-- an exception escaping `processInput` is the exception of a `parseTree` or `processTree`
    call: the loop's own fuel never runs out -/
theorem processInput_error_source {cfg : LexCfg} {u : UTables} {m : Model} {o : Opts} {input s : Str}
    {e : PyErr} (h : processInput cfg u m o input = (s, .error e)) :
    ∃ toks', parseTree ⟨eofPos (lexLines cfg cfg.penmanOrder (fileLines input))⟩ u.isSpace toks' = .error e ∨
      ∃ tree rest, parseTree ⟨eofPos (lexLines cfg cfg.penmanOrder (fileLines input))⟩ u.isSpace toks'
          = .ok (tree, rest) ∧ processTree u m o tree = .error e :=
  processLoop_error_source _ _ _ _ _ _ _ (Nat.lt_succ_self _) h


#print axioms natToStr_inj
#print axioms AList.get?_set
#print axioms checkGraph_code
#print axioms checkGraph_triples
#print axioms check_metadata_entry
#print axioms check_metadata
#print axioms processTree_code
#print axioms ParsedTrees_unique
#print axioms exit_status
#print axioms exit_status_all_ok
#print axioms exit_status_nocheck
#print axioms Cli.parseTree_len
#print axioms Cli.processLoop_fuel
#print axioms processInput_fuel
#print axioms processInput_error_source
#print axioms mainRun_ok_iff

end Penman
