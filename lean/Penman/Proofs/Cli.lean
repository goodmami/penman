import Penman.Main
import Penman.Generated
/-!
  Penman.Proofs.Cli — the `penman` command (property C20): one invariant of the recursive-descent
  parser (`Consumes`), the documented pipeline written independently of `Penman.Main` and proved
  equal to it, the loop over the graphs of an input as a fold over their results (`emit`,
  `exitOf`), and a kernel-evaluable copy of the command for the concrete runs.
-/
namespace Penman.Cli

/-- `r` is a possible result of a parser call on at most `n` tokens with recursion fuel `f`:
    on success fewer than `n` tokens are left; an exception is a `DecodeError`, or the
    `RecursionError` of exhausted fuel, and then `f ≤ n`. -/
def Consumes {α : Type} (f n : Nat) : Except PyErr (α × List Tok) → Prop
  | .ok v => v.2.length < n
  | .error e => (∃ l o k, e = .decode l o k) ∨ (e = .other "RecursionError" ∧ f ≤ n)

/-- sequencing: `hf` covers both a step that leaves the fuel alone (`m ≤ n`) and a recursive
    call with one unit less on strictly fewer tokens -/
theorem Consumes.bind {α β : Type} {f f' m n : Nat} {x : Except PyErr (α × List Tok)}
    {k : α × List Tok → Except PyErr (β × List Tok)} (hx : Consumes f' m x) (hf : f + m ≤ f' + n)
    (hk : ∀ v, v.2.length < m → Consumes f n (k v)) : Consumes f n (x >>= k) := by
  cases x with
  | ok v => exact hk v hx
  | error e => exact hx.imp id fun h => ⟨h.1, by have := h.2; omega⟩

theorem Consumes.bind_le {α β : Type} {f m n : Nat} {x : Except PyErr (α × List Tok)}
    {k : α × List Tok → Except PyErr (β × List Tok)} (hx : Consumes f m x) (hmn : m ≤ n)
    (hk : ∀ v, v.2.length < n → Consumes f n (k v)) : Consumes f n (x >>= k) :=
  hx.bind (Nat.add_le_add_left hmn f) fun v hv => hk v (Nat.lt_of_lt_of_le hv hmn)

theorem Consumes.bind_lt {α β : Type} {f m n : Nat} {x : Except PyErr (α × List Tok)}
    {k : α × List Tok → Except PyErr (β × List Tok)} (hx : Consumes f m x) (hmn : m < n)
    (hk : ∀ v, v.2.length < n → Consumes (f + 1) n (k v)) : Consumes (f + 1) n (x >>= k) :=
  hx.bind (by omega) fun v hv => hk v (Nat.lt_trans hv hmn)

theorem Consumes.mono {α : Type} {f m n : Nat} {r : Except PyErr (α × List Tok)} (h : Consumes f m r)
    (hmn : m ≤ n) : Consumes f n r := by
  cases r with
  | ok v => exact Nat.lt_of_lt_of_le h hmn
  | error e => exact h.imp id fun h => ⟨h.1, Nat.le_trans h.2 hmn⟩

theorem Consumes.ite {α : Type} {f n : Nat} {p : Prop} [Decidable p] {a b : Except PyErr (α × List Tok)}
    (ha : p → Consumes f n a) (hb : ¬p → Consumes f n b) : Consumes f n (if p then a else b) := by
  by_cases h : p
  · rw [if_pos h]; exact ha h
  · rw [if_neg h]; exact hb h

theorem expectTy_consumes (c : PCtx) (ty : TokTy) (f : Nat) (toks : List Tok) :
    Consumes f toks.length (expectTy c ty toks) := by
  cases toks with
  | nil => exact .inl ⟨_, _, _, rfl⟩
  | cons t ts =>
    rw [expectTy]
    exact .ite (fun _ => Nat.lt_succ_self _) fun _ => .inl ⟨_, _, _, rfl⟩

theorem takeAln_consumes (c : PCtx) (text : Str) (f : Nat) (toks : List Tok) :
    Consumes f (toks.length + 1) (takeAln c text toks) := by
  cases toks with
  | nil => exact .inl ⟨_, _, _, rfl⟩
  | cons t ts =>
    rw [takeAln]
    exact .ite (fun _ => Nat.lt_succ_of_lt (Nat.lt_succ_self _)) fun _ => Nat.lt_succ_self _

theorem parseComments_consumes (c : PCtx) (sp : Char → Bool) (f : Nat) (toks : List Tok)
    (md : AList Str Str) : Consumes f (toks.length + 1) (parseComments c sp toks md) := by
  induction toks generalizing md with
  | nil => exact .inl ⟨_, _, _, rfl⟩
  | cons t ts ih =>
    rw [parseComments]
    exact .ite (fun _ => (ih _).mono (Nat.le_succ _)) fun _ => Nat.lt_succ_self _

theorem parser_consumes (c : PCtx) : ∀ f : Nat,
    (∀ toks, Consumes f toks.length (parseNode c f toks)) ∧
    (∀ toks, Consumes f toks.length (parseEdges c f toks))
  | 0 => ⟨fun _ => .inr ⟨rfl, Nat.zero_le _⟩, fun _ => .inr ⟨rfl, Nat.zero_le _⟩⟩
  | f+1 => by
    obtain ⟨ihN, ihE⟩ := parser_consumes c f
    constructor
    · intro toks
      rw [parseNode]
      refine (expectTy_consumes c _ (f+1) toks).bind_le (Nat.le_refl _) fun v h1 => ?_
      obtain ⟨_, ts⟩ := v
      cases ts with
      | nil => exact .inl ⟨_, _, _, rfl⟩
      | cons t ts1 =>
        refine .ite (fun _ => Nat.lt_of_succ_lt h1) fun _ => ?_
        refine (expectTy_consumes c _ (f+1) (t :: ts1)).bind_le (Nat.le_of_lt h1) fun v h2 => ?_
        obtain ⟨vt, ts2⟩ := v
        cases ts2 with
        | nil => exact .inl ⟨_, _, _, rfl⟩
        | cons s ts3 =>
          refine .ite (fun _ => ?_) fun _ => (ihE (s :: ts3)).bind_lt h2 fun w h3 => h3
          cases ts3 with
          | nil => exact .inl ⟨_, _, _, rfl⟩
          | cons k ts4 =>
            have h2' : (k :: ts4).length < toks.length := Nat.lt_of_succ_lt h2
            refine .ite (fun _ => ?_) fun _ => (ihE (k :: ts4)).bind_lt h2' fun w h3 => h3
            refine (takeAln_consumes c _ (f+1) ts4).bind_le (Nat.le_of_lt h2') fun v h3 => ?_
            exact (ihE v.2).bind_lt h3 fun w h4 => h4
    · intro toks
      cases toks with
      | nil => exact .inl ⟨_, _, _, rfl⟩
      | cons t ts =>
        rw [parseEdges]
        refine .ite (fun _ => Nat.lt_succ_self _) fun _ => .ite (fun _ => .inl ⟨_, _, _, rfl⟩) fun _ => ?_
        refine (takeAln_consumes c _ (f+1) ts).bind_le (Nat.le_refl _) fun v h1 => ?_
        obtain ⟨role, ts1⟩ := v
        cases ts1 with
        | nil => exact .inl ⟨_, _, _, rfl⟩
        | cons n ts2 =>
          refine .ite (fun _ => ?_) fun _ => .ite (fun _ => ?_) fun _ =>
            .ite (fun _ => (ihE (n :: ts2)).bind_lt h1 fun w h3 => h3) fun _ => .inl ⟨_, _, _, rfl⟩
          · refine (takeAln_consumes c _ (f+1) ts2).bind_le (Nat.le_of_lt h1) fun v h2 => ?_
            exact (ihE v.2).bind_lt h2 fun w h3 => h3
          · refine (ihN (n :: ts2)).bind_lt h1 fun v h2 => ?_
            exact (ihE v.2).bind_lt h2 fun w h3 => h3

/-- `parseTree` hands `parseNode` more fuel than tokens, so a `RecursionError` is impossible -/
theorem parseTree_consumes (c : PCtx) (sp : Char → Bool) (toks : List Tok) :
    Consumes (toks.length + 1) toks.length (parseTree c sp toks) := by
  rw [parseTree]
  refine (parseComments_consumes c sp (toks.length + 2) toks []).bind (by omega) fun v h1 => ?_
  refine ((parser_consumes c _).1 v.2).bind (by omega) fun w h2 => ?_
  show w.2.length < _
  omega

/-- a successful `parseTree` consumes at least one token -/
theorem parseTree_len {c : PCtx} {sp : Char → Bool} {toks : List Tok} {t : Tree} {rest : List Tok}
    (h : parseTree c sp toks = .ok (t, rest)) : rest.length < toks.length := by
  have := parseTree_consumes c sp toks
  rwa [h] at this

/-- after a successful `parseTree` the rest fits the remaining fuel of the loops over the input -/
theorem parseTree_fits {c : PCtx} {sp : Char → Bool} {toks : List Tok} {t : Tree} {rest : List Tok} {f : Nat}
    (h : parseTree c sp toks = .ok (t, rest)) (hf : toks.length < f + 1) : rest.length < f :=
  Nat.lt_of_lt_of_le (parseTree_len h) (Nat.le_of_lt_succ hf)

/-- `parseTree` only ever raises a `DecodeError` (its recursion fuel never runs out) -/
theorem parseTree_err {c : PCtx} {sp : Char → Bool} {toks : List Tok} {e : PyErr}
    (h : parseTree c sp toks = .error e) : ∃ l o k, e = .decode l o k := by
  have := parseTree_consumes c sp toks
  rw [h] at this
  exact this.resolve_right fun h => Nat.not_succ_le_self _ h.2

theorem iterparseLoop_acc (c : PCtx) (sp : Char → Bool) (f : Nat) (toks : List Tok) (acc : List Tree) :
    iterparseLoop c sp f toks acc =
      (acc.reverse ++ (iterparseLoop c sp f toks []).1, (iterparseLoop c sp f toks []).2) := by
  induction f generalizing toks acc with
  | zero => exact Prod.ext (List.append_nil _).symm rfl
  | succ f ih =>
    cases toks with
    | nil => exact Prod.ext (List.append_nil _).symm rfl
    | cons t ts =>
      rw [iterparseLoop, iterparseLoop]
      by_cases hy : t.ty = .COMMENT ∨ t.ty = .LPAREN
      · rw [if_pos hy, if_pos hy]
        cases parseTree c sp (t :: ts) with
        | error e => exact Prod.ext (List.append_nil _).symm rfl
        | ok v =>
          simp only []
          rw [ih v.2 (v.1 :: acc), ih v.2 [v.1], List.reverse_cons, List.append_assoc]
          rfl
      · rw [if_neg hy, if_neg hy]
        exact Prod.ext (List.append_nil _).symm rfl

/-- with more fuel than tokens the result of `iterparseLoop` does not depend on the fuel -/
theorem iterparseLoop_fuel (c : PCtx) (sp : Char → Bool) (f f' : Nat) (toks : List Tok) (acc : List Tree)
    (h : toks.length < f) (h' : toks.length < f') :
    iterparseLoop c sp f toks acc = iterparseLoop c sp f' toks acc := by
  induction f generalizing f' toks acc with
  | zero => omega
  | succ f ih =>
    cases f' with
    | zero => omega
    | succ f' =>
    cases toks with
    | nil => rfl
    | cons t ts =>
      rw [iterparseLoop, iterparseLoop]
      cases hp : parseTree c sp (t :: ts) with
      | error e => rfl
      | ok v =>
        simp only []
        rw [ih f' v.2 _ (parseTree_fits hp h) (parseTree_fits hp h')]

/-- every error reported by `iterparseLoop` with enough fuel is a `DecodeError` of the parser -/
theorem iterparseLoop_err (c : PCtx) (sp : Char → Bool) (f : Nat) (toks : List Tok) (acc : List Tree) (e : PyErr)
    (h : toks.length < f) (he : (iterparseLoop c sp f toks acc).2 = some e) : ∃ l o k, e = .decode l o k := by
  induction f generalizing toks acc with
  | zero => omega
  | succ f ih =>
    cases toks with
    | nil => cases he
    | cons t ts =>
      rw [iterparseLoop] at he
      by_cases hy : t.ty = .COMMENT ∨ t.ty = .LPAREN
      · rw [if_pos hy] at he
        cases hp : parseTree c sp (t :: ts) with
        | error e' =>
          rw [hp] at he
          cases he
          exact parseTree_err hp
        | ok v =>
          rw [hp] at he
          exact ih v.2 _ (parseTree_fits hp h) he
      · rw [if_neg hy] at he
        cases he

/-- a stage that runs only when its option is given -/
def optStage {α : Type} (b : Bool) (f : α → Except PyErr α) (x : α) : Except PyErr α :=
  if b then f x else .ok x

/-- parse result ↦ graph: (canonicalise) → interpret → (reify edges) → (dereify edges) →
    (reify attributes) → (indicate branches) -/
def graphOf (u : UTables) (m : Model) (o : Opts) (t : Tree) : Except PyErr Graph :=
  optStage o.canonicalizeRoles (canonicalizeRoles m) t
    >>= interpret u.isAlpha m
    >>= optStage o.reifyEdges (reifyEdges m)
    >>= optStage o.dereifyEdges (dereifyEdges m)
    >>= optStage o.reifyAttributes (fun g => .ok (reifyAttributes g))
    >>= optStage o.indicateBranches (indicateBranches m)

/-- exit status contributed by one graph: `_check` under `--check`, else 0 -/
def status (m : Model) (o : Opts) (g : Graph) : Nat := if o.check then (checkGraph m g).2 else 0

/-- `--check` adds the `error-N` metadata to the graph -/
def annotate (m : Model) (o : Opts) (g : Graph) : Graph := if o.check then (checkGraph m g).1 else g

/-- `--reconfigure KEY`: reconfigure, then re-interpret (only its exception matters); else configure -/
def layoutStage (u : UTables) (m : Model) (o : Opts) (g : Graph) : Except PyErr Tree :=
  match o.reconfigure with
  | some ks => reconfigure m g none (some ks) >>= fun t => (interpret u.isAlpha m t).map fun _ => t
  | none => configure m g none

def rearrangeStage (m : Model) (o : Opts) (t : Tree) : Except PyErr Tree :=
  match o.rearrange with
  | some (ks, af) => .ok (rearrange m (some ks) af t)
  | none => .ok t

/-- `--make-variables FMT` : relabel -/
def relabelStage (u : UTables) (o : Opts) (t : Tree) : Except PyErr Tree :=
  match o.makeVariables with
  | some fmt => (t.node.resetVariables u.isAlpha u.lower fmt).map fun n => { t with node := n }
  | none => .ok t

/-- graph ↦ tree: (reconfigure | configure) → (rearrange) → (relabel) -/
def treeOf (u : UTables) (m : Model) (o : Opts) (g : Graph) : Except PyErr Tree :=
  layoutStage u m o g >>= rearrangeStage m o >>= relabelStage u o

/-- `bool(format_options.get('indent', True))` -/
def indentFlag : Indent → Bool
  | none => false
  | some i => i != 0

/-- everything before `format`: the tree handed to `format`, and the status -/
def preFormat (u : UTables) (m : Model) (o : Opts) (t : Tree) : Except PyErr (Tree × Nat) :=
  graphOf u m o t >>= fun g => (treeOf u m o (annotate m o g)).map fun t' => (t', status m o g)

/-- everything before `format_triples`: the triples handed over, and the status -/
def preTriples (u : UTables) (m : Model) (o : Opts) (t : Tree) : Except PyErr (List Triple × Nat) :=
  (graphOf u m o t).map fun g => ((annotate m o g).triples, status m o g)

/-- graph ↦ text -/
def render (u : UTables) (m : Model) (o : Opts) (g : Graph) : Except PyErr Str :=
  if o.triples then .ok (formatTriples (annotate m o g).triples (indentFlag o.indent))
  else (treeOf u m o (annotate m o g)).map fun t => format t o.indent o.compact

/-- the documented pipeline for one parsed graph: the text that is printed -/
def pipeline (u : UTables) (m : Model) (o : Opts) (t : Tree) : Except PyErr Str :=
  graphOf u m o t >>= render u m o

/-- the pipeline together with the `--check` status of the graph -/
def pipelineFull (u : UTables) (m : Model) (o : Opts) (t : Tree) : Except PyErr (Str × Nat) :=
  graphOf u m o t >>= fun g => (render u m o g).map fun s => (s, status m o g)

theorem pipeline_eq_fst (u : UTables) (m : Model) (o : Opts) (t : Tree) :
    pipeline u m o t = (pipelineFull u m o t).map (·.1) := by
  simp only [pipeline, pipelineFull]
  cases graphOf u m o t with
  | error e => rfl
  | ok g => cases h : render u m o g <;> simp [bind, Except.bind, Except.map, h]

theorem ite_bind {α β : Type} (b : Bool) (x y : Except PyErr α) (k : α → Except PyErr β) :
    ((if b = true then x else y) >>= k) = if b = true then x >>= k else y >>= k := by
  cases b <;> rfl
theorem ok_bind {α β : Type} (x : α) (f : α → Except PyErr β) : (Except.ok x >>= f) = f x := rfl
theorem error_bind {α β : Type} (e : PyErr) (f : α → Except PyErr β) : (Except.error e >>= f) = .error e := rfl
theorem pure_eq_ok {α : Type} (x : α) : (pure x : Except PyErr α) = .ok x := rfl

theorem ite_ok {α : Type} (c : Prop) [Decidable c] (a b : α) :
    (if c then (Except.ok a : Except PyErr α) else .ok b) = .ok (if c then a else b) := by
  split <;> rfl

theorem optStage_true {α : Type} (f : α → Except PyErr α) : optStage true f = f := by
  funext x; simp [optStage]
theorem optStage_false {α : Type} (f : α → Except PyErr α) : optStage false f = Except.ok := by
  funext x; simp [optStage]
theorem bind_ok' {α : Type} (x : Except PyErr α) : (x >>= Except.ok) = x := by
  cases x <;> rfl
theorem map_eq_bind {α β : Type} (f : α → β) (x : Except PyErr α) :
    Except.map f x = x >>= fun a => Except.ok (f a) := by
  cases x <;> rfl

theorem processIn_eq_graphOf (u : UTables) (m : Model) (o : Opts) (t : Tree) :
    processIn u m o t = graphOf u m o t := by
  simp only [processIn, graphOf, optStage, bind_assoc, ite_bind, ite_ok, pure_eq_ok, ok_bind, bind_ok']

theorem processOut_eq_treeOf (u : UTables) (m : Model) (o : Opts) (g : Graph) :
    processOut u m o g = treeOf u m o g := by
  cases h1 : o.reconfigure <;> cases h2 : o.rearrange <;> cases h3 : o.makeVariables <;>
    simp only [processOut, treeOf, layoutStage, rearrangeStage, relabelStage, h1, h2, h3, bind_assoc,
      pure_eq_ok, ok_bind, map_eq_bind, bind_ok']

/-- the pair `process` takes apart under `--check` -/
theorem check_pair (m : Model) (o : Opts) (g : Graph) :
    (if o.check = true then checkGraph m g else (g, 0)) = (annotate m o g, status m o g) := by
  rw [annotate, status]
  cases o.check <;> rfl

theorem processTree_eq_pipelineFull (u : UTables) (m : Model) (o : Opts) (t : Tree) :
    processTree u m o t = pipelineFull u m o t := by
  rw [processTree, pipelineFull, processIn_eq_graphOf]
  cases graphOf u m o t with
  | error e => rfl
  | ok g =>
    rw [ok_bind, ok_bind, check_pair, render]
    cases o.triples
    · simp only [Bool.false_eq_true, if_false, processOut_eq_treeOf]
      cases treeOf u m o (annotate m o g) <;> rfl
    · rfl

/-- a successful pipeline: the graph, its text, its status -/
theorem pipelineFull_ok {u : UTables} {m : Model} {o : Opts} {t : Tree} {s : Str} {c : Nat}
    (h : pipelineFull u m o t = .ok (s, c)) :
    ∃ g, graphOf u m o t = .ok g ∧ render u m o g = .ok s ∧ c = status m o g := by
  rw [pipelineFull] at h
  cases hg : graphOf u m o t with
  | error e => rw [hg] at h; cases h
  | ok g =>
    rw [hg, ok_bind] at h
    cases hr : render u m o g with
    | error e => rw [hr] at h; cases h
    | ok s' => rw [hr] at h; cases h; exact ⟨g, rfl, hr, rfl⟩

/-- what the command prints for the trees the parser yields, and its exit status:
    graph `i > 0` is preceded by a blank line, each graph's text is followed by a newline;
    the first pipeline exception stops the run (the separator is already written) -/
def renderAll (u : UTables) (m : Model) (o : Opts) : List Tree → Bool → Str → Nat → Str × Except PyErr Nat
  | [], _, out, code => (out, .ok code)
  | t :: ts, first, out, code =>
    let out' := if first then out else out ++ ['\n']
    match pipelineFull u m o t with
    | .error e => (out', .error e)
    | .ok (s, c) => renderAll u m o ts false (out' ++ s ++ ['\n']) (code ||| c)

/-- the parser's exception surfaces after everything before it has been printed -/
def withParserError : Str × Except PyErr Nat → Option PyErr → Str × Except PyErr Nat
  | (out, .ok _), some e => (out, .error e)
  | r, _ => r

/-- `renderAll` on the list of the trees' pipeline results -/
def emit : List (Except PyErr (Str × Nat)) → Bool → Str → Nat → Str × Except PyErr Nat
  | [], _, out, code => (out, .ok code)
  | .error e :: _, first, out, _ => (if first then out else out ++ ['\n'], .error e)
  | .ok (s, c) :: rs, first, out, code =>
    emit rs false ((if first then out else out ++ ['\n']) ++ s ++ ['\n']) (code ||| c)

/-- `renderAll` only looks at the trees through `pipelineFull` -/
theorem renderAll_eq_emit (u : UTables) (m : Model) (o : Opts) (ts : List Tree) (first : Bool)
    (out : Str) (code : Nat) :
    renderAll u m o ts first out code = emit (ts.map (pipelineFull u m o)) first out code := by
  induction ts generalizing first out code with
  | nil => rfl
  | cons t ts ih =>
    simp only [renderAll, List.map_cons]
    cases pipelineFull u m o t with
    | error e => rfl
    | ok w => exact ih _ _ _

theorem withParserError_error (s : Str) (e : PyErr) (pe : Option PyErr) :
    withParserError (s, .error e) pe = (s, .error e) := by
  cases pe <;> rfl

/-- an exception of a run is that of a pipeline, or the parser's after a clean run of the pipelines -/
theorem withParserError_error_iff {r : Str × Except PyErr Nat} {pe : Option PyErr} {s : Str} {e : PyErr} :
    withParserError r pe = (s, .error e) ↔ r = (s, .error e) ∨ ∃ c, r = (s, .ok c) ∧ pe = some e := by
  obtain ⟨out, res⟩ := r
  cases res <;> cases pe <;> simp [withParserError]

theorem withParserError_ok {r : Str × Except PyErr Nat} {pe : Option PyErr} {s : Str} {c : Nat} :
    withParserError r pe = (s, .ok c) ↔ r = (s, .ok c) ∧ pe = none := by
  obtain ⟨out, res⟩ := r
  cases res <;> cases pe <;> simp [withParserError]

theorem processLoop_eq_renderAll (u : UTables) (m : Model) (o : Opts) (c : PCtx) (f : Nat) (toks : List Tok)
    (first : Bool) (out : Str) (code : Nat) :
    processLoop u m o c f toks first out code =
      withParserError (renderAll u m o (iterparseLoop c u.isSpace f toks []).1 first out code)
        (iterparseLoop c u.isSpace f toks []).2 := by
  induction f generalizing toks first out code with
  | zero => rfl
  | succ f ih =>
    cases toks with
    | nil => rfl
    | cons t ts =>
      rw [processLoop, iterparseLoop]
      by_cases hy : t.ty = .COMMENT ∨ t.ty = .LPAREN
      · rw [if_pos hy, if_pos hy]
        cases hp : parseTree c u.isSpace (t :: ts) with
        | error e => rfl
        | ok v =>
          obtain ⟨tree, rest⟩ := v
          simp only []
          rw [iterparseLoop_acc, processTree_eq_pipelineFull]
          simp only [List.reverse_cons, List.reverse_nil, List.nil_append, List.singleton_append, renderAll]
          cases pipelineFull u m o tree with
          | error e => exact (withParserError_error _ _ _).symm
          | ok w => exact ih rest false _ _
      · rw [if_neg hy, if_neg hy]
        rfl

/-- with more fuel than tokens the result of `processLoop` does not depend on the fuel -/
theorem processLoop_fuel (u : UTables) (m : Model) (o : Opts) (c : PCtx) (f f' : Nat) (toks : List Tok)
    (first : Bool) (out : Str) (code : Nat) (h : toks.length < f) (h' : toks.length < f') :
    processLoop u m o c f toks first out code = processLoop u m o c f' toks first out code := by
  rw [processLoop_eq_renderAll, processLoop_eq_renderAll, iterparseLoop_fuel c u.isSpace f f' toks [] h h']

theorem emit_error_mem {rs : List (Except PyErr (Str × Nat))} {first : Bool} {out s : Str} {code : Nat}
    {e : PyErr} (h : emit rs first out code = (s, .error e)) : .error e ∈ rs := by
  induction rs generalizing first out code with
  | nil => cases h
  | cons r rs ih =>
    cases r with
    | error e' => cases h; exact List.mem_cons_self
    | ok w => exact List.mem_cons_of_mem _ (ih h)

/-- an exception reported by `renderAll` is the exception of one tree's pipeline -/
theorem renderAll_error_source (u : UTables) (m : Model) (o : Opts) (ts : List Tree) (first : Bool) (out : Str)
    (code : Nat) (s : Str) (e : PyErr) (h : renderAll u m o ts first out code = (s, .error e)) :
    ∃ t ∈ ts, pipeline u m o t = .error e := by
  rw [renderAll_eq_emit] at h
  obtain ⟨t, ht, he⟩ := List.mem_map.1 (emit_error_mem h)
  exact ⟨t, ht, by rw [pipeline_eq_fst, he]; rfl⟩

/-- the printed form of a list of graph texts: each followed by a newline, a blank line between -/
def joinGraphs (ss : List Str) : Str := joinStr ['\n'] (ss.map (· ++ ['\n']))

theorem joinGraphs_cons (s : Str) (ss : List Str) :
    joinGraphs (s :: ss) = s ++ ['\n'] ++ (if ss.isEmpty then [] else ['\n'] ++ joinGraphs ss) := by
  cases ss with
  | nil => simp [joinGraphs, joinStr]
  | cons a as => simp [joinGraphs, joinStr]

theorem joinGraphs_nil : joinGraphs [] = [] := rfl

/-- bitwise OR of the statuses -/
def orAll (code : Nat) (cs : List Nat) : Nat := cs.foldl (· ||| ·) code

/-- the texts as `emit` appends them: a blank line in front unless this is the first graph -/
def joinFrom (first : Bool) (ss : List Str) : Str :=
  (if first || ss.isEmpty then [] else ['\n']) ++ joinGraphs ss

theorem joinFrom_cons (first : Bool) (s : Str) (ss : List Str) :
    joinFrom first (s :: ss) = (if first then [] else ['\n']) ++ s ++ ['\n'] ++ joinFrom false ss := by
  cases ss <;> cases first <;> simp [joinFrom, joinGraphs_cons, joinGraphs_nil]

/-- a run of successes: their texts are appended in order, their statuses OR-ed -/
theorem emit_append (oks : List (Str × Nat)) (post : List (Except PyErr (Str × Nat))) (first : Bool)
    (out : Str) (code : Nat) :
    emit (oks.map .ok ++ post) first out code =
      emit post (first && oks.isEmpty) (out ++ joinFrom first (oks.map (·.1))) (orAll code (oks.map (·.2))) := by
  induction oks generalizing first out code with
  | nil => simp [joinFrom, joinGraphs, joinStr, orAll]
  | cons r oks ih =>
    simp only [List.map_cons, List.cons_append, emit, ih, joinFrom_cons, List.isEmpty_cons,
      Bool.and_false, Bool.false_and, orAll, List.foldl_cons]
    cases first <;> simp

theorem emit_ok_inv {rs : List (Except PyErr (Str × Nat))} {first : Bool} {out s : Str} {code c : Nat}
    (h : emit rs first out code = (s, .ok c)) : ∃ oks : List (Str × Nat), rs = oks.map .ok := by
  induction rs generalizing first out code with
  | nil => exact ⟨[], rfl⟩
  | cons r rs ih =>
    cases r with
    | error e => cases h
    | ok w =>
      obtain ⟨oks, rfl⟩ := ih h
      exact ⟨w :: oks, rfl⟩

theorem emit_ok_iff {rs : List (Except PyErr (Str × Nat))} {first : Bool} {out s : Str} {code c : Nat} :
    emit rs first out code = (s, .ok c) ↔
      ∃ oks : List (Str × Nat), rs = oks.map .ok ∧ s = out ++ joinFrom first (oks.map (·.1)) ∧
        c = orAll code (oks.map (·.2)) := by
  constructor
  · intro h
    obtain ⟨oks, rfl⟩ := emit_ok_inv h
    have := emit_append oks [] first out code
    rw [List.append_nil, h, emit, Prod.mk.injEq, Except.ok.injEq] at this
    exact ⟨oks, rfl, this.1, this.2⟩
  · rintro ⟨oks, rfl, rfl, rfl⟩
    have := emit_append oks [] first out code
    rwa [List.append_nil] at this

/-- the trees (and possibly the exception) `iterparse` yields for one input stream -/
def parseInput (cfg : LexCfg) (u : UTables) (input : Str) : List Tree × Option PyErr :=
  iterparseToks u.isSpace (lexLines cfg cfg.penmanOrder (fileLines input))

def runInput (u : UTables) (m : Model) (o : Opts) (p : List Tree × Option PyErr) : Str × Except PyErr Nat :=
  withParserError (renderAll u m o p.1 true [] 0) p.2

theorem processInput_eq (cfg : LexCfg) (u : UTables) (m : Model) (o : Opts) (input : Str) :
    processInput cfg u m o input = runInput u m o (parseInput cfg u input) := by
  simp only [processInput, runInput, parseInput, iterparseToks, processLoop_eq_renderAll]

/-- several inputs: outputs concatenated, statuses OR-ed, the first exception stops the run -/
def runAll (u : UTables) (m : Model) (o : Opts) : List (List Tree × Option PyErr) → Str → Nat → Str × Except PyErr Nat
  | [], out, code => (out, .ok code)
  | p :: ps, out, code =>
    match runInput u m o p with
    | (s, .ok c) => runAll u m o ps (out ++ s) (code ||| c)
    | (s, .error e) => (out ++ s, .error e)

theorem mainRun_eq (cfg : LexCfg) (u : UTables) (m : Model) (o : Opts) (inputs : List Str) (out : Str) (code : Nat) :
    mainRun cfg u m o inputs out code = runAll u m o (inputs.map (parseInput cfg u)) out code := by
  induction inputs generalizing out code with
  | nil => rfl
  | cons i is ih =>
    simp only [mainRun, List.map_cons, runAll, processInput_eq]
    split <;> rename_i h <;> simp only [h]
    exact ih _ _

theorem parseInput_err (cfg : LexCfg) (u : UTables) (input : Str) (e : PyErr)
    (h : (parseInput cfg u input).2 = some e) : ∃ l o k, e = .decode l o k :=
  iterparseLoop_err _ _ _ _ _ _ (Nat.lt_succ_self _) h
/-- the successful runs over one input: the parser raised nothing, every pipeline succeeded;
    the output is the texts, each followed by a newline, with one blank line between graphs -/
theorem runInput_ok_iff {u : UTables} {m : Model} {o : Opts} {p : List Tree × Option PyErr} {s : Str} {c : Nat} :
    runInput u m o p = (s, .ok c) ↔
      ∃ rs : List (Str × Nat), p.2 = none ∧ p.1.map (pipelineFull u m o) = rs.map .ok ∧
        s = joinGraphs (rs.map (·.1)) ∧ c = orAll 0 (rs.map (·.2)) := by
  rw [runInput, withParserError_ok, renderAll_eq_emit, emit_ok_iff]
  simp only [joinFrom, Bool.true_or, if_true, List.nil_append]
  constructor
  · rintro ⟨⟨rs, h1, h2, h3⟩, h4⟩
    exact ⟨rs, h4, h1, h2, h3⟩
  · rintro ⟨rs, h4, h1, h2, h3⟩
    exact ⟨⟨rs, h1, h2, h3⟩, h4⟩


/-! Kernel-evaluable copy of the command, for the concrete runs of the examples.
`buildNode`/`buildBranches` are compiled by well-founded recursion, which the kernel does not
unfold; `buildNodeS` is the same function by structural recursion, `configureS` is `configure`
with `buildNodeS`, and the other `…S` functions are the specification functions of this file
(`layoutStage`, `treeOf`, `render`, `pipelineFull`, `renderAll`, `runInput`, `runAll`) with
`configure` replaced by `configureS`. They are proved EQUAL to the functions they copy, and are
used only to evaluate concrete runs. -/

def branchesWith (recN : Option (Str → Except PyErr Node)) : List Edge → Except PyErr Branches
  | [] => .ok .nil
  | e :: es => do
    let rest ← branchesWith recN es
    match e.tgt with
    | .atom a =>
      let hasTgtEpi := e.epis.any (·.mode = 2)
      let (r, t) := applyEpis e.role (some (atomStr a)) e.epis
      pure (.atom r (if hasTgtEpi then .str (t.getD []) else a) rest)
    | .node w =>
      match recN with
      | none => throw (.other "configure: cyclic store")
      | some rn => do
        let n ← rn w
        let (r, _) := applyEpis e.role none e.epis
        pure (.sub r n rest)

def buildNodeS (cells : AList Str (List Edge)) : Nat → Str → Except PyErr Node
  | 0, _ => .error (.other "configure: cyclic store")
  | 1, v => do
    let bs ← branchesWith none ((AList.get? cells v).getD [])
    pure (.mk (some v) bs)
  | f+2, v => do
    let bs ← branchesWith (some (buildNodeS cells f)) ((AList.get? cells v).getD [])
    pure (.mk (some v) bs)

theorem buildBranches_zero (cells : AList Str (List Edge)) (es : List Edge) :
    buildBranches cells 0 es = branchesWith none es := by
  induction es with
  | nil => simp [buildBranches, branchesWith]
  | cons e es ih =>
    rw [buildBranches, branchesWith, ih]
    cases e.tgt <;> rfl

theorem buildBranches_succ (cells : AList Str (List Edge)) (f : Nat) (es : List Edge) :
    buildBranches cells (f+1) es = branchesWith (some (buildNode cells f)) es := by
  induction es with
  | nil => simp [buildBranches, branchesWith]
  | cons e es ih =>
    rw [buildBranches, branchesWith, ih]
    cases e.tgt <;> rfl

theorem buildNode_eq_S (cells : AList Str (List Edge)) (f : Nat) :
    buildNode cells f = buildNodeS cells f ∧ buildNode cells (f+1) = buildNodeS cells (f+1) := by
  induction f with
  | zero =>
    constructor
    · funext v; simp [buildNode, buildNodeS]
    · funext v; rw [buildNode, buildNodeS, buildBranches_zero]
  | succ f ih =>
    refine ⟨ih.2, ?_⟩
    funext v; rw [buildNode, buildNodeS, buildBranches_succ, ih.1]

def configureS (m : Model) (g : Graph) (top : Option Str) : Except PyErr Tree :=
  if g.triples.isEmpty then .ok { node := .mk g.getTop .nil, metadata := g.metadata }
  else
    let vars := g.variables
    let top := match top with | some t => some t | none => g.getTop
    match top with
    | none => .error (.layout 0)
    | some top =>
      if top ∉ vars then .error (.layout 0)
      else do
        let st0 : St := { cells := [(top, [])], nm := AList.set (vars.map (·, NM.unset)) top NM.own }
        let data ← preconfigure m g.epidata g.triples []
        let (data1, st1, _) := configureNode m (data.length + 1) top data st0 false
        let st2 ← configureLoop m ((data.length + 1) * (data.length + 1) + 1) (stripPops data1) [] st1
        let node ← buildNodeS st2.cells (2 * st2.cells.length + 2) top
        pure { node := node, metadata := g.metadata }

theorem configure_eq_S (m : Model) (g : Graph) (top : Option Str) : configure m g top = configureS m g top := by
  simp only [configure, configureS, (buildNode_eq_S _ _).1]
  rfl

mutual
def decEqNode : (a b : Node) → Decidable (a = b)
  | .mk v bs, .mk v' bs' =>
    if hv : v = v' then
      match decEqBranches bs bs' with
      | isTrue h => isTrue (by rw [hv, h])
      | isFalse h => isFalse (by intro e; cases e; exact h rfl)
    else isFalse (by intro e; cases e; exact hv rfl)
def decEqBranches : (a b : Branches) → Decidable (a = b)
  | .nil, .nil => isTrue rfl
  | .atom r a rest, .atom r' a' rest' =>
    if h1 : r = r' ∧ a = a' then
      match decEqBranches rest rest' with
      | isTrue h => isTrue (by rw [h1.1, h1.2, h])
      | isFalse h => isFalse (by intro e; cases e; exact h rfl)
    else isFalse (by intro e; cases e; exact h1 ⟨rfl, rfl⟩)
  | .sub r n rest, .sub r' n' rest' =>
    if h1 : r = r' then
      match decEqNode n n', decEqBranches rest rest' with
      | isTrue h, isTrue h' => isTrue (by rw [h1, h, h'])
      | isFalse h, _ => isFalse (by intro e; cases e; exact h rfl)
      | _, isFalse h => isFalse (by intro e; cases e; exact h rfl)
    else isFalse (by intro e; cases e; exact h1 rfl)
  | .nil, .atom .. => isFalse (by intro e; cases e)
  | .nil, .sub .. => isFalse (by intro e; cases e)
  | .atom .., .nil => isFalse (by intro e; cases e)
  | .atom .., .sub .. => isFalse (by intro e; cases e)
  | .sub .., .nil => isFalse (by intro e; cases e)
  | .sub .., .atom .. => isFalse (by intro e; cases e)
end
instance : DecidableEq Node := decEqNode
instance : DecidableEq Branches := decEqBranches
instance : DecidableEq Tree := fun a b =>
  if h : a.node = b.node ∧ a.metadata = b.metadata then isTrue (by cases a; cases b; simp_all)
  else isFalse (by intro e; cases e; exact h ⟨rfl, rfl⟩)
instance instDecEqExcept {ε α : Type} [DecidableEq ε] [DecidableEq α] : DecidableEq (Except ε α)
  | .ok a, .ok b => if h : a = b then isTrue (by rw [h]) else isFalse (by intro h'; cases h'; exact h rfl)
  | .error a, .error b => if h : a = b then isTrue (by rw [h]) else isFalse (by intro h'; cases h'; exact h rfl)
  | .ok _, .error _ => isFalse (by intro h; cases h)
  | .error _, .ok _ => isFalse (by intro h; cases h)

def layoutStageS (u : UTables) (m : Model) (o : Opts) (g : Graph) : Except PyErr Tree :=
  match o.reconfigure with
  | some ks =>
    configureS m { g with
        epidata := g.epidata.map fun (t, es) => (t, es.filter (!·.isLayout)),
        triples := g.triples.mergeSort fun a b => kvLe (evalKeys m ks a.role) (evalKeys m ks b.role) } g.getTop
      >>= fun t => (interpret u.isAlpha m t).map fun _ => t
  | none => configureS m g none

def treeOfS (u : UTables) (m : Model) (o : Opts) (g : Graph) : Except PyErr Tree :=
  layoutStageS u m o g >>= rearrangeStage m o >>= relabelStage u o

def renderS (u : UTables) (m : Model) (o : Opts) (g : Graph) : Except PyErr Str :=
  if o.triples then .ok (formatTriples (annotate m o g).triples (indentFlag o.indent))
  else (treeOfS u m o (annotate m o g)).map fun t => format t o.indent o.compact

def pipelineFullS (u : UTables) (m : Model) (o : Opts) (t : Tree) : Except PyErr (Str × Nat) :=
  graphOf u m o t >>= fun g => (renderS u m o g).map fun s => (s, status m o g)

def renderAllS (u : UTables) (m : Model) (o : Opts) (ts : List Tree) : Bool → Str → Nat → Str × Except PyErr Nat :=
  emit (ts.map (pipelineFullS u m o))

def runInputS (u : UTables) (m : Model) (o : Opts) (p : List Tree × Option PyErr) : Str × Except PyErr Nat :=
  withParserError (renderAllS u m o p.1 true [] 0) p.2

def runAllS (u : UTables) (m : Model) (o : Opts) : List (List Tree × Option PyErr) → Str → Nat → Str × Except PyErr Nat
  | [], out, code => (out, .ok code)
  | p :: ps, out, code =>
    match runInputS u m o p with
    | (s, .ok c) => runAllS u m o ps (out ++ s) (code ||| c)
    | (s, .error e) => (out ++ s, .error e)

theorem layoutStage_eq_S (u : UTables) (m : Model) (o : Opts) (g : Graph) :
    layoutStage u m o g = layoutStageS u m o g := by
  simp only [layoutStage, layoutStageS, reconfigure, configure_eq_S]
  all_goals (cases o.reconfigure <;> rfl)

theorem pipelineFull_eq_S (u : UTables) (m : Model) (o : Opts) (t : Tree) :
    pipelineFull u m o t = pipelineFullS u m o t := by
  simp only [pipelineFull, pipelineFullS, render, renderS, treeOf, treeOfS, layoutStage_eq_S]

theorem pipelineFull_funext_S (u : UTables) (m : Model) (o : Opts) :
    pipelineFull u m o = pipelineFullS u m o := funext (pipelineFull_eq_S u m o)

theorem renderAll_eq_S (u : UTables) (m : Model) (o : Opts) (ts : List Tree) (first : Bool) (out : Str) (code : Nat) :
    renderAll u m o ts first out code = renderAllS u m o ts first out code := by
  rw [renderAll_eq_emit, pipelineFull_funext_S]
  rfl

theorem processInput_eq_S (cfg : LexCfg) (u : UTables) (m : Model) (o : Opts) (input : Str) :
    processInput cfg u m o input = runInputS u m o (parseInput cfg u input) := by
  simp only [processInput_eq, runInput, runInputS, renderAll_eq_S]

theorem runAll_eq_S (u : UTables) (m : Model) (o : Opts) (ps : List (List Tree × Option PyErr)) (out : Str) (code : Nat) :
    runAll u m o ps out code = runAllS u m o ps out code := by
  induction ps generalizing out code with
  | nil => rfl
  | cons p ps ih =>
    simp only [runAll, runAllS, runInput, runInputS, renderAll_eq_S]
    rcases hq : withParserError (renderAllS u m o p.1 true [] 0) p.2 with ⟨s, r⟩
    cases r with
    | error e => rfl
    | ok c => exact ih _ _

theorem mainRun_eq_S (cfg : LexCfg) (u : UTables) (m : Model) (o : Opts) (inputs : List Str) (out : Str) (code : Nat) :
    mainRun cfg u m o inputs out code = runAllS u m o (inputs.map (parseInput cfg u)) out code := by
  rw [mainRun_eq, runAll_eq_S]

theorem processTree_eq_S (u : UTables) (m : Model) (o : Opts) (t : Tree) :
    processTree u m o t = pipelineFullS u m o t := by
  rw [processTree_eq_pipelineFull, pipelineFull_eq_S]

theorem pipeline_eq_S (u : UTables) (m : Model) (o : Opts) (t : Tree) :
    pipeline u m o t = (pipelineFullS u m o t).map (·.1) := by
  rw [pipeline_eq_fst, pipelineFull_eq_S]

/-- `o'` differs from `o` at most in `--indent` / `--compact` -/
def SameContentOpts (o o' : Opts) : Prop :=
  o.check = o'.check ∧ o.triples = o'.triples ∧ o.makeVariables = o'.makeVariables ∧
  o.rearrange = o'.rearrange ∧ o.reconfigure = o'.reconfigure ∧
  o.canonicalizeRoles = o'.canonicalizeRoles ∧ o.reifyEdges = o'.reifyEdges ∧
  o.dereifyEdges = o'.dereifyEdges ∧ o.reifyAttributes = o'.reifyAttributes ∧
  o.indicateBranches = o'.indicateBranches

instance (o o' : Opts) : Decidable (SameContentOpts o o') := by unfold SameContentOpts; infer_instance

theorem SameContentOpts.eq {o o' : Opts} (h : SameContentOpts o o') :
    o' = { o with indent := o'.indent, compact := o'.compact } := by
  obtain ⟨h1, h2, h3, h4, h5, h6, h7, h8, h9, h10⟩ := h
  cases o; cases o'; simp_all

theorem graphOf_fmt (u : UTables) (m : Model) (o : Opts) (i : Indent) (k : Bool) (t : Tree) :
    graphOf u m { o with indent := i, compact := k } t = graphOf u m o t := rfl

theorem preFormat_fmt (u : UTables) (m : Model) (o : Opts) (i : Indent) (k : Bool) (t : Tree) :
    preFormat u m { o with indent := i, compact := k } t = preFormat u m o t := rfl

theorem preTriples_fmt (u : UTables) (m : Model) (o : Opts) (i : Indent) (k : Bool) (t : Tree) :
    preTriples u m { o with indent := i, compact := k } t = preTriples u m o t := rfl

theorem preFormat_same (u : UTables) (m : Model) {o o' : Opts} (h : SameContentOpts o o') (t : Tree) :
    preFormat u m o' t = preFormat u m o t := by
  rw [h.eq]; rfl

theorem preTriples_same (u : UTables) (m : Model) {o o' : Opts} (h : SameContentOpts o o') (t : Tree) :
    preTriples u m o' t = preTriples u m o t := by
  rw [h.eq]; rfl

theorem processTree_eq_preFormat (u : UTables) (m : Model) (o : Opts) (t : Tree) (ht : o.triples = false) :
    processTree u m o t = (preFormat u m o t).map fun p => (format p.1 o.indent o.compact, p.2) := by
  rw [processTree_eq_pipelineFull]
  simp only [pipelineFull, preFormat, render, ht]
  cases graphOf u m o t with
  | error e => rfl
  | ok g =>
    simp only [ok_bind]
    cases treeOf u m o (annotate m o g) <;> rfl

theorem processTree_eq_preTriples (u : UTables) (m : Model) (o : Opts) (t : Tree) (ht : o.triples = true) :
    processTree u m o t =
      (preTriples u m o t).map fun p => (formatTriples p.1 (indentFlag o.indent), p.2) := by
  rw [processTree_eq_pipelineFull]
  simp only [pipelineFull, preTriples, render, ht]
  cases graphOf u m o t <;> rfl

/-- the per-graph status (and whether/which exception is raised) -/
def outcome (u : UTables) (m : Model) (o : Opts) (t : Tree) : Except PyErr Nat :=
  (pipelineFull u m o t).map (·.2)

theorem outcome_same (u : UTables) (m : Model) {o o' : Opts} (h : SameContentOpts o o') (t : Tree) :
    outcome u m o' t = outcome u m o t := by
  have ht : o.triples = o'.triples := h.2.1
  simp only [outcome, ← processTree_eq_pipelineFull]
  -- `simp only [Except.map]` computes both sides; closing by `rfl` would have the kernel compare the
  -- two `format` calls, which differ in their options, before it projects them away
  cases hb : o.triples with
  | false =>
    rw [processTree_eq_preFormat u m o t hb, processTree_eq_preFormat u m o' t (ht ▸ hb), preFormat_same u m h]
    cases preFormat u m o t <;> simp only [Except.map]
  | true =>
    rw [processTree_eq_preTriples u m o t hb, processTree_eq_preTriples u m o' t (ht ▸ hb), preTriples_same u m h]
    cases preTriples u m o t <;> simp only [Except.map]

/-- the exit status of a run with the given outcomes of its graphs: the OR of the statuses, or
    the first exception -/
def exitOf : List (Except PyErr Nat) → Nat → Except PyErr Nat
  | [], code => .ok code
  | .error e :: _, _ => .error e
  | .ok c :: rs, code => exitOf rs (code ||| c)

theorem emit_snd (rs : List (Except PyErr (Str × Nat))) (first : Bool) (out : Str) (code : Nat) :
    (emit rs first out code).2 = exitOf (rs.map (Except.map (·.2))) code := by
  induction rs generalizing first out code with
  | nil => rfl
  | cons r rs ih =>
    cases r with
    | error e => rfl
    | ok w => exact ih _ _ _

/-- a run that ends with a status: every outcome is a status; the result is non-zero exactly when
    the start value or one of the statuses is; values in `{0, 1}` stay there -/
theorem exitOf_ok {rs : List (Except PyErr Nat)} {code c : Nat} (h : exitOf rs code = .ok c) :
    (∀ r ∈ rs, ∃ k, r = .ok k) ∧ (c ≠ 0 ↔ code ≠ 0 ∨ ∃ k, .ok k ∈ rs ∧ k ≠ 0) ∧
    (code ≤ 1 → (∀ k, .ok k ∈ rs → k ≤ 1) → c ≤ 1) := by
  induction rs generalizing code with
  | nil => cases h; simp
  | cons r rs ih =>
    cases r with
    | error e => cases h
    | ok k =>
      obtain ⟨h1, h2, h3⟩ := ih h
      refine ⟨?_, ?_, fun hc hk => ?_⟩
      · intro r hr
        rcases List.mem_cons.1 hr with rfl | hr
        · exact ⟨k, rfl⟩
        · exact h1 r hr
      · rw [h2, Ne, Nat.or_eq_zero_iff]
        simp only [List.mem_cons, Except.ok.injEq]
        constructor
        · rintro (h | ⟨k', hk', hne⟩)
          · by_cases h0 : code = 0
            · exact .inr ⟨k, .inl rfl, fun hk => h ⟨h0, hk⟩⟩
            · exact .inl h0
          · exact .inr ⟨k', .inr hk', hne⟩
        · rintro (h | ⟨k', rfl | hk', hne⟩)
          · exact .inl fun h' => h h'.1
          · exact .inl fun h' => hne h'.2
          · exact .inr ⟨k', hk', hne⟩
      · refine h3 ?_ fun k' hk' => hk k' (List.mem_cons_of_mem _ hk')
        -- both are below `2 ^ 1`, hence so is their OR
        have := @Nat.or_lt_two_pow code k 1 (by omega) (by have := hk k List.mem_cons_self; omega)
        omega

theorem exitOf_of_all_ok {rs : List (Except PyErr Nat)} (h : ∀ r ∈ rs, ∃ k, r = .ok k) (code : Nat) :
    ∃ c, exitOf rs code = .ok c := by
  induction rs generalizing code with
  | nil => exact ⟨code, rfl⟩
  | cons r rs ih =>
    obtain ⟨k, rfl⟩ := h r List.mem_cons_self
    exact ih (fun r hr => h r (List.mem_cons_of_mem _ hr)) _

/-- the exit status / exception of a run over one input is determined by the outcomes of its trees -/
theorem runInput_snd (u : UTables) (m : Model) (o : Opts) (p : List Tree × Option PyErr) :
    (runInput u m o p).2 = (withParserError ([], exitOf (p.1.map (outcome u m o)) 0) p.2).2 := by
  have h : (emit (p.1.map (pipelineFull u m o)) true [] 0).2 = exitOf (p.1.map (outcome u m o)) 0 := by
    rw [emit_snd, List.map_map]; rfl
  rw [runInput, renderAll_eq_emit, ← h]
  rcases emit (p.1.map (pipelineFull u m o)) true [] 0 with ⟨s, r⟩
  cases r <;> cases p.2 <;> rfl

/-- a run over one input ends with a status exactly when the parser raised nothing and the
    outcomes of its trees combine to that status -/
theorem runInput_snd_ok {u : UTables} {m : Model} {o : Opts} {p : List Tree × Option PyErr} {c : Nat} :
    (runInput u m o p).2 = .ok c ↔ p.2 = none ∧ exitOf (p.1.map (outcome u m o)) 0 = .ok c := by
  rw [runInput_snd]
  cases exitOf (p.1.map (outcome u m o)) 0 <;> cases p.2 <;> simp [withParserError]

/-- the exit status / exception of the whole run is determined by those of its inputs -/
theorem runAll_snd (u : UTables) (m : Model) (o : Opts) (ps : List (List Tree × Option PyErr)) (out : Str)
    (code : Nat) : (runAll u m o ps out code).2 = exitOf (ps.map fun p => (runInput u m o p).2) code := by
  induction ps generalizing out code with
  | nil => rfl
  | cons p ps ih =>
    rw [runAll, List.map_cons]
    rcases runInput u m o p with ⟨s, r⟩
    cases r with
    | error e => rfl
    | ok c => exact ih _ _

/-- no normalisation option, no `--check`, no `--triples` -/
def PlainOpts (o : Opts) : Prop :=
  o.check = false ∧ o.triples = false ∧ o.makeVariables = none ∧ o.rearrange = none ∧ o.reconfigure = none ∧
  o.canonicalizeRoles = false ∧ o.reifyEdges = false ∧ o.dereifyEdges = false ∧ o.reifyAttributes = false ∧
  o.indicateBranches = false

instance (o : Opts) : Decidable (PlainOpts o) := by unfold PlainOpts; infer_instance

/-- with no normalisation options the command prints `format (configure (interpret tree))`,
    i.e. `encode(decode(·))` graph by graph -/
theorem preFormat_plain (u : UTables) (m : Model) (o : Opts) (h : PlainOpts o) (t : Tree) :
    preFormat u m o t = (interpret u.isAlpha m t >>= fun g => configure m g none).map fun t' => (t', 0) := by
  obtain ⟨h1, h2, h3, h4, h5, h6, h7, h8, h9, h10⟩ := h
  have hr : rearrangeStage m o = Except.ok := by funext t; simp [rearrangeStage, h4]
  have hl : relabelStage u o = Except.ok := by funext t; simp [relabelStage, h3]
  simp only [preFormat, graphOf, treeOf, layoutStage, annotate, status, hr, hl,
    h1, h5, h6, h7, h8, h9, h10, optStage_false, ok_bind, bind_ok', Bool.false_eq_true, if_false]
  cases interpret u.isAlpha m t with
  | error e => rfl
  | ok g => rfl

/-- with plain options each result is `format (configure (interpret tree))` with status 0 -/
theorem plain_results (u : UTables) (m : Model) (o : Opts) (hp : PlainOpts o) (ts : List Tree) (rs : List (Str × Nat))
    (h : ts.map (pipelineFull u m o) = rs.map .ok) :
    ∃ ts' : List Tree, ts.map (fun t => interpret u.isAlpha m t >>= fun g => configure m g none) = ts'.map .ok ∧
      rs = ts'.map fun t' => (format t' o.indent o.compact, 0) := by
  induction ts generalizing rs with
  | nil =>
    cases rs with
    | nil => exact ⟨[], rfl, rfl⟩
    | cons _ _ => simp at h
  | cons t ts ih =>
    cases rs with
    | nil => simp at h
    | cons r rs =>
      simp only [List.map_cons, List.cons.injEq] at h
      obtain ⟨ts', h1, h2⟩ := ih rs h.2
      have hq := h.1
      rw [← processTree_eq_pipelineFull, processTree_eq_preFormat u m o t hp.2.1, preFormat_plain u m o hp] at hq
      cases hc : (interpret u.isAlpha m t >>= fun g => configure m g none) with
      | error e => rw [hc] at hq; simp [Except.map] at hq
      | ok t' =>
        rw [hc] at hq
        simp only [Except.map, Except.ok.injEq] at hq
        exact ⟨t' :: ts', by simp [hc, h1], by simp [← hq, h2]⟩

end Penman.Cli
