/-
  Penman.Proofs.ConfigureComplete — completeness: on a graph whose variables are all weakly
  connected to the top, the loop never gets stuck, `preconfigure` stays inside the modelled
  domain, and `configure` succeeds.
-/
import Penman.Proofs.ConfigureConsumed
namespace Penman
namespace Cfg

theorem mem_dedup {l : List Str} {x : Str} : x ∈ dedup l ↔ x ∈ l := by
  induction l with
  | nil => simp [dedup]
  | cons a r ih =>
    simp only [dedup, List.mem_cons, List.mem_filter, ih]
    by_cases e : x = a <;> simp [e]

theorem src_mem_variables {g : Graph} {t : Triple} (h : t ∈ g.triples) : t.src ∈ g.variables := by
  have : t.src ∈ dedup (g.triples.map (·.src)) := mem_dedup.2 (List.mem_map.2 ⟨t, h, rfl⟩)
  unfold Graph.variables
  simp only []
  split
  · split
    · exact this
    · exact List.mem_append_left _ this
  · exact this

/-- the invariants of the loop used for completeness. `j4`: a skipped triple has an unavailable source and is
    an instance triple or has an unavailable target; `j2`: a non-instance triple joining two variables has
    both ends available, or it (or its inversion) is still waiting -/
structure CInv (m : Model) (g : Graph) (data skipped : List Datum) (st : St) : Prop where
  good : Good st
  keys : ∀ v ∈ g.variables, HasKey st v
  ends : ∀ tr ∈ pending data ++ pending skipped,
    tr.src ∈ g.variables ∨ (tr.role ≠ CONCEPT_ROLE ∧ ∃ v ∈ g.variables, tr.tgt = .str v)
  rnc : ∀ tr ∈ pending data ++ pending skipped, RNC m tr
  j4 : ∀ tr ∈ pending skipped,
    ¬ Avail st tr.src ∧ (tr.role = CONCEPT_ROLE ∨ ∀ w, tr.tgt = .str w → ¬ Avail st w)
  j2 : ∀ t ∈ g.triples, t.role ≠ CONCEPT_ROLE → ∀ b ∈ g.variables, t.tgt = .str b →
    (Avail st t.src ∧ Avail st b) ∨ ∃ tr ∈ pending data ++ pending skipped, tr = t ∨ tr = m.invert t
  head : data = [] ∨ ∃ tr p e r, data = Datum.t tr p e :: r
  skne : skipped ≠ [] → pending skipped ≠ []

theorem stripPops_head : ∀ l, stripPops l = [] ∨ ∃ tr p e r, stripPops l = Datum.t tr p e :: r := by
  intro l
  fun_induction stripPops l
  · rename_i ih; exact ih
  · rename_i d hd
    cases d with
    | nil => exact Or.inl rfl
    | cons x r =>
      cases x with
      | pop => exact absurd rfl (hd r)
      | t tr p e => exact Or.inr ⟨tr, p, e, r, rfl⟩

/-- a consumed version of `t` has both ends available -/
theorem version_ends {m : Model} {g : Graph} {st : St} {t x : Triple} {b : Str}
    (hn : NoInstOf m g) (ht : t ∈ g.triples) (hr : t.role ≠ CONCEPT_ROLE) (hb : b ∈ g.variables)
    (htb : t.tgt = .str b) (hx : x = t ∨ x = m.invert t) (he : EndsAvail g.variables st x) :
    Avail st t.src ∧ Avail st b := by
  rcases hx with rfl | rfl
  · exact ⟨he.1 (src_mem_variables ht), he.2 hr b hb htb⟩
  · refine ⟨?_, ?_⟩
    · apply he.2 _ t.src (src_mem_variables ht) (invert_tgt m t)
      rw [invert_role]; exact (hn t ht hr).1
    · have := he.1 (by rw [invert_src m t b htb]; exact hb)
      rwa [invert_src m t b htb] at this

theorem cinv_round {m : Model} {g : Graph} {a b} (hn : NoInstOf m g) (h : Round m a b)
    (hc : CInv m g a.1 a.2.1 a.2.2) :
    CInv m g b.1 b.2.1 b.2.2 ∧ ∀ w, Avail a.2.2 w → Avail b.2.2 w := by
  obtain ⟨hm, hcons⟩ := round_consumed h
  have hj2 : ∀ t ∈ g.triples, t.role ≠ CONCEPT_ROLE → ∀ w ∈ g.variables, t.tgt = .str w →
      (Avail b.2.2 t.src ∧ Avail b.2.2 w) ∨ ∃ tr ∈ pending b.1 ++ pending b.2.1, tr = t ∨ tr = m.invert t := by
    intro t ht hr w hw htw
    rcases hc.j2 t ht hr w hw htw with ⟨h1, h2⟩ | ⟨x, hx, hv⟩
    · exact Or.inl ⟨hm.1 _ h1, hm.1 _ h2⟩
    · rcases hcons x hx with hx' | hx'
      · exact Or.inr ⟨x, hx', hv⟩
      · exact Or.inl (version_ends hn ht hr hw htw hv (hx'.ends hc.keys (hc.rnc x hx)))
  have hrest : ∀ j4 head skne, CInv m g b.1 b.2.1 b.2.2 := fun j4 head skne =>
    ⟨(good_round h hc.good).1, fun w hw => hm.2.1 _ (hc.keys w hw), fun x hx => hc.ends x (h.pending_sub x hx),
      fun x hx => hc.rnc x (h.pending_sub x hx), j4, hj2, head, skne⟩
  refine ⟨?_, hm.1⟩
  cases h with
  | @skip data skipped st sk v st1 tr push epis rest hfn ho =>
    have hav := (findNext_avail data [] st).1
    have hspec := (findNext_spec data [] st).2
    rw [hfn] at hav hspec
    obtain ⟨sk', hsk, hunav, tr', p', e', rest', hd', hsrc⟩ := hspec v rfl
    cases hsk
    cases hd'
    -- the refused datum is a blocked instance triple
    have hblocked : ¬ Avail st tr.src ∧ tr.role = CONCEPT_ROLE := by
      unfold orient at ho
      split at ho
      · cases ho
      · rename_i hne
        split at ho
        · cases ho
        · rename_i hnt
          rcases hsrc with h | ⟨h1, h2⟩
          · exact absurd h hne
          · exact ⟨h2, Classical.byContradiction fun hcr => hnt ⟨h1, hcr⟩⟩
    refine hrest (fun x hx => ?_) (stripPops_head _) (fun _ => ?_)
    · simp only [pending_append, pending, List.mem_append, List.mem_cons, List.not_mem_nil, or_false] at hx
      rcases hx with (hx | hx) | hx
      · obtain ⟨u1, u2⟩ := hunav x hx
        exact ⟨fun ha => u1 ((hav _).1 ha), Or.inr fun w hw ha => u2 w hw ((hav _).1 ha)⟩
      · obtain ⟨u1, u2⟩ := hc.j4 x hx
        exact ⟨fun ha => u1 ((hav _).1 ha), u2.imp_right fun u2 w hw ha => u2 w hw ((hav _).1 ha)⟩
      · subst hx
        exact ⟨fun ha => hblocked.1 ((hav _).1 ha), Or.inl hblocked.2⟩
    · rw [pending_append, pending_append]
      exact fun h => nomatch (List.append_eq_nil_iff.1 h).2
  | @prog data skipped st sk v st1 tr push epis rest hfn ho =>
    exact hrest (fun x hx => nomatch hx) (stripPops_head _) (fun h => absurd rfl h)

theorem reach_frontier {g : Graph} {st : St} {top v : Str} (hr : Reach g top v) (ht : Avail st top)
    (hv : ¬ Avail st v) : ∃ b c, Adj g b c ∧ Avail st b ∧ ¬ Avail st c := by
  induction hr with
  | refl => exact absurd ht hv
  | @step b c _ hadj ih =>
    by_cases hb : Avail st b
    · exact ⟨b, c, hadj, hb, hv⟩
    · exact ih hb

/-- if some variable is not yet available, a datum with an available end is waiting in `data` -/
theorem frontier {m : Model} {g : Graph} {data skipped : List Datum} {st : St} {top v : Str}
    (hn : NoInstOf m g) (hc : CInv m g data skipped st) (ht : Avail st top)
    (hreach : ∀ v ∈ g.variables, Reach g top v) (hv : v ∈ g.variables) (hnv : ¬ Avail st v) :
    ∃ x ∈ pending data, ¬ Unav st x := by
  obtain ⟨b, c, ⟨t, htm, hrole, hb, hcv, hdir⟩, hab, hnc⟩ := reach_frontier (hreach v hv) ht hnv
  -- the joining triple is not placed, hence pending; it cannot be in `skipped`
  have key : ∀ b' c', t.src = b' → t.tgt = .str c' → c' ∈ g.variables → (Avail st b' ∨ Avail st c') →
      ¬ (Avail st b' ∧ Avail st c') → ∃ x ∈ pending data, ¬ Unav st x := by
    intro b' c' hs htg hc' hor hnand
    rcases hc.j2 t htm hrole c' hc' htg with h | ⟨x, hx, hver⟩
    · rw [hs] at h; exact absurd h hnand
    · have hxav : ¬ Unav st x := by
        intro hu
        rcases hver with rfl | rfl
        · rcases hor with h | h
          · exact hu.1 (hs ▸ h)
          · exact hu.2 c' htg h
        · rcases hor with h | h
          · exact hu.2 b' (by rw [invert_tgt, hs]) h
          · exact hu.1 (by rw [invert_src m t c' htg]; exact h)
      have hxrole : x.role ≠ CONCEPT_ROLE := by
        rcases hver with rfl | rfl
        · exact hrole
        · rw [invert_role]; exact (hn t htm hrole).1
      simp only [List.mem_append] at hx
      rcases hx with hx | hx
      · exact ⟨x, hx, hxav⟩
      · exfalso
        obtain ⟨j1, j2⟩ := hc.j4 x hx
        rcases j2 with j2 | j2
        · exact hxrole j2
        · exact hxav ⟨j1, j2⟩
  rcases hdir with ⟨h1, h2⟩ | ⟨h1, h2⟩
  · exact key b c h1 h2 hcv (Or.inl hab) (fun h => hnc h.2)
  · exact key c b h1 h2 hb (Or.inr hab) (fun h => hnc h.1)

/-- while a triple is waiting, some datum of `data` has an available end -/
theorem cinv_progress {m : Model} {g : Graph} {data skipped : List Datum} {st : St} {top : Str} {x : Triple}
    (hn : NoInstOf m g) (hc : CInv m g data skipped st) (ht : Avail st top)
    (hreach : ∀ v ∈ g.variables, Reach g top v) (hx : x ∈ pending data ++ pending skipped) :
    ∃ y ∈ pending data, ¬ Unav st y := by
  by_cases hall : ∀ v ∈ g.variables, Avail st v
  · -- an end of `x` is a variable, hence available, so `x` is not among the skipped
    rcases List.mem_append.1 hx with hd | hs
    · refine ⟨x, hd, fun hu => ?_⟩
      rcases hc.ends x hx with h1 | ⟨_, w, hw, h2⟩
      · exact hu.1 (hall _ h1)
      · exact hu.2 w h2 (hall w hw)
    · exfalso
      obtain ⟨j1, j2⟩ := hc.j4 x hs
      rcases hc.ends x hx with h1 | ⟨hr, w, hw, h2⟩
      · exact j1 (hall _ h1)
      · exact j2.elim hr fun j2 => j2 w h2 (hall w hw)
  · have ⟨v, hv, hnv⟩ : ∃ v, v ∈ g.variables ∧ ¬ Avail st v :=
      Classical.byContradiction fun hne =>
        hall fun v hv => Classical.byContradiction fun hnv => hne ⟨v, hv, hnv⟩
    exact frontier hn hc ht hreach hv hnv

theorem cinv_found {m : Model} {g : Graph} {d : Datum} {data skipped : List Datum} {st : St} {top : Str}
    (hn : NoInstOf m g) (hc : CInv m g (d :: data) skipped st) (ht : Avail st top)
    (hreach : ∀ v ∈ g.variables, Reach g top v) : (findNext (d :: data) [] st).2.1 ≠ none := by
  intro hnone
  rcases hc.head with h | ⟨tr, p, e, r, h⟩
  · cases h
  · obtain ⟨y, hy, hyu⟩ := cinv_progress (x := tr) hn hc ht hreach
      (List.mem_append_left _ (by rw [h]; exact List.mem_cons_self))
    exact hyu ((findNext_spec (d :: data) [] st).1 hnone y hy)

theorem cinv_done {m : Model} {g : Graph} {skipped : List Datum} {st : St} {top : Str}
    (hn : NoInstOf m g) (hc : CInv m g [] skipped st) (ht : Avail st top)
    (hreach : ∀ v ∈ g.variables, Reach g top v) : skipped = [] :=
  Classical.byContradiction fun hne => by
    obtain ⟨x, hx⟩ := List.exists_mem_of_ne_nil _ (hc.skne hne)
    obtain ⟨y, hy, _⟩ := cinv_progress hn hc ht hreach (List.mem_append_right _ hx)
    cases hy

/-- on a connected graph the loop succeeds -/
theorem loop_complete {m : Model} {g : Graph} {top : Str} (hn : NoInstOf m g)
    (hreach : ∀ v ∈ g.variables, Reach g top v) (fuel : Nat) (data skipped : List Datum) (st : St)
    (hpsi : psi data skipped < fuel) (hc : CInv m g data skipped st) (ht : Avail st top) :
    ∃ st', configureLoop m fuel data skipped st = .ok st' := by
  refine loop_rounds (motive := fun a r => CInv m g a.1 a.2.1 a.2.2 → Avail a.2.2 top → ∃ st', r = .ok st')
    (fun skipped st hc ht => ?_) (fun d data skipped st hnone _ hc ht => ?_)
    (fun hr _ ih hc ht => ih (cinv_round hn hr hc).1 ((cinv_round hn hr hc).2 _ ht)) fuel data skipped st hpsi hc ht
  · cases cinv_done hn hc ht hreach
    exact ⟨st, rfl⟩
  · exact absurd hnone (cinv_found hn hc ht hreach)

theorem Pre.forward {m : Model} {l1 l2 : List Triple} (h : Pre m l1 l2) :
    ∀ t ∈ l1, ∃ x ∈ l2, PreStep m t x := by
  induction h with
  | nil => intro t ht; simp at ht
  | @cons a b _ _ hs _ ih =>
    intro t ht
    simp only [List.mem_cons] at ht
    rcases ht with rfl | ht
    · exact ⟨b, List.mem_cons_self, hs⟩
    · obtain ⟨x, hx, h⟩ := ih t ht; exact ⟨x, List.mem_cons_of_mem _ hx, h⟩

theorem Pre.backward {m : Model} {l1 l2 : List Triple} (h : Pre m l1 l2) :
    ∀ x ∈ l2, ∃ t ∈ l1, PreStep m t x := by
  induction h with
  | nil => intro t ht; simp at ht
  | @cons a b _ _ hs _ ih =>
    intro x hx
    simp only [List.mem_cons] at hx
    rcases hx with rfl | hx
    · exact ⟨a, List.mem_cons_self, hs⟩
    · obtain ⟨t, ht, h⟩ := ih x hx; exact ⟨t, List.mem_cons_of_mem _ ht, h⟩

theorem keys_st0 (g : Graph) (top : Str) : ∀ v ∈ g.variables, HasKey (st0 g top) v :=
  fun _ hv => hasKey_st0.2 (Or.inr hv)

/-- a pending triple is a triple of the graph, possibly inverted by `preconfigure` -/
def Version (m : Model) (g : Graph) (x : Triple) : Prop :=
  ∃ t ∈ g.triples, x = t ∨ (x = m.invert t ∧ (∃ b, t.tgt = .str b) ∧ t.role ≠ CONCEPT_ROLE)

theorem version_of_preStep {m : Model} {g : Graph} {t x : Triple} (ht : t ∈ g.triples) (h : PreStep m t x) :
    Version m g x := by
  cases h with
  | same => exact ⟨t, ht, Or.inl rfl⟩
  | inv v hv hr => exact ⟨t, ht, Or.inr ⟨rfl, ⟨v, hv⟩, hr⟩⟩

theorem rnc_of_version {m : Model} {g : Graph} {x : Triple} (hn : NoInstOf m g) (h : Version m g x) : RNC m x := by
  obtain ⟨t, ht, hx⟩ := h
  rcases hx with rfl | ⟨rfl, _, hr⟩
  · intro hr; exact (hn _ ht hr).1
  · intro _; rw [invert_role]; exact (hn t ht hr).2

/-- the state after the first `configureNode top` satisfies the loop invariants -/
theorem cinv_init {m : Model} {g : Graph} {top : Str} {data : List Datum} (hn : NoInstOf m g)
    (hp : preconfigure m g.epidata g.triples [] = .ok data) :
    CInv m g (stripPops (configureNode m (data.length + 1) top data (st0 g top) false).1) []
      (configureNode m (data.length + 1) top data (st0 g top) false).2.1 ∧
    Avail (configureNode m (data.length + 1) top data (st0 g top) false).2.1 top := by
  have hpre := preconfigure_spec m _ _ _ _ hp
  obtain ⟨g0, o0⟩ := good_st0 g top
  have mono := cn_mono m (data.length + 1) top data (st0 g top) false
  have hrnc : ∀ x ∈ pending data, RNC m x := fun x hx =>
    have ⟨_, ht, hs⟩ := hpre.backward x hx
    rnc_of_version hn (version_of_preStep ht hs)
  have hends : ∀ x ∈ pending data,
      x.src ∈ g.variables ∨ (x.role ≠ CONCEPT_ROLE ∧ ∃ v ∈ g.variables, x.tgt = .str v) := by
    intro x hx
    obtain ⟨t, ht, hs⟩ := hpre.backward x hx
    cases hs with
    | same => exact Or.inl (src_mem_variables ht)
    | inv v _ hr =>
      right
      exact ⟨by rw [invert_role]; exact (hn t ht hr).1, t.src, src_mem_variables ht, invert_tgt m t⟩
  have hsub : ∀ x, x ∈ pending (stripPops (configureNode m (data.length + 1) top data (st0 g top) false).1) ++ pending [] →
      x ∈ pending data := by
    intro x hx
    rw [pending_first] at hx
    obtain ⟨p, e, hd⟩ := mem_pending.1 hx
    exact mem_pending.2 ⟨p, e, (cn_suffix ..).subset hd⟩
  refine ⟨⟨(good_cn m _ top data _ false g0 o0).1, fun v hv => mono.2.1 _ (keys_st0 g top v hv),
    fun x hx => hends x (hsub x hx), fun x hx => hrnc x (hsub x hx), fun x hx => (nomatch hx), ?_, stripPops_head _,
    fun h => absurd rfl h⟩, mono.1 _ (avail_of_own o0)⟩
  intro t ht hr b hb htb
  obtain ⟨x, hx, hs⟩ := hpre.forward t ht
  have hver : x = t ∨ x = m.invert t := by
    cases hs with
    | same => exact Or.inl rfl
    | inv => exact Or.inr rfl
  rcases first_consumed m g top data x hx with h | h
  · exact Or.inr ⟨x, h, hver⟩
  · exact Or.inl (version_ends hn ht hr hb htb hver (h.ends (keys_st0 g top) (hrnc x hx)))

theorem preconfEpis_ok (m : Model) (orig : Triple) : ∀ es tr push epis pops pushed,
    (tr = orig ∨ orig.src ∈ pushed) →
    ((∃ s, orig.tgt = .str s) ∨ orig.role = CONCEPT_ROLE ∨ Epi.push orig.src ∉ es) →
    ∃ r, preconfEpis m orig es tr push epis pops pushed = .ok r := by
  intro es tr push epis pops pushed
  have tail : ∀ {e : Epi} {rest : List Epi},
      ((∃ s, orig.tgt = .str s) ∨ orig.role = CONCEPT_ROLE ∨ Epi.push orig.src ∉ e :: rest) →
      ((∃ s, orig.tgt = .str s) ∨ orig.role = CONCEPT_ROLE ∨ Epi.push orig.src ∉ rest) :=
    fun h => h.imp_right (Or.imp_right fun h hm => h (List.mem_cons_of_mem _ hm))
  fun_induction preconfEpis m orig es tr push epis pops pushed <;> intro hinv hok
  · exact ⟨_, rfl⟩
  · rename_i ih; exact ih hinv (tail hok)
  · rename_i ih; exact ih hinv (tail hok)
  · rename_i ih; exact ih (Or.inr List.mem_cons_self) (tail hok)
  · rename_i rest tr push epis pops pushed hnt hnp hcond
    exfalso
    have htr : tr = orig := hinv.resolve_right hnp
    subst htr
    rcases hok with ⟨s, h⟩ | h | h
    · exact hnt s h
    · exact hcond (Or.inr h)
    · exact h List.mem_cons_self
  · rename_i ih
    exact ih (hinv.imp_right (List.mem_cons_of_mem _)) (tail hok)
  · rename_i ih; exact ih hinv (tail hok)
  · rename_i ih; exact ih hinv (tail hok)

theorem preconfigure_ok (m : Model) (ep : Epidata) : ∀ ts pushed,
    (∀ t ∈ ts, (∃ s, t.tgt = .str s) ∨ t.role = CONCEPT_ROLE ∨ Epi.push t.src ∉ (AList.get? ep t).getD []) →
    ∃ data, preconfigure m ep ts pushed = .ok data := by
  intro ts
  induction ts with
  | nil => intro pushed _; exact ⟨[], rfl⟩
  | cons t ts ih =>
    intro pushed h
    obtain ⟨r, hr⟩ := preconfEpis_ok m t ((AList.get? ep t).getD []) t false [] 0 pushed (Or.inl rfl)
      (h t List.mem_cons_self)
    obtain ⟨tr', push, epis, pops, pushed'⟩ := r
    obtain ⟨more, hm⟩ := ih pushed' (fun t ht => h t (List.mem_cons_of_mem _ ht))
    exact ⟨_, by simp only [preconfigure, hr, bind, Except.bind, hm]; rfl⟩

theorem preconfigure_defined (m : Model) {g : Graph} (hpush : PushSrcOK g) :
    ∃ data, preconfigure m g.epidata g.triples [] = .ok data :=
  preconfigure_ok m g.epidata g.triples [] fun t ht =>
    (hpush t ht).imp_left fun h => by
      cases htg : t.tgt with
      | str s => exact ⟨s, rfl⟩
      | none => rw [htg] at h; cases h
      | num _ => rw [htg] at h; cases h

/-- with `PushSrcOK` the store computation stays inside the modelled domain -/
theorem storeOf_err_layout {m : Model} {g : Graph} {top : Str} {e : PyErr} (hpush : PushSrcOK g)
    (h : storeOf m g top = .error e) : e = .layout 1 ∨ e = .layout 3 := by
  obtain ⟨data, hp⟩ := preconfigure_defined m hpush
  unfold storeOf at h
  rw [hp] at h
  exact loop_err m _ _ _ _ _ (psi_start _ data.length (cn_length_le ..)) h

/-- completeness of the store computation -/
theorem storeOf_complete {m : Model} {g : Graph} {top : Str} (hn : NoInstOf m g) (hpush : PushSrcOK g)
    (hreach : ∀ v ∈ g.variables, Reach g top v) : ∃ st, storeOf m g top = .ok st := by
  obtain ⟨data, hp⟩ := preconfigure_defined m hpush
  unfold storeOf
  rw [hp]
  obtain ⟨hc, ht⟩ := cinv_init (top := top) hn hp
  exact loop_complete hn hreach _ _ _ _ (psi_start _ data.length (cn_length_le ..)) hc ht

/-- `configure` succeeds when the top is a variable and every variable is weakly connected to it -/
theorem configure_complete {m : Model} {g : Graph} {top : Option Str} {t : Str} (hn : NoInstOf m g)
    (hpush : PushSrcOK g) (ht : topOf g top = some t) (htv : t ∈ g.variables)
    (hreach : ∀ v ∈ g.variables, Reach g t v) : ∃ T, configure m g top = .ok T := by
  rcases configure_cases m g top with ⟨_, h⟩ | ⟨_, hno, _⟩ | ⟨t', _, ht', _, ⟨e, hs, _⟩ | ⟨st, node, _, _, _, h⟩⟩
  · exact ⟨_, h⟩
  · exact absurd htv (hno t ht)
  · rw [ht] at ht'; simp only [Option.some.injEq] at ht'; subst ht'
    obtain ⟨st, hst⟩ := storeOf_complete (m := m) hn hpush hreach
    rw [hst] at hs; simp at hs
  · exact ⟨_, h⟩

end Cfg
end Penman
