/-
  Penman.Proofs.ConfigureConsumed — what `findNext` finds, and what `configureNode` does for
  the triples it consumes: each was handed to a variable that owns a cell, and its node
  target became available. Groundwork for completeness and its converse.
-/
import Penman.Proofs.ConfigureSound
namespace Penman
namespace Cfg

/-- neither end of the triple is available -/
def Unav (st : St) (tr : Triple) : Prop := ¬ Avail st tr.src ∧ ∀ w, tr.tgt = .str w → ¬ Avail st w

theorem getOrEstablish_spec (st : St) (v : Str) :
    ((getOrEstablish st v).1 = true ↔ Avail st v) ∧
    (∀ w, Avail (getOrEstablish st v).2 w ↔ Avail st w) ∧
    (∀ w, HasKey (getOrEstablish st v).2 w ↔ HasKey st w) := by
  rcases getOrEstablish_cases st v with ⟨ho, e⟩ | ⟨u, hs, e⟩ | ⟨hn, e⟩ <;> rw [e]
  · exact ⟨⟨fun _ => Or.inl ho, fun _ => rfl⟩, fun _ => Iff.rfl, fun _ => Iff.rfl⟩
  · have hav : Avail st v := Or.inr ⟨u, hs⟩
    refine ⟨⟨fun _ => hav, fun _ => rfl⟩, fun w => ?_, fun w => ?_⟩
    · unfold Avail
      rw [get?_set]
      split
      · rename_i e; rw [e]; exact ⟨fun _ => hav, fun _ => Or.inl rfl⟩
      · exact Iff.rfl
    · unfold HasKey
      rw [get?_set]
      split
      · rename_i e; rw [e]; exact ⟨fun _ => hasKey_of_avail hav, fun _ => rfl⟩
      · exact Iff.rfl
  · exact ⟨⟨fun h => (nomatch h), fun h => absurd h hn⟩, fun _ => Iff.rfl, fun _ => Iff.rfl⟩

/-- the guarded call in `findNext` -/
theorem tryGet_spec (st : St) (v : Str) :
    ((if AList.contains st.nm v then getOrEstablish st v else (false, st)).1 = true ↔ Avail st v) ∧
    (∀ w, Avail (if AList.contains st.nm v then getOrEstablish st v else (false, st)).2 w ↔ Avail st w) ∧
    (∀ w, HasKey (if AList.contains st.nm v then getOrEstablish st v else (false, st)).2 w ↔ HasKey st w) := by
  split
  · exact getOrEstablish_spec st v
  · rename_i hc
    refine ⟨⟨fun h => (nomatch h), fun h => absurd ?_ hc⟩, fun _ => Iff.rfl, fun _ => Iff.rfl⟩
    rw [contains_iff, ← get?_isSome_iff]
    exact hasKey_of_avail h

theorem findNext_avail (data rev : List Datum) (st : St) :
    (∀ w, Avail (findNext data rev st).2.2.2 w ↔ Avail st w) ∧
    (∀ w, HasKey (findNext data rev st).2.2.2 w ↔ HasKey st w) :=
  findNext_inv (P := fun s => (∀ w, Avail s w ↔ Avail st w) ∧ (∀ w, HasKey s w ↔ HasKey st w))
    (fun s v h => ⟨fun w => ((getOrEstablish_spec s v).2.1 w).trans (h.1 w),
      fun w => ((getOrEstablish_spec s v).2.2 w).trans (h.2 w)⟩) data rev st ⟨fun _ => Iff.rfl, fun _ => Iff.rfl⟩

theorem unav_congr {st st' : St} (h : ∀ w, Avail st' w ↔ Avail st w) (x : Triple) : Unav st' x ↔ Unav st x := by
  unfold Unav; simp only [h]

/-- what a `findNext` result `r` says, for `data` scanned in store `st` after `rev` was passed over:
    everything passed over has both ends unavailable; what it stops at has an available end -/
def Found (st : St) (data rev : List Datum) (r : List Datum × Option Str × List Datum × St) : Prop :=
  (r.2.1 = none → ∀ tr ∈ pending data, Unav st tr) ∧
  (∀ v, r.2.1 = some v →
    ∃ sk', r.1 = rev.reverse ++ sk' ∧ (∀ tr ∈ pending sk', Unav st tr) ∧
      ∃ tr p e rest, r.2.2.1 = .t tr p e :: rest ∧ (tr.src = v ∨ (tr.tgt = .str v ∧ ¬ Avail st tr.src)))

/-- a passed-over triple datum in front of the recursive call's findings -/
theorem Found.cons {st st' : St} {tr : Triple} {p : Bool} {e : List Epi} {rest rev : List Datum}
    {r : List Datum × Option Str × List Datum × St} (ih : Found st' rest (.t tr p e :: rev) r)
    (hav : ∀ w, Avail st' w ↔ Avail st w) (hd : Unav st tr) : Found st (.t tr p e :: rest) rev r := by
  refine ⟨fun h x hx => ?_, fun v hv => ?_⟩
  · rcases List.mem_cons.1 hx with rfl | hx
    · exact hd
    · exact (unav_congr hav x).1 (ih.1 h x hx)
  · obtain ⟨sk', k1, k2, tr', p', e', rest', k3, k4⟩ := ih.2 v hv
    refine ⟨.t tr p e :: sk', by rw [k1, reverse_cons_append], fun x hx => ?_, tr', p', e', rest', k3, ?_⟩
    · rcases List.mem_cons.1 hx with rfl | hx
      · exact hd
      · exact (unav_congr hav x).1 (k2 x hx)
    · exact k4.imp_right fun ⟨k4, k5⟩ => ⟨k4, fun ha => k5 ((hav _).2 ha)⟩

theorem findNext_spec : ∀ data rev st, Found st data rev (findNext data rev st) := by
  intro data rev st
  fun_induction findNext data rev st
  · exact ⟨fun _ tr h => (nomatch h), fun v h => (nomatch h)⟩
  · exact ⟨fun _ tr h => (nomatch h), fun v h => (nomatch h)⟩
  · rename_i rest rev st ih
    refine ⟨ih.1, fun v hv => ?_⟩
    obtain ⟨sk', h1, h2, h3⟩ := ih.2 v hv
    exact ⟨.pop :: sk', by rw [h1, reverse_cons_append], h2, h3⟩
  · rename_i tr push epis rest rev st d trySrc h1
    refine ⟨fun h => (nomatch h), fun v hv => ?_⟩
    cases hv
    exact ⟨[], (List.append_nil _).symm, fun _ h => (nomatch h), tr, push, epis, rest, rfl, Or.inl rfl⟩
  · rename_i tr push epis rest rev st d trySrc h1 tv htv tryTgt h2
    refine ⟨fun h => (nomatch h), fun v hv => ?_⟩
    cases hv
    exact ⟨[], (List.append_nil _).symm, fun _ h => (nomatch h), tr, push, epis, rest, rfl,
      Or.inr ⟨htv, fun ha => h1 ((tryGet_spec st tr.src).1.2 ha)⟩⟩
  · rename_i tr push epis rest rev st d trySrc h1 tv htv tryTgt h2 ih
    obtain ⟨s1, s2, _⟩ := tryGet_spec st tr.src
    obtain ⟨t1, t2, _⟩ := tryGet_spec trySrc.2 tv
    refine ih.cons (fun w => (t2 w).trans (s2 w)) ⟨fun ha => h1 (s1.2 ha), fun w hw ha => ?_⟩
    cases htv.symm.trans hw
    exact h2 (t1.2 ((s2 _).2 ha))
  · rename_i tr push epis rest rev st d trySrc h1 hnt ih
    obtain ⟨s1, s2, _⟩ := tryGet_spec st tr.src
    exact ih.cons s2 ⟨fun ha => h1 (s1.2 ha), fun w hw => absurd hw (hnt w)⟩

/-- `tr` was handed to a variable that owns a cell in `st`, and if its target is a variable that had
    a `nodemap` entry in `st0`, that variable is available in `st` -/
def Consumed (m : Model) (st0 st : St) (tr : Triple) : Prop :=
  ∃ var role target, Oriented m var tr role target ∧ Own st var ∧
    (role ≠ CONCEPT_ROLE → ∀ w, target = .str w → HasKey st0 w → Avail st w)

theorem Consumed.mono {m : Model} {st0 st0' st st' : St} {tr : Triple} (h : Consumed m st0 st tr)
    (h0 : Mono st0' st0) (h1 : Mono st st') : Consumed m st0' st' tr := by
  obtain ⟨var, role, target, ho, hv, ht⟩ := h
  exact ⟨var, role, target, ho, h1.2.2 _ hv, fun hr w hw hk => h1.1 _ (ht hr w hw (h0.2.1 _ hk))⟩

theorem cn_consumed (m : Model) : ∀ f var data st s, Own st var →
    ∃ c, data = c ++ (configureNode m f var data st s).1 ∧
      ∀ tr ∈ pending c, Consumed m st (configureNode m f var data st s).2.1 tr := by
  intro f var data st s
  -- the consumed prefix grows by a triple handed to `var`, whose target is available in the end
  have head : ∀ {var : Str} {tr : Triple} {push s : Bool} {epis : List Epi} {role : Str} {target : Atom}
      {push' s' : Bool} {data rest : List Datum} {st stf : St},
      orient m var tr push s = some (role, target, push', s') → Own st var → Mono st stf →
      (role ≠ CONCEPT_ROLE → ∀ w, target = .str w → HasKey st w → Avail stf w) →
      (∃ c, data = c ++ rest ∧ ∀ x ∈ pending c, Consumed m st stf x) →
      ∃ c, Datum.t tr push epis :: data = c ++ rest ∧ ∀ x ∈ pending c, Consumed m st stf x := by
    intro var tr push s epis role target push' s' data rest st stf hor hv hm ht ⟨c, hc, hX⟩
    refine ⟨.t tr push epis :: c, by rw [List.cons_append, ← hc], fun x hx => ?_⟩
    rcases List.mem_cons.1 hx with rfl | hx
    · exact ⟨var, role, target, (orient_cases hor).1, hm.2.2 _ hv, ht⟩
    · exact hX x hx
  fun_induction configureNode m f var data st s <;> intro hv
  · exact ⟨[], rfl, fun _ h => (nomatch h)⟩
  · exact ⟨[], rfl, fun _ h => (nomatch h)⟩
  · exact ⟨[.pop], rfl, fun _ h => (nomatch h)⟩
  · exact ⟨[], rfl, fun _ h => (nomatch h)⟩
  · rename_i hor ih
    exact head hor hv (cn_mono ..) (fun h => absurd rfl h) (ih hv)
  · rename_i hor ih
    obtain ⟨c, hc, hX⟩ := ih ((mono_addFront _ _ _).2.2 _ hv)
    exact head hor hv ((mono_addFront _ _ _).trans (cn_mono ..)) (fun h => absurd rfl h)
      ⟨c, hc, fun x hx => (hX x hx).mono (mono_addFront _ _ _) (Mono.refl _)⟩
  · rename_i f var tr push epis data st s role target push' s' hor hncr v hp r ih1 ih2
    obtain ⟨htgt, _⟩ := pushVar_some hp
    have m1 := (mono_newCell st v).1
    have m2 : Mono (st.newCell v) (r.2.1.addBack var ⟨role, .node v, epis⟩) :=
      (cn_mono ..).trans (mono_addBack _ _ _)
    have m3 := cn_mono m f var r.1 (r.2.1.addBack var ⟨role, .node v, epis⟩) (s' && r.2.2)
    obtain ⟨c1, hc1, hX1⟩ := ih1 (get?_set_same _ _ _)
    obtain ⟨c2, hc2, hX2⟩ := ih2 ((m1.trans m2).2.2 _ hv)
    refine head hor hv ((m1.trans m2).trans m3) (fun _ w hw _ => ?_)
      ⟨c1 ++ c2, by rw [List.append_assoc, ← hc2, ← hc1], fun x hx => ?_⟩
    · cases htgt.symm.trans hw
      exact (m2.trans m3).1 _ (mono_newCell st v).2
    · rw [pending_append] at hx
      rcases List.mem_append.1 hx with hx | hx
      · exact (hX1 x hx).mono m1 ((mono_addBack _ _ _).trans m3)
      · exact (hX2 x hx).mono (m1.trans m2) (Mono.refl _)
  · rename_i f var tr push epis data st s role target push' s' hor hncr hp ih
    have m1 := (mono_noteSite st var target).trans (mono_addBack _ var ⟨role, .atom target, epis⟩)
    have m2 := cn_mono m f var data ((st.noteSite var target).addBack var ⟨role, .atom target, epis⟩) s'
    obtain ⟨c, hc, hX⟩ := ih (m1.2.2 _ hv)
    refine head hor hv (m1.trans m2) (fun _ w hw hk => ?_) ⟨c, hc, fun x hx => (hX x hx).mono m1 (Mono.refl _)⟩
    subst hw
    exact ((mono_addBack _ _ _).trans m2).1 _ (avail_noteSite hk)

/-- "role not concept": a role other than `:instance` does not invert to `:instance` -/
def RNC (m : Model) (tr : Triple) : Prop := tr.role ≠ CONCEPT_ROLE → m.invertRole tr.role ≠ CONCEPT_ROLE

/-- the ends of `tr` that are variables of `V` are available (the target only of a non-instance triple) -/
def EndsAvail (V : List Str) (st : St) (tr : Triple) : Prop :=
  (tr.src ∈ V → Avail st tr.src) ∧ (tr.role ≠ CONCEPT_ROLE → ∀ w ∈ V, tr.tgt = .str w → Avail st w)

theorem Consumed.ends {m : Model} {V : List Str} {st0 st : St} {tr : Triple} (h : Consumed m st0 st tr)
    (hK : ∀ v ∈ V, HasKey st0 v) (hrnc : RNC m tr) : EndsAvail V st tr := by
  obtain ⟨var, role, target, ho, hv, ht⟩ := h
  rcases ho with ⟨rfl, rfl, rfl⟩ | ⟨h1, h2, rfl, rfl⟩
  · exact ⟨fun _ => Or.inl hv, fun hr w hw e => ht hr w e (hK w hw)⟩
  · refine ⟨fun hs => ht (hrnc h2) _ rfl (hK _ hs), fun _ w _ hw => ?_⟩
    cases h1.symm.trans hw
    exact Or.inl hv

theorem Consumed.ownInst {m : Model} {st0 st : St} {tr : Triple} (h : Consumed m st0 st tr)
    (hr : tr.role = CONCEPT_ROLE) : Own st tr.src := by
  obtain ⟨var, role, target, ho, hv, _⟩ := h
  rcases ho with ⟨rfl, _, _⟩ | ⟨_, h2, _, _⟩
  · exact hv
  · exact absurd hr h2

theorem first_consumed (m : Model) (g : Graph) (top : Str) (data : List Datum) : ∀ x ∈ pending data,
    x ∈ pending (stripPops (configureNode m (data.length + 1) top data (st0 g top) false).1) ++ pending [] ∨
    Consumed m (st0 g top) (configureNode m (data.length + 1) top data (st0 g top) false).2.1 x := by
  obtain ⟨c, hc, hX⟩ := cn_consumed m (data.length + 1) top data (st0 g top) false (good_st0 g top).2
  intro x hx
  rw [hc, pending_append] at hx
  rw [pending_first]
  exact (List.mem_append.1 hx).symm.imp_right (hX x)

theorem findNext_mono (data rev : List Datum) (st : St) : Mono st (findNext data rev st).2.2.2 :=
  findNext_inv (P := Mono st) (fun s v h => h.trans (by
    rcases getOrEstablish_cases s v with ⟨_, e⟩ | ⟨u, _, e⟩ | ⟨_, e⟩ <;> rw [e]
    · exact Mono.refl _
    · exact mono_set_nm rfl (fun h => nomatch h) (fun _ => rfl)
    · exact Mono.refl _)) data rev st (Mono.refl _)

theorem round_consumed {m : Model} {a b} (h : Round m a b) :
    Mono a.2.2 b.2.2 ∧
    ∀ x ∈ pending a.1 ++ pending a.2.1, x ∈ pending b.1 ++ pending b.2.1 ∨ Consumed m a.2.2 b.2.2 x := by
  cases h with
  | @skip data skipped st sk v st1 tr push epis rest hfn ho =>
    obtain ⟨rfl, _⟩ := found hfn
    have hm := findNext_mono (sk ++ .t tr push epis :: rest) [] st
    rw [hfn] at hm
    refine ⟨hm, fun x hx => Or.inl ?_⟩
    simp only [pending_append, pending, pending_stripPops, List.mem_append, List.mem_cons, List.not_mem_nil,
      or_false] at hx ⊢
    rcases hx with (hx | hx | hx) | hx
    · exact Or.inr (Or.inl (Or.inl hx))
    · exact Or.inr (Or.inr hx)
    · exact Or.inl hx
    · exact Or.inr (Or.inl (Or.inr hx))
  | @prog data skipped st sk v st1 tr push epis rest hfn ho =>
    obtain ⟨rfl, o1, _⟩ := found hfn
    have hm := findNext_mono (sk ++ .t tr push epis :: rest) [] st
    rw [hfn] at hm
    obtain ⟨c, hc, hX⟩ := cn_consumed m (rest.length + 2) v (.t tr push epis :: rest) st1 false o1
    refine ⟨hm.trans (cn_mono ..), fun x hx => ?_⟩
    rw [pending_append, hc, pending_append] at hx
    simp only [pending_append, pending_stripPops, List.mem_append, pending, List.not_mem_nil, or_false] at hx ⊢
    rcases hx with (hx | hx | hx) | hx
    · exact Or.inl (Or.inr (Or.inl hx))
    · exact Or.inr ((hX x hx).mono hm (Mono.refl _))
    · exact Or.inl (Or.inl hx)
    · exact Or.inl (Or.inr (Or.inr hx))

end Cfg
end Penman
