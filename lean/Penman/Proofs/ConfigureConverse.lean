/-
  Penman.Proofs.ConfigureConverse — converse of completeness: if `configure` succeeds, every
  key of the store is a variable weakly connected to the top; the source of every instance
  triple owns a cell in the final store (also when the triple itself is a dropped null label).
-/
import Penman.Proofs.ConfigureComplete
namespace Penman
namespace Cfg

/-- a datum `preconfigure` may produce from `g`: a version of one of its triples, pushing only a variable -/
def DOK (m : Model) (g : Graph) : Datum → Prop
  | .pop => True
  | .t x push _ => Version m g x ∧ (push = true → ∃ v ∈ g.variables, x.tgt = .str v)

def AllDOK (m : Model) (g : Graph) (l : List Datum) : Prop := ∀ d ∈ l, DOK m g d

/-- every `nodemap` key is a variable of `g`, and every available one is weakly connected to the top -/
structure RInv (g : Graph) (top : Str) (st : St) : Prop where
  keys : ∀ w, HasKey st w → w ∈ g.variables
  reach : ∀ w, Avail st w → Reach g top w

theorem rinv_of_nm_eq {g : Graph} {top : Str} {st st' : St} (h : st'.nm = st.nm) (hr : RInv g top st) :
    RInv g top st' :=
  ⟨fun w hw => hr.keys w (by unfold HasKey at *; rwa [h] at hw),
   fun w hw => hr.reach w (by unfold Avail at *; rwa [h] at hw)⟩

theorem rinv_addFront {g : Graph} {top : Str} {st : St} (v : Str) (e : Edge) (hr : RInv g top st) :
    RInv g top (st.addFront v e) := rinv_of_nm_eq (st := st) (st' := st.addFront v e) rfl hr
theorem rinv_addBack {g : Graph} {top : Str} {st : St} (v : Str) (e : Edge) (hr : RInv g top st) :
    RInv g top (st.addBack v e) := rinv_of_nm_eq (st := st) (st' := st.addBack v e) rfl hr

/-- overwriting the entry of a variable that is reachable from the top -/
theorem rinv_set_nm {g : Graph} {top : Str} {st st' : St} {v : Str} {x : NM} (h : st'.nm = st.nm.set v x)
    (hr : RInv g top st) (hv : v ∈ g.variables) (hreach : Reach g top v) : RInv g top st' := by
  constructor <;> intro w hw
  · by_cases e : w = v
    · rw [e]; exact hv
    · apply hr.keys; unfold HasKey at hw ⊢; rwa [h, get?_set_other _ _ _ _ e] at hw
  · by_cases e : w = v
    · rw [e]; exact hreach
    · apply hr.reach; unfold Avail at hw ⊢; rwa [h, get?_set_other _ _ _ _ e] at hw

theorem adj_of_orient {m : Model} {g : Graph} {var w : Str} {x : Triple} {role : Str} {target : Atom}
    (hv : Version m g x) (ho : Oriented m var x role target)
    (hr : role ≠ CONCEPT_ROLE) (ht : target = .str w) (hvar : var ∈ g.variables) (hw : w ∈ g.variables) :
    Adj g var w := by
  obtain ⟨t, htm, hx⟩ := hv
  rcases ho with ⟨h1, h2, h3⟩ | ⟨h1, h2, h3, h4⟩
  · rcases hx with rfl | ⟨rfl, ⟨b, hb⟩, hrole⟩
    · exact ⟨x, htm, h2 ▸ hr, hvar, hw, Or.inl ⟨h1, by rw [← h3, ht]⟩⟩
    · refine ⟨t, htm, hrole, hvar, hw, Or.inr ⟨?_, ?_⟩⟩
      · have : Atom.str t.src = .str w := by rw [← invert_tgt m t, ← h3, ht]
        simpa using this
      · rw [hb, ← invert_src m t b hb, h1]
  · rcases hx with rfl | ⟨rfl, ⟨b, hb⟩, hrole⟩
    · refine ⟨x, htm, h2, hvar, hw, Or.inr ⟨?_, h1⟩⟩
      rw [ht] at h4; simpa using h4.symm
    · refine ⟨t, htm, hrole, hvar, hw, Or.inl ⟨?_, ?_⟩⟩
      · have : Atom.str t.src = .str var := by rw [← invert_tgt m t, h1]
        simpa using this
      · rw [hb]
        have : (m.invert t).src = w := by rw [ht] at h4; simpa using h4.symm
        rw [invert_src m t b hb] at this; rw [this]

theorem cn_reach (m : Model) (g : Graph) (top : Str) : ∀ f var data st s, RInv g top st → Own st var →
    AllDOK m g data → RInv g top (configureNode m f var data st s).2.1 := by
  intro f var data st s
  fun_induction configureNode m f var data st s <;> intro hr hv hd
  · exact hr
  · exact hr
  · exact hr
  · exact hr
  · rename_i ih; exact ih hr hv fun d hd' => hd d (List.mem_cons_of_mem _ hd')
  · rename_i ih
    exact ih (rinv_addFront _ _ hr) ((mono_addFront _ _ _).2.2 _ hv) fun d hd' => hd d (List.mem_cons_of_mem _ hd')
  · rename_i f var tr push epis data st s role target push' s' hor hncr v hp r ih1 ih2
    have hd' : AllDOK m g data := fun d hd' => hd d (List.mem_cons_of_mem _ hd')
    obtain ⟨hver, hpush⟩ := hd (.t tr push epis) List.mem_cons_self
    obtain ⟨htgt, _⟩ := pushVar_some hp
    -- a pushed target is the triple's own target, and a variable
    have hvV : v ∈ g.variables := by
      obtain ⟨hpt, htt⟩ := (orient_cases hor).2 (pushVar_push hp)
      obtain ⟨v', hv', htv⟩ := hpush hpt
      cases (htt ▸ htgt).symm.trans htv
      exact hv'
    have hvarV : var ∈ g.variables := hr.keys var (hasKey_of_avail (avail_of_own hv))
    have hadj : Adj g var v := adj_of_orient hver ((orient_cases hor).1) hncr htgt hvarV hvV
    have r1 : RInv g top (st.newCell v) :=
      rinv_set_nm rfl hr hvV (Reach.step (hr.reach var (avail_of_own hv)) hadj)
    have r2 := ih1 r1 (get?_set_same _ _ _) hd'
    exact ih2 (rinv_addBack _ _ r2)
      ((((mono_newCell st v).1.trans (cn_mono ..)).trans (mono_addBack _ _ _)).2.2 _ hv)
      fun d hdm => hd' d ((cn_suffix m f v data (st.newCell v) false).subset hdm)
  · rename_i f var tr push epis data st s role target push' s' hor hncr hp ih
    obtain ⟨hver, _⟩ := hd (.t tr push epis) List.mem_cons_self
    have r1 : RInv g top (st.noteSite var target) := by
      rcases noteSite_eq st var target with ⟨e, _⟩ | ⟨w, hw, hu, e⟩ <;> rw [e]
      · exact hr
      · have hwV := hr.keys w (by unfold HasKey; rw [hu]; rfl)
        have hvarV : var ∈ g.variables := hr.keys var (hasKey_of_avail (avail_of_own hv))
        exact rinv_set_nm rfl hr hwV (Reach.step (hr.reach var (avail_of_own hv))
          (adj_of_orient hver ((orient_cases hor).1) hncr hw hvarV hwV))
    exact ih (rinv_addBack _ _ r1) (((mono_noteSite st var target).trans (mono_addBack _ _ _)).2.2 _ hv)
      fun d hd' => hd d (List.mem_cons_of_mem _ hd')

/-- a datum leaves `preconfEpis` with `push` set only if its target is a variable: `Push(source)` inverts the
    triple, whose target is then the old source; `Push(target)` names the target itself -/
theorem preconfEpis_push (m : Model) (g : Graph) (orig : Triple) (ho : orig ∈ g.triples) :
    ∀ es tr push epis pops pushed r,
    (∀ v, Epi.push v ∈ es → v ∈ g.variables) →
    (tr = orig ∨ (orig.src ∈ pushed ∧ ∃ v ∈ g.variables, tr.tgt = .str v)) →
    (push = true → ∃ v ∈ g.variables, tr.tgt = .str v) →
    preconfEpis m orig es tr push epis pops pushed = .ok r →
    (r.2.1 = true → ∃ v ∈ g.variables, r.1.tgt = .str v) := by
  intro es tr push epis pops pushed
  fun_induction preconfEpis m orig es tr push epis pops pushed <;> intro r hes hinv hp h
  · simp only [Except.ok.injEq] at h; subst h; exact hp
  · rename_i ih; exact ih r (fun v hv => hes v (List.mem_cons_of_mem _ hv)) hinv hp h
  · rename_i ih; exact ih r (fun v hv => hes v (List.mem_cons_of_mem _ hv)) hinv hp h
  · rename_i rest tr push epis pops pushed s htg hnp hcond ih
    have htr : tr = orig := by
      rcases hinv with h | ⟨h, _⟩
      · exact h
      · exact absurd h hnp
    subst htr
    have hnew : ∃ v ∈ g.variables, (m.invert tr).tgt = .str v :=
      ⟨tr.src, src_mem_variables ho, invert_tgt m tr⟩
    exact ih r (fun v hv => hes v (List.mem_cons_of_mem _ hv)) (Or.inr ⟨by simp, hnew⟩) (fun _ => hnew) h
  · simp at h
  · rename_i pvar rest tr push epis pops pushed hnp hcond hsrc ih
    have hnew : ∃ v ∈ g.variables, tr.tgt = .str v := by
      rcases hinv with h | ⟨_, h⟩
      · subst h
        have : Atom.str pvar = tr.tgt := by
          apply Classical.byContradiction
          intro hne
          exact hcond (Or.inl ⟨hsrc, hne⟩)
        exact ⟨pvar, hes pvar List.mem_cons_self, this.symm⟩
      · exact h
    apply ih r (fun v hv => hes v (List.mem_cons_of_mem _ hv)) _ (fun _ => hnew) h
    rcases hinv with h | ⟨h1, h2⟩
    · exact Or.inl h
    · exact Or.inr ⟨List.mem_cons_of_mem _ h1, h2⟩
  · rename_i ih; exact ih r (fun v hv => hes v (List.mem_cons_of_mem _ hv)) hinv hp h
  · rename_i ih; exact ih r (fun v hv => hes v (List.mem_cons_of_mem _ hv)) hinv hp h

theorem preconfigure_dok (m : Model) (g : Graph) (hpv : PushVars g) : ∀ ts pushed data,
    (∀ t ∈ ts, t ∈ g.triples) → preconfigure m g.epidata ts pushed = .ok data → AllDOK m g data := by
  intro ts
  induction ts with
  | nil => intro pushed data _ h; cases h; exact fun d hd => nomatch hd
  | cons t ts ih =>
    intro pushed data hts h
    obtain ⟨tr', push, epis, pops, pushed', more, h1, h2, rfl⟩ := preconfigure_cons_ok h
    have htm := hts t List.mem_cons_self
    have hv := version_of_preStep htm (preconfEpis_spec m t _ _ _ _ _ _ _ (Or.inl rfl) h1)
    have hp := preconfEpis_push m g t htm _ _ _ _ _ _ _ (fun v hv => hpv t htm (.push v) hv) (Or.inl rfl)
      (fun h => Bool.noConfusion h) h1
    intro d hd
    rcases List.mem_cons.1 hd with rfl | hd
    · exact ⟨hv, hp⟩
    · rcases List.mem_append.1 hd with hd | hd
      · cases (List.mem_replicate.1 hd).2; trivial
      · exact ih _ _ (fun t ht => hts t (List.mem_cons_of_mem _ ht)) h2 d hd

theorem rnc_of_dok {m : Model} {g : Graph} {l : List Datum} (hn : NoInstOf m g) (h : AllDOK m g l) :
    ∀ tr ∈ pending l, RNC m tr := by
  intro tr htr
  obtain ⟨p, e, hm⟩ := mem_pending.1 htr
  exact rnc_of_version hn (h _ hm).1

/-- the invariants of the loop used for the converse; `src`: the source of every triple is available, or a
    version of the triple is still waiting -/
structure VInv (m : Model) (g : Graph) (top : Str) (data skipped : List Datum) (st : St) : Prop where
  good : Good st
  keys : ∀ v ∈ g.variables, HasKey st v
  rinv : RInv g top st
  dok : AllDOK m g (data ++ skipped)
  src : ∀ t ∈ g.triples, Avail st t.src ∨
    ∃ x ∈ pending data ++ pending skipped, x = t ∨ (x = m.invert t ∧ t.role ≠ CONCEPT_ROLE)

theorem version_src {m : Model} {g : Graph} {st : St} {t x : Triple} (hn : NoInstOf m g) (ht : t ∈ g.triples)
    (hx : x = t ∨ (x = m.invert t ∧ t.role ≠ CONCEPT_ROLE)) (he : EndsAvail g.variables st x) :
    Avail st t.src := by
  rcases hx with rfl | ⟨rfl, hr⟩
  · exact he.1 (src_mem_variables ht)
  · apply he.2 _ t.src (src_mem_variables ht) (invert_tgt m t)
    rw [invert_role]; exact (hn t ht hr).1

theorem vinv_round {m : Model} {g : Graph} {top : Str} {a b} (hn : NoInstOf m g) (h : Round m a b)
    (hc : VInv m g top a.1 a.2.1 a.2.2) : VInv m g top b.1 b.2.1 b.2.2 := by
  obtain ⟨hm, hcons⟩ := round_consumed h
  have hdok : AllDOK m g (b.1 ++ b.2.1) := fun d hd => hc.dok d (h.sub d hd)
  refine ⟨(good_round h hc.good).1, fun w hw => hm.2.1 _ (hc.keys w hw), ?_, hdok, fun t ht => ?_⟩
  · cases h with
    | @skip data skipped st sk v st1 tr push epis rest hfn ho =>
      have hav := findNext_avail data [] st
      rw [hfn] at hav
      exact ⟨fun w hw => hc.rinv.keys w ((hav.2 w).1 hw), fun w hw => hc.rinv.reach w ((hav.1 w).1 hw)⟩
    | @prog data skipped st sk v st1 tr push epis rest hfn ho =>
      have hav := findNext_avail data [] st
      rw [hfn] at hav
      obtain ⟨rfl, o1, _⟩ := found hfn
      exact cn_reach m g top _ v _ st1 false
        ⟨fun w hw => hc.rinv.keys w ((hav.2 w).1 hw), fun w hw => hc.rinv.reach w ((hav.1 w).1 hw)⟩ o1
        fun d hd => hc.dok d (List.mem_append_left _ (List.mem_append_right _ hd))
  · rcases hc.src t ht with h1 | ⟨x, hx, hv⟩
    · exact Or.inl (hm.1 _ h1)
    · rcases hcons x hx with hx' | hx'
      · exact Or.inr ⟨x, hx', hv⟩
      · refine Or.inl (version_src hn ht hv (hx'.ends hc.keys (rnc_of_dok hn hc.dok x ?_)))
        rwa [pending_append]

theorem rinv_st0 (g : Graph) (top : Str) (ht : top ∈ g.variables) : RInv g top (st0 g top) :=
  ⟨fun _ hw => (hasKey_st0.1 hw).elim (fun e => e ▸ ht) id, fun _ hw => avail_st0 hw ▸ Reach.refl⟩

theorem mem_variables {g : Graph} {v : Str} (h : v ∈ g.variables) :
    (∃ t ∈ g.triples, t.src = v) ∨ g.top = some v := by
  unfold Graph.variables at h
  simp only [] at h
  have key : v ∈ dedup (g.triples.map (·.src)) → ∃ t ∈ g.triples, t.src = v := by
    intro h; simpa using mem_dedup.1 h
  split at h
  · rename_i t ht
    split at h
    · exact Or.inl (key h)
    · simp only [List.mem_append, List.mem_singleton] at h
      rcases h with h | h
      · exact Or.inl (key h)
      · exact Or.inr (by rw [ht, h])
  · exact Or.inl (key h)

/-- in the final store every key is a variable reachable from the top, and every source is available -/
theorem storeOf_rinv {m : Model} {g : Graph} {top : Str} {st : St} (hn : NoInstOf m g) (hpv : PushVars g)
    (ht : top ∈ g.variables) (h : storeOf m g top = .ok st) :
    RInv g top st ∧ ∀ t ∈ g.triples, Avail st t.src := by
  have := storeOf_inv (I := fun a => VInv m g top a.1 a.2.1 a.2.2) (vinv_round hn) (fun data hp => ?_) h
  · refine ⟨this.rinv, fun t ht => (this.src t ht).resolve_right ?_⟩
    rintro ⟨x, hx, _⟩
    cases hx
  · have hpre := preconfigure_spec m _ _ _ _ hp
    have hdok := preconfigure_dok m g hpv _ _ _ (fun t ht => ht) hp
    obtain ⟨g0, o0⟩ := good_st0 g top
    refine ⟨(good_cn m _ top data _ false g0 o0).1, fun v hv => (cn_mono ..).2.1 _ (keys_st0 g top v hv),
      cn_reach m g top _ top data _ false (rinv_st0 g top ht) o0 hdok, fun d hd => ?_, fun t htm => ?_⟩
    · rw [List.append_nil] at hd
      exact hdok d ((cn_suffix ..).subset ((stripPops_suffix _).subset hd))
    · obtain ⟨x, hx, hs⟩ := hpre.forward t htm
      have hver : x = t ∨ (x = m.invert t ∧ t.role ≠ CONCEPT_ROLE) := by
        cases hs with
        | same => exact Or.inl rfl
        | inv _ _ hr => exact Or.inr ⟨rfl, hr⟩
      rcases first_consumed m g top data x hx with h | h
      · exact Or.inr ⟨x, h, hver⟩
      · exact Or.inl (version_src hn htm hver (h.ends (keys_st0 g top) (rnc_of_dok hn hdok x hx)))

/-- converse of completeness for the store computation -/
theorem storeOf_connected {m : Model} {g : Graph} {top : Str} {st : St} (hn : NoInstOf m g) (hpv : PushVars g)
    (ht : top ∈ g.variables) (htop : TopOK g top) (h : storeOf m g top = .ok st) :
    ∀ v ∈ g.variables, Reach g top v := by
  obtain ⟨rf, hsrc⟩ := storeOf_rinv hn hpv ht h
  intro v hvv
  rcases mem_variables hvv with ⟨t, htm, rfl⟩ | hgt
  · exact rf.reach _ (hsrc t htm)
  · unfold TopOK at htop
    rw [hgt] at htop
    rcases htop with rfl | hz
    · exact Reach.refl
    · obtain ⟨t, htm, rfl⟩ := List.mem_map.1 hz
      exact rf.reach _ (hsrc t htm)

/-- if `configure` succeeds on a non-empty graph, the top is a variable and every variable is
    weakly connected to it -/
theorem configure_success_connected {m : Model} {g : Graph} {top : Option Str} {T : Tree}
    (hn : NoInstOf m g) (hpv : PushVars g) (hne : g.triples.isEmpty = false)
    (h : configure m g top = .ok T) :
    ∃ t, topOf g top = some t ∧ t ∈ g.variables ∧ (TopOK g t → ∀ v ∈ g.variables, Reach g t v) := by
  rcases configure_cases m g top with ⟨he, _⟩ | ⟨_, _, h'⟩ | ⟨t, _, ht, htv, ⟨e, _, h'⟩ | ⟨st, node, hs, _, _, _⟩⟩
  · rw [he] at hne; simp at hne
  · rw [h'] at h; simp at h
  · rw [h'] at h; simp at h
  · exact ⟨t, ht, htv, fun htop => storeOf_connected hn hpv htv htop hs⟩

/-- instance triples: their source owns a cell, or they are still waiting -/
def IInv (g : Graph) (data skipped : List Datum) (st : St) : Prop :=
  ∀ t ∈ g.triples, t.role = CONCEPT_ROLE → Own st t.src ∨ t ∈ pending data ++ pending skipped

theorem iinv_round {m : Model} {g : Graph} {a b} (h : Round m a b) (hi : IInv g a.1 a.2.1 a.2.2) :
    IInv g b.1 b.2.1 b.2.2 := by
  obtain ⟨hm, hcons⟩ := round_consumed h
  intro t ht hr
  rcases hi t ht hr with h1 | h1
  · exact Or.inl (hm.2.2 _ h1)
  · exact (hcons t h1).symm.imp_left fun hc => hc.ownInst hr

/-- every variable with a node label (even a null one) owns a cell in the final store -/
theorem storeOf_ownInst {m : Model} {g : Graph} {top : Str} {st : St} (h : storeOf m g top = .ok st) :
    ∀ t ∈ g.triples, t.role = CONCEPT_ROLE → t.src ∈ ckeys st.cells := by
  intro t ht hr
  refine ((storeOf_good h).own _).2 ((storeOf_inv (I := fun a => IInv g a.1 a.2.1 a.2.2) iinv_round
    (fun data hp t ht hr => ?_) h t ht hr).resolve_right fun h => nomatch h)
  obtain ⟨x, hx, hs⟩ := (preconfigure_spec m _ _ _ _ hp).forward t ht
  have hxt : x = t := by
    cases hs with
    | same => rfl
    | inv _ _ hr' => exact absurd hr hr'
  subst hxt
  exact (first_consumed m g top data x hx).symm.imp_left fun h => h.ownInst hr

end Cfg
end Penman
