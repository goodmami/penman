/-
  Penman.Proofs.ConfigureEval — an evaluable twin of `configure`.
  `buildNode`/`buildBranches` recurse mutually on different types (fuel / edge
  list), so Lean compiles them by well-founded recursion and `decide` cannot
  evaluate them. `buildN'` (structural on the fuel, with the branch walk
  `buildB'` parametrised by the recursive call) is proved equal, so concrete
  (counter)examples about `configure` can be checked by `decide`.
-/
import Penman.Layout
namespace Penman
namespace C02

def buildB' (bn : Str → Except PyErr Node) : List Edge → Except PyErr Branches
  | [] => .ok .nil
  | e :: es => do
    let rest ← buildB' bn es
    match e.tgt with
    | .atom a =>
      let hasTgtEpi := e.epis.any (·.mode = 2)
      let (r, t) := applyEpis e.role (some (atomStr a)) e.epis
      pure (.atom r (if hasTgtEpi then .str (t.getD []) else a) rest)
    | .node w => do
      let n ← bn w
      let (r, _) := applyEpis e.role none e.epis
      pure (.sub r n rest)

def buildN' (cells : AList Str (List Edge)) : Nat → Str → Except PyErr Node
  | 0, _ => .error (.other "configure: cyclic store")
  | f+1, v => do
    let bs ← buildB'
      (fun w => match f with
        | 0 => .error (.other "configure: cyclic store")
        | f'+1 => buildN' cells f' w) ((AList.get? cells v).getD [])
    pure (.mk (some v) bs)

/-- the node call available to `buildBranches` at fuel `f` -/
def nodeCall (cells : AList Str (List Edge)) (f : Nat) (w : Str) : Except PyErr Node :=
  match f with
  | 0 => .error (.other "configure: cyclic store")
  | f'+1 => buildN' cells f' w

theorem buildN'_succ (cells : AList Str (List Edge)) (f : Nat) (v : Str) :
    buildN' cells (f+1) v = (do
      let bs ← buildB' (nodeCall cells f) ((AList.get? cells v).getD [])
      pure (.mk (some v) bs)) := by
  rw [buildN']; rfl

theorem buildBranches_zero (cells : AList Str (List Edge)) (es : List Edge) :
    buildBranches cells 0 es = buildB' (nodeCall cells 0) es := by
  induction es with
  | nil => simp [buildBranches, buildB']
  | cons e es ih =>
    rw [buildBranches, buildB', ih]
    cases e.tgt with
    | atom a => rfl
    | node w =>
      simp only [nodeCall, bind, Except.bind, throw, throwThe, MonadExceptOf.throw]

theorem buildBranches_succ (cells : AList Str (List Edge)) (f : Nat)
    (hP : ∀ v, buildNode cells f v = buildN' cells f v) (es : List Edge) :
    buildBranches cells (f+1) es = buildB' (nodeCall cells (f+1)) es := by
  induction es with
  | nil => simp [buildBranches, buildB']
  | cons e es ih =>
    rw [buildBranches, buildB', ih]
    cases e.tgt with
    | atom a => rfl
    | node w => simp only [nodeCall, hP]

theorem build_eq (cells : AList Str (List Edge)) : ∀ f,
    (∀ v, buildNode cells f v = buildN' cells f v) ∧
    (∀ es, buildBranches cells f es = buildB' (nodeCall cells f) es) := by
  intro f
  induction f with
  | zero =>
    exact ⟨fun v => by rw [buildNode, buildN'], buildBranches_zero cells⟩
  | succ f ih =>
    refine ⟨fun v => ?_, buildBranches_succ cells f ih.1⟩
    rw [buildNode, buildN'_succ, ih.2]

/-- `configure` with the evaluable tree builder -/
def configure' (m : Model) (g : Graph) (top : Option Str) : Except PyErr Tree :=
  if g.triples.isEmpty then .ok { node := .mk g.getTop .nil, metadata := g.metadata }
  else
    let vars := g.variables
    let top := match top with | some t => some t | none => g.getTop
    match top with
    | none => .error (.layout 0)
    | some top =>
      if top ∉ vars then .error (.layout 0)
      else do
        let st0 : St := { cells := [(top, [])], nm := AList.set (vars.map (·, NM.unset)) top NM.own }
        let data ← preconfigure m g.epidata g.triples []
        let (data1, st1, _) := configureNode m (data.length + 1) top data st0 false
        let st2 ← configureLoop m ((data.length + 1) * (data.length + 1) + 1) (stripPops data1) [] st1
        let node ← buildN' st2.cells (2 * st2.cells.length + 2) top
        pure { node := node, metadata := g.metadata }

theorem configure_eq (m : Model) (g : Graph) (top : Option Str) : configure m g top = configure' m g top := by
  unfold configure configure'
  simp only [(build_eq _ _).1]
  rfl

end C02
end Penman
