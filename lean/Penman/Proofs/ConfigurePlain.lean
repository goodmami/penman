/-
  Penman.Proofs.ConfigurePlain — without alignment markers in the graph the edges of the store are
  plain (`storeOf_plain`: the case without markers of `Al.storeOf_cellsOK`), and then the triples
  written in the configured tree are exactly the triples placed in the store.
-/
import Penman.Proofs.AlignStore
namespace Penman
namespace Cfg
open Penman.Spec.Reading

/-- an edge as it is stored for a graph without alignment markers: `/` stands for `:instance`, and no
    marker is left to be appended to its role or target text -/
def PlainE (e : Edge) : Prop := e.role ≠ CONCEPT_ROLE ∧ e.epis = []
def Plain (c : Cells) : Prop := ∀ p ∈ c, ∀ e ∈ p.2, PlainE e

/-- without alignment markers in the graph, every edge of the final store is plain: it carries the
    non-layout markers of a graph triple (`storeOf_cellsOK`), and there are none -/
theorem storeOf_plain {m : Model} {g : Graph} {top : Str} {st : St} (hr : ∀ t ∈ g.triples, RoleOK2 m t)
    (hna : NoAlign g) (h : storeOf m g top = .ok st) : Plain st.cells := by
  intro p hp e he
  obtain ⟨h1, t1, ht1, _, _, hep, _⟩ := Al.storeOf_cellsOK hr h p hp e he
  refine ⟨h1, hep.trans (List.filter_eq_nil_iff.2 fun x hx => ?_)⟩
  have := hna t1 ht1 x hx
  cases x <;> simp [Epi.mode, Epi.isLayout] at this ⊢

theorem rawTriple_plain {v : Str} {e : Edge} (h : PlainE e) : rawTriple v e = denote v e := by
  obtain ⟨role, tgt, epis⟩ := e
  have he : epis = [] := h.2
  subst he
  cases tgt with
  | atom a => rfl
  | node w => rfl

theorem storeOf_tree {m : Model} {g : Graph} {top : Str} {st : St} {node : Node}
    (hr : ∀ t ∈ g.triples, RoleOK2 m t) (hs : storeOf m g top = .ok st)
    (hb : buildNode st.cells (2 * st.cells.length + 2) top = .ok node) :
    (Node.written node).Perm (flat ownW st.cells) ∧ node.vars.Perm (ckeys st.cells) ∧
    node.edgeTriples.Perm (flat (fun v es => es.map (rawTriple v)) st.cells) ∧
    (ckeys st.cells).Nodup ∧ node.var = some top := by
  obtain ⟨hd, _, hhead⟩ := storeOf_shape hs hr
  have hF := (storeOf_good hs).forest
  obtain ⟨rest, hkeys⟩ := List.head?_eq_some_iff.1 hhead
  obtain ⟨h1, h2⟩ := built_all hkeys hd.nodup hF hd.deg
  have h3 := traverse st.cells (fun v => (cellOf st.cells v).map (rawTriple v)) (builtT st.cells) top rest hkeys
    hd.nodup hd.deg (fun v _ => (built_step st.cells hF v).2.2)
  rw [← flat_eq_keys (fun v es => es.map (rawTriple v)) hd.nodup] at h3
  obtain ⟨bs, rfl, _⟩ := buildNode_var hb
  simp only [builtW, builtV, builtT, hb] at h1 h2 h3
  exact ⟨h1, h2, h3, hd.nodup, rfl⟩

/-- Without alignment markers, the triples written in the tree are a permutation of the triples
    placed in the store: every cell is reached from the top and traversed exactly once. -/
theorem storeOf_tree_triples {m : Model} {g : Graph} {top : Str} {st : St} {node : Node}
    (hr : ∀ t ∈ g.triples, RoleOK2 m t) (hna : NoAlign g) (hs : storeOf m g top = .ok st)
    (hb : buildNode st.cells (2 * st.cells.length + 2) top = .ok node) :
    node.edgeTriples.Perm (placed st.cells) := by
  obtain ⟨_, _, h3, _, _⟩ := storeOf_tree hr hs hb
  have hp := storeOf_plain hr hna hs
  have : flat (fun v es => es.map (rawTriple v)) st.cells = placed st.cells :=
    flatMap_congr' fun p hpm => List.map_congr_left fun e he => rawTriple_plain (hp p hpm e he)
  rw [← this]
  exact h3

end Cfg
end Penman
