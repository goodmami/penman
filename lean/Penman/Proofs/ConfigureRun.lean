/-
  Penman.Proofs.ConfigureRun — how `configure` runs: `configureNode` consumes a prefix of the
  data and does not depend on its fuel; one `Round` of the `while data:` loop and its
  termination measure; `configure` as a pipeline (`storeOf`, then `buildNode`); an invariant of
  `Round` that holds after the first `configureNode top` holds of the final store; `configure`
  never raises anything but a layout error.
-/
import Penman.Proofs.ConfigureStore
namespace Penman
namespace Cfg

theorem cn_suffix (m : Model) : ∀ f var data st s, (configureNode m f var data st s).1 <:+ data := by
  intro f var data st s
  fun_induction configureNode m f var data st s <;>
    first
    | exact List.suffix_refl _
    | exact List.suffix_cons _ _
    | (rename_i ih; exact ih.trans (List.suffix_cons _ _))
    | (rename_i ih1 ih2; exact (ih2.trans ih1).trans (List.suffix_cons _ _))

theorem cn_length_le (m : Model) (f var data st s) :
    (configureNode m f var data st s).1.length ≤ data.length :=
  (cn_suffix m f var data st s).length_le

theorem cn_fuel (m : Model) : ∀ f f' var data st s, data.length < f → data.length < f' →
    configureNode m f var data st s = configureNode m f' var data st s := by
  intro f
  induction f with
  | zero => intro f' var data st s h; omega
  | succ f ih =>
    intro f' var data st s h h'
    cases f' with
    | zero => omega
    | succ f' =>
      cases data with
      | nil => rfl
      | cons d data =>
        cases d with
        | pop => rfl
        | t tr push epis =>
          have hl : data.length < f := Nat.lt_of_succ_lt_succ h
          have hl' : data.length < f' := Nat.lt_of_succ_lt_succ h'
          simp only [configureNode]
          split
          · rfl
          · split
            · split
              · exact ih _ _ _ _ _ hl hl'
              · exact ih _ _ _ _ _ hl hl'
            · split
              · rename_i v _
                have e1 := ih f' v data (st.newCell v) false hl hl'
                rw [e1]
                have := cn_length_le m f' v data (st.newCell v) false
                exact ih _ _ _ _ _ (Nat.lt_of_le_of_lt this hl) (Nat.lt_of_le_of_lt this hl')
              · exact ih _ _ _ _ _ hl hl'

theorem reverse_cons_append {α : Type} (rev : List α) (d : α) (rest : List α) :
    (d :: rev).reverse ++ rest = rev.reverse ++ d :: rest := by
  rw [List.reverse_cons, List.append_assoc]; rfl

theorem findNext_some : ∀ data rev st {sk v data1 st1},
    findNext data rev st = (sk, some v, data1, st1) →
    sk ++ data1 = rev.reverse ++ data ∧
    ∃ tr push epis rest, data1 = Datum.t tr push epis :: rest ∧ (tr.src = v ∨ tr.tgt = .str v) := by
  intro data rev st
  fun_induction findNext data rev st <;> intro sk v data1 st1 h
  · cases h
  · cases h
  · rename_i ih
    obtain ⟨h1, h2⟩ := ih h
    exact ⟨h1.trans (reverse_cons_append _ _ _), h2⟩
  · cases h
    exact ⟨rfl, _, _, _, _, rfl, Or.inl rfl⟩
  · rename_i htv _ _
    cases h
    exact ⟨rfl, _, _, _, _, rfl, Or.inr htv⟩
  · rename_i ih
    obtain ⟨h1, h2⟩ := ih h
    exact ⟨h1.trans (reverse_cons_append _ _ _), h2⟩
  · rename_i ih
    obtain ⟨h1, h2⟩ := ih h
    exact ⟨h1.trans (reverse_cons_append _ _ _), h2⟩

theorem stripPops_suffix : ∀ l, stripPops l <:+ l := by
  intro l
  fun_induction stripPops l
  · rename_i ih; exact ih.trans (List.suffix_cons _ _)
  · exact List.suffix_refl _

theorem stripPops_length_le (l : List Datum) : (stripPops l).length ≤ l.length :=
  (stripPops_suffix l).length_le

/-- the termination measure of `configureLoop` -/
def psi (data skipped : List Datum) : Nat :=
  (data.length + skipped.length) * (data.length + skipped.length) + data.length

theorem psi_arith {T D T' D' : Nat} (hT : T' ≤ T) (h : T' < T ∨ D' < D) (hD : D' ≤ T') :
    T' * T' + D' < T * T + D := by
  rcases Nat.lt_or_eq_of_le hT with e | rfl
  · have h1 : (T' + 1) * (T' + 1) ≤ T * T := Nat.mul_le_mul e e
    rw [Nat.succ_mul_succ] at h1
    omega
  · omega

/-- on a triple datum `configureNode` either refuses it (and reports `surprising`)
    or consumes it -/
theorem cn_head (m : Model) (f var tr push epis rest st s) :
    (orient m var tr push s = none ∧
      configureNode m (f+1) var (.t tr push epis :: rest) st s = (.t tr push epis :: rest, st, true)) ∨
    ((orient m var tr push s).isSome ∧
      (configureNode m (f+1) var (.t tr push epis :: rest) st s).1 <:+ rest) := by
  simp only [configureNode]
  split
  · left; exact ⟨by assumption, rfl⟩
  · right
    rename_i hor
    refine ⟨by simp [hor], ?_⟩
    split
    · split <;> exact cn_suffix _ _ _ _ _ _
    · split
      · exact (cn_suffix _ _ _ _ _ _).trans (cn_suffix _ _ _ _ _ _)
      · exact cn_suffix _ _ _ _ _ _

/-- one round of the `while data:` loop -/
inductive Round (m : Model) : List Datum × List Datum × St → List Datum × List Datum × St → Prop
  | skip {data skipped st sk v st1 tr push epis rest} :
      findNext data [] st = (sk, some v, .t tr push epis :: rest, st1) →
      orient m v tr push false = none →
      Round m (data, skipped, st) (stripPops rest, sk ++ skipped ++ [.t tr push epis], st1)
  | prog {data skipped st sk v st1 tr push epis rest} :
      findNext data [] st = (sk, some v, .t tr push epis :: rest, st1) →
      (orient m v tr push false).isSome →
      Round m (data, skipped, st)
        (stripPops ((configureNode m (rest.length + 2) v (.t tr push epis :: rest) st1 false).1 ++ (sk ++ skipped)), [],
         (configureNode m (rest.length + 2) v (.t tr push epis :: rest) st1 false).2.1)

theorem loop_cases (m : Model) (d data skipped st) :
    ((findNext (d :: data) [] st).2.1 = none ∧
      ∀ fuel, configureLoop m (fuel+1) (d :: data) skipped st = .error (.layout 1)) ∨
    ∃ nx, Round m (d :: data, skipped, st) nx ∧
      ∀ fuel, configureLoop m (fuel+1) (d :: data) skipped st = configureLoop m fuel nx.1 nx.2.1 nx.2.2 := by
  rcases hfn : findNext (d :: data) [] st with ⟨sk, var, data1, st1⟩
  cases var with
  | none => exact Or.inl ⟨rfl, fun fuel => by simp only [configureLoop, hfn]⟩
  | some v =>
    obtain ⟨hcat, tr, push, epis, rest, hd1, _⟩ := findNext_some _ _ _ hfn
    subst hd1
    right
    have hne : ¬ (rest.length + 1 = 0) := Nat.succ_ne_zero _
    rcases cn_head m (rest.length + 1) v tr push epis rest st1 false with ⟨ho, hc⟩ | ⟨ho, hc⟩
    · refine ⟨_, Round.skip hfn ho, fun fuel => ?_⟩
      simp only [configureLoop, hfn, List.length_cons, hne, if_false]
      rw [hc]
      simp only [List.length_cons, and_self, if_true]
    · refine ⟨_, Round.prog hfn ho, fun fuel => ?_⟩
      have hl := hc.length_le
      have h1 : ¬ ((configureNode m (rest.length + 1 + 1) v (.t tr push epis :: rest) st1 false).1.length = rest.length + 1 ∧
          (configureNode m (rest.length + 1 + 1) v (.t tr push epis :: rest) st1 false).2.2 = true) :=
        fun h => absurd (h.1 ▸ hl) (Nat.not_succ_le_self _)
      have h2 : ¬ ((configureNode m (rest.length + 1 + 1) v (.t tr push epis :: rest) st1 false).1.length ≥ rest.length + 1) :=
        fun h => absurd (Nat.le_trans h hl) (Nat.not_succ_le_self _)
      simp only [configureLoop, hfn, List.length_cons, hne, if_false, h1, h2]

theorem loop_nil {m : Model} {fuel : Nat} {skipped : List Datum} {st st' : St}
    (h : configureLoop m (fuel+1) [] skipped st = .ok st') : skipped = [] ∧ st' = st := by
  simp only [configureLoop] at h
  split at h
  · rename_i he
    exact ⟨List.isEmpty_iff.1 he, (Except.ok.inj h).symm⟩
  · cases h

/-- an invariant of `Round` holds of the store a successful loop returns -/
theorem loop_inv {m : Model} {I : List Datum × List Datum × St → Prop}
    (hR : ∀ {a b}, Round m a b → I a → I b) : ∀ fuel data skipped st st', I (data, skipped, st) →
    configureLoop m fuel data skipped st = .ok st' → I ([], [], st') := by
  intro fuel
  induction fuel with
  | zero => intro data skipped st st' _ h; cases h
  | succ fuel ih =>
    intro data skipped st st' hI h
    cases data with
    | nil =>
      obtain ⟨rfl, rfl⟩ := loop_nil h
      exact hI
    | cons d data =>
      rcases loop_cases m d data skipped st with ⟨_, e⟩ | ⟨nx, hr, e⟩
      · rw [e] at h; cases h
      · rw [e] at h
        exact ih _ _ _ _ (hR hr hI) h

theorem found {data sk d1 : List Datum} {st st1 : St} {v : Str}
    (hfn : findNext data [] st = (sk, some v, d1, st1)) :
    sk ++ d1 = data ∧ Own st1 v ∧ (Good st → Good st1 ∧ Ext st st1) := by
  have h1 := (findNext_some _ _ _ hfn).1
  have h2 := findNext_own data [] st v
  have h3 := good_findNext data [] st
  rw [hfn] at h2 h3
  exact ⟨h1, h2 rfl, h3⟩

theorem found_inv {P : St → Prop} (hE : ∀ st v, Good st → P st → P (getOrEstablish st v).2)
    {data sk d1 : List Datum} {st st1 : St} {v : Option Str}
    (hfn : findNext data [] st = (sk, v, d1, st1)) (hg : Good st) (h : P st) : P st1 := by
  have := findNext_inv_good hE data [] st hg h
  rwa [hfn] at this

theorem round_psi {m : Model} {a b} (h : Round m a b) : psi b.1 b.2.1 < psi a.1 a.2.1 := by
  cases h with
  | @skip data skipped st sk v st1 tr push epis rest hfn ho =>
    obtain ⟨rfl, _⟩ := found hfn
    have h2 := stripPops_length_le rest
    simp only [psi, List.length_append, List.length_cons, List.length_nil]
    apply psi_arith <;> omega
  | @prog data skipped st sk v st1 tr push epis rest hfn ho =>
    obtain ⟨rfl, _⟩ := found hfn
    rcases cn_head m (rest.length + 1) v tr push epis rest st1 false with ⟨ho', hc⟩ | ⟨_, hc⟩
    · rw [ho'] at ho; cases ho
    · have hl : (configureNode m (rest.length + 2) v (.t tr push epis :: rest) st1 false).1.length ≤ rest.length :=
        hc.length_le
      have h2 := stripPops_length_le ((configureNode m (rest.length + 2) v (.t tr push epis :: rest) st1 false).1 ++ (sk ++ skipped))
      simp only [psi, List.length_append, List.length_cons, List.length_nil] at h2 ⊢
      apply psi_arith <;> omega

/-- induction along the rounds of a loop whose fuel exceeds the measure: what holds when the data
    is used up, when `findNext` finds nothing, and is carried back over a round, holds of the result -/
theorem loop_rounds {m : Model} {motive : List Datum × List Datum × St → Except PyErr St → Prop}
    (done : ∀ skipped st, motive ([], skipped, st) (if skipped.isEmpty then .ok st else .error (.layout 3)))
    (stuck : ∀ d data skipped st, (findNext (d :: data) [] st).2.1 = none →
      (∀ fuel, configureLoop m (fuel+1) (d :: data) skipped st = .error (.layout 1)) →
      motive (d :: data, skipped, st) (.error (.layout 1)))
    (step : ∀ {a b r}, Round m a b →
      (∀ fuel, configureLoop m (fuel+1) a.1 a.2.1 a.2.2 = configureLoop m fuel b.1 b.2.1 b.2.2) →
      motive b r → motive a r) :
    ∀ fuel data skipped st, psi data skipped < fuel →
      motive (data, skipped, st) (configureLoop m fuel data skipped st) := by
  intro fuel
  induction fuel with
  | zero => intro data skipped st h; exact absurd h (Nat.not_lt_zero _)
  | succ fuel ih =>
    intro data skipped st hpsi
    cases data with
    | nil => exact done skipped st
    | cons d data =>
      rcases loop_cases m d data skipped st with ⟨hn, e⟩ | ⟨nx, hr, e⟩
      · rw [e]; exact stuck d data skipped st hn e
      · rw [e]
        exact step hr e (ih _ _ _ (Nat.lt_of_lt_of_le (round_psi hr) (Nat.le_of_lt_succ hpsi)))

theorem loop_err (m : Model) (fuel : Nat) (data skipped : List Datum) (st : St) (e : PyErr)
    (hpsi : psi data skipped < fuel) (h : configureLoop m fuel data skipped st = .error e) :
    e = .layout 1 ∨ e = .layout 3 := by
  refine loop_rounds (motive := fun _ r => ∀ e, r = .error e → e = .layout 1 ∨ e = .layout 3)
    (fun skipped st e h => ?_) (fun _ _ _ _ _ _ e h => ?_) (fun _ _ h => h) fuel data skipped st hpsi e h
  · split at h
    · cases h
    · cases h; exact Or.inr rfl
  · cases h; exact Or.inl rfl

theorem loop_no_other (m : Model) (fuel : Nat) (data skipped : List Datum) (st : St)
    (hpsi : psi data skipped < fuel) (s : String) : configureLoop m fuel data skipped st ≠ .error (.other s) :=
  fun h => (loop_err m fuel data skipped st _ hpsi h).elim (fun h => nomatch h) (fun h => nomatch h)

theorem loop_fuel (m : Model) (fuel fuel' : Nat) (data skipped : List Datum) (st : St)
    (h : psi data skipped < fuel) (h' : psi data skipped < fuel') :
    configureLoop m fuel data skipped st = configureLoop m fuel' data skipped st := by
  refine (loop_rounds (motive := fun a r => ∀ fuel', psi a.1 a.2.1 < fuel' →
      configureLoop m fuel' a.1 a.2.1 a.2.2 = r) (fun skipped st fuel' h' => ?_)
    (fun d data skipped st _ e fuel' h' => ?_) (fun hr e ih fuel' h' => ?_) fuel data skipped st h fuel' h').symm
  · cases fuel' with
    | zero => exact absurd h' (Nat.not_lt_zero _)
    | succ f => rfl
  · cases fuel' with
    | zero => exact absurd h' (Nat.not_lt_zero _)
    | succ f => exact e f
  · cases fuel' with
    | zero => exact absurd h' (Nat.not_lt_zero _)
    | succ f =>
      rw [e f]
      exact ih f (Nat.lt_of_lt_of_le (round_psi hr) (Nat.le_of_lt_succ h'))

theorem pending_append (a b : List Datum) : pending (a ++ b) = pending a ++ pending b := by
  induction a with
  | nil => rfl
  | cons d r ih => cases d <;> simp [pending, ih]

theorem pending_stripPops (l : List Datum) : pending (stripPops l) = pending l := by
  fun_induction stripPops l
  · rename_i ih; simpa [pending] using ih
  · rfl

theorem configure_eq (m : Model) (g : Graph) (top : Option Str) : configure m g top =
    if g.triples.isEmpty then .ok { node := .mk g.getTop .nil, metadata := g.metadata } else
    match topOf g top with
    | none => .error (.layout 0)
    | some t => if t ∉ g.variables then .error (.layout 0) else
      (storeOf m g t).bind fun st2 =>
        (buildNode st2.cells (2 * st2.cells.length + 2) t).bind fun node =>
          .ok { node := node, metadata := g.metadata } := by
  -- the `do` block of `configure` re-associated: first the store, then the tree
  have key : ∀ t : Str, (do
        let data ← preconfigure m g.epidata g.triples []
        let (data1, st1, _) := configureNode m (data.length + 1) t data (st0 g t) false
        let st2 ← configureLoop m ((data.length + 1) * (data.length + 1) + 1) (stripPops data1) [] st1
        let node ← buildNode st2.cells (2 * st2.cells.length + 2) t
        pure ({ node := node, metadata := g.metadata } : Tree)) =
      (storeOf m g t).bind fun st2 =>
        (buildNode st2.cells (2 * st2.cells.length + 2) t).bind fun node =>
          .ok { node := node, metadata := g.metadata } := by
    intro t
    unfold storeOf
    cases preconfigure m g.epidata g.triples [] <;> rfl
  unfold configure topOf
  cases g.triples.isEmpty
  · cases top with
    | some t => exact congrArg (fun x => if t ∉ g.variables then Except.error (PyErr.layout 0) else x) (key t)
    | none =>
      cases g.getTop with
      | none => rfl
      | some t => exact congrArg (fun x => if t ∉ g.variables then Except.error (PyErr.layout 0) else x) (key t)
  · rfl

theorem get?_map_const (l : List Str) (x : NM) (k : Str) :
    AList.get? (l.map (·, x)) k = if k ∈ l then some x else none := by
  induction l with
  | nil => rfl
  | cons a r ih =>
    unfold AList.get? at ih ⊢
    rw [List.map_cons, List.find?_cons]
    by_cases e : a = k
    · rw [e, decide_eq_true rfl, if_pos List.mem_cons_self]; rfl
    · have hk : (k ∈ a :: r) = (k ∈ r) := by
        rw [List.mem_cons, eq_iff_iff]; exact or_iff_right fun h => e h.symm
      simp only [decide_eq_false e, hk]
      exact ih

theorem nm_st0 (g : Graph) (top k : Str) : AList.get? (st0 g top).nm k =
    if k = top then some NM.own else if k ∈ g.variables then some NM.unset else none := by
  unfold st0
  rw [get?_set, get?_map_const]

theorem own_st0 {g : Graph} {top k : Str} : Own (st0 g top) k ↔ k = top := by
  rw [Own, nm_st0]
  split
  · rename_i e; exact ⟨fun _ => e, fun _ => rfl⟩
  · rename_i e
    refine ⟨fun h => ?_, fun h => absurd h e⟩
    split at h <;> cases h

theorem avail_st0 {g : Graph} {top k : Str} (h : Avail (st0 g top) k) : k = top := by
  rw [Avail, nm_st0] at h
  split at h
  · assumption
  · split at h <;> rcases h with h | ⟨_, h⟩ <;> cases h

theorem hasKey_st0 {g : Graph} {top k : Str} : HasKey (st0 g top) k ↔ (k = top ∨ k ∈ g.variables) := by
  rw [HasKey, nm_st0]
  split
  · rename_i e; exact ⟨fun _ => Or.inl e, fun _ => rfl⟩
  · rename_i e
    split
    · rename_i hv; exact ⟨fun _ => Or.inr hv, fun _ => rfl⟩
    · rename_i hv; exact ⟨fun h => (by cases h), fun h => absurd h (not_or.2 ⟨e, hv⟩)⟩

theorem good_st0 (g : Graph) (top : Str) : Good (st0 g top) ∧ Own (st0 g top) top := by
  refine ⟨⟨fun k => ?_, fun v u h => ?_, fun p hp e he => ?_⟩, own_st0.2 rfl⟩
  · rw [own_st0]; exact List.mem_singleton
  · have := avail_st0 (Or.inr ⟨u, h⟩)
    rw [nm_st0, if_pos this] at h; cases h
  · cases List.mem_singleton.1 hp; cases he

theorem good_round {m : Model} {a b} (h : Round m a b) (hg : Good a.2.2) : Good b.2.2 ∧ Ext a.2.2 b.2.2 := by
  cases h with
  | @skip data skipped st sk v st1 tr push epis rest hfn ho => exact (found hfn).2.2 hg
  | @prog data skipped st sk v st1 tr push epis rest hfn ho =>
    obtain ⟨_, o1, hgf⟩ := found hfn
    obtain ⟨g2, e2⟩ := good_cn m (rest.length + 2) v (.t tr push epis :: rest) st1 false (hgf hg).1 o1
    exact ⟨g2, (hgf hg).2.trans e2⟩

theorem storeOf_ok {m : Model} {g : Graph} {top : Str} {st : St} (h : storeOf m g top = .ok st) :
    ∃ data, preconfigure m g.epidata g.triples [] = .ok data ∧
      configureLoop m ((data.length + 1) * (data.length + 1) + 1)
        (stripPops (configureNode m (data.length + 1) top data (st0 g top) false).1) []
        (configureNode m (data.length + 1) top data (st0 g top) false).2.1 = .ok st := by
  unfold storeOf at h
  cases hp : preconfigure m g.epidata g.triples [] with
  | error e1 => rw [hp] at h; cases h
  | ok data => rw [hp] at h; exact ⟨data, rfl, h⟩

/-- an invariant of `Round` that holds after the first `configureNode top` holds of the final store -/
theorem storeOf_inv {m : Model} {g : Graph} {top : Str} {st : St} {I : List Datum × List Datum × St → Prop}
    (hR : ∀ {a b}, Round m a b → I a → I b)
    (h0 : ∀ data, preconfigure m g.epidata g.triples [] = .ok data →
      I (stripPops (configureNode m (data.length + 1) top data (st0 g top) false).1, [],
        (configureNode m (data.length + 1) top data (st0 g top) false).2.1))
    (h : storeOf m g top = .ok st) : I ([], [], st) := by
  obtain ⟨data, hp, hl⟩ := storeOf_ok h
  exact loop_inv hR _ _ _ _ _ (h0 data hp) hl

/-- the store `configure` builds is a forest; its first cell is the top's -/
theorem storeOf_good_ext {m : Model} {g : Graph} {top : Str} {st : St} (h : storeOf m g top = .ok st) :
    Good st ∧ Ext (st0 g top) st :=
  storeOf_inv (I := fun a => Good a.2.2 ∧ Ext (st0 g top) a.2.2)
    (fun hr hI => ⟨(good_round hr hI.1).1, hI.2.trans (good_round hr hI.1).2⟩)
    (fun data _ => good_cn m _ top data _ false (good_st0 g top).1 (good_st0 g top).2) h

theorem storeOf_good {m : Model} {g : Graph} {top : Str} {st : St} (h : storeOf m g top = .ok st) : Good st :=
  (storeOf_good_ext h).1
theorem preconfEpis_err (m : Model) (orig : Triple) : ∀ es tr push epis pops pushed e,
    preconfEpis m orig es tr push epis pops pushed = .error e → ∃ w, e = .unmodelled w := by
  intro es tr push epis pops pushed
  fun_induction preconfEpis m orig es tr push epis pops pushed <;> intro e h
  all_goals first
    | (simp at h; done)
    | (rename_i ih; exact ih e h)
    | (simp only [Except.error.injEq] at h; exact ⟨_, h.symm⟩)

theorem preconfigure_cons_ok {m : Model} {ep : Epidata} {t : Triple} {ts : List Triple} {pushed : List Str}
    {data : List Datum} (h : preconfigure m ep (t :: ts) pushed = .ok data) :
    ∃ tr' push epis pops pushed' more,
      preconfEpis m t ((AList.get? ep t).getD []) t false [] 0 pushed = .ok (tr', push, epis, pops, pushed') ∧
      preconfigure m ep ts pushed' = .ok more ∧
      data = Datum.t tr' push epis :: (List.replicate pops Datum.pop ++ more) := by
  rw [preconfigure] at h
  cases h1 : preconfEpis m t ((AList.get? ep t).getD []) t false [] 0 pushed with
  | error e1 => rw [h1] at h; cases h
  | ok r =>
    obtain ⟨tr', push, epis, pops, pushed'⟩ := r
    rw [h1] at h
    simp only [bind, Except.bind] at h
    cases h2 : preconfigure m ep ts pushed' with
    | error e2 => rw [h2] at h; cases h
    | ok more => rw [h2] at h; cases h; exact ⟨_, _, _, _, _, _, rfl, h2, rfl⟩

theorem preconfigure_err (m : Model) (ep : Epidata) : ∀ ts pushed e,
    preconfigure m ep ts pushed = .error e → ∃ w, e = .unmodelled w := by
  intro ts
  induction ts with
  | nil => intro pushed e h; cases h
  | cons t ts ih =>
    intro pushed e h
    rw [preconfigure] at h
    cases h1 : preconfEpis m t ((AList.get? ep t).getD []) t false [] 0 pushed with
    | error e1 =>
      rw [h1] at h
      cases h
      exact preconfEpis_err _ _ _ _ _ _ _ _ _ h1
    | ok r =>
      rw [h1] at h
      simp only [bind, Except.bind] at h
      cases h2 : preconfigure m ep ts r.2.2.2.2 with
      | error e2 => rw [h2] at h; cases h; exact ih _ _ h2
      | ok more => rw [h2] at h; cases h

theorem psi_start (data : List Datum) (n : Nat) (h : data.length ≤ n) :
    psi (stripPops data) [] < (n + 1) * (n + 1) + 1 := by
  have h2 : (stripPops data).length ≤ n := Nat.le_trans (stripPops_length_le data) h
  have h3 := Nat.mul_le_mul h2 h2
  rw [psi, List.length_nil, Nat.add_zero, Nat.succ_mul_succ]
  omega

theorem storeOf_err {m : Model} {g : Graph} {top : Str} {e : PyErr} (h : storeOf m g top = .error e) :
    e = .layout 1 ∨ e = .layout 3 ∨ ∃ w, e = .unmodelled w := by
  unfold storeOf at h
  cases hp : preconfigure m g.epidata g.triples [] with
  | error e1 =>
    rw [hp] at h
    simp only [Except.bind, Except.error.injEq] at h
    subst h
    exact Or.inr (Or.inr (preconfigure_err _ _ _ _ _ hp))
  | ok data =>
    rw [hp] at h
    simp only [Except.bind] at h
    rcases loop_err m _ _ _ _ _ (psi_start _ data.length (cn_length_le _ _ _ _ _ _)) h with h | h
    · exact Or.inl h
    · exact Or.inr (Or.inl h)

/-- complete case analysis of `configure` (with the `buildNode` fuel discharged) -/
theorem configure_cases (m : Model) (g : Graph) (top : Option Str) :
    (g.triples.isEmpty = true ∧ configure m g top = .ok { node := .mk g.getTop .nil, metadata := g.metadata }) ∨
    (g.triples.isEmpty = false ∧ (∀ t, topOf g top = some t → t ∉ g.variables) ∧
        configure m g top = .error (.layout 0)) ∨
    (∃ t, g.triples.isEmpty = false ∧ topOf g top = some t ∧ t ∈ g.variables ∧
      ((∃ e, storeOf m g t = .error e ∧ configure m g top = .error e) ∨
       (∃ st node, storeOf m g t = .ok st ∧ Good st ∧ buildNode st.cells (2 * st.cells.length + 2) t = .ok node ∧
          configure m g top = .ok { node := node, metadata := g.metadata }))) := by
  rw [configure_eq]
  cases hE : g.triples.isEmpty with
  | true => left; simp
  | false =>
    right
    simp only [Bool.false_eq_true, if_false]
    cases hT : topOf g top with
    | none => left; simp
    | some t =>
      simp only []
      by_cases hv : t ∈ g.variables
      · right
        refine ⟨t, trivial, rfl, hv, ?_⟩
        simp only [hv, not_true_eq_false, if_false]
        cases hS : storeOf m g t with
        | error e => left; exact ⟨e, rfl, rfl⟩
        | ok st =>
          right
          have hg := storeOf_good hS
          obtain ⟨node, hn⟩ := buildNode_ok hg.forest t
          exact ⟨st, node, rfl, hg, hn, by simp [Except.bind, hn]⟩
      · left
        refine ⟨trivial, ?_, by simp [hv]⟩
        intro t' ht'; simp only [Option.some.injEq] at ht'; subst ht'; exact hv

/-- `configure` never raises anything but a layout error (or leaves the modelled domain) -/
theorem configure_no_other (m : Model) (g : Graph) (top : Option Str) :
    (∃ T, configure m g top = .ok T) ∨ (∃ k, configure m g top = .error (.layout k)) ∨
    (∃ w, configure m g top = .error (.unmodelled w)) := by
  rcases configure_cases m g top with ⟨_, h⟩ | ⟨_, _, h⟩ | ⟨t, _, _, _, ⟨e, hs, h⟩ | ⟨st, node, _, _, _, h⟩⟩
  · exact Or.inl ⟨_, h⟩
  · exact Or.inr (Or.inl ⟨_, h⟩)
  · rcases storeOf_err hs with rfl | rfl | ⟨w, rfl⟩
    · exact Or.inr (Or.inl ⟨_, h⟩)
    · exact Or.inr (Or.inl ⟨_, h⟩)
    · exact Or.inr (Or.inr ⟨_, h⟩)
  · exact Or.inl ⟨_, h⟩

theorem configure_ne_other (m : Model) (g : Graph) (top : Option Str) (s : String) :
    configure m g top ≠ .error (.other s) := by
  rcases configure_no_other m g top with ⟨T, h⟩ | ⟨k, h⟩ | ⟨w, h⟩ <;> rw [h] <;> simp

/-- which error: only kinds 0, 1, 3; kind 0 exactly for a missing / non-variable top -/
theorem configure_error_kind (m : Model) (g : Graph) (top : Option Str) (e : PyErr)
    (h : configure m g top = .error e) :
    e = .layout 0 ∨ e = .layout 1 ∨ e = .layout 3 ∨ ∃ w, e = .unmodelled w := by
  rcases configure_cases m g top with ⟨_, h'⟩ | ⟨_, _, h'⟩ | ⟨t, _, _, _, ⟨e', hs, h'⟩ | ⟨st, node, _, _, _, h'⟩⟩
  · rw [h'] at h; simp at h
  · rw [h'] at h; simp only [Except.error.injEq] at h; exact Or.inl h.symm
  · rw [h'] at h; simp only [Except.error.injEq] at h; subst h
    exact Or.inr (storeOf_err hs)
  · rw [h'] at h; simp at h

theorem configure_layout0_iff (m : Model) (g : Graph) (top : Option Str) :
    configure m g top = .error (.layout 0) ↔
      (g.triples.isEmpty = false ∧ ∀ t, topOf g top = some t → t ∉ g.variables) := by
  rcases configure_cases m g top with ⟨he, h'⟩ | ⟨he, ht, h'⟩ | ⟨t, he, ht, hv, ⟨e', hs, h'⟩ | ⟨st, node, _, _, _, h'⟩⟩
  · rw [h']; simp [he]
  · rw [h']; simp [he]; exact ht
  · rw [h']
    constructor
    · intro h; simp only [Except.error.injEq] at h; subst h
      rcases storeOf_err hs with h | h | ⟨w, h⟩ <;> simp at h
    · intro ⟨_, h⟩; exact absurd hv (h t ht)
  · rw [h']
    constructor
    · intro h; simp at h
    · intro ⟨_, h⟩; exact absurd hv (h t ht)

theorem Round.sub {m : Model} {a b} (h : Round m a b) : ∀ d ∈ b.1 ++ b.2.1, d ∈ a.1 ++ a.2.1 := by
  cases h with
  | @skip data skipped st sk v st1 tr push epis rest hfn ho =>
    obtain ⟨rfl, _⟩ := found hfn
    intro d hd
    simp only [List.mem_append, List.mem_cons, List.not_mem_nil, or_false] at hd ⊢
    rcases hd with hd | (hd | hd) | hd
    · exact Or.inl (Or.inr (Or.inr ((stripPops_suffix rest).subset hd)))
    · exact Or.inl (Or.inl hd)
    · exact Or.inr hd
    · exact Or.inl (Or.inr (Or.inl hd))
  | @prog data skipped st sk v st1 tr push epis rest hfn ho =>
    obtain ⟨rfl, _⟩ := found hfn
    intro d hd
    rw [List.append_nil] at hd
    have := (stripPops_suffix _).subset hd
    simp only [List.mem_append] at this ⊢
    rcases this with h | h | h
    · exact Or.inl (Or.inr ((cn_suffix ..).subset h))
    · exact Or.inl (Or.inl h)
    · exact Or.inr h

theorem mem_pending {l : List Datum} {tr : Triple} : tr ∈ pending l ↔ ∃ p e, Datum.t tr p e ∈ l := by
  induction l with
  | nil => exact ⟨fun h => (nomatch h), fun ⟨_, _, h⟩ => (nomatch h)⟩
  | cons d r ih =>
    cases d with
    | pop =>
      rw [pending, ih]
      exact ⟨fun ⟨p, e, h⟩ => ⟨p, e, List.mem_cons_of_mem _ h⟩,
        fun ⟨p, e, h⟩ => ⟨p, e, (List.mem_cons.1 h).resolve_left (fun h => nomatch h)⟩⟩
    | t x p e =>
      rw [pending, List.mem_cons, ih]
      constructor
      · rintro (rfl | ⟨p', e', h⟩)
        · exact ⟨p, e, List.mem_cons_self⟩
        · exact ⟨p', e', List.mem_cons_of_mem _ h⟩
      · rintro ⟨p', e', h⟩
        rcases List.mem_cons.1 h with h | h
        · cases h; exact Or.inl rfl
        · exact Or.inr ⟨p', e', h⟩

theorem Round.pending_sub {m : Model} {a b} (h : Round m a b) :
    ∀ x ∈ pending b.1 ++ pending b.2.1, x ∈ pending a.1 ++ pending a.2.1 := by
  intro x hx
  rw [← pending_append, mem_pending] at hx ⊢
  obtain ⟨p, e, hm⟩ := hx
  exact ⟨p, e, h.sub _ hm⟩

section State
variable {m : Model} {P : St → Prop} {D : Datum → Prop}

/-- one round keeps a store property that `getOrEstablish` and `configureNode` keep; `D` is what
    `configureNode` needs to know about the datums -/
theorem round_state (hE : ∀ st v, Good st → P st → P (getOrEstablish st v).2)
    (hN : ∀ f var data st s, Good st → Own st var → (∀ d ∈ data, D d) → P st →
      P (configureNode m f var data st s).2.1)
    {a b} (h : Round m a b) (hg : Good a.2.2) (hd : ∀ d ∈ a.1 ++ a.2.1, D d) (hp : P a.2.2) : P b.2.2 := by
  cases h with
  | @skip data skipped st sk v st1 tr push epis rest hfn ho => exact found_inv hE hfn hg hp
  | @prog data skipped st sk v st1 tr push epis rest hfn ho =>
    obtain ⟨rfl, o1, hgf⟩ := found hfn
    exact hN _ v _ st1 false (hgf hg).1 o1
      (fun d hd' => hd d (List.mem_append_left _ (List.mem_append_right _ hd'))) (found_inv hE hfn hg hp)

theorem storeOf_state {g : Graph} {top : Str} {st : St}
    (hE : ∀ st v, Good st → P st → P (getOrEstablish st v).2)
    (hN : ∀ f var data st s, Good st → Own st var → (∀ d ∈ data, D d) → P st →
      P (configureNode m f var data st s).2.1)
    (hD : ∀ data, preconfigure m g.epidata g.triples [] = .ok data → ∀ d ∈ data, D d)
    (h0 : P (st0 g top)) (h : storeOf m g top = .ok st) : P st := by
  refine (storeOf_inv (I := fun a => Good a.2.2 ∧ (∀ d ∈ a.1 ++ a.2.1, D d) ∧ P a.2.2)
    (fun hr hI => ⟨(good_round hr hI.1).1, fun d hd => hI.2.1 d (hr.sub d hd),
      round_state hE hN hr hI.1 hI.2.1 hI.2.2⟩) (fun data hp => ?_) h).2.2
  obtain ⟨g0, o0⟩ := good_st0 g top
  refine ⟨(good_cn m _ top data _ false g0 o0).1, fun d hd => ?_, hN _ top data _ false g0 o0 (hD data hp) h0⟩
  rw [List.append_nil] at hd
  exact hD data hp d ((cn_suffix ..).subset ((stripPops_suffix _).subset hd))

end State

end Cfg
end Penman
