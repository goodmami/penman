/-
  Penman.Proofs.ConfigureShape — shape of the cell store: keys are distinct, every cell except
  the roots has exactly one incoming node edge (`Deg`), and a variable noted as `site u` has
  an establishable edge in `u`'s cell (`J1`); both hold of the final store. Traversing a store
  of that shape from the top visits every cell exactly once.
-/
import Penman.Proofs.ConfigureSound
namespace Penman
namespace Cfg

def nodeTgts (es : List Edge) : List Str :=
  es.filterMap fun e => match e.tgt with | .node w => some w | .atom _ => none

def allNodeTgts (c : Cells) : List Str := flat (fun _ es => nodeTgts es) c

theorem nodeTgts_append (a b : List Edge) : nodeTgts (a ++ b) = nodeTgts a ++ nodeTgts b := by
  simp [nodeTgts]

theorem nodeTgts_atom {e : Edge} (h : ∀ w, e.tgt ≠ .node w) : nodeTgts [e] = [] := by
  cases ht : e.tgt with
  | atom a => simp [nodeTgts, ht]
  | node w => exact absurd ht (h w)

theorem nodeTgts_establishIn (v : Str) : ∀ es : List Edge,
    (∃ e ∈ es, e.tgt = .atom (.str v) ∧ e.role ≠ ['/']) →
    (nodeTgts (establishIn v es)).Perm (v :: nodeTgts es) := by
  intro es
  induction es with
  | nil => rintro ⟨e, he, _⟩; simp at he
  | cons a r ih =>
    intro h
    simp only [establishIn]
    split
    · rename_i hc
      have e1 : nodeTgts ({ a with tgt := .node v } :: r) = v :: nodeTgts r := by simp [nodeTgts]
      have e2 : nodeTgts (a :: r) = nodeTgts r := by simp [nodeTgts, hc.1]
      rw [e1, e2]
    · rename_i hc
      have hr : ∃ e ∈ r, e.tgt = .atom (.str v) ∧ e.role ≠ ['/'] := by
        obtain ⟨e, he, h1, h2⟩ := h
        simp only [List.mem_cons] at he
        rcases he with rfl | he
        · exact absurd ⟨h1, h2⟩ hc
        · exact ⟨e, he, h1, h2⟩
      have := ih hr
      cases hat : a.tgt with
      | atom x =>
        have e1 : nodeTgts (a :: establishIn v r) = nodeTgts (establishIn v r) := by simp [nodeTgts, hat]
        have e2 : nodeTgts (a :: r) = nodeTgts r := by simp [nodeTgts, hat]
        rw [e1, e2]; exact this
      | node w =>
        have e1 : nodeTgts (a :: establishIn v r) = w :: nodeTgts (establishIn v r) := by simp [nodeTgts, hat]
        have e2 : nodeTgts (a :: r) = w :: nodeTgts r := by simp [nodeTgts, hat]
        rw [e1, e2]
        exact ((List.perm_cons w).2 this).trans (List.Perm.swap _ _ _)

theorem establishIn_keeps {v : Str} : ∀ {es : List Edge} {e : Edge}, e ∈ es → e.tgt ≠ .atom (.str v) →
    e ∈ establishIn v es := by
  intro es
  induction es with
  | nil => intro e h; simp at h
  | cons a r ih =>
    intro e he hne
    simp only [establishIn]
    simp only [List.mem_cons] at he
    split
    · rename_i hc
      rcases he with rfl | he
      · exact absurd hc.1 hne
      · exact List.mem_cons_of_mem _ he
    · rcases he with rfl | he
      · exact List.mem_cons_self
      · exact List.mem_cons_of_mem _ (ih he hne)

/-- `R` lists the cells that (still) have no incoming node edge: the top, and the
    pushed variables whose edge is added after their subtree is complete -/
structure Deg (R : List Str) (st : St) : Prop where
  nodup : (ckeys st.cells).Nodup
  deg : (R ++ allNodeTgts st.cells).Perm (ckeys st.cells)

/-- a variable noted as `site u` has an establishable edge in `u`'s cell -/
def J1 (st : St) : Prop :=
  ∀ v u, AList.get? st.nm v = some (NM.site u) →
    ∃ e ∈ st.cell u, e.tgt = .atom (.str v) ∧ e.role ≠ ['/']

theorem cell_addBack (st : St) (var : Str) (e : Edge) (u : Str) :
    (st.addBack var e).cell u = if u = var then st.cell u ++ [e] else st.cell u := by
  unfold St.addBack St.cell
  rw [get?_set]
  split
  · rename_i h; rw [h]; rfl
  · rfl

theorem cell_addFront (st : St) (var : Str) (e : Edge) (u : Str) :
    (st.addFront var e).cell u = if u = var then e :: st.cell u else st.cell u := by
  unfold St.addFront St.cell
  rw [get?_set]
  split
  · rename_i h; rw [h]; rfl
  · rfl

theorem allNodeTgts_addBack (st : St) (var : Str) (e : Edge) :
    (allNodeTgts (st.addBack var e).cells).Perm (nodeTgts [e] ++ allNodeTgts st.cells) :=
  flat_set_snoc (fun _ es => nodeTgts es) (fun _ => rfl) (fun _ a b => nodeTgts_append a b) st.cells var e

theorem allNodeTgts_addFront (st : St) (var : Str) (e : Edge) :
    (allNodeTgts (st.addFront var e).cells).Perm (nodeTgts [e] ++ allNodeTgts st.cells) :=
  flat_set_cons (fun _ es => nodeTgts es) (fun _ => rfl) (fun _ a b => nodeTgts_append a b) st.cells var e

/-- same keys, and roots plus node targets are the same multiset -/
theorem deg_of_perm {R R' : List Str} {st st' : St} (hk : ckeys st'.cells = ckeys st.cells)
    (hN : (R' ++ allNodeTgts st'.cells).Perm (R ++ allNodeTgts st.cells)) (hs : Deg R st) : Deg R' st' :=
  ⟨hk ▸ hs.nodup, hk ▸ hN.trans hs.deg⟩

theorem deg_addFront_atom {R : List Str} {st : St} {var : Str} {e : Edge} (hg : Good st) (hv : Own st var)
    (he : ∀ w, e.tgt ≠ .node w) (hs : Deg R st) : Deg R (st.addFront var e) := by
  refine deg_of_perm (keys_set_of_mem _ ((hg.own var).2 hv)) (List.Perm.append_left _ ?_) hs
  have := allNodeTgts_addFront st var e
  rwa [nodeTgts_atom he, List.nil_append] at this

/-- closing a pushed node: its edge is added, it leaves the root list -/
theorem deg_addBack_node {R : List Str} {st : St} {var v role : Str} {epis : List Epi} (hg : Good st)
    (hv : Own st var) (hs : Deg (v :: R) st) : Deg R (st.addBack var ⟨role, .node v, epis⟩) := by
  refine deg_of_perm (keys_set_of_mem _ ((hg.own var).2 hv)) ?_ hs
  exact (List.Perm.append_left _ (allNodeTgts_addBack st var ⟨role, .node v, epis⟩)).trans List.perm_middle

/-- a fresh empty cell for `v`: one more key; the roots `R'` and node targets of `c` make up one `v` more -/
theorem deg_fresh {R R' : List Str} {st : St} {c : Cells} {v : Str} {nm : AList Str NM} (hk : v ∉ ckeys st.cells)
    (hc : ckeys c = ckeys st.cells) (hN : (R' ++ allNodeTgts c).Perm (v :: (R ++ allNodeTgts st.cells)))
    (hs : Deg R st) : Deg R' ⟨c.set v [], nm⟩ := by
  have hkeys : ckeys (c.set v []) = ckeys st.cells ++ [v] := by
    rw [keys_set_of_not_mem _ (hc ▸ hk), hc]
  have hN' : (allNodeTgts (c.set v [])).Perm (allNodeTgts c) := flat_set_new _ (fun _ => rfl) (hc ▸ hk)
  refine ⟨?_, ?_⟩
  · rw [hkeys, List.nodup_append]
    exact ⟨hs.nodup, List.pairwise_singleton _ v, fun a ha b hb => by
      cases List.mem_singleton.1 hb; exact fun e => hk (e ▸ ha)⟩
  · rw [hkeys]
    exact ((List.Perm.append_left _ hN').trans hN).trans
      (((List.perm_cons v).2 hs.deg).trans (List.perm_append_comm (l₁ := [v])))

/-- opening a pushed node -/
theorem deg_newCell {R : List Str} {st : St} {v : Str} (hg : Good st) (hv : ¬ Own st v) (hs : Deg R st) :
    Deg (v :: R) (st.newCell v) :=
  deg_fresh (fun h => hv ((hg.own v).1 h)) rfl (List.Perm.refl _) hs

/-- the atom edge `configureNode` adds for a target that is not pushed, with its site note -/
theorem deg_note {R : List Str} {st : St} {var : Str} {t : Atom} {e : Edge} (hg : Good st) (hv : Own st var)
    (he : ∀ w, e.tgt ≠ .node w) (hs : Deg R st) : Deg R ((st.noteSite var t).addBack var e) := by
  refine deg_of_perm (st := st) ?_ (List.Perm.append_left _ ?_) hs
  · show ckeys ((st.noteSite var t).cells.set var _) = _
    rw [cells_noteSite]
    exact keys_set_of_mem _ ((hg.own var).2 hv)
  · have := allNodeTgts_addBack (st.noteSite var t) var e
    rwa [nodeTgts_atom he, List.nil_append, cells_noteSite] at this

/-- `J1` survives when the `nodemap` stays and cells only gain edges -/
theorem j1_of_cells {st st' : St} (hnm : st'.nm = st.nm) (hc : ∀ u x, x ∈ st.cell u → x ∈ st'.cell u)
    (h : J1 st) : J1 st' := by
  intro v u hv
  rw [hnm] at hv
  obtain ⟨x, hx, h12⟩ := h v u hv
  exact ⟨x, hc u x hx, h12⟩

theorem j1_addBack {st : St} {var : Str} {e : Edge} (h : J1 st) : J1 (st.addBack var e) :=
  j1_of_cells (st := st) (st' := st.addBack var e) rfl (fun u x hx => by
    rw [cell_addBack]; split
    · exact List.mem_append_left _ hx
    · exact hx) h

theorem j1_addFront {st : St} {var : Str} {e : Edge} (h : J1 st) : J1 (st.addFront var e) :=
  j1_of_cells (st := st) (st' := st.addFront var e) rfl (fun u x hx => by
    rw [cell_addFront]; split
    · exact List.mem_cons_of_mem _ hx
    · exact hx) h

theorem j1_newCell {st : St} {v : Str} (hg : Good st) (hv : ¬ Own st v) (h : J1 st) : J1 (st.newCell v) := by
  intro w u hw
  unfold St.newCell at hw
  rw [get?_set] at hw
  split at hw
  · cases hw
  · obtain ⟨x, hx, h12⟩ := h w u hw
    have huv : u ≠ v := fun e => hv (e ▸ hg.site w u hw)
    refine ⟨x, ?_, h12⟩
    unfold St.cell St.newCell
    rwa [get?_set_other _ _ _ _ huv]

/-- noting a site together with the atom edge that justifies it -/
theorem j1_note {st : St} {var role : Str} {target : Atom} {epis : List Epi} (hr : role ≠ ['/']) (h : J1 st) :
    J1 ((st.noteSite var target).addBack var ⟨role, .atom target, epis⟩) := by
  have hcell : ∀ u x, x ∈ st.cell u →
      x ∈ ((st.noteSite var target).addBack var ⟨role, .atom target, epis⟩).cell u := by
    intro u x hx
    rw [cell_addBack]
    have : x ∈ (st.noteSite var target).cell u := by unfold St.cell; rwa [cells_noteSite]
    split
    · exact List.mem_append_left _ this
    · exact this
  rcases noteSite_eq st var target with ⟨e, _⟩ | ⟨w, hw, _, e⟩
  · exact j1_of_cells (by rw [e]; rfl) hcell h
  · intro v u hv
    have hnm : ((st.noteSite var target).addBack var ⟨role, .atom target, epis⟩).nm = st.nm.set w (.site var) := by
      rw [e]; rfl
    rw [hnm, get?_set] at hv
    split at hv
    · rename_i evw
      cases hv
      refine ⟨⟨role, .atom target, epis⟩, ?_, by rw [hw, evw], hr⟩
      rw [cell_addBack, if_pos rfl]
      exact List.mem_append_right _ List.mem_cons_self
    · obtain ⟨x, hx, h12⟩ := h v u hv
      exact ⟨x, hcell u x hx, h12⟩

theorem shape_getOrEstablish {R : List Str} {st : St} {v : Str} (hg : Good st) (h : Deg R st ∧ J1 st) :
    Deg R (getOrEstablish st v).2 ∧ J1 (getOrEstablish st v).2 := by
  obtain ⟨hd, hj⟩ := h
  rcases getOrEstablish_cases st v with ⟨_, e⟩ | ⟨u, hs, e⟩ | ⟨_, e⟩ <;> rw [e]
  · exact ⟨hd, hj⟩
  · have hu : Own st u := hg.site v u hs
    have hvn : ¬ Own st v := by rw [Own, hs]; exact fun h => nomatch h
    have hvk : v ∉ ckeys st.cells := fun h => hvn ((hg.own v).1 h)
    have hk1 : ckeys (AList.set st.cells u (establishIn v (st.cell u))) = ckeys st.cells :=
      keys_set_of_mem _ ((hg.own u).2 hu)
    -- node targets: one more, `v`
    have hN1 : (allNodeTgts (AList.set st.cells u (establishIn v (st.cell u)))).Perm (v :: allNodeTgts st.cells) := by
      have h1 := flat_set (fun _ es => nodeTgts es) (fun _ => rfl) st.cells u (establishIn v (st.cell u))
      refine (List.perm_append_right_iff _).1 (h1.trans ?_)
      refine (List.Perm.append_right _ (nodeTgts_establishIn v (st.cell u) (hj v u hs))).trans ?_
      exact (List.perm_cons v).2 List.perm_append_comm
    refine ⟨deg_fresh hvk hk1 ((List.Perm.append_left _ hN1).trans List.perm_middle) hd, ?_⟩
    intro w u' hw
    have hw' : AList.get? (st.nm.set v .own) w = some (NM.site u') := hw
    rw [get?_set] at hw'
    split at hw'
    · cases hw'
    · rename_i hwv
      obtain ⟨x, hx, h1, h2⟩ := hj w u' hw'
      have hu'v : u' ≠ v := fun e => hvn (e ▸ hg.site w _ hw')
      refine ⟨x, ?_, h1, h2⟩
      show x ∈ (AList.get? (AList.set (AList.set st.cells u (establishIn v (st.cell u))) v []) u').getD []
      rw [get?_set_other _ _ _ _ hu'v, get?_set]
      split
      · rename_i e
        rw [e] at hx
        apply establishIn_keeps hx
        rw [h1]
        intro h; cases h; exact hwv rfl
      · exact hx
  · exact ⟨hd, hj⟩

theorem shape_cn (m : Model) : ∀ f var data st s (R : List Str), Good st → Own st var →
    (∀ d ∈ data, ∀ tr p e, d = Datum.t tr p e → RoleOK m tr) → Deg R st ∧ J1 st →
    Deg R (configureNode m f var data st s).2.1 ∧ J1 (configureNode m f var data st s).2.1 := by
  intro f var data st s
  fun_induction configureNode m f var data st s <;> intro R hg hv hr h
  · exact h
  · exact h
  · exact h
  · exact h
  · rename_i ih; exact ih R hg hv (fun d hd => hr d (List.mem_cons_of_mem _ hd)) h
  · rename_i f var tr push epis data st s target push' s' hmiss hor ih
    have he : ∀ w, (⟨['/'], .atom target, epis⟩ : Edge).tgt ≠ .node w := fun _ h => nomatch h
    exact ih R (good_addFront hg hv he).1 ((mono_addFront _ _ _).2.2 _ hv)
      (fun d hd => hr d (List.mem_cons_of_mem _ hd)) ⟨deg_addFront_atom hg hv he h.1, j1_addFront h.2⟩
  · rename_i f var tr push epis data st s role target push' s' hor hncr v hp r ih1 ih2
    have hr' : ∀ d ∈ data, ∀ tr p e, d = Datum.t tr p e → RoleOK m tr := fun d hd => hr d (List.mem_cons_of_mem _ hd)
    obtain ⟨_, hnv⟩ := pushVar_some hp
    obtain ⟨g1, _, o1⟩ := good_newCell hg hnv
    obtain ⟨g2, e2⟩ := good_cn m f v data _ false g1 o1
    have hv2 : Own r.2.1 var := ((mono_newCell _ _).1.trans (cn_mono ..)).2.2 _ hv
    obtain ⟨d2, j2⟩ := ih1 (v :: R) g1 o1 hr' ⟨deg_newCell hg hnv h.1, j1_newCell hg hnv h.2⟩
    exact ih2 R (good_close hg hv hnv g2 e2 hv2 role epis).1 ((mono_addBack _ _ _).2.2 _ hv2)
      (fun d hd => hr' d ((cn_suffix m f v data (st.newCell v) false).subset hd))
      ⟨deg_addBack_node g2 hv2 d2, j1_addBack j2⟩
  · rename_i f var tr push epis data st s role target push' s' hor hncr hp ih
    have hslash := (orient_spec hor (hr _ List.mem_cons_self tr push epis rfl)).1
    have he : ∀ w, (⟨role, .atom target, epis⟩ : Edge).tgt ≠ .node w := fun _ h => nomatch h
    exact ih R (good_note hg hv he).1 (((mono_noteSite _ _ _).trans (mono_addBack _ _ _)).2.2 _ hv)
      (fun d hd => hr d (List.mem_cons_of_mem _ hd)) ⟨deg_note hg hv he h.1, j1_note hslash h.2⟩

/-- the final store: distinct keys, every cell but the top has exactly one incoming node edge -/
theorem storeOf_shape {m : Model} {g : Graph} {top : Str} {st : St} (h : storeOf m g top = .ok st)
    (hr : ∀ t ∈ g.triples, RoleOK2 m t) : Deg [top] st ∧ J1 st ∧ (ckeys st.cells).head? = some top := by
  have hs : Deg [top] st ∧ J1 st :=
    storeOf_state (P := fun s => Deg [top] s ∧ J1 s) (fun _ _ => shape_getOrEstablish)
      (fun f var data st s => shape_cn m f var data st s [top])
      (fun data hp d hd tr p e hde =>
        roleOK_of_Pre (preconfigure_spec m _ _ _ _ hp) hr tr (mem_pending.2 ⟨p, e, hde ▸ hd⟩))
      ⟨⟨List.pairwise_singleton _ top, List.Perm.refl _⟩, fun v u hv => ?_⟩ h
  · obtain ⟨t, ht⟩ := (storeOf_good_ext h).2
    refine ⟨hs.1, hs.2, ?_⟩
    rw [← ht]; rfl
  · have := avail_st0 (Or.inr ⟨u, hv⟩)
    rw [nm_st0, if_pos this] at hv; cases hv

def cellOf (c : Cells) (v : Str) : List Edge := (AList.get? c v).getD []

/-- the nodes hanging directly below `v` -/
def children (c : Cells) (v : Str) : List Str := nodeTgts (cellOf c v)

theorem get?_of_mem_nodup {c : Cells} (hn : (ckeys c).Nodup) {k : Str} {es : List Edge} (h : (k, es) ∈ c) :
    AList.get? c k = some es := by
  induction c with
  | nil => simp at h
  | cons p r ih =>
    obtain ⟨k', x⟩ := p
    simp only [ckeys, AList.keys, List.map_cons, List.nodup_cons] at hn
    simp only [List.mem_cons, Prod.mk.injEq] at h
    rcases h with ⟨rfl, rfl⟩ | h
    · simp [AList.get?]
    · have hne : k' ≠ k := by
        rintro rfl; exact hn.1 (List.mem_map.2 ⟨(k', es), h, rfl⟩)
      have := ih hn.2 h
      simp only [AList.get?, List.find?, hne, decide_false] at this ⊢
      exact this

theorem flatMap_congr' {α β : Type} {f g : α → List β} : ∀ {l : List α}, (∀ x ∈ l, f x = g x) →
    l.flatMap f = l.flatMap g := by
  intro l
  induction l with
  | nil => intro _; rfl
  | cons a r ih =>
    intro h
    simp only [List.flatMap_cons]
    rw [h a List.mem_cons_self, ih (fun x hx => h x (List.mem_cons_of_mem _ hx))]

theorem flat_eq_keys {β : Type} (F : Str → List Edge → List β) {c : Cells} (hn : (ckeys c).Nodup) :
    flat F c = (ckeys c).flatMap fun k => F k (cellOf c k) := by
  have : ∀ p ∈ c, F p.1 p.2 = F p.1 (cellOf c p.1) := by
    intro p hp
    rw [cellOf, get?_of_mem_nodup hn (k := p.1) (es := p.2) hp]; rfl
  simp only [flat, ckeys, AList.keys, List.flatMap_map]
  exact flatMap_congr' this

/-- unfolding `tout` once at every element of `l` -/
theorem flatMap_step {ι α : Type} {ch : ι → List ι} {own tout : ι → List α} {l : List ι}
    (hstep : ∀ v ∈ l, (tout v).Perm (own v ++ (ch v).flatMap tout)) :
    (l.flatMap tout).Perm (l.flatMap own ++ (l.flatMap ch).flatMap tout) := by
  induction l with
  | nil => exact .refl _
  | cons v l ih =>
    have h := (hstep v List.mem_cons_self).append (ih fun w hw => hstep w (List.mem_cons_of_mem _ hw))
    simp only [List.flatMap_cons, List.flatMap_append, List.append_assoc] at h ⊢
    exact h.trans (List.Perm.append_left _ (List.perm_append_comm_assoc _ _ _))

section Traverse
variable {α : Type} (c : Cells) (own tout : Str → List α)

/-- exactly-once traversal: if `tout v` collects `own v` and then `tout` of each child, then
    `tout top` collects `own` of every cell exactly once -/
theorem traverse (top : Str) (rest : List Str) (hkeys : ckeys c = top :: rest) (hn : (ckeys c).Nodup)
    (hdeg : ([top] ++ allNodeTgts c).Perm (ckeys c))
    (hstep : ∀ v ∈ ckeys c, (tout v).Perm (own v ++ (children c v).flatMap tout)) :
    (tout top).Perm ((ckeys c).flatMap own) := by
  have hch : ((ckeys c).flatMap (children c)).Perm rest := by
    have h : allNodeTgts c = (ckeys c).flatMap (children c) := flat_eq_keys _ hn
    rw [h, hkeys] at hdeg
    rw [hkeys]
    exact hdeg.cons_inv
  -- summed over all cells, `tout` is `own` plus `tout` of all children; the children are all cells
  -- but the top, and `tout` of those cancels
  have h := (flatMap_step hstep).trans (List.Perm.append_left _ (hch.flatMap_right tout))
  rw [hkeys, List.flatMap_cons] at h
  rw [hkeys]
  exact (List.perm_append_right_iff _).1 h

end Traverse

end Cfg
end Penman
