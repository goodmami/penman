/-
  Penman.Proofs.ConfigureSound — content preservation: the triples denoted by the cell
  store are, up to order, the processed data, each kept, inverted once, or (null instance)
  dropped; along the loop and for `preconfigure`; soundness of the store `configure` builds.
-/
import Penman.Proofs.ConfigureRun
namespace Penman
namespace Cfg

theorem Corr.append {m : Model} {a b c d : List Triple} (h1 : Corr m a b) (h2 : Corr m c d) :
    Corr m (a ++ c) (b ++ d) := by
  induction h1 with
  | nil => simpa using h2
  | cons hs _ ih => rw [List.cons_append, List.append_assoc]; exact Corr.cons hs ih

theorem Corr.perm {m : Model} {l1 l1' : List Triple} (hp : l1.Perm l1') :
    ∀ {l}, Corr m l1 l → ∃ l', Corr m l1' l' ∧ l.Perm l' := by
  induction hp with
  | nil => intro l h; exact ⟨l, h, List.Perm.refl _⟩
  | cons x _ ih =>
    intro l h
    cases h with
    | cons hs hc =>
      obtain ⟨l', h1, h2⟩ := ih hc
      exact ⟨_, Corr.cons hs h1, List.Perm.append_left _ h2⟩
  | swap x y l0 =>
    intro l h
    cases h with
    | cons hs hc =>
      cases hc with
      | cons hs' hc' =>
        refine ⟨_, Corr.cons hs' (Corr.cons hs hc'), ?_⟩
        rw [← List.append_assoc, ← List.append_assoc]
        exact List.Perm.append_right _ List.perm_append_comm
  | trans _ _ ih1 ih2 =>
    intro l h
    obtain ⟨l', h1, h2⟩ := ih1 h
    obtain ⟨l'', h3, h4⟩ := ih2 h1
    exact ⟨l'', h3, h2.trans h4⟩

theorem Sim.nil (m : Model) : Sim m [] [] := ⟨[], Corr.nil, List.Perm.refl _⟩

theorem Sim.perm_right {m : Model} {X Y Y' : List Triple} (h : Sim m X Y) (hp : Y.Perm Y') : Sim m X Y' := by
  obtain ⟨l, h1, h2⟩ := h; exact ⟨l, h1, h2.trans hp⟩

theorem Sim.perm_left {m : Model} {X X' Y : List Triple} (h : Sim m X Y) (hp : X.Perm X') : Sim m X' Y := by
  obtain ⟨l, h1, h2⟩ := h
  obtain ⟨l', h3, h4⟩ := Corr.perm hp h1
  exact ⟨l', h3, h4.symm.trans h2⟩

theorem Sim.snoc {m : Model} {X Y : List Triple} {a : Triple} {ob : Option Triple}
    (h : Sim m X Y) (hs : Step m a ob) : Sim m (X ++ [a]) (ob.toList ++ Y) := by
  obtain ⟨l, h1, h2⟩ := h
  refine ⟨l ++ (ob.toList ++ []), Corr.append h1 (Corr.cons hs Corr.nil), ?_⟩
  simp only [List.append_nil]
  exact List.perm_append_comm.trans (List.Perm.append_left _ h2)

section Flat
variable {β : Type}

def flat (F : Str → List Edge → List β) (c : Cells) : List β := c.flatMap fun p => F p.1 p.2

theorem flat_cons (F : Str → List Edge → List β) (k : Str) (es : List Edge) (r : Cells) :
    flat F ((k, es) :: r) = F k es ++ flat F r := List.flatMap_cons

theorem flat_set (F : Str → List Edge → List β) (hF : ∀ v, F v [] = []) (c : Cells) (v : Str) (es : List Edge) :
    (flat F (AList.set c v es) ++ F v ((AList.get? c v).getD [])).Perm (F v es ++ flat F c) := by
  induction c with
  | nil => simp [AList.set, AList.get?, flat, hF]
  | cons p r ih =>
    obtain ⟨k, x⟩ := p
    by_cases h : k = v
    · subst h
      simp only [AList.set, if_true, flat_cons, AList.get?, List.find?_cons_of_pos, decide_true, Option.map_some,
        Option.getD_some]
      rw [List.append_assoc]
      exact List.Perm.append_left _ List.perm_append_comm
    · have hg : AList.get? ((k, x) :: r) v = AList.get? r v := by simp [AList.get?, List.find?, h]
      rw [hg]
      simp only [AList.set, h, if_false, flat_cons, List.append_assoc]
      refine (List.Perm.append_left _ ih).trans ?_
      rw [← List.append_assoc, ← List.append_assoc]
      exact List.Perm.append_right _ List.perm_append_comm

theorem flat_set_same (F : Str → List Edge → List β) (hF : ∀ v, F v [] = []) (c : Cells) (v : Str) (es : List Edge)
    (h : F v es = F v ((AList.get? c v).getD [])) : (flat F (AList.set c v es)).Perm (flat F c) := by
  have := flat_set F hF c v es
  rw [h] at this
  exact (List.perm_append_right_iff _).1 (this.trans List.perm_append_comm)

theorem flat_set_snoc (F : Str → List Edge → List β) (hF : ∀ v, F v [] = [])
    (hadd : ∀ v a b, F v (a ++ b) = F v a ++ F v b) (c : Cells) (v : Str) (e : Edge) :
    (flat F (AList.set c v ((AList.get? c v).getD [] ++ [e]))).Perm (F v [e] ++ flat F c) := by
  have := flat_set F hF c v ((AList.get? c v).getD [] ++ [e])
  rw [hadd] at this
  have h2 : (F v ((AList.get? c v).getD []) ++ F v [e] ++ flat F c).Perm
      ((F v [e] ++ flat F c) ++ F v ((AList.get? c v).getD [])) := by
    rw [List.append_assoc]; exact List.perm_append_comm
  exact (List.perm_append_right_iff _).1 (this.trans h2)

theorem flat_set_cons (F : Str → List Edge → List β) (hF : ∀ v, F v [] = [])
    (hadd : ∀ v a b, F v (a ++ b) = F v a ++ F v b) (c : Cells) (v : Str) (e : Edge) :
    (flat F (AList.set c v (e :: (AList.get? c v).getD []))).Perm (F v [e] ++ flat F c) := by
  have := flat_set F hF c v ([e] ++ (AList.get? c v).getD [])
  rw [hadd] at this
  have h2 : (F v [e] ++ F v ((AList.get? c v).getD []) ++ flat F c).Perm
      ((F v [e] ++ flat F c) ++ F v ((AList.get? c v).getD [])) := by
    rw [List.append_assoc, List.append_assoc]
    exact List.Perm.append_left _ List.perm_append_comm
  exact (List.perm_append_right_iff _).1 (this.trans h2)

theorem get?_none_of_not_mem {c : Cells} {v : Str} (h : v ∉ ckeys c) : AList.get? c v = none := by
  cases hg : AList.get? c v with
  | none => rfl
  | some x => exact absurd (get?_isSome_iff.1 (by rw [hg]; rfl)) h

/-- an empty cell under a new key adds nothing -/
theorem flat_set_new (F : Str → List Edge → List β) (hF : ∀ v, F v [] = []) {c : Cells} {v : Str}
    (h : v ∉ ckeys c) : (flat F (AList.set c v [])).Perm (flat F c) :=
  flat_set_same F hF c v [] (by rw [get?_none_of_not_mem h]; rfl)

/-- what `getOrEstablish` does to a sum over cells, when the sum of `v`'s site cell is known -/
theorem flat_getOrEstablish (F : Str → List Edge → List β) (hF : ∀ v, F v [] = []) {st : St} {v : Str}
    (hg : Good st) (L : List β)
    (hu : ∀ u, AList.get? st.nm v = some (NM.site u) →
      (F u (establishIn v (st.cell u)) ++ flat F st.cells).Perm (L ++ flat F st.cells ++ F u (st.cell u))) :
    (flat F (getOrEstablish st v).2.cells).Perm (flat F st.cells) ∨
    (∃ u, AList.get? st.nm v = some (NM.site u)) ∧
      (flat F (getOrEstablish st v).2.cells).Perm (L ++ flat F st.cells) := by
  rcases getOrEstablish_cases st v with ⟨_, e⟩ | ⟨u, hs, e⟩ | ⟨_, e⟩ <;> rw [e]
  · exact Or.inl (List.Perm.refl _)
  · right
    have hvn : ¬ Own st v := by rw [Own, hs]; exact fun h => nomatch h
    have hvk : v ∉ ckeys (AList.set st.cells u (establishIn v (st.cell u))) := by
      rw [keys_set_of_mem _ ((hg.own u).2 (hg.site v u hs))]
      exact fun h => hvn ((hg.own v).1 h)
    refine ⟨⟨u, hs⟩, (flat_set_new F hF hvk).trans ?_⟩
    exact (List.perm_append_right_iff _).1 ((flat_set F hF st.cells u _).trans (hu u hs))
  · exact Or.inl (List.Perm.refl _)

end Flat

theorem placed_addFront (st : St) (v : Str) (e : Edge) :
    (placed (st.addFront v e).cells).Perm (denote v e :: placed st.cells) :=
  flat_set_cons (fun v es => es.map (denote v)) (fun _ => rfl) (fun _ _ _ => List.map_append) st.cells v e

theorem placed_addBack (st : St) (v : Str) (e : Edge) :
    (placed (st.addBack v e).cells).Perm (denote v e :: placed st.cells) :=
  flat_set_snoc (fun v es => es.map (denote v)) (fun _ => rfl) (fun _ _ _ => List.map_append) st.cells v e

theorem establishIn_denote (u v : Str) : ∀ es : List Edge,
    (establishIn v es).map (denote u) = es.map (denote u) := by
  intro es
  induction es with
  | nil => rfl
  | cons e r ih =>
    simp only [establishIn]
    split
    · rename_i h
      simp only [List.map_cons, denote, h.1]
    · rw [List.map_cons, List.map_cons, ih]

theorem placed_newCell {st : St} {v : Str} (hg : Good st) (hv : ¬ Own st v) :
    (placed (st.newCell v).cells).Perm (placed st.cells) :=
  flat_set_new (fun v es => es.map (denote v)) (fun _ => rfl) fun h => hv ((hg.own v).1 h)

theorem placed_getOrEstablish {st : St} {v : Str} (hg : Good st) :
    (placed (getOrEstablish st v).2.cells).Perm (placed st.cells) := by
  rcases flat_getOrEstablish (fun v es => es.map (denote v)) (fun _ => rfl) (v := v) hg [] (fun u _ => by
    rw [establishIn_denote, List.nil_append]; exact List.perm_append_comm) with h | ⟨_, h⟩
  · exact h
  · exact h

theorem placed_findNext (data rev : List Datum) (st : St) (hg : Good st) :
    (placed (findNext data rev st).2.2.2.cells).Perm (placed st.cells) :=
  findNext_inv_good (P := fun s => (placed s.cells).Perm (placed st.cells))
    (fun _ _ hg h => (placed_getOrEstablish hg).trans h) data rev st hg (List.Perm.refl _)

theorem invert_role (m : Model) (t : Triple) : (m.invert t).role = m.invertRole t.role := by
  unfold Model.invert; split <;> rfl

theorem invert_tgt (m : Model) (t : Triple) : (m.invert t).tgt = .str t.src := by
  unfold Model.invert; split <;> rfl

theorem invert_src (m : Model) (t : Triple) (b : Str) (h : t.tgt = .str b) : (m.invert t).src = b := by
  unfold Model.invert; rw [h]

/-- `tr`, seen from `var`, reads `var role target`: as it is, or inverted -/
def Oriented (m : Model) (var : Str) (tr : Triple) (role : Str) (target : Atom) : Prop :=
  (tr.src = var ∧ role = tr.role ∧ target = tr.tgt) ∨
  (tr.tgt = .str var ∧ tr.role ≠ CONCEPT_ROLE ∧ role = m.invertRole tr.role ∧ target = .str tr.src)

/-- `orient` hands a triple to the node of `var` as it is or inverted; only the former keeps a `push` -/
theorem orient_cases {m : Model} {var : Str} {tr : Triple} {push s : Bool} {role : Str} {target : Atom}
    {push' s' : Bool} (h : orient m var tr push s = some (role, target, push', s')) :
    Oriented m var tr role target ∧ (push' = true → push = true ∧ target = tr.tgt) := by
  unfold orient at h
  split at h
  · rename_i h1
    cases h
    exact ⟨Or.inl ⟨h1, rfl, rfl⟩, fun hp => ⟨hp, rfl⟩⟩
  · split at h
    · rename_i h2
      cases h
      exact ⟨Or.inr ⟨h2.1, h2.2, invert_role m tr, invert_tgt m tr⟩, fun hp => nomatch hp⟩
    · cases h

/-- roles for which `/` ↔ `:instance` read-back is unambiguous -/
def RoleOK (m : Model) (tr : Triple) : Prop := tr.role ≠ ['/'] ∧ m.invertRole tr.role ≠ ['/']

theorem orient_spec {m : Model} {var : Str} {tr : Triple} {push s : Bool} {role : Str} {target : Atom}
    {push' s' : Bool} (h : orient m var tr push s = some (role, target, push', s')) (hr : RoleOK m tr) :
    role ≠ ['/'] ∧ ((⟨var, role, target⟩ : Triple) = tr ∨
      (∃ v, tr.tgt = .str v ∧ tr.role ≠ CONCEPT_ROLE ∧ (⟨var, role, target⟩ : Triple) = m.invert tr)) := by
  rcases (orient_cases h).1 with ⟨rfl, rfl, rfl⟩ | ⟨h1, h2, rfl, rfl⟩
  · exact ⟨hr.1, Or.inl rfl⟩
  · refine ⟨hr.2, Or.inr ⟨var, h1, h2, ?_⟩⟩
    unfold Model.invert; rw [h1]

theorem step_some {m : Model} {tr o : Triple}
    (h : o = tr ∨ (∃ v, tr.tgt = .str v ∧ tr.role ≠ CONCEPT_ROLE ∧ o = m.invert tr)) (hn : ¬ NullInst o) :
    Step m tr (some o) := by
  rcases h with rfl | ⟨v, h1, h2, rfl⟩
  · exact Step.keep _ hn
  · exact Step.inv _ v h1 h2 hn

theorem step_none {m : Model} {tr o : Triple}
    (h : o = tr ∨ (∃ v, tr.tgt = .str v ∧ tr.role ≠ CONCEPT_ROLE ∧ o = m.invert tr)) (hn : NullInst o) :
    Step m tr none := by
  rcases h with rfl | ⟨v, h1, h2, rfl⟩
  · exact Step.drop _ hn
  · exact Step.dropInv _ v h1 h2 hn

theorem Sim.place {m : Model} {X P P' : List Triple} {a o : Triple} (h : Sim m X P)
    (hs : Step m a (some o)) (hp : P'.Perm (o :: P)) : Sim m (X ++ [a]) P' :=
  (h.snoc hs).perm_right (by simpa using hp.symm)

/-- the consumed prefix grows by a triple that one store operation expresses -/
theorem content_cons {m : Model} {tr : Triple} {push : Bool} {epis : List Epi} {data rest : List Datum}
    {P0 P1 Pf : List Triple} (hstep : ∀ X, Sim m X P0 → Sim m (X ++ [tr]) P1)
    (ih : ∃ c, data = c ++ rest ∧ ∀ X, Sim m X P1 → Sim m (X ++ pending c) Pf) :
    ∃ c, Datum.t tr push epis :: data = c ++ rest ∧ ∀ X, Sim m X P0 → Sim m (X ++ pending c) Pf := by
  obtain ⟨c, hc, hX⟩ := ih
  refine ⟨.t tr push epis :: c, by rw [List.cons_append, ← hc], fun X h => ?_⟩
  have := hX _ (hstep X h)
  rwa [List.append_assoc] at this

/-- content preservation for `configureNode`: the consumed prefix `c` of the data is what the store gains -/
theorem cn_content (m : Model) : ∀ f var data st s, Good st → Own st var →
    (∀ tr ∈ pending data, RoleOK m tr) →
    ∃ c, data = c ++ (configureNode m f var data st s).1 ∧
      ∀ X, Sim m X (placed st.cells) →
        Sim m (X ++ pending c) (placed (configureNode m f var data st s).2.1.cells) := by
  intro f var data st s
  fun_induction configureNode m f var data st s <;> intro hg hv hr
  · exact ⟨[], rfl, fun X h => by rwa [pending, List.append_nil]⟩
  · exact ⟨[], rfl, fun X h => by rwa [pending, List.append_nil]⟩
  · exact ⟨[.pop], rfl, fun X h => by rwa [pending, pending, List.append_nil]⟩
  · exact ⟨[], rfl, fun X h => by rwa [pending, List.append_nil]⟩
  · rename_i tr _ _ _ _ _ target _ _ hmiss hor ih
    have hO := (orient_spec hor (hr tr List.mem_cons_self)).2
    refine content_cons (fun X h => ?_) (ih hg hv fun t ht => hr t (List.mem_cons_of_mem _ ht))
    exact h.snoc (step_none hO ⟨rfl, hmiss⟩)
  · rename_i var tr _ epis _ st _ target _ _ hmiss hor ih
    have hO := (orient_spec hor (hr tr List.mem_cons_self)).2
    obtain ⟨g1, _⟩ := good_addFront (e := ⟨['/'], .atom target, epis⟩) hg hv (fun _ h => nomatch h)
    refine content_cons (fun X h => ?_)
      (ih g1 ((mono_addFront _ _ _).2.2 _ hv) fun t ht => hr t (List.mem_cons_of_mem _ ht))
    have hden : denote var ⟨['/'], .atom target, epis⟩ = ⟨var, CONCEPT_ROLE, target⟩ := by
      rw [denote, if_pos rfl]
    exact h.place (step_some hO fun hn => hmiss hn.2) (hden ▸ placed_addFront st var _)
  · rename_i var tr _ epis data st _ role target _ s' hor hncr v hp r ih1 ih2
    obtain ⟨hslash, hO⟩ := orient_spec hor (hr tr List.mem_cons_self)
    have hr' : ∀ t ∈ pending data, RoleOK m t := fun t ht => hr t (List.mem_cons_of_mem _ ht)
    obtain ⟨htgt, hnv⟩ := pushVar_some hp
    obtain ⟨g1, _, o1⟩ := good_newCell hg hnv
    obtain ⟨g2, e2⟩ := good_cn m _ v data _ false g1 o1
    have hv2 : Own r.2.1 var := ((mono_newCell _ _).1.trans (cn_mono ..)).2.2 _ hv
    obtain ⟨g3, _⟩ := good_close hg hv hnv g2 e2 hv2 role epis
    obtain ⟨c1, hc1, hX1⟩ := ih1 g1 o1 hr'
    obtain ⟨c2, hc2, hX2⟩ := ih2 g3 ((mono_addBack _ _ _).2.2 _ hv2) fun t ht =>
      hr' t (by rw [hc1, pending_append]; exact List.mem_append_right _ ht)
    refine ⟨.t tr _ epis :: (c1 ++ c2), by rw [List.cons_append, List.append_assoc, ← hc2, ← hc1], fun X h => ?_⟩
    have hden : denote var ⟨role, .node v, epis⟩ = ⟨var, role, target⟩ := by
      rw [denote, if_neg hslash, htgt]
    -- first the child (its cell is new and empty), then the edge to it
    have h1 := hX1 X (h.perm_right (placed_newCell hg hnv).symm)
    have h2 := hX2 _ (h1.place (step_some hO fun hn => hncr hn.1) (hden ▸ placed_addBack _ var _))
    refine h2.perm_left ?_
    rw [pending, pending_append, List.append_assoc, List.append_assoc]
    exact List.Perm.append_left _ List.perm_middle
  · rename_i var tr _ epis _ st _ role target _ _ hor hncr _ ih
    obtain ⟨hslash, hO⟩ := orient_spec hor (hr tr List.mem_cons_self)
    obtain ⟨g1, _⟩ := good_note (t := target) (e := ⟨role, .atom target, epis⟩) hg hv (fun _ h => nomatch h)
    refine content_cons (fun X h => ?_)
      (ih g1 (((mono_noteSite _ _ _).trans (mono_addBack _ _ _)).2.2 _ hv) fun t ht =>
        hr t (List.mem_cons_of_mem _ ht))
    have hden : denote var ⟨role, .atom target, epis⟩ = ⟨var, role, target⟩ := by
      rw [denote, if_neg hslash]
    have h0 : Sim m X (placed (st.noteSite var target).cells) := by rwa [cells_noteSite]
    exact h0.place (step_some hO fun hn => hncr hn.1) (hden ▸ placed_addBack _ var _)

theorem round_content {m : Model} {a b} (h : Round m a b) (hg : Good a.2.2)
    (hr : ∀ tr ∈ pending a.1 ++ pending a.2.1, RoleOK m tr) :
    ∃ c : List Triple, (pending a.1 ++ pending a.2.1).Perm (c ++ (pending b.1 ++ pending b.2.1)) ∧
      ∀ X, Sim m X (placed a.2.2.cells) → Sim m (X ++ c) (placed b.2.2.cells) := by
  cases h with
  | @skip data skipped st sk v st1 tr push epis rest hfn ho =>
    obtain ⟨rfl, _⟩ := found hfn
    have hp := placed_findNext (sk ++ .t tr push epis :: rest) [] st hg
    rw [hfn] at hp
    refine ⟨[], ?_, fun X h => ?_⟩
    · simp only [pending_append, pending, pending_stripPops, List.nil_append]
      refine List.perm_iff_count.2 fun x => ?_
      simp only [List.count_append, List.count_cons, List.count_nil]; omega
    · rw [List.append_nil]; exact h.perm_right hp.symm
  | @prog data skipped st sk v st1 tr push epis rest hfn ho =>
    obtain ⟨rfl, o1, hgf⟩ := found hfn
    have hp := placed_findNext (sk ++ .t tr push epis :: rest) [] st hg
    rw [hfn] at hp
    obtain ⟨c, hc, hX⟩ := cn_content m (rest.length + 2) v (.t tr push epis :: rest) st1 false (hgf hg).1 o1
      fun t ht => hr t (by
        rw [pending_append]
        exact List.mem_append_left _ (List.mem_append_right _ ht))
    refine ⟨pending c, ?_, fun X h => hX X (h.perm_right hp.symm)⟩
    have : pending (sk ++ .t tr push epis :: rest) = pending sk ++ (pending c ++
        pending (configureNode m (rest.length + 2) v (.t tr push epis :: rest) st1 false).1) := by
      rw [pending_append, ← pending_append c, ← hc]
    simp only [this, pending_append, pending, pending_stripPops, List.append_nil]
    refine List.perm_iff_count.2 fun x => ?_
    simp only [List.count_append]; omega

/-- content preservation as an invariant of the loop: what is placed and what is waiting make up `L` -/
def Content (m : Model) (L : List Triple) (a : List Datum × List Datum × St) : Prop :=
  Good a.2.2 ∧ (∀ tr ∈ pending a.1 ++ pending a.2.1, RoleOK m tr) ∧
    ∃ X, Sim m X (placed a.2.2.cells) ∧ (X ++ (pending a.1 ++ pending a.2.1)).Perm L

theorem Content.round {m : Model} {L : List Triple} {a b} (h : Round m a b) (hc : Content m L a) :
    Content m L b := by
  obtain ⟨hg, hr, X, hX, hL⟩ := hc
  obtain ⟨c, hp, hc⟩ := round_content h hg hr
  refine ⟨(good_round h hg).1, fun t ht => hr t (h.pending_sub t ht), X ++ c, hc X hX, ?_⟩
  rw [List.append_assoc]
  exact (List.Perm.append_left _ hp.symm).trans hL

theorem preconfEpis_spec (m : Model) (orig : Triple) : ∀ es tr push epis pops pushed r,
    (tr = orig ∨ (orig.src ∈ pushed ∧ PreStep m orig tr)) →
    preconfEpis m orig es tr push epis pops pushed = .ok r → PreStep m orig r.1 := by
  intro es tr push epis pops pushed
  fun_induction preconfEpis m orig es tr push epis pops pushed <;> intro r hinv h
  · simp only [Except.ok.injEq] at h; subst h
    rcases hinv with rfl | ⟨_, h⟩
    · exact PreStep.same _
    · exact h
  · rename_i ih; exact ih r hinv h
  · rename_i ih; exact ih r hinv h
  · rename_i rest tr push epis pops pushed s htg hnp hcond ih
    apply ih r _ h
    right
    have htr : tr = orig := by
      rcases hinv with h | ⟨h, _⟩
      · exact h
      · exact absurd h hnp
    subst htr
    refine ⟨by simp, PreStep.inv _ s htg ?_⟩
    intro hc; exact hcond (Or.inr hc)
  · simp at h
  · rename_i ih
    apply ih r _ h
    rcases hinv with h | ⟨h1, h2⟩
    · exact Or.inl h
    · exact Or.inr ⟨List.mem_cons_of_mem _ h1, h2⟩
  · rename_i ih; exact ih r hinv h
  · rename_i ih; exact ih r hinv h

theorem pending_replicate_pop (n : Nat) (l : List Datum) : pending (List.replicate n Datum.pop ++ l) = pending l := by
  induction n with
  | zero => rfl
  | succ n ih => simpa [List.replicate_succ, pending] using ih

theorem preconfigure_spec (m : Model) (ep : Epidata) : ∀ ts pushed data,
    preconfigure m ep ts pushed = .ok data → Pre m ts (pending data) := by
  intro ts
  induction ts with
  | nil => intro pushed data h; cases h; exact Pre.nil
  | cons t ts ih =>
    intro pushed data h
    obtain ⟨tr', push, epis, pops, pushed', more, h1, h2, rfl⟩ := preconfigure_cons_ok h
    show Pre m (t :: ts) (tr' :: pending (List.replicate pops Datum.pop ++ more))
    rw [pending_replicate_pop]
    exact Pre.cons (preconfEpis_spec m t _ _ _ _ _ _ _ (Or.inl rfl) h1) (ih _ _ h2)

theorem roleOK_of_pre {m : Model} {a b : Triple} (h : PreStep m a b) (hr : RoleOK2 m a) : RoleOK m b := by
  cases h with
  | same => exact ⟨hr.1, hr.2.1⟩
  | inv v _ _ => exact ⟨by rw [invert_role]; exact hr.2.1, by rw [invert_role]; exact hr.2.2⟩

theorem roleOK_of_Pre {m : Model} {l1 l2 : List Triple} (h : Pre m l1 l2) (hr : ∀ t ∈ l1, RoleOK2 m t) :
    ∀ t ∈ l2, RoleOK m t := by
  induction h with
  | nil => intro t ht; cases ht
  | cons hs _ ih =>
    intro t ht
    rcases List.mem_cons.1 ht with rfl | ht
    · exact roleOK_of_pre hs (hr _ List.mem_cons_self)
    · exact ih (fun t ht => hr t (List.mem_cons_of_mem _ ht)) t ht

theorem pending_first (l : List Datum) : pending (stripPops l) ++ pending [] = pending l := by
  rw [pending_stripPops]; exact List.append_nil _

theorem content_init {m : Model} {g : Graph} {top : Str} {data : List Datum}
    (hp : preconfigure m g.epidata g.triples [] = .ok data) (hr : ∀ t ∈ g.triples, RoleOK2 m t) :
    Content m (pending data) (stripPops (configureNode m (data.length + 1) top data (st0 g top) false).1, [],
      (configureNode m (data.length + 1) top data (st0 g top) false).2.1) := by
  have hrd := roleOK_of_Pre (preconfigure_spec m _ _ _ _ hp) hr
  obtain ⟨g0, o0⟩ := good_st0 g top
  obtain ⟨c, hc, hX⟩ := cn_content m (data.length + 1) top data (st0 g top) false g0 o0 hrd
  have hpd : pending data = pending c ++ pending (configureNode m (data.length + 1) top data (st0 g top) false).1 := by
    rw [← pending_append, ← hc]
  refine ⟨(good_cn m _ top data _ false g0 o0).1, fun t ht => hrd t ?_, pending c, hX [] (Sim.nil m), ?_⟩
  · rw [pending_first] at ht; rw [hpd]; exact List.mem_append_right _ ht
  · rw [pending_first, ← hpd]

/-- the triples denoted by the final store are the graph's triples, each possibly inverted by
    `preconfigure` (`Pre`), then kept / inverted once / dropped as null instance (`Corr` inside `Sim`),
    up to order -/
theorem storeOf_sound {m : Model} {g : Graph} {top : Str} {st : St} (h : storeOf m g top = .ok st)
    (hr : ∀ t ∈ g.triples, RoleOK2 m t) :
    ∃ l1, Pre m g.triples l1 ∧ Sim m l1 (placed st.cells) := by
  obtain ⟨data, hp, _⟩ := storeOf_ok h
  obtain ⟨_, _, X, hX, hL⟩ := storeOf_inv (I := Content m (pending data)) Content.round
    (fun data' hp' => by cases hp.symm.trans hp'; exact content_init hp hr) h
  exact ⟨pending data, preconfigure_spec m _ _ _ _ hp, hX.perm_left ((List.append_nil X).symm ▸ hL)⟩

theorem head_invertRole (m : Model) (r : Str) (h : r.head? = some ':') : (m.invertRole r).head? = some ':' := by
  cases r with
  | nil => simp at h
  | cons c r' =>
    simp at h; subst h
    unfold Model.invertRole
    split
    · rename_i hc
      simp only [Bool.and_eq_true] at hc
      have hs : ofStr <:+ (':' :: r') := by
        have := hc.2; unfold endsWith at this; exact List.isSuffixOf_iff_suffix.1 this
      obtain ⟨p, hp⟩ := hs
      cases p with
      | nil => simp [ofStr] at hp
      | cons a p' =>
        have hl := congrArg List.length hp
        simp [ofStr] at hl
        unfold dropEnd
        have : (':' :: r').length - 3 = (r'.length - 3) + 1 := by simp; omega
        rw [this]; simp
    · simp

theorem roleOK2_of_colon (m : Model) (t : Triple) (h : t.role.head? = some ':') : RoleOK2 m t := by
  have h1 := head_invertRole m _ h
  have h2 := head_invertRole m _ h1
  refine ⟨?_, ?_, ?_⟩ <;> (intro e; simp [e] at h h1 h2)

end Cfg
end Penman
