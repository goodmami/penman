/-
  Penman.Proofs.ConfigureStore — the store of `configure` (`Cfg` stands for it): association-list
  facts; what a `nodemap` entry says about a variable (`Own`, `Avail`, `HasKey`; entries only
  move upwards, `Mono`); `Forest` (every `.node w` edge points to a cell created later than the
  cell holding it) and `Good` (a forest whose keys are the owned variables), kept by every store
  operation, by `findNext` and by `configureNode`; hence `buildNode` never runs out of fuel.
-/
import Penman.Spec.Configure
namespace Penman
namespace Cfg

section AL
variable {α β : Type} [DecidableEq α]

theorem get?_set_same (c : AList α β) (k : α) (v : β) : AList.get? (AList.set c k v) k = some v := by
  induction c with
  | nil => simp [AList.set, AList.get?]
  | cons p r ih =>
    obtain ⟨k', v'⟩ := p
    by_cases h : k' = k
    · subst h; simp [AList.set, AList.get?]
    · simp only [AList.set, h, if_false]
      simp only [AList.get?] at ih ⊢
      simp [List.find?, h, ih]

theorem get?_set_other (c : AList α β) (k w : α) (v : β) (hw : w ≠ k) :
    AList.get? (AList.set c k v) w = AList.get? c w := by
  induction c with
  | nil => simp [AList.set, AList.get?, Ne.symm hw]
  | cons p r ih =>
    obtain ⟨k', v'⟩ := p
    by_cases h : k' = k
    · subst h; simp [AList.set, AList.get?, List.find?, Ne.symm hw]
    · simp only [AList.set, h, if_false]
      simp only [AList.get?] at ih ⊢
      by_cases h2 : k' = w
      · simp [List.find?, h2]
      · simp [List.find?, h2, ih]

theorem get?_set (c : AList α β) (k w : α) (v : β) :
    AList.get? (AList.set c k v) w = if w = k then some v else AList.get? c w := by
  by_cases h : w = k
  · rw [if_pos h, h, get?_set_same]
  · rw [if_neg h, get?_set_other _ _ _ _ h]

theorem keys_set (c : AList α β) (k : α) (v : β) :
    AList.keys (AList.set c k v) = if k ∈ AList.keys c then AList.keys c else AList.keys c ++ [k] := by
  induction c with
  | nil => rfl
  | cons p r ih =>
    obtain ⟨k', v'⟩ := p
    by_cases h : k' = k
    · subst h; simp [AList.set, AList.keys]
    · have hne : ¬ k = k' := fun e => h e.symm
      have e1 : AList.set ((k', v') :: r) k v = (k', v') :: AList.set r k v := by
        simp only [AList.set, h, if_false]
      have e2 : ∀ l : AList α β, AList.keys ((k', v') :: l) = k' :: AList.keys l := fun _ => rfl
      rw [e1, e2, e2, ih]
      by_cases hk : k ∈ AList.keys r
      · simp only [List.mem_cons, hk, or_true, if_true]
      · simp only [List.mem_cons, hk, hne, or_false, if_false, List.cons_append]

theorem mem_set {c : AList α β} {k : α} {v : β} {p : α × β} (h : p ∈ AList.set c k v) :
    p ∈ c ∨ p = (k, v) := by
  induction c with
  | nil => simp [AList.set] at h; exact Or.inr h
  | cons q r ih =>
    obtain ⟨k', v'⟩ := q
    by_cases hk : k' = k
    · subst hk
      simp only [AList.set, if_true, List.mem_cons] at h
      rcases h with h | h
      · exact Or.inr h
      · exact Or.inl (List.mem_cons_of_mem _ h)
    · simp only [AList.set, hk, if_false, List.mem_cons] at h
      rcases h with h | h
      · exact Or.inl (by simp [h])
      · rcases ih h with h | h
        · exact Or.inl (List.mem_cons_of_mem _ h)
        · exact Or.inr h

theorem mem_of_get? {c : AList α β} {k : α} {v : β} (h : AList.get? c k = some v) : (k, v) ∈ c := by
  unfold AList.get? at h
  cases hf : c.find? (·.1 = k) with
  | none => simp [hf] at h
  | some p =>
    simp [hf] at h
    have h1 := List.mem_of_find?_eq_some hf
    have h2 := List.find?_some hf
    simp at h2
    obtain ⟨a, b⟩ := p
    simp at h h2; subst h; subst h2; exact h1

theorem get?_isSome_iff {c : AList α β} {k : α} : (AList.get? c k).isSome ↔ k ∈ AList.keys c := by
  induction c with
  | nil => simp [AList.get?, AList.keys]
  | cons p r ih =>
    obtain ⟨k', v'⟩ := p
    simp only [AList.get?, AList.keys] at ih ⊢
    by_cases h : k' = k
    · simp [List.find?, h]
    · have : ¬ k = k' := fun e => h e.symm
      simp [List.find?, h, this]

theorem contains_iff {c : AList α β} {k : α} : AList.contains c k = true ↔ k ∈ AList.keys c := by
  simp [AList.contains, AList.keys]
end AL

def Own (st : St) (v : Str) : Prop := AList.get? st.nm v = some NM.own

/-- `v` has a node or a place where its node can be put -/
def Avail (st : St) (v : Str) : Prop :=
  AList.get? st.nm v = some NM.own ∨ ∃ u, AList.get? st.nm v = some (NM.site u)

def HasKey (st : St) (v : Str) : Prop := (AList.get? st.nm v).isSome = true

/-- `nodemap` entries only move upwards (absent → `unset` → `site` → `own`): what is available, present
    or owned stays so -/
def Mono (st st' : St) : Prop :=
  (∀ v, Avail st v → Avail st' v) ∧ (∀ v, HasKey st v → HasKey st' v) ∧ (∀ v, Own st v → Own st' v)

theorem Mono.refl (st : St) : Mono st st := ⟨fun _ h => h, fun _ h => h, fun _ h => h⟩
theorem Mono.trans {a b c : St} (h1 : Mono a b) (h2 : Mono b c) : Mono a c :=
  ⟨fun v h => h2.1 v (h1.1 v h), fun v h => h2.2.1 v (h1.2.1 v h), fun v h => h2.2.2 v (h1.2.2 v h)⟩

theorem avail_of_own {st : St} {v : Str} (h : Own st v) : Avail st v := Or.inl h

theorem hasKey_of_avail {st : St} {w : Str} (h : Avail st w) : HasKey st w := by
  unfold HasKey; rcases h with h | ⟨u, h⟩ <;> rw [h] <;> rfl

theorem mono_of_nm_eq {st st' : St} (h : st'.nm = st.nm) : Mono st st' := by
  unfold Mono Avail HasKey Own
  rw [h]
  exact ⟨fun _ h => h, fun _ h => h, fun _ h => h⟩

theorem mono_addFront (st : St) (v : Str) (e : Edge) : Mono st (st.addFront v e) := mono_of_nm_eq rfl
theorem mono_addBack (st : St) (v : Str) (e : Edge) : Mono st (st.addBack v e) := mono_of_nm_eq rfl

/-- overwriting the entry of `v` by `x`: nothing is lost if `x` is not `unset` and an `own` stays `own` -/
theorem mono_set_nm {st st' : St} {v : Str} {x : NM} (h : st'.nm = st.nm.set v x) (hx : x ≠ .unset)
    (hown : Own st v → x = .own) : Mono st st' := by
  unfold Mono Avail HasKey Own
  rw [h]
  refine ⟨fun w hw => ?_, fun w hw => ?_, fun w hw => ?_⟩
  · rw [get?_set]
    split
    · cases x with
      | unset => exact absurd rfl hx
      | site u => exact Or.inr ⟨u, rfl⟩
      | own => exact Or.inl rfl
    · exact hw
  · rw [get?_set]
    split
    · rfl
    · exact hw
  · rw [get?_set]
    split
    · rename_i e; rw [hown (e ▸ hw)]
    · exact hw

theorem mono_newCell (st : St) (v : Str) : Mono st (st.newCell v) ∧ Avail (st.newCell v) v :=
  ⟨mono_set_nm rfl (fun h => nomatch h) (fun _ => rfl), Or.inl (get?_set_same _ _ _)⟩

theorem noteSite_eq (st : St) (var : Str) (t : Atom) :
    (st.noteSite var t = st ∧ ∀ v, t = .str v → AList.get? st.nm v ≠ some NM.unset) ∨
    ∃ v, t = .str v ∧ AList.get? st.nm v = some NM.unset ∧
      st.noteSite var t = { st with nm := st.nm.set v (.site var) } := by
  unfold St.noteSite
  split
  · rename_i v
    split
    · rename_i hu; exact Or.inr ⟨v, rfl, hu, rfl⟩
    · rename_i hu; exact Or.inl ⟨rfl, fun v' e => by cases e; exact hu⟩
  · rename_i hn; exact Or.inl ⟨rfl, fun v e => absurd e (hn v)⟩

theorem cells_noteSite (st : St) (var : Str) (t : Atom) : (st.noteSite var t).cells = st.cells := by
  rcases noteSite_eq st var t with ⟨h, _⟩ | ⟨v, _, _, h⟩ <;> rw [h]

theorem mono_noteSite (st : St) (var : Str) (t : Atom) : Mono st (st.noteSite var t) := by
  rcases noteSite_eq st var t with ⟨h, _⟩ | ⟨v, _, hu, h⟩
  · rw [h]; exact Mono.refl _
  · rw [h]
    refine mono_set_nm rfl (fun h => nomatch h) (fun ho => ?_)
    rw [Own, hu] at ho; cases ho

theorem own_noteSite {st : St} {var : Str} {t : Atom} {k : Str} :
    Own (st.noteSite var t) k ↔ Own st k := by
  refine ⟨fun h => ?_, (mono_noteSite st var t).2.2 k⟩
  rcases noteSite_eq st var t with ⟨e, _⟩ | ⟨v, _, hu, e⟩
  · rwa [e] at h
  · rw [e, Own, get?_set] at h
    split at h
    · cases h
    · exact h

theorem avail_noteSite {st : St} {var w : Str} (h : HasKey st w) : Avail (st.noteSite var (.str w)) w := by
  rcases noteSite_eq st var (.str w) with ⟨e, hn⟩ | ⟨v, hv, _, e⟩
  · rw [e]
    unfold HasKey at h
    cases hg : AList.get? st.nm w with
    | none => rw [hg] at h; cases h
    | some x =>
      cases x with
      | unset => exact absurd hg (hn w rfl)
      | site u => exact Or.inr ⟨u, hg⟩
      | own => exact Or.inl hg
  · cases hv; rw [e]; exact Or.inr ⟨var, get?_set_same _ _ _⟩

/-- every node edge points forward in creation (= key) order -/
def Forest (c : Cells) : Prop :=
  ∀ p ∈ c, ∀ e ∈ p.2, ∀ w, e.tgt = .node w →
    (ckeys c).idxOf p.1 < (ckeys c).idxOf w ∧ w ∈ ckeys c

structure Good (st : St) : Prop where
  own : ∀ k, k ∈ ckeys st.cells ↔ Own st k
  site : ∀ v u, AList.get? st.nm v = some (NM.site u) → Own st u
  forest : Forest st.cells

/-- cells are only ever appended -/
def Ext (st st' : St) : Prop := ckeys st.cells <+: ckeys st'.cells

theorem Ext.refl (st : St) : Ext st st := List.prefix_refl _
theorem Ext.trans {a b c : St} (h1 : Ext a b) (h2 : Ext b c) : Ext a c := List.IsPrefix.trans h1 h2

theorem ext_of_keys_eq {st st' : St} (h : ckeys st'.cells = ckeys st.cells) : Ext st st' := by
  unfold Ext; rw [h]; exact List.prefix_refl _

theorem idxOf_prefix {l l' : List Str} (h : l <+: l') {a : Str} (ha : a ∈ l) : l'.idxOf a = l.idxOf a := by
  obtain ⟨t, rfl⟩ := h
  rw [List.idxOf_append, if_pos ha]

theorem mem_keys_of_mem {c : Cells} {p : Str × List Edge} (h : p ∈ c) : p.1 ∈ ckeys c :=
  List.mem_map.2 ⟨p, h, rfl⟩

theorem forest_of_members {c c' : Cells} (hF : Forest c) (hk : ckeys c <+: ckeys c')
    (hm : ∀ p ∈ c', p ∈ c ∨ (∀ e ∈ p.2, ∀ w, e.tgt = .node w →
        (ckeys c').idxOf p.1 < (ckeys c').idxOf w ∧ w ∈ ckeys c')) : Forest c' := by
  intro p hp e he w hw
  rcases hm p hp with h | h
  · obtain ⟨h1, h2⟩ := hF p h e he w hw
    rw [idxOf_prefix hk (mem_keys_of_mem h), idxOf_prefix hk h2]
    exact ⟨h1, List.IsPrefix.mem h2 hk⟩
  · exact h e he w hw

theorem cell_mem {st : St} {v : Str} {e : Edge} (h : e ∈ st.cell v) :
    ∃ es, (v, es) ∈ st.cells ∧ e ∈ es := by
  unfold St.cell at h
  cases hg : AList.get? st.cells v with
  | none => rw [hg] at h; cases h
  | some es => rw [hg] at h; exact ⟨es, mem_of_get? hg, h⟩

theorem keys_set_of_mem {c : Cells} {k : Str} (es : List Edge) (h : k ∈ ckeys c) :
    ckeys (AList.set c k es) = ckeys c := by
  unfold ckeys at h ⊢; rw [keys_set, if_pos h]

theorem keys_set_of_not_mem {c : Cells} {k : Str} (es : List Edge) (h : k ∉ ckeys c) :
    ckeys (AList.set c k es) = ckeys c ++ [k] := by
  unfold ckeys at h ⊢; rw [keys_set, if_neg h]

theorem idxOf_lt_new {l : List Str} {a v : Str} (ha : a ∈ l) (hv : v ∉ l) :
    (l ++ [v]).idxOf a < (l ++ [v]).idxOf v ∧ v ∈ l ++ [v] := by
  rw [List.idxOf_append, List.idxOf_append, if_pos ha, if_neg hv, List.idxOf_cons_self, Nat.zero_add]
  exact ⟨List.idxOf_lt_length_of_mem ha, List.mem_append_right _ List.mem_cons_self⟩

/-- replacing the cell of an owned variable by edges that are old or point forward -/
theorem good_set {st : St} {var : Str} {es : List Edge} (hg : Good st) (hv : Own st var)
    (hes : ∀ e ∈ es, e ∈ st.cell var ∨ ∀ w, e.tgt = .node w →
      (ckeys st.cells).idxOf var < (ckeys st.cells).idxOf w ∧ w ∈ ckeys st.cells) :
    Good { st with cells := st.cells.set var es } ∧ Ext st { st with cells := st.cells.set var es } := by
  have hkeys : ckeys (st.cells.set var es) = ckeys st.cells := keys_set_of_mem es ((hg.own var).2 hv)
  refine ⟨⟨fun k => by rw [hkeys]; exact hg.own k, hg.site, ?_⟩, ext_of_keys_eq hkeys⟩
  apply forest_of_members hg.forest (by rw [hkeys]; exact List.prefix_refl _)
  intro p hp
  rcases mem_set hp with h | rfl
  · exact Or.inl h
  · right
    intro e he w hw
    rw [hkeys]
    rcases hes e he with h | h
    · obtain ⟨es0, h1, h2⟩ := cell_mem h
      exact hg.forest _ h1 e h2 w hw
    · exact h w hw

theorem good_addFront {st : St} {var : Str} {e : Edge} (hg : Good st) (hv : Own st var)
    (he : ∀ w, e.tgt ≠ .node w) : Good (st.addFront var e) ∧ Ext st (st.addFront var e) :=
  good_set hg hv fun e' he' => by
    rcases List.mem_cons.1 he' with rfl | h
    · exact Or.inr fun w hw => absurd hw (he w)
    · exact Or.inl h

theorem good_addBack {st : St} {var : Str} {e : Edge} (hg : Good st) (hv : Own st var)
    (he : ∀ w, e.tgt = .node w →
      (ckeys st.cells).idxOf var < (ckeys st.cells).idxOf w ∧ w ∈ ckeys st.cells) :
    Good (st.addBack var e) ∧ Ext st (st.addBack var e) :=
  good_set hg hv fun e' he' => by
    rcases List.mem_append.1 he' with h | h
    · exact Or.inl h
    · cases List.mem_singleton.1 h; exact Or.inr he

/-- the atom edge `configureNode` adds for a target that is not pushed, with its site note -/
theorem good_note {st : St} {var : Str} {t : Atom} {e : Edge} (hg : Good st) (hv : Own st var)
    (he : ∀ w, e.tgt ≠ .node w) :
    Good ((st.noteSite var t).addBack var e) ∧ Ext st ((st.noteSite var t).addBack var e) := by
  have g1 : Good (st.noteSite var t) := by
    refine ⟨fun k => by rw [cells_noteSite, own_noteSite]; exact hg.own k, ?_, by rw [cells_noteSite]; exact hg.forest⟩
    intro v u h
    rw [own_noteSite]
    rcases noteSite_eq st var t with ⟨e, _⟩ | ⟨w, _, _, e⟩
    · rw [e] at h; exact hg.site v u h
    · rw [e, get?_set] at h
      split at h
      · cases h; exact hv
      · exact hg.site v u h
  obtain ⟨g2, e2⟩ := good_addBack (e := e) g1 (own_noteSite.2 hv) fun w hw => absurd hw (he w)
  exact ⟨g2, (ext_of_keys_eq (by rw [cells_noteSite])).trans e2⟩

/-- a fresh empty cell for `v`, and `v`'s entry set to `own` -/
theorem good_fresh {st : St} {c : Cells} {v : Str} (hg : Good st) (hv : ¬ Own st v)
    (hk : ckeys c = ckeys st.cells)
    (hm : ∀ p ∈ c, p ∈ st.cells ∨ ∀ e ∈ p.2, ∀ w, e.tgt = .node w →
      (ckeys st.cells ++ [v]).idxOf p.1 < (ckeys st.cells ++ [v]).idxOf w ∧ w ∈ ckeys st.cells ++ [v]) :
    Good ⟨c.set v [], st.nm.set v .own⟩ ∧ ckeys (c.set v []) = ckeys st.cells ++ [v] := by
  have hvk : v ∉ ckeys st.cells := fun h => hv ((hg.own v).1 h)
  have hkeys : ckeys (c.set v []) = ckeys st.cells ++ [v] := by
    rw [keys_set_of_not_mem _ (by rw [hk]; exact hvk), hk]
  have hown : ∀ k, Own ⟨c.set v [], st.nm.set v .own⟩ k ↔ (k = v ∨ Own st k) := by
    intro k
    unfold Own
    rw [get?_set]
    split
    · rename_i e; exact ⟨fun _ => Or.inl e, fun _ => rfl⟩
    · rename_i e; exact ⟨Or.inr, fun h => h.resolve_left e⟩
  refine ⟨⟨?_, ?_, ?_⟩, hkeys⟩
  · intro k
    rw [hkeys, hown, List.mem_append, List.mem_singleton, hg.own k]
    exact Or.comm
  · intro w u h
    rw [hown]
    rw [get?_set] at h
    split at h
    · cases h
    · exact Or.inr (hg.site w u h)
  · apply forest_of_members hg.forest (by rw [hkeys]; exact List.prefix_append _ _)
    intro p hp
    rw [hkeys]
    rcases mem_set hp with h | rfl
    · exact hm p h
    · exact Or.inr fun e he => nomatch he

theorem good_newCell {st : St} {v : Str} (hg : Good st) (hv : ¬ Own st v) :
    Good (st.newCell v) ∧ ckeys (st.newCell v).cells = ckeys st.cells ++ [v] ∧ Own (st.newCell v) v :=
  have h := good_fresh (c := st.cells) hg hv rfl fun _ hp => Or.inl hp
  ⟨h.1, h.2, get?_set_same _ _ _⟩

/-- closing a pushed node: the edge from `var` to the cell opened for `v` points forward -/
theorem good_close {st st2 : St} {var v : Str} (hg : Good st) (hv : Own st var) (hnv : ¬ Own st v)
    (g2 : Good st2) (e2 : Ext (st.newCell v) st2) (hv2 : Own st2 var) (role : Str) (epis : List Epi) :
    Good (st2.addBack var ⟨role, .node v, epis⟩) ∧ Ext st2 (st2.addBack var ⟨role, .node v, epis⟩) := by
  apply good_addBack g2 hv2
  intro w hw
  cases hw
  have hvk : var ∈ ckeys st.cells := (hg.own var).2 hv
  have hvn : v ∉ ckeys st.cells := fun h => hnv ((hg.own v).1 h)
  have k1 : ckeys (st.newCell v).cells = ckeys st.cells ++ [v] := keys_set_of_not_mem _ hvn
  obtain ⟨h1, h2⟩ := idxOf_lt_new hvk hvn
  rw [← k1] at h1 h2
  have hm : var ∈ ckeys (st.newCell v).cells := by rw [k1]; exact List.mem_append_left _ hvk
  rw [idxOf_prefix e2 hm, idxOf_prefix e2 h2]
  exact ⟨h1, List.IsPrefix.mem h2 e2⟩

theorem getOrEstablish_cases (st : St) (v : Str) :
    (Own st v ∧ getOrEstablish st v = (true, st)) ∨
    (∃ u, AList.get? st.nm v = some (NM.site u) ∧ getOrEstablish st v =
      (true, ⟨(st.cells.set u (establishIn v (st.cell u))).set v [], st.nm.set v .own⟩)) ∨
    (¬ Avail st v ∧ getOrEstablish st v = (false, st)) := by
  unfold getOrEstablish
  split
  · rename_i h; exact Or.inl ⟨h, rfl⟩
  · rename_i u h; exact Or.inr (Or.inl ⟨u, h, rfl⟩)
  · rename_i h1 h2
    refine Or.inr (Or.inr ⟨fun h => ?_, rfl⟩)
    rcases h with h | ⟨u, h⟩
    · exact h1 h
    · exact h2 u h

theorem getOrEstablish_own {st : St} {v : Str} (h : (getOrEstablish st v).1 = true) :
    Own (getOrEstablish st v).2 v := by
  rcases getOrEstablish_cases st v with ⟨ho, e⟩ | ⟨u, _, e⟩ | ⟨_, e⟩ <;> rw [e] at h ⊢
  · exact ho
  · exact get?_set_same _ _ _
  · cases h

theorem establishIn_mem {v : Str} : ∀ {es : List Edge} {e : Edge}, e ∈ establishIn v es → e ∈ es ∨ e.tgt = .node v := by
  intro es
  induction es with
  | nil => intro e h; cases h
  | cons a r ih =>
    intro e h
    simp only [establishIn] at h
    split at h
    · rcases List.mem_cons.1 h with rfl | h
      · exact Or.inr rfl
      · exact Or.inl (List.mem_cons_of_mem _ h)
    · rcases List.mem_cons.1 h with rfl | h
      · exact Or.inl List.mem_cons_self
      · exact (ih h).imp_left (List.mem_cons_of_mem _)

theorem good_getOrEstablish {st : St} {v : Str} (hg : Good st) :
    Good (getOrEstablish st v).2 ∧ Ext st (getOrEstablish st v).2 := by
  rcases getOrEstablish_cases st v with ⟨_, e⟩ | ⟨u, hs, e⟩ | ⟨_, e⟩ <;> rw [e]
  · exact ⟨hg, Ext.refl _⟩
  · have huk : u ∈ ckeys st.cells := (hg.own u).2 (hg.site v u hs)
    have hvn : ¬ Own st v := by rw [Own, hs]; exact fun h => nomatch h
    have hvk : v ∉ ckeys st.cells := fun h => hvn ((hg.own v).1 h)
    have hpre : ckeys st.cells <+: ckeys st.cells ++ [v] := List.prefix_append _ _
    obtain ⟨g1, k1⟩ := good_fresh (c := st.cells.set u (establishIn v (st.cell u))) hg hvn
      (keys_set_of_mem _ huk) (by
        intro p hp
        rcases mem_set hp with h | rfl
        · exact Or.inl h
        · right
          intro e he w hw
          rcases establishIn_mem he with h | h
          · obtain ⟨es0, h1, h2⟩ := cell_mem h
            obtain ⟨h3, h4⟩ := hg.forest _ h1 e h2 w hw
            rw [idxOf_prefix hpre huk, idxOf_prefix hpre h4]
            exact ⟨h3, List.IsPrefix.mem h4 hpre⟩
          · rw [h] at hw; cases hw
            exact idxOf_lt_new huk hvk)
    exact ⟨g1, by unfold Ext; rw [k1]; exact hpre⟩
  · exact ⟨hg, Ext.refl _⟩

/-- the guarded call in `findNext` -/
theorem tryGet_inv {P : St → Prop} (hE : ∀ st v, P st → P (getOrEstablish st v).2) {st : St} (v : Str)
    (h : P st) : P (if AList.contains st.nm v then getOrEstablish st v else (false, st)).2 := by
  split
  · exact hE st v h
  · exact h

theorem tryGet_own {st : St} {v : Str}
    (h : (if AList.contains st.nm v then getOrEstablish st v else (false, st)).1 = true) :
    Own (if AList.contains st.nm v then getOrEstablish st v else (false, st)).2 v := by
  split at h
  · rename_i hc; rw [if_pos hc]; exact getOrEstablish_own h
  · cases h

/-- a property of stores that `getOrEstablish` keeps is kept by `findNext` -/
theorem findNext_inv {P : St → Prop} (hE : ∀ st v, P st → P (getOrEstablish st v).2) :
    ∀ data rev st, P st → P (findNext data rev st).2.2.2 := by
  intro data rev st
  fun_induction findNext data rev st <;> intro h
  · exact h
  · exact h
  · rename_i ih; exact ih h
  · exact tryGet_inv hE _ h
  · exact tryGet_inv hE _ (tryGet_inv hE _ h)
  · rename_i ih; exact ih (tryGet_inv hE _ (tryGet_inv hE _ h))
  · rename_i ih; exact ih (tryGet_inv hE _ h)

theorem findNext_own : ∀ data rev st v, (findNext data rev st).2.1 = some v →
    Own (findNext data rev st).2.2.2 v := by
  intro data rev st
  fun_induction findNext data rev st <;> intro v hv
  · cases hv
  · cases hv
  · rename_i ih; exact ih v hv
  · rename_i h1; cases hv; exact tryGet_own h1
  · rename_i h2; cases hv; exact tryGet_own h2
  · rename_i ih; exact ih v hv
  · rename_i ih; exact ih v hv

theorem good_findNext (data rev : List Datum) (st : St) (hg : Good st) :
    Good (findNext data rev st).2.2.2 ∧ Ext st (findNext data rev st).2.2.2 :=
  findNext_inv (P := fun s => Good s ∧ Ext st s)
    (fun _ _ h => ⟨(good_getOrEstablish h.1).1, h.2.trans (good_getOrEstablish h.1).2⟩) data rev st ⟨hg, Ext.refl _⟩

/-- `findNext_inv` for a property that needs `Good` to be kept -/
theorem findNext_inv_good {P : St → Prop} (hE : ∀ st v, Good st → P st → P (getOrEstablish st v).2)
    (data rev : List Datum) (st : St) (hg : Good st) (h : P st) : P (findNext data rev st).2.2.2 :=
  (findNext_inv (P := fun s => Good s ∧ P s)
    (fun s v h => ⟨(good_getOrEstablish h.1).1, hE s v h.1 h.2⟩) data rev st ⟨hg, h⟩).2

theorem pushVar_some {st : St} {push : Bool} {target : Atom} {v : Str}
    (h : pushVar st push target = some v) : target = .str v ∧ ¬ Own st v := by
  unfold pushVar at h
  split at h
  · rename_i hb
    cases target with
    | str w =>
      cases h
      rw [Bool.and_eq_true, Bool.not_eq_true'] at hb
      refine ⟨rfl, fun hown => ?_⟩
      have : st.established (.str v) = true := decide_eq_true hown
      rw [this] at hb; cases hb.2
    | none => cases h
    | num _ => cases h
  · cases h

theorem pushVar_push {st : St} {push : Bool} {target : Atom} {v : Str}
    (h : pushVar st push target = some v) : push = true := by
  unfold pushVar at h
  split at h
  · rename_i hb; exact (Bool.and_eq_true _ _ ▸ hb).1
  · cases h

theorem cn_mono (m : Model) : ∀ f var data st s, Mono st (configureNode m f var data st s).2.1 := by
  intro f var data st s
  fun_induction configureNode m f var data st s
  · exact Mono.refl _
  · exact Mono.refl _
  · exact Mono.refl _
  · exact Mono.refl _
  · rename_i ih; exact ih
  · rename_i ih; exact (mono_addFront _ _ _).trans ih
  · rename_i ih1 ih2
    exact (((mono_newCell _ _).1.trans ih1).trans (mono_addBack _ _ _)).trans ih2
  · rename_i ih; exact ((mono_noteSite _ _ _).trans (mono_addBack _ _ _)).trans ih

theorem good_cn (m : Model) : ∀ f var data st s, Good st → Own st var →
    Good (configureNode m f var data st s).2.1 ∧ Ext st (configureNode m f var data st s).2.1 := by
  intro f var data st s
  fun_induction configureNode m f var data st s <;> intro hg hv
  · exact ⟨hg, Ext.refl _⟩
  · exact ⟨hg, Ext.refl _⟩
  · exact ⟨hg, Ext.refl _⟩
  · exact ⟨hg, Ext.refl _⟩
  · rename_i ih; exact ih hg hv
  · rename_i ih
    obtain ⟨g1, e1⟩ := good_addFront (e := ⟨['/'], .atom _, _⟩) hg hv (fun _ h => nomatch h)
    obtain ⟨g2, e2⟩ := ih g1 ((mono_addFront _ _ _).2.2 _ hv)
    exact ⟨g2, e1.trans e2⟩
  · rename_i var _ _ _ _ st _ _ _ _ _ _ _ v hp r ih1 ih2
    obtain ⟨_, hnv⟩ := pushVar_some hp
    obtain ⟨g1, k1, o1⟩ := good_newCell hg hnv
    obtain ⟨g2, e2⟩ := ih1 g1 o1
    have hv2 : Own r.2.1 var := ((mono_newCell _ _).1.trans (cn_mono ..)).2.2 _ hv
    obtain ⟨g3, e3⟩ := good_close hg hv hnv g2 e2 hv2 _ _
    obtain ⟨g4, e4⟩ := ih2 g3 ((mono_addBack _ _ _).2.2 _ hv2)
    have e1 : Ext st (st.newCell v) := by unfold Ext; rw [k1]; exact List.prefix_append _ _
    exact ⟨g4, ((e1.trans e2).trans e3).trans e4⟩
  · rename_i ih
    obtain ⟨g1, e1⟩ := good_note (t := _) (e := ⟨_, .atom _, _⟩) hg hv (fun _ h => nomatch h)
    obtain ⟨g2, e2⟩ := ih g1 (((mono_noteSite _ _ _).trans (mono_addBack _ _ _)).2.2 _ hv)
    exact ⟨g2, e1.trans e2⟩

theorem buildBranches_ok {c : Cells} {f : Nat} {es : List Edge}
    (h : ∀ e ∈ es, ∀ w, e.tgt = .node w → ∃ f1, f = f1 + 1 ∧ ∃ n, buildNode c f1 w = .ok n) :
    ∃ bs, buildBranches c f es = .ok bs := by
  induction es with
  | nil => exact ⟨.nil, by rw [buildBranches]⟩
  | cons e es ih =>
    obtain ⟨rest, hrest⟩ := ih fun e' he' => h e' (List.mem_cons_of_mem _ he')
    cases htg : e.tgt with
    | atom a =>
      simp only [buildBranches, hrest, htg]
      exact ⟨_, rfl⟩
    | node w =>
      obtain ⟨f1, rfl, n, hn⟩ := h e List.mem_cons_self w htg
      simp only [buildBranches, hrest, htg, hn]
      exact ⟨_, rfl⟩

/-- two units of fuel per cell between `v` and the end of the key list suffice -/
theorem build_ok (c : Cells) (hF : Forest c) : ∀ f v,
    2 * ((ckeys c).length - (ckeys c).idxOf v) + 1 ≤ f → ∃ n, buildNode c f v = .ok n := by
  intro f
  induction f using Nat.strongRecOn with
  | _ f ih =>
    intro v hv
    cases f with
    | zero => exact absurd hv (Nat.not_succ_le_zero _)
    | succ f' =>
      obtain ⟨bs, hbs⟩ := buildBranches_ok (c := c) (f := f') (es := (AList.get? c v).getD []) (by
        intro e he w hw
        cases hg : AList.get? c v with
        | none => rw [hg] at he; cases he
        | some es =>
          rw [hg] at he
          obtain ⟨h1, h2⟩ := hF _ (mem_of_get? hg) e he w hw
          have := List.idxOf_lt_length_of_mem h2
          have h1' : (ckeys c).idxOf v < (ckeys c).idxOf w := h1
          cases f' with
          | zero => omega
          | succ f1 => exact ⟨f1, rfl, ih f1 (by omega) w (by omega)⟩)
      exact ⟨_, by rw [buildNode, hbs]; rfl⟩

theorem buildNode_ok {c : Cells} (hF : Forest c) (v : Str) : ∃ n, buildNode c (2 * c.length + 2) v = .ok n := by
  apply build_ok c hF
  have : (ckeys c).length = c.length := List.length_map _
  omega

end Cfg
end Penman
