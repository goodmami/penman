/-
  Penman.Proofs.ConfigureTree — what `buildNode` writes: the tree built from a
  forest-shaped store writes every edge of every cell exactly once.
-/
import Penman.Proofs.ConfigureShape
import Penman.Spec.Reading
namespace Penman
namespace Cfg
open Penman.Spec.Reading

theorem applyEpis_fst (role : Str) (t : Option Str) (es : List Epi) :
    (applyEpis role t es).1 = (applyEpis role none es).1 := by
  induction es generalizing role t with
  | nil => rfl
  | cons e es ih =>
    cases t with
    | none => rfl
    | some x =>
      simp only [applyEpis, apply_ite Prod.fst, ih _ (some _)]

/-- the role text `buildBranches` writes for an edge -/
def outRole (e : Edge) : Str := (applyEpis e.role none e.epis).1

/-- the atom `buildBranches` writes for an atomic target -/
def outAtom (e : Edge) (a : Atom) : Atom :=
  if e.epis.any (·.mode = 2) then .str ((applyEpis e.role (some (atomStr a)) e.epis).2.getD []) else a

/-- the relation an edge of `v`'s cell becomes in the tree -/
def edgeWritten (v : Str) (e : Edge) : Written :=
  ⟨some v, outRole e, match e.tgt with | .atom a => .atom (outAtom e a) | .node w => .opens (some w)⟩

/-- does the cell carry a node label? -/
def cellLabelled (es : List Edge) : Bool := es.any fun e => roleName (outRole e) = CONCEPT_ROLE

/-- everything the node of `v` writes itself: the implicit null label if it has none, then its edges -/
def ownW (v : Str) (es : List Edge) : List Written :=
  (if cellLabelled es then [] else [⟨some v, ['/'], .atom .none⟩]) ++ es.map (edgeWritten v)

/-- the triple an edge is written as (alignment text included) -/
def rawTriple (v : Str) (e : Edge) : Triple :=
  ⟨v, slashRole (outRole e), match e.tgt with | .atom a => outAtom e a | .node w => .str w⟩

/-- what the subtree of `v` writes, with the fuel `configure` passes -/
def builtW (c : Cells) (v : Str) : List Written :=
  match buildNode c (2 * c.length + 2) v with | .ok n => Node.written n | .error _ => []
/-- the node variables of the subtree of `v` -/
def builtV (c : Cells) (v : Str) : List Str :=
  match buildNode c (2 * c.length + 2) v with | .ok n => n.vars | .error _ => []
/-- the triples the subtree of `v` writes -/
def builtT (c : Cells) (v : Str) : List Triple :=
  match buildNode c (2 * c.length + 2) v with | .ok n => n.edgeTriples | .error _ => []

theorem bind_eq_ok {ε α β : Type} {x : Except ε α} {f : α → Except ε β} {b : β} :
    (x >>= f) = .ok b ↔ ∃ a, x = .ok a ∧ f a = .ok b := by
  cases x with
  | error e => simp [bind, Except.bind]
  | ok a => simp [bind, Except.bind]

theorem buildNode_var {c : Cells} {f : Nat} {v : Str} {n : Node} (h : buildNode c f v = .ok n) :
    ∃ bs, n = .mk (some v) bs ∧ ∃ f1, f = f1 + 1 ∧ buildBranches c f1 (cellOf c v) = .ok bs := by
  cases f with
  | zero => simp [buildNode] at h
  | succ f1 =>
    simp only [buildNode, bind_eq_ok, pure, Except.pure, Except.ok.injEq] at h
    obtain ⟨bs, hb, rfl⟩ := h
    exact ⟨bs, rfl, f1, rfl, hb⟩

theorem buildNode_succ {c : Cells} {f : Nat} {v : Str} {bs : Branches}
    (h : buildBranches c f (cellOf c v) = .ok bs) : buildNode c (f + 1) v = .ok (.mk (some v) bs) := by
  rw [cellOf] at h
  simp only [buildNode, h]
  rfl

theorem buildBranches_atom {c : Cells} {f : Nat} {e : Edge} {es : List Edge} {a : Atom} {bs : Branches}
    (ht : e.tgt = .atom a) :
    buildBranches c f (e :: es) = .ok bs ↔
      ∃ rest, buildBranches c f es = .ok rest ∧ .atom (outRole e) (outAtom e a) rest = bs := by
  rw [outRole, outAtom, ← applyEpis_fst e.role (some (atomStr a))]
  simp only [buildBranches, ht, bind_eq_ok, pure, Except.pure, Except.ok.injEq]

theorem buildBranches_node {c : Cells} {f : Nat} {e : Edge} {es : List Edge} {w : Str} {bs : Branches}
    (ht : e.tgt = .node w) :
    buildBranches c f (e :: es) = .ok bs ↔
      ∃ f1, f = f1 + 1 ∧ ∃ rest, buildBranches c f es = .ok rest ∧
        ∃ n, buildNode c f1 w = .ok n ∧ .sub (outRole e) n rest = bs := by
  cases f with
  | zero =>
    simp only [buildBranches, ht, bind_eq_ok]
    exact ⟨nofun, nofun⟩
  | succ f =>
    simp only [buildBranches, ht, bind_eq_ok, pure, Except.pure, Except.ok.injEq, outRole,
      Nat.add_right_cancel_iff, exists_eq_left']

theorem buildBranches_mono {c : Cells} {f : Nat}
    (hN : ∀ f1 w n, f = f1 + 1 → buildNode c f1 w = .ok n → buildNode c f w = .ok n) :
    ∀ {es bs}, buildBranches c f es = .ok bs → buildBranches c (f + 1) es = .ok bs := by
  intro es
  induction es with
  | nil => intro bs h; simpa [buildBranches] using h
  | cons e es ih =>
    intro bs h
    cases ht : e.tgt with
    | atom a =>
      obtain ⟨rest, hr, rfl⟩ := (buildBranches_atom ht).1 h
      exact (buildBranches_atom ht).2 ⟨rest, ih hr, rfl⟩
    | node w =>
      obtain ⟨f1, hf, rest, hr, n, hn, rfl⟩ := (buildBranches_node ht).1 h
      exact (buildBranches_node ht).2 ⟨f, rfl, rest, ih hr, n, hN f1 w n hf hn, rfl⟩

theorem build_mono (c : Cells) : ∀ f,
    (∀ v n, buildNode c f v = .ok n → buildNode c (f + 1) v = .ok n) ∧
    (∀ es bs, buildBranches c f es = .ok bs → buildBranches c (f + 1) es = .ok bs) := by
  intro f
  induction f with
  | zero =>
    exact ⟨fun v n h => by simp [buildNode] at h, fun es bs => buildBranches_mono fun f1 _ _ hf => by omega⟩
  | succ f ih =>
    refine ⟨fun v n h => ?_, fun es bs => buildBranches_mono fun f1 w n hf => ?_⟩
    · obtain ⟨bs, rfl, f1, hf, hb⟩ := buildNode_var h
      cases hf
      exact buildNode_succ (ih.2 _ _ hb)
    · cases hf
      exact ih.1 w n

theorem buildNode_le {c : Cells} {f f' : Nat} {v : Str} {n : Node} (hle : f ≤ f')
    (h : buildNode c f v = .ok n) : buildNode c f' v = .ok n := by
  induction hle with
  | refl => exact h
  | step _ ih => exact (build_mono c _).1 v n ih

theorem branches_built (c : Cells) (v : Str) {f : Nat} (hf : f ≤ 2 * c.length + 2) :
    ∀ (es : List Edge) (bs : Branches), buildBranches c f es = .ok bs →
    (Branches.written (some v) bs).Perm (es.map (edgeWritten v) ++ (nodeTgts es).flatMap (builtW c)) ∧
    labelled bs = cellLabelled es ∧
    (bs.nodes.map (·.1)).Perm ((nodeTgts es).flatMap (builtV c)) ∧
    (Branches.edgeTriples v bs).Perm (es.map (rawTriple v) ++ (nodeTgts es).flatMap (builtT c)) := by
  intro es
  induction es with
  | nil =>
    intro bs h
    simp only [buildBranches, Except.ok.injEq] at h
    subst h
    exact ⟨.refl _, rfl, .refl _, .refl _⟩
  | cons e es ih =>
    intro bs h
    cases ht : e.tgt with
    | atom a =>
      obtain ⟨rest, hr, rfl⟩ := (buildBranches_atom ht).1 h
      obtain ⟨iW, iL, iV, iT⟩ := ih rest hr
      have hnt : nodeTgts (e :: es) = nodeTgts es := by simp only [nodeTgts, List.filterMap_cons, ht]
      rw [hnt]
      refine ⟨?_, ?_, iV, ?_⟩
      · simp only [Branches.written, List.map_cons, List.cons_append, edgeWritten, ht]
        exact iW.cons _
      · exact congrArg (decide (roleName (outRole e) = CONCEPT_ROLE) || ·) iL
      · simp only [Branches.edgeTriples, List.map_cons, List.cons_append, rawTriple, ht]
        exact iT.cons _
    | node w =>
      obtain ⟨f1, rfl, rest, hr, n, hn, rfl⟩ := (buildBranches_node ht).1 h
      obtain ⟨iW, iL, iV, iT⟩ := ih rest hr
      have hn' : buildNode c (2 * c.length + 2) w = .ok n := buildNode_le (Nat.le_of_succ_le hf) hn
      obtain ⟨nbs, rfl, _⟩ := buildNode_var hn
      have hnt : nodeTgts (e :: es) = w :: nodeTgts es := by simp only [nodeTgts, List.filterMap_cons, ht]
      rw [hnt]
      refine ⟨?_, ?_, ?_, ?_⟩
      · simp only [Branches.written, List.map_cons, List.cons_append, List.flatMap_cons, edgeWritten, ht,
          builtW, hn', Node.var]
        exact ((iW.append_left _).trans (List.perm_append_comm_assoc _ _ _)).cons _
      · exact congrArg (decide (roleName (outRole e) = CONCEPT_ROLE) || ·) iL
      · simp only [Branches.nodes, List.map_append, List.flatMap_cons, builtV, hn', Node.vars]
        exact iV.append_left _
      · simp only [Branches.edgeTriples, List.map_cons, List.cons_append, List.flatMap_cons, rawTriple, ht,
          builtT, hn', Node.var, Option.getD_some]
        exact ((iT.append_left _).trans (List.perm_append_comm_assoc _ _ _)).cons _

/-- one step of the traversal: the subtree of `v` writes `v`'s own relations and then the subtrees of
    its children -/
theorem built_step (c : Cells) (hF : Forest c) (v : Str) :
    (builtW c v).Perm (ownW v (cellOf c v) ++ (children c v).flatMap (builtW c)) ∧
    (builtV c v).Perm ([v] ++ (children c v).flatMap (builtV c)) ∧
    (builtT c v).Perm ((cellOf c v).map (rawTriple v) ++ (children c v).flatMap (builtT c)) := by
  obtain ⟨n, hn⟩ := buildNode_ok hF v
  obtain ⟨bs, rfl, f1, hf, hb⟩ := buildNode_var hn
  obtain ⟨iW, iL, iV, iT⟩ := branches_built c v (by rw [hf]; exact Nat.le_succ _) _ bs hb
  refine ⟨?_, ?_, ?_⟩
  · simp only [builtW, hn, Node.written, ownW, iL, children, List.append_assoc]
    exact iW.append_left _
  · simp only [builtV, hn, Node.vars, Node.nodes, List.map_append, List.map_cons, List.map_nil, children]
    exact iV.append_left _
  · simpa only [builtT, hn, Node.edgeTriples, children, Option.getD_some] using iT

/-- store → tree: on a forest-shaped store with in-degree one, the tree built from the top
    writes every relation of every cell exactly once, and has one node per cell. -/
theorem built_all {c : Cells} {top : Str} {rest : List Str} (hkeys : ckeys c = top :: rest)
    (hn : (ckeys c).Nodup) (hF : Forest c) (hdeg : ([top] ++ allNodeTgts c).Perm (ckeys c)) :
    (builtW c top).Perm (flat ownW c) ∧ (builtV c top).Perm (ckeys c) := by
  constructor
  · rw [flat_eq_keys ownW hn]
    exact traverse c (fun v => ownW v (cellOf c v)) (builtW c) top rest hkeys hn hdeg
      (fun v _ => (built_step c hF v).1)
  · have := traverse c (fun v => [v]) (builtV c) top rest hkeys hn hdeg (fun v _ => (built_step c hF v).2.1)
    simpa using this

end Cfg
end Penman
