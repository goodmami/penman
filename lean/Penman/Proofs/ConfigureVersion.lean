/-
  Penman.Proofs.ConfigureVersion — from the graph's triples to the store's triples,
  element by element: at most one net inversion (`two_steps`), nothing dropped on a well-formed
  graph (`no_drop`, `chain_map`); `deinvert1` identifies both sides (`deinvert1_version`); the
  record `Encoded` of a successful `configure`.
-/
import Penman.Proofs.ConfigurePlain
import Penman.Spec.Encode
import Penman.Props.C13
namespace Penman
namespace Cfg

theorem keys_subset_variables {m : Model} {g : Graph} {top : Str} {st : St} (hn : NoInstOf m g) (hpv : PushVars g)
    (ht : top ∈ g.variables) (h : storeOf m g top = .ok st) : ∀ k ∈ ckeys st.cells, k ∈ g.variables := by
  intro k hk
  obtain ⟨r, _⟩ := storeOf_rinv hn hpv ht h
  have hg := storeOf_good h
  exact r.keys k (hasKey_of_avail (avail_of_own ((hg.own k).1 hk)))

theorem placed_src_key {c : Cells} {p : Triple} (h : p ∈ placed c) : p.src ∈ ckeys c := by
  obtain ⟨q, hq, hm⟩ := List.mem_flatMap.1 h
  obtain ⟨e, _, rfl⟩ := List.mem_map.1 hm
  exact mem_keys_of_mem hq

theorem two_steps {m : Model} (hw : ModelWf m) {t t1 t2 : Triple}
    (hc : m.canonInversion t.role = some t.role) (h1 : PreStep m t t1) (h2 : Step m t1 (some t2)) :
    t2 = t ∨ (t2 = m.invert t ∧ (∃ b, t.tgt = .str b) ∧ t.role ≠ CONCEPT_ROLE) := by
  cases h1 with
  | same =>
    cases h2 with
    | keep => exact Or.inl rfl
    | inv v hv hr => exact Or.inr ⟨rfl, ⟨v, hv⟩, hr⟩
  | inv v hv hr =>
    cases h2 with
    | keep => exact Or.inr ⟨rfl, ⟨v, hv⟩, hr⟩
    | inv v' hv' hr' => exact Or.inl (C13.invert_invert hw hv hc)

theorem nullB_iff (t : Triple) : nullB t = true ↔ NullInst t := by
  simp [nullB, NullInst]

theorem no_drop {m : Model} {g : Graph} (hn : NoInstOf m g) {t t1 : Triple} (ht : t ∈ g.triples)
    (hnn : nullB t = false) (h1 : PreStep m t t1) : ¬ Step m t1 none := by
  have hnn' : ¬ NullInst t := fun h => Bool.eq_false_iff.1 hnn ((nullB_iff t).2 h)
  intro h2
  cases h1 with
  | same =>
    cases h2 with
    | drop hnull => exact hnn' hnull
    | dropInv v hv hr hnull => exact (hn t ht hr).1 (by rw [← invert_role]; exact hnull.1)
  | inv v hv hr =>
    cases h2 with
    | drop hnull => exact (hn t ht hr).1 (by rw [← invert_role]; exact hnull.1)
    | dropInv v' hv' hr' hnull =>
      apply (hn t ht hr).2
      rw [← invert_role, ← invert_role]; exact hnull.1

theorem must_drop {m : Model} {t t1 t2 : Triple} (hnn : nullB t = true) (h1 : PreStep m t t1) :
    ¬ Step m t1 (some t2) := by
  have hnull := (nullB_iff t).1 hnn
  intro h2
  cases h1 with
  | same =>
    cases h2 with
    | keep h => exact h hnull
    | inv v hv hr => exact hr hnull.1
  | inv v hv hr => exact hr hnull.1

/-- element-wise transport along `Pre` and `Corr`: the kept triples in order, the dropped ones aside -/
theorem chain_map {m : Model} {β : Type} (F D : Triple → β) (Q : Triple → Prop) :
    ∀ {ts l1 l : List Triple}, Pre m ts l1 → Corr m l1 l →
    (∀ t ∈ ts, nullB t = false → ∀ t1, PreStep m t t1 → ¬ Step m t1 none) →
    (∀ t ∈ ts, ∀ t1 t2, PreStep m t t1 → Step m t1 (some t2) → Q t2 → F t2 = D t) →
    (∀ x ∈ l, Q x) → (ts.map D).Perm (l.map F ++ (ts.filter nullB).map D) := by
  intro ts l1 l hpre
  induction hpre generalizing l with
  | nil => intro hc _ _ _; cases hc; exact .nil
  | @cons a b l1' l2' hs _ ih =>
    intro hc hnd hpw hq
    cases hc with
    | @cons _ ob _ l2 hstep hrest =>
      have ih' := ih hrest (fun t ht => hnd t (List.mem_cons_of_mem _ ht))
        (fun t ht => hpw t (List.mem_cons_of_mem _ ht)) (fun x hx => hq x (List.mem_append_right _ hx))
      cases ob with
      | none =>
        have hnull : nullB a = true := Bool.of_not_eq_false fun h => hnd a List.mem_cons_self h b hs hstep
        rw [List.filter_cons_of_pos hnull]
        exact ((List.perm_cons _).2 ih').trans List.perm_middle.symm
      | some t2 =>
        have hnull : nullB a = false := Bool.of_not_eq_true fun h => must_drop h hs hstep
        rw [List.filter_cons_of_neg (by rw [hnull]; exact Bool.false_ne_true), List.map_cons,
          ← hpw a List.mem_cons_self b t2 hs hstep (hq t2 List.mem_cons_self)]
        exact (List.perm_cons _).2 ih'

theorem chain_back {m : Model} : ∀ {ts l1 l : List Triple}, Pre m ts l1 → Corr m l1 l →
    ∀ x ∈ l, ∃ t ∈ ts, ∃ t1, PreStep m t t1 ∧ Step m t1 (some x) := by
  intro ts l1 l hpre
  induction hpre generalizing l with
  | nil => intro hc x hx; cases hc; cases hx
  | @cons a b l1' l2' hs _ ih =>
    intro hc x hx
    cases hc with
    | @cons _ ob _ l2 hstep hrest =>
      rcases List.mem_append.1 hx with hx | hx
      · obtain rfl : ob = some x := Option.mem_toList.1 hx
        exact ⟨a, List.mem_cons_self, b, hs, hstep⟩
      · obtain ⟨t, ht, h⟩ := ih hrest x hx
        exact ⟨t, List.mem_cons_of_mem _ ht, h⟩

theorem chain_fwd {m : Model} : ∀ {ts l1 l : List Triple}, Pre m ts l1 → Corr m l1 l →
    ∀ t ∈ ts, ∃ t1, PreStep m t t1 ∧ (Step m t1 none ∨ ∃ x ∈ l, Step m t1 (some x)) := by
  intro ts l1 l hpre
  induction hpre generalizing l with
  | nil => intro _ t ht; cases ht
  | @cons a b l1' l2' hs _ ih =>
    intro hc t ht
    cases hc with
    | @cons _ ob _ l2 hstep hrest =>
      rcases List.mem_cons.1 ht with rfl | ht
      · refine ⟨b, hs, ?_⟩
        cases ob with
        | none => exact Or.inl hstep
        | some t2 => exact Or.inr ⟨t2, List.mem_append_left _ List.mem_cons_self, hstep⟩
      · obtain ⟨t1, h1, h2⟩ := ih hrest t ht
        exact ⟨t1, h1, h2.imp_right fun ⟨x, hx, h⟩ => ⟨x, List.mem_append_right _ hx, h⟩⟩

theorem canon_invertRole {m : Model} (hw : ModelWf m) {r : Str} (hc : m.canonInversion r = some r) :
    m.canonInversion (m.invertRole r) = some (m.invertRole r) := by
  apply Role.canonInversion_fixed_iff.2
  right
  rw [(C13.inv_involutive hw hc).1]

theorem isRoleInverted_invert {m : Model} (hw : ModelWf m) {t : Triple}
    (hc : m.canonInversion t.role = some t.role) :
    m.isRoleInverted (m.invert t).role = !m.isRoleInverted t.role := by
  rw [invert_role]; exact (C13.inv_involutive hw hc).2

theorem deinvert1_of_not_inverted {m : Model} (g : Graph) {x : Triple} (h : m.isRoleInverted x.role = false) :
    deinvert1 m g x = x :=
  if_neg fun h' => by rw [h] at h'; cases h'.1

theorem deinvert1_idem {m : Model} (hw : ModelWf m) {g : Graph} {x : Triple}
    (hc : m.canonInversion x.role = some x.role) : deinvert1 m g (deinvert1 m g x) = deinvert1 m g x := by
  by_cases h : m.isRoleInverted x.role = true ∧ g.isVar x.tgt = true
  · have e : deinvert1 m g x = m.invert x := if_pos h
    rw [e]
    apply deinvert1_of_not_inverted
    rw [isRoleInverted_invert hw hc, h.1]; rfl
  · have e : deinvert1 m g x = x := if_neg h
    rw [e, e]

/-- the store's version of a triple deinverts to the same triple as the original -/
theorem deinvert1_version {m : Model} (hw : ModelWf m) {g : Graph} {t t2 : Triple} (ht : t ∈ g.triples)
    (hc : m.canonInversion t.role = some t.role)
    (h : t2 = t ∨ (t2 = m.invert t ∧ (∃ b, t.tgt = .str b) ∧ t.role ≠ CONCEPT_ROLE))
    (hsrc : t2.src ∈ g.variables) : deinvert1 m g t2 = deinvert1 m g t := by
  rcases h with rfl | ⟨rfl, ⟨b, hb⟩, _⟩
  · rfl
  · have hflip := isRoleInverted_invert hw hc
    rw [invert_src m t b hb] at hsrc
    -- exactly one of `t`, `m.invert t` has an inverted role; both targets are variables
    cases hi : m.isRoleInverted t.role with
    | true =>
      rw [hi] at hflip
      rw [deinvert1_of_not_inverted g hflip]
      exact (if_pos ⟨hi, by rw [hb]; exact decide_eq_true hsrc⟩).symm
    | false =>
      rw [hi] at hflip
      rw [deinvert1_of_not_inverted g hi]
      refine (if_pos ⟨hflip, ?_⟩).trans (C13.invert_invert hw hb hc)
      rw [invert_tgt]; exact decide_eq_true (src_mem_variables ht)

theorem deinvert1_cases (m : Model) (g : Graph) (x : Triple) :
    deinvert1 m g x = x ∨ deinvert1 m g x = m.invert x := by
  unfold deinvert1
  split
  · exact Or.inr rfl
  · exact Or.inl rfl

/-- a successful `configure` on a well-formed graph without alignment markers: the store `st`, the tree
    `T` built from it, and the store's triples `l` set against the graph's -/
structure Encoded (m : Model) (g : Graph) (t : Str) (T : Tree) (st : St) (l : List Triple) : Prop where
  store : storeOf m g t = .ok st
  build : buildNode st.cells (2 * st.cells.length + 2) t = .ok T.node
  metaEq : T.metadata = g.metadata
  /-- the store's triples, in the order of the graph's triples -/
  perm : l.Perm (placed st.cells)
  /-- each is the graph's triple or its inversion towards a variable -/
  version : ∀ x ∈ l, ∃ t0 ∈ g.triples, x = t0 ∨ (x = m.invert t0 ∧ (∃ b, t0.tgt = .str b) ∧ t0.role ≠ CONCEPT_ROLE)
  notNull : ∀ x ∈ l, ¬ NullInst x
  /-- deinverting once identifies them with the graph's triples; the null labels are aside -/
  same : (g.triples.map (deinvert1 m g)).Perm
    (l.map (deinvert1 m g) ++ (g.triples.filter nullB).map (deinvert1 m g))
  /-- the cells are exactly the variables -/
  keys : ∀ k, k ∈ ckeys st.cells ↔ k ∈ g.variables
  plain : Plain st.cells
  /-- non-null node labels are kept as they are -/
  inst : ∀ t0 ∈ g.triples, t0.role = CONCEPT_ROLE → nullB t0 = false → t0 ∈ l

end Cfg
end Penman
