/-
  Penman.Proofs.ConfiguredTreeWf — the configured tree is grammar-valid at the character level, alignment
  suffixes included (`Al.encodedAl_tree_wf`).
  1. an invariant of the cell store (`SQ`): in every cell the `/` edges (node labels) come
     first and have atomic targets (they are inserted at the front, everything else is appended;
     establishing a site never touches a `/` edge);
  2. `buildNode` on a store whose cells are grammar-valid, `/` at most in first position, yields a tree
     whose written form is `WfTreeText`;
  3. with at most one node label per variable, a cell has its `/` edge, if any, in first position
     only; every edge is the graph's triple or its inversion, written as ROLE text (+ ALIGNMENT text)
     and SYMBOL/STRING text (+ ALIGNMENT text).
-/
import Penman.Proofs.AlignEncoded
import Penman.Proofs.AlignNoAlign
import Penman.Proofs.TextWfLemmas

namespace Penman
namespace Cfg
open Penman.Spec Penman.C03Text

/-- `/` edges have atomic targets, and no `/` edge follows an edge with another role -/
def SlashOK : List Edge → Prop
  | [] => True
  | e :: es => (e.role = ['/'] → ∃ a, e.tgt = .atom a) ∧ (e.role ≠ ['/'] → ∀ x ∈ es, x.role ≠ ['/']) ∧
      SlashOK es

def SQ (c : Cells) : Prop := ∀ p ∈ c, SlashOK p.2

theorem slashOK_snoc : ∀ {es : List Edge} {e : Edge}, SlashOK es → e.role ≠ ['/'] → SlashOK (es ++ [e]) := by
  intro es
  induction es with
  | nil => intro e _ he; exact ⟨fun h => absurd h he, fun _ x hx => by simp at hx, trivial⟩
  | cons a r ih =>
    intro e h he
    obtain ⟨h1, h2, h3⟩ := h
    refine ⟨h1, ?_, ih h3 he⟩
    intro hna x hx
    rcases List.mem_append.1 hx with hx | hx
    · exact h2 hna x hx
    · simp only [List.mem_singleton] at hx; subst hx; exact he

theorem slashOK_cons_slash {es : List Edge} {a : Atom} {epis : List Epi} (h : SlashOK es) :
    SlashOK (⟨['/'], .atom a, epis⟩ :: es) :=
  ⟨fun _ => ⟨a, rfl⟩, fun h' => absurd rfl h', h⟩

theorem establishIn_roles (v : Str) : ∀ {es : List Edge}, ∀ x ∈ establishIn v es, ∃ y ∈ es, x.role = y.role := by
  intro es
  induction es with
  | nil => intro x hx; simp [establishIn] at hx
  | cons a r ih =>
    intro x hx
    simp only [establishIn] at hx
    split at hx
    · simp only [List.mem_cons] at hx
      rcases hx with rfl | hx
      · exact ⟨a, List.mem_cons_self, rfl⟩
      · exact ⟨x, List.mem_cons_of_mem _ hx, rfl⟩
    · simp only [List.mem_cons] at hx
      rcases hx with rfl | hx
      · exact ⟨_, List.mem_cons_self, rfl⟩
      · obtain ⟨y, hy, e⟩ := ih x hx
        exact ⟨y, List.mem_cons_of_mem _ hy, e⟩

theorem slashOK_establishIn (v : Str) : ∀ {es : List Edge}, SlashOK es → SlashOK (establishIn v es) := by
  intro es
  induction es with
  | nil => intro h; simpa [establishIn] using h
  | cons a r ih =>
    intro h
    obtain ⟨h1, h2, h3⟩ := h
    simp only [establishIn]
    split
    · rename_i hc
      exact ⟨fun h => absurd h hc.2, fun _ => h2 hc.2, h3⟩
    · refine ⟨h1, ?_, ih h3⟩
      intro hna x hx
      obtain ⟨y, hy, e⟩ := establishIn_roles v x hx
      rw [e]; exact h2 hna y hy

/-- in the final store the node labels come first and are atomic -/
theorem storeOf_sq {m : Model} {g : Graph} {top : Str} {st : St} (hr : ∀ t ∈ g.triples, RoleOK2 m t)
    (h : storeOf m g top = .ok st) : SQ st.cells :=
  Al.storeOf_inv (I := fun _ es => SlashOK es)
    ⟨fun _ => trivial, slashOK_establishIn _, fun _ h => slashOK_cons_slash h, fun _ hns h => slashOK_snoc h hns⟩ hr h

variable {cfg : LexCfg}

theorem cellOf_cases (C : Cells) (v : Str) : cellOf C v = [] ∨ (v, cellOf C v) ∈ C :=
  cell_cases ⟨C, []⟩ v

namespace Al

/-- a text `p` accepts, followed by an ALIGNMENT text, is an aligned `p` text
    (`alignedB` tries every split point) -/
theorem alignedB_append {p : Str → Bool} {s a : Str} (hp : p s = true) (ha : alignmentB cfg a = true) :
    alignedB cfg p (s ++ a) = true :=
  (FL.alignedB_iff _ _).2 ⟨s, a, rfl, hp, .inr ha⟩

/-- an edge whose written texts are grammar-valid -/
def EdgeTextAl (cfg : LexCfg) (e : Edge) : Prop :=
  (e.role = ['/'] → outRole e = ['/'] ∧ ∃ a, e.tgt = .atom a ∧ atomB cfg (writtenAtom (outAtom e a)) = true) ∧
  (e.role ≠ ['/'] → roleTextB cfg (outRole e) = true ∧
     (∀ a, e.tgt = .atom a → atomB cfg (writtenAtom (outAtom e a)) = true) ∧
     (∀ w, e.tgt = .node w → symbolB cfg w = true))

structure CellTextAl (cfg : LexCfg) (es : List Edge) : Prop where
  tail : ∀ e r, es = e :: r → ∀ x ∈ r, x.role ≠ ['/']
  edge : ∀ e ∈ es, EdgeTextAl cfg e

theorem branches_wf_al (C : Cells) (f : Nat)
    (hP : ∀ f' w n, f = f' + 1 → symbolB cfg w = true → buildNode C f' w = .ok n →
      wfNodeB cfg (writtenForm n) = true) :
    ∀ (es : List Edge) (bs : Branches), (∀ e ∈ es, EdgeTextAl cfg e ∧ e.role ≠ ['/']) →
      buildBranches C f es = .ok bs → wfEdgesB cfg (writtenBs bs) = true := by
  intro es
  induction es with
  | nil =>
    intro bs _ h
    simp only [buildBranches, Except.ok.injEq] at h; subst h
    rfl
  | cons e es ih =>
    intro bs hes h
    have ih' := fun rest => ih rest fun e' he' => hes e' (List.mem_cons_of_mem _ he')
    obtain ⟨⟨_, hE⟩, hns⟩ := hes e List.mem_cons_self
    obtain ⟨hr, ha, hn⟩ := hE hns
    cases htg : e.tgt with
    | atom a =>
      obtain ⟨rest, hrest, rfl⟩ := (buildBranches_atom htg).1 h
      simp only [writtenBs, wfEdgesB, hr, ha a htg, ih' rest hrest, Bool.and_self]
    | node w =>
      obtain ⟨f1, rfl, rest, hrest, n, hnode, rfl⟩ := (buildBranches_node htg).1 h
      simp only [writtenBs, wfEdgesB, hr, hP f1 w n rfl (hn w htg) hnode, ih' rest hrest, Bool.and_self]

/-- **store → grammar-valid tree**, alignment suffixes included -/
theorem build_wf_al (C : Cells) (hC : ∀ p ∈ C, CellTextAl cfg p.2) : ∀ (f : Nat) (v : Str) (n : Node),
    symbolB cfg v = true → buildNode C f v = .ok n → wfNodeB cfg (writtenForm n) = true := by
  intro f
  induction f using Nat.strongRecOn with
  | _ f ih =>
    intro v n hv h
    obtain ⟨bs, rfl, f0, rfl, hb⟩ := buildNode_var h
    have hcell : CellTextAl cfg (cellOf C v) := by
      rcases cellOf_cases C v with h1 | h1
      · rw [h1]; exact ⟨fun e r h => (by cases h), fun e he => absurd he (by simp)⟩
      · exact hC _ h1
    have hQ := branches_wf_al (cfg := cfg) C f0 (fun f' w n' e hw hb' => ih f' (by omega) w n' hw hb')
    simp only [writtenForm, wfNodeB, hv, Bool.true_and]
    cases hes : cellOf C v with
    | nil => rw [hes] at hb; simp only [buildBranches, Except.ok.injEq] at hb; subst hb; rfl
    | cons e r =>
      rw [hes] at hb hcell
      have htail := hcell.tail e r rfl
      by_cases hs : e.role = ['/']
      · -- a node label first: the rest are relations
        obtain ⟨hor, a, hta, hab⟩ := (hcell.edge e List.mem_cons_self).1 hs
        obtain ⟨rest, hrest, rfl⟩ := (buildBranches_atom hta).1 hb
        have i1 := hQ r rest (fun x hx => ⟨hcell.edge x (List.mem_cons_of_mem _ hx), htail x hx⟩) hrest
        simp only [writtenBs, wfTopB, hor, if_true, hab, i1, Bool.and_self]
      · have := hQ (e :: r) bs (fun x hx => ⟨hcell.edge x hx, by
          rcases List.mem_cons.1 hx with rfl | hx
          · exact hs
          · exact htail x hx⟩) hb
        exact FL.wfTop_of_edges _ this

end Al

theorem roleTextB_of_roleB {r : Str} (h : roleB cfg r = true) : roleTextB cfg r = true :=
  (FL.alignedB_iff _ _).2 ⟨r, [], by simp, h, .inl rfl⟩

theorem atomTextB_of {s : Str} (h : (symbolB cfg s || stringB cfg s) = true) : atomTextB cfg s = true :=
  (FL.alignedB_iff _ _).2 ⟨s, [], by simp, h, .inl rfl⟩

theorem atomB_written_of_tgtOK {a : Atom} (h : TgtTextOK cfg a) : atomB cfg (writtenAtom a) = true := by
  cases a with
  | none => rfl
  | str s => exact atomTextB_of h
  | num s =>
    simp only [TgtTextOK] at h
    exact atomTextB_of (by simp [h])

theorem slashOK_mem : ∀ {es : List Edge} {e : Edge}, SlashOK es → e ∈ es → e.role = ['/'] → ∃ a, e.tgt = .atom a := by
  intro es
  induction es with
  | nil => intro e _ h; simp at h
  | cons a r ih =>
    intro e h he hs
    rcases List.mem_cons.1 he with rfl | he
    · exact h.1 hs
    · exact ih h.2.2 he hs

theorem deinvert1_inst (m : Model) (g : Graph) {x : Triple} (h : x.role = CONCEPT_ROLE) : deinvert1 m g x = x :=
  deinvert1_of_not_inverted g (by rw [h]; exact Interp.not_inverted_concept m)

theorem countP_le_flatMap {α β : Type} (P : β → Bool) (f : α → List β) : ∀ {l : List α} {a : α}, a ∈ l →
    (f a).countP P ≤ (l.flatMap f).countP P := by
  intro l
  induction l with
  | nil => intro a h; simp at h
  | cons b r ih =>
    intro a h
    simp only [List.flatMap_cons, List.countP_append]
    rcases List.mem_cons.1 h with rfl | h
    · omega
    · have := ih h; omega

/-- the instance triples with source `v` -/
def instOf (v : Str) (y : Triple) : Bool := decide (y.src = v ∧ y.role = CONCEPT_ROLE)

theorem countP_inst_le_one {g : Graph}
    (h : ((g.triples.filter (fun t => t.role = CONCEPT_ROLE)).map (·.src)).Nodup) (v : Str) :
    g.triples.countP (instOf v) ≤ 1 := by
  have h1 := (List.nodup_iff_count.1 h) v
  have : g.triples.countP (instOf v) =
      ((g.triples.filter (fun t => t.role = CONCEPT_ROLE)).map (·.src)).count v := by
    rw [List.count_eq_countP, List.countP_map, List.countP_filter]
    apply List.countP_congr
    intro t _
    simp only [instOf, Function.comp]
    simp only [decide_eq_true_eq, Bool.and_eq_true, beq_iff_eq]
  omega

namespace Al

section
variable {isSpace isAlpha : Char → Bool} {m : Model} {g : Graph} {t : Str} {T : Tree} {st : St} {l : List Triple}

theorem edge_text_al (hw : ModelWf m) (hg : WfGraphAl m g) (hal : AlignOK isAlpha m g)
    (htx : GraphTextOKal cfg isSpace m g) (E : EncodedAl m g t T st l)
    {p : Str × List Edge} (hp : p ∈ st.cells) {e : Edge} (he : e ∈ p.2) : EdgeTextAl cfg e := by
  have hr2 : ∀ x ∈ g.triples, RoleOK2 m x := fun x hx => roleOK2_of_colon m x (hg.roles x hx).1
  have hsq := storeOf_sq hr2 E.store
  have hgood := storeOf_good E.store
  have hvarsym : ∀ v ∈ g.variables, symbolB cfg v = true := by
    intro v hv
    obtain ⟨t0, ht0, hs0, _⟩ := hg.labelled v hv
    rw [← hs0]; exact htx.base.srcs t0 ht0
  obtain ⟨F, t1, ht1, hv, _, _, _⟩ := edgeFacts (isAlpha := isAlpha) (vars := g.variables) hw hg hal E
    (fun _ => Iff.rfl) hgood.forest hp he
  obtain ⟨_, t2, ht2, hep, _⟩ := edge_resolved hw hg E hp he
  have hmk : ∀ x ∈ e.epis, x.mode ≠ 0 → alignmentB cfg x.toStr = true := by
    intro x hx hm
    rw [hep] at hx
    exact htx.markers t2 ht2 x (List.mem_filter.1 hx).1 hm
  -- the target atom is grammar-valid text
  have hbase : ∀ a, e.tgt = .atom a → TgtTextOK cfg a := by
    intro a ha
    have htg : (Cfg.denote p.1 e).tgt = a := by simp [Cfg.denote, ha]
    rcases hv with hv | ⟨hv, _, _⟩
    · have : t1.tgt = a := by rw [← hv, htg]
      rw [← this]; exact htx.base.tgts t1 ht1
    · have : a = .str t1.src := by rw [← htg, hv, invert_tgt]
      rw [this]
      show (symbolB cfg t1.src || stringB cfg t1.src) = true
      simp [htx.base.srcs t1 ht1]
  have hatom : ∀ a, e.tgt = .atom a → atomB cfg (writtenAtom (outAtom e a)) = true := by
    intro a ha
    rcases outAtom_cases F ha with ⟨_, hoa⟩ | ⟨s, q, i, rfl, hx, _, hoa, _, _, _⟩
    · rw [hoa]; exact atomB_written_of_tgtOK (hbase a ha)
    · rw [hoa]
      show atomTextB cfg (s ++ '~' :: alnBody q i) = true
      exact alignedB_append (hbase _ ha) (hmk _ hx (Nat.succ_ne_zero 1))
  refine ⟨?_, ?_⟩
  · intro hs
    obtain ⟨a, ha⟩ := slashOK_mem (hsq p hp) he hs
    refine ⟨?_, a, ha, hatom a ha⟩
    rcases outRole_cases F with ⟨_, ho⟩ | ⟨_, _, _, _, _, _, hns⟩
    · rw [ho, hs]
    · exact absurd hs hns
  · intro hs
    have hrole : (Cfg.denote p.1 e).role = e.role := by simp [Cfg.denote, hs]
    have hb : roleB cfg e.role = true := by
      rcases hv with hv | ⟨hv, _, hr0⟩
      · have e1 : t1.role = e.role := by rw [← hv, hrole]
        rw [← e1]; exact (htx.base.roles t1 ht1 (by rw [e1]; exact F.notInst)).1
      · have e1 : m.invertRole t1.role = e.role := by rw [← invert_role, ← hv, hrole]
        rw [← e1]; exact (htx.base.roles t1 ht1 hr0).2
    refine ⟨?_, hatom, ?_⟩
    · rcases outRole_cases F with ⟨_, ho⟩ | ⟨q, i, hx, _, ho, _, _⟩
      · rw [ho]; exact roleTextB_of_roleB hb
      · rw [ho]; exact alignedB_append hb (hmk _ hx Nat.one_ne_zero)
    · intro w hw'
      exact hvarsym w ((E.keys w).1 (hgood.forest p hp e he w hw').2)

theorem instOf_deinvert1 {v : Str} {y : Triple} (h : instOf v y = true) : instOf v (deinvert1 m g y) = true := by
  simp only [instOf, decide_eq_true_eq] at h
  rwa [deinvert1_inst m g h.2, instOf, decide_eq_true_eq]

theorem instOf_of_deinvert1 (hno : NoInstOf m g) {v : Str} {y : Triple} (hy : y ∈ g.triples)
    (h : instOf v (deinvert1 m g y) = true) : instOf v y = true := by
  by_cases hyr : y.role = CONCEPT_ROLE
  · rwa [deinvert1_inst m g hyr] at h
  · unfold deinvert1 at h
    split at h
    · simp only [instOf, decide_eq_true_eq, invert_role] at h
      exact absurd h.2 (hno y hy hyr).1
    · exact h

/-- with one node label per variable, the store holds at most one node label for each variable:
    deinverting leaves node labels alone, and up to that the store's triples are the graph's -/
theorem placed_inst_le_one (hg : WfGraphAl m g)
    (hone : ((g.triples.filter (fun t => t.role = CONCEPT_ROLE)).map (·.src)).Nodup)
    (E : EncodedAl m g t T st l) (v : Str) : (placed st.cells).countP (instOf v) ≤ 1 := by
  rw [← E.perm.countP_eq]
  have s1 : l.countP (instOf v) ≤ (l.map (deinvert1 m g)).countP (instOf v) := by
    rw [List.countP_map]
    exact List.countP_mono_left fun y _ hy => instOf_deinvert1 hy
  have s2 : (l.map (deinvert1 m g)).countP (instOf v) ≤ (g.triples.map (deinvert1 m g)).countP (instOf v) := by
    rw [E.same.countP_eq, List.countP_append]; omega
  have s3 : (g.triples.map (deinvert1 m g)).countP (instOf v) ≤ g.triples.countP (instOf v) := by
    rw [List.countP_map]
    exact List.countP_mono_left fun y hy hP => instOf_of_deinvert1 hg.noInstOf hy hP
  have s4 := countP_inst_le_one hone v
  omega

/-- with one node label per variable only the first edge of a cell can be a node label: a second
    one would have the first edge a node label as well (`SQ`), and that makes two -/
theorem slash_only_first (hg : WfGraphAl m g)
    (hone : ((g.triples.filter (fun t => t.role = CONCEPT_ROLE)).map (·.src)).Nodup)
    (E : EncodedAl m g t T st l) {p : Str × List Edge} (hp : p ∈ st.cells) {e : Edge} {r : List Edge}
    (hes : p.2 = e :: r) : ∀ x ∈ r, x.role ≠ ['/'] := by
  intro x hx hxs
  have hso := storeOf_sq (fun x hx => roleOK2_of_colon m x (hg.roles x hx).1) E.store p hp
  rw [hes] at hso
  have hes' : e.role = ['/'] := by
    apply Decidable.byContradiction
    intro hne; exact hso.2.1 hne x hx hxs
  have h1 : (p.2.map (Cfg.denote p.1)).countP (instOf p.1) ≤ (placed st.cells).countP (instOf p.1) :=
    countP_le_flatMap (instOf p.1) (fun q : Str × List Edge => q.2.map (Cfg.denote q.1)) hp
  have h2 : 2 ≤ (p.2.map (Cfg.denote p.1)).countP (instOf p.1) := by
    rw [hes, List.map_cons, List.countP_cons]
    have a1 : instOf p.1 (Cfg.denote p.1 e) = true := by simp [instOf, Cfg.denote, hes']
    have a2 : 0 < (r.map (Cfg.denote p.1)).countP (instOf p.1) :=
      List.countP_pos_iff.2 ⟨Cfg.denote p.1 x, List.mem_map.2 ⟨x, hx, rfl⟩, by simp [instOf, Cfg.denote, hxs]⟩
    simp only [a1, if_true]; omega
  have := placed_inst_le_one hg hone E p.1
  omega

theorem cells_text_al (hw : ModelWf m) (hg : WfGraphAl m g) (hal : AlignOK isAlpha m g)
    (htx : GraphTextOKal cfg isSpace m g) (E : EncodedAl m g t T st l) :
    ∀ p ∈ st.cells, CellTextAl cfg p.2 :=
  fun _ hp => ⟨fun _ _ hes => slash_only_first hg htx.base.oneLabel E hp hes,
    fun _ he => edge_text_al hw hg hal htx E hp he⟩

end

/-- **`configure` yields grammar-valid text, alignments included** -/
theorem encodedAl_tree_wf {isSpace isAlpha : Char → Bool} {m : Model} {g : Graph} {t : Str} {T : Tree} {st : St}
    {l : List Triple} (hw : ModelWf m) (hg : WfGraphAl m g) (hal : AlignOK isAlpha m g)
    (htx : GraphTextOKal cfg isSpace m g) (htv : t ∈ g.variables) (E : EncodedAl m g t T st l) :
    WfTreeText cfg (writtenForm T.node) := by
  obtain ⟨t0, ht0, hs0, _⟩ := hg.labelled t htv
  exact build_wf_al st.cells (cells_text_al hw hg hal htx E) _ t T.node
    (by rw [← hs0]; exact htx.base.srcs t0 ht0) E.build

end Al

end Cfg
end Penman
