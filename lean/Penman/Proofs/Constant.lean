/-
  Penman.Proofs.Constant — the output of `quote` (C18): the four forms of `escapeChar`, every block
  an escape block of printable ASCII, and the lexer reading `jsonDumpsStr s` as one STRING token.
-/
import Penman.Spec.Constant
import Penman.Proofs.LexLemmas

namespace Penman
namespace C18
open Penman.Spec Penman.Lex

theorem hexDigit_lower : ∀ k, k < 16 → isHexLower (hexDigit k) = true := by decide

theorem hexDigit_printable : ∀ k, k < 16 →
    isPrintable (hexDigit k) = true ∧ hexDigit k ≠ '"' ∧ hexDigit k ≠ '\\' := by decide

theorem hexVal_hexDigit : ∀ k, k < 16 → hexVal (hexDigit k) = some k := by decide

theorem isEscBlock_hex4 (n : Nat) : isEscBlock (hex4 n) = true := by
  simp [hex4, isEscBlock, hexDigit_lower, Nat.mod_lt]

theorem isEscBlock_hex4_pair (n m : Nat) : isEscBlock (hex4 n ++ hex4 m) = true := by
  simp [hex4, isEscBlock, hexDigit_lower, Nat.mod_lt]

/-- the two-character escapes of `json.dumps`: the character, and the letter that follows the
    backslash -/
def simpleEscapeTable : List (Char × Char) :=
  [('"', '"'), ('\\', '\\'), ('\n', 'n'), ('\r', 'r'), ('\t', 't'), ('\x08', 'b'), ('\x0c', 'f')]

theorem simpleEscapeTable_snd : ∀ p ∈ simpleEscapeTable, p.2 ∈ simpleEscapes ∧ p.2 ≠ '\n' := by decide

theorem escapeChar_cases (c : Char) :
    (∃ e, (c, e) ∈ simpleEscapeTable ∧ escapeChar c = ['\\', e]) ∨
    (c ≠ '"' ∧ c ≠ '\\' ∧ isPrintable c = true ∧ escapeChar c = [c]) ∨
    (c.toNat < 0x10000 ∧ escapeChar c = hex4 c.toNat) ∨
    (0x10000 ≤ c.toNat ∧ escapeChar c =
      hex4 (0xd800 + (c.toNat - 0x10000) / 1024) ++ hex4 (0xdc00 + (c.toNat - 0x10000) % 1024)) := by
  by_cases h : ∃ e, (c, e) ∈ simpleEscapeTable
  · obtain ⟨e, he⟩ := h
    exact .inl ⟨e, he, (by decide : ∀ p ∈ simpleEscapeTable, escapeChar p.1 = ['\\', p.2]) _ he⟩
  have hne : ∀ p ∈ simpleEscapeTable, ¬ c = p.1 := fun p hp e => h ⟨p.2, by rw [e]; exact hp⟩
  have h1 := hne ('"', '"') (by decide)
  have h2 := hne ('\\', '\\') (by decide)
  refine .inr ?_
  rw [escapeChar, if_neg h1, if_neg h2, if_neg (hne ('\n', 'n') (by decide)),
    if_neg (hne ('\r', 'r') (by decide)), if_neg (hne ('\t', 't') (by decide)),
    if_neg (hne ('\x08', 'b') (by decide)), if_neg (hne ('\x0c', 'f') (by decide))]
  by_cases hp : 0x20 ≤ c.toNat ∧ c.toNat ≤ 0x7e
  · exact .inl ⟨h1, h2, by simp [isPrintable, hp], if_pos hp⟩
  by_cases hlt : c.toNat < 0x10000
  · exact .inr (.inl ⟨hlt, by simp only [if_neg hp, if_pos hlt]⟩)
  · exact .inr (.inr ⟨Nat.le_of_not_lt hlt, by simp only [if_neg hp, if_neg hlt]⟩)

theorem isEscBlock_escapeChar (c : Char) : isEscBlock (escapeChar c) = true := by
  rcases escapeChar_cases c with ⟨e, he, h⟩ | ⟨h1, h2, h3, h⟩ | ⟨_, h⟩ | ⟨_, h⟩ <;> rw [h]
  · simp [isEscBlock, (simpleEscapeTable_snd _ he).1]
  · simp [isEscBlock, h1, h2, h3]
  · exact isEscBlock_hex4 _
  · exact isEscBlock_hex4_pair _ _

theorem isEscBlock_printable {b : Str} (hb : isEscBlock b = true) : ∀ x ∈ b, isPrintable x = true := by
  have hl : ∀ c, isHexLower c = true → isPrintable c = true := by
    intro c hc
    simp only [isHexLower, isPrintable, Bool.or_eq_true, Bool.and_eq_true, decide_eq_true_eq,
      Char.le_def, UInt32.le_iff_toNat_le, Char.toNat] at *
    have e0 : ('0' : Char).val.toNat = 48 := by decide
    have e9 : ('9' : Char).val.toNat = 57 := by decide
    have ea : ('a' : Char).val.toNat = 97 := by decide
    have ef : ('f' : Char).val.toNat = 102 := by decide
    omega
  have hs : ∀ e ∈ simpleEscapes, isPrintable e = true := by decide
  have hb' : isPrintable '\\' = true := by decide
  have hu : isPrintable 'u' = true := by decide
  unfold isEscBlock at hb
  split at hb
  case h_5 => cases hb
  all_goals
    simp only [Bool.and_eq_true, beq_iff_eq, bne_iff_ne, List.contains_eq_mem, decide_eq_true_eq] at hb
    simp only [List.forall_mem_cons, List.not_mem_nil, false_imp_iff, implies_true, and_true]
  · exact hb.2
  · exact ⟨hb.1 ▸ hb', hs _ hb.2⟩
  · obtain ⟨⟨⟨⟨⟨rfl, rfl⟩, h3⟩, h2⟩, h1⟩, h0⟩ := hb
    exact ⟨hb', hu, hl _ h3, hl _ h2, hl _ h1, hl _ h0⟩
  · obtain ⟨⟨⟨⟨⟨⟨⟨⟨⟨⟨⟨rfl, rfl⟩, h3⟩, h2⟩, h1⟩, h0⟩, rfl⟩, rfl⟩, l3⟩, l2⟩, l1⟩, l0⟩ := hb
    exact ⟨hb', hu, hl _ h3, hl _ h2, hl _ h1, hl _ h0, hb', hu, hl _ l3, hl _ l2, hl _ l1, hl _ l0⟩

theorem jsonDumpsStr_eq (s : Str) :
    jsonDumpsStr s = '"' :: (s.map escapeChar).flatten ++ ['"'] := by
  simp [jsonDumpsStr, List.flatMap_def]

theorem body_printable (s : Str) : ∀ x ∈ s.flatMap escapeChar, isPrintable x = true := by
  intro x hx
  obtain ⟨c, _, hc⟩ := List.mem_flatMap.mp hx
  exact isEscBlock_printable (isEscBlock_escapeChar c) x hc

theorem scanBody_plain {excl : List Char} (h : strExclOk excl = true) {c : Char}
    (h1 : c ≠ '"') (h2 : c ≠ '\\') (h3 : isPrintable c = true) (rest : Str) :
    scanBody excl (c :: rest) = (scanBody excl rest).map (c :: ·) := by
  have : c ∉ excl := fun hc => by simpa [h1, h2, h3] using List.all_eq_true.mp h c hc
  rw [scanBody.eq_def]; simp [h1, h2, this]

theorem scanBody_esc (excl : List Char) {d : Char} (hd : d ≠ '\n') (rest : Str) :
    scanBody excl ('\\' :: d :: rest) = (scanBody excl rest).map (fun r => '\\' :: d :: r) := by
  simp [scanBody, hd]

theorem scanBody_hex4 {excl : List Char} (h : strExclOk excl = true) (n : Nat) (rest : Str) :
    scanBody excl (hex4 n ++ rest) = (scanBody excl rest).map (hex4 n ++ ·) := by
  have hd (k : Nat) (r : Str) :
      scanBody excl (hexDigit (k % 16) :: r) = (scanBody excl r).map (hexDigit (k % 16) :: ·) :=
    have ⟨p, q, b⟩ := hexDigit_printable _ (Nat.mod_lt k (by decide))
    scanBody_plain h q b p r
  simp only [hex4, List.cons_append, List.nil_append]
  rw [scanBody_esc excl (by decide), hd, hd, hd, hd]
  cases scanBody excl rest <;> rfl

theorem scanBody_escapeChar {excl : List Char} (h : strExclOk excl = true) (c : Char) (rest : Str) :
    scanBody excl (escapeChar c ++ rest) = (scanBody excl rest).map (escapeChar c ++ ·) := by
  rcases escapeChar_cases c with ⟨e, he, hc⟩ | ⟨h1, h2, h3, hc⟩ | ⟨_, hc⟩ | ⟨_, hc⟩ <;> rw [hc]
  · exact scanBody_esc excl (simpleEscapeTable_snd _ he).2 rest
  · exact scanBody_plain h h1 h2 h3 rest
  · exact scanBody_hex4 h _ rest
  · rw [List.append_assoc, scanBody_hex4 h, scanBody_hex4 h]
    cases scanBody excl rest <;> simp

theorem scanBody_body {excl : List Char} (h : strExclOk excl = true) (s : Str) :
    scanBody excl (s.flatMap escapeChar ++ ['"']) = some (s.flatMap escapeChar ++ ['"']) := by
  induction s with
  | nil => simp [scanBody]
  | cons c cs ih =>
    rw [List.flatMap_cons, List.append_assoc, scanBody_escapeChar h, ih]
    simp

theorem scanString_quote {excl : List Char} (h : strExclOk excl = true) (s : Str) :
    scanString excl (jsonDumpsStr s) = some (jsonDumpsStr s) := by
  rw [jsonDumpsStr, List.cons_append, scanString_cons, scanBody_body h]
  rfl

theorem scanTy_quote_none {cfg : LexCfg} {ty : TokTy} (h : failsOnQuote cfg ty = true) (r : Str) :
    scanTy cfg ty ('"' :: r) = none := by
  apply scanTy_none_of_failsOn
  cases ty <;> simp [failsOnQuote] at h <;> simp [failsOn, h]

theorem firstMatch_quote {cfg : LexCfg} {order : List TokTy} (h : stringFirst cfg order = true)
    {r m : Str} (hm : scanString cfg.strExcl ('"' :: r) = some m) :
    firstMatch cfg order ('"' :: r) = some (.STRING, m) := by
  induction order with
  | nil => simp [stringFirst] at h
  | cons ty tys ih =>
    by_cases hty : ty = .STRING
    · subst hty; simp [firstMatch, scanTy, hm]
    · simp [stringFirst, hty] at h
      simp [firstMatch, scanTy_quote_none h.1, ih h.2]

theorem jsonDumpsStr_noBreak (s : Str) : NoBreak (jsonDumpsStr s) := by
  have hp : ∀ c ∈ jsonDumpsStr s, isPrintable c = true := by
    intro c hc
    simp only [jsonDumpsStr, List.mem_cons, List.mem_append, List.not_mem_nil, or_false] at hc
    rcases hc with (rfl | hc) | rfl
    · decide
    · exact body_printable s c hc
    · decide
  exact ⟨fun h => absurd (hp _ h) (by decide), fun h => absurd (hp _ h) (by decide)⟩

theorem lexStr_jsonDumpsStr {cfg : LexCfg} {order : List TokTy} (h : lexQuoteOk cfg order = true)
    (s : Str) : lexStr cfg order (jsonDumpsStr s) = [⟨.STRING, jsonDumpsStr s, 1, 0⟩] := by
  simp only [lexQuoteOk, Bool.and_eq_true] at h
  have hfm : firstMatch cfg order (jsonDumpsStr s ++ []) = some (.STRING, jsonDumpsStr s) := by
    rw [List.append_nil]
    exact firstMatch_quote h.1 (scanString_quote h.2 s)
  have hl := splitLines_append (jsonDumpsStr_noBreak s) (r := []) rfl
  have ha := lexAux_some (n := 1) (f := (jsonDumpsStr s).length) (off := 0) hfm
  rw [List.append_nil] at hl ha
  rw [lexStr, hl, lexLines, lexLinesFrom, lexLinesFrom, lexLine, ha, lexAux_nil]
  rfl

end C18
end Penman
