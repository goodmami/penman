/-
  Penman.Proofs.ConstantCases — inversion of `evaluate` (`evaluate_error_inv`, `evaluate_ok`,
  `evaluate_ok_json`, `evaluate_number`) and its completeness on whitespace-padded JSON values
  (`evaluate_padded`) (C18).
-/
import Penman.Proofs.ConstantTotal

namespace Penman
namespace C18

theorem scanJson_unmodelled {f : Nat} {s : Str} (h : scanJson (f+1) s = .unmodelled) :
    (∃ q, s = '"' :: q ∧ HasLoneSurrogateEscape q) ∨ (∃ q, s = '[' :: q ∨ s = '{' :: q) := by
  rcases scanJson_cases f s with ⟨q, rfl⟩ | ⟨q, rfl⟩ | ⟨q, rfl⟩ | ha
  · exact .inl ⟨q, rfl, scanJsonString_surrogate _ _ _ (scanJson_quote_unmodelled h)⟩
  · exact .inr ⟨q, .inr rfl⟩
  · exact .inr ⟨q, .inl rfl⟩
  · exact absurd (ha ▸ h) (scanAtom_ne_unmodelled s)

theorem evaluate_error_inv {s : Str} {e : PyErr} (h : evaluate (some s) = .error e) :
    (e = .constant ∧ startsWith ['"'] s ≠ endsWith ['"'] s) ∨ jsonLoads s = .error e ∨
    (e = .constant ∧ jsonLoads s = .ok (some .container)) := by
  rw [evaluate_some] at h
  split at h; · cases h
  split at h; · rename_i hq; injection h with h; exact .inl ⟨h.symm, by simpa using hq⟩
  split at h; · cases h
  split at h
  · rename_i hj; injection h with h; exact .inr (.inl (h ▸ hj))
  · cases h
  · rename_i hj; injection h with h; exact .inr (.inr ⟨h.symm, hj⟩)
  · cases h

theorem evaluate_ok {s : Str} {v : CVal} (h : evaluate (some s) = .ok v) :
    (s = [] ∧ v = .none) ∨
    (s ≠ [] ∧ v = .str s ∧ (isLit s ∨ jsonLoads s = .ok none)) ∨
    (s ≠ [] ∧ ¬ isLit s ∧ ∃ jv, jsonLoads s = .ok (some jv) ∧ jv ≠ .container ∧ v = cvalOf jv) := by
  rw [evaluate_some] at h
  split at h
  · rename_i he; injection h with h
    exact Or.inl ⟨by simpa using he, h.symm⟩
  rename_i hne
  have hne' : s ≠ [] := by simpa using hne
  split at h; · simp at h
  split at h
  · rename_i hl; injection h with h
    exact Or.inr (Or.inl ⟨hne', h.symm, Or.inl hl⟩)
  rename_i hl
  split at h
  · cases h
  · rename_i hj; injection h with h
    exact Or.inr (Or.inl ⟨hne', h.symm, Or.inr hj⟩)
  · cases h
  · rename_i jv hc hj; injection h with h
    exact Or.inr (Or.inr ⟨hne', hl, jv, hj, hc, h.symm⟩)

theorem jsonLoads_inv {s : Str} {jv : JVal} (h : jsonLoads s = .ok (some jv)) :
    ∃ pre rest, s = pre ++ skipWs s ∧ AllWs pre ∧
      scanJson (2 * s.length + 2) (skipWs s) = .ok jv rest ∧ AllWs rest := by
  obtain ⟨rest, hsc, hr⟩ := jsonLoads_ok h
  obtain ⟨pre, hpre, hws⟩ := skipWs_split s
  exact ⟨pre, rest, hpre, hws, hsc, skipWs_eq_nil hr⟩

theorem evaluate_ok_json {s : Str} {v : CVal} (h : evaluate (some s) = .ok v)
    (hv : v ≠ .str s) (hs : s ≠ []) :
    ¬ isLit s ∧ ∃ jv pre rest, v = cvalOf jv ∧ jv ≠ .container ∧ s = pre ++ skipWs s ∧ AllWs pre ∧
      scanJson (2 * s.length + 2) (skipWs s) = .ok jv rest ∧ AllWs rest := by
  rcases evaluate_ok h with ⟨h1, _⟩ | ⟨_, h2, _⟩ | ⟨_, hl, jv, hj, hc, hv'⟩
  · exact absurd h1 hs
  · exact absurd h2 hv
  · obtain ⟨pre, rest, h1, h2, h3, h4⟩ := jsonLoads_inv hj
    exact ⟨hl, jv, pre, rest, hv', hc, h1, h2, h3, h4⟩

theorem evaluate_number {s t : Str} {isF : Bool}
    (h : evaluate (some s) = .ok (if isF then .float t else .int t)) :
    WsPadded s t ∧ IsJsonNumber t isF := by
  have hs : s ≠ [] := by
    intro e; subst e; cases isF <;> simp [evaluate] at h
  obtain ⟨_, jv, pre, rest, hv, _, hpre, hws, hsc, hrest⟩ :=
    evaluate_ok_json h (by cases isF <;> simp) hs
  have hjv : jv = if isF then .float t else .int t := by
    cases isF <;> cases jv <;> simp [cvalOf] at hv ⊢ <;> exact hv.symm
  subst hjv
  have hn : scanJsonNumber (skipWs s) = some (t, isF, rest) := by
    have := scanJson_inv hsc
    cases isF <;> exact this
  obtain ⟨hsp, hnum⟩ := scanJsonNumber_spec hn
  refine ⟨⟨pre, rest, ?_, hws, hrest⟩, hnum⟩
  rw [List.append_assoc, ← hsp]; exact hpre

theorem wsPadded_skipWs {s t pre post : Str} {c : Char} {q : Str} (hs : s = pre ++ t ++ post)
    (hpre : AllWs pre) (ht : t = c :: q) (hc : isJsonWs c = false) : skipWs s = t ++ post := by
  rw [hs, List.append_assoc, skipWs_allWs_append hpre, ht, List.cons_append, skipWs_cons_of_not hc]

theorem quotes_false {s : Str} (h : '"' ∉ s) :
    startsWith ['"'] s = false ∧ endsWith ['"'] s = false := by
  constructor
  · cases hb : startsWith ['"'] s with
    | false => rfl
    | true =>
      rw [startsWith, List.isPrefixOf_iff_prefix] at hb
      obtain ⟨r, rfl⟩ := hb
      exact absurd (by simp) h
  · cases hb : endsWith ['"'] s with
    | false => rfl
    | true =>
      rw [endsWith, List.isSuffixOf_iff_suffix] at hb
      obtain ⟨r, rfl⟩ := hb
      exact absurd (by simp) h

theorem wsPadded_noWs {s t : Str} (hn : NoWs s) (h : WsPadded s t) : s = t := by
  obtain ⟨pre, post, hs, hpre, hpost⟩ := h
  have h1 : pre = [] := by
    cases pre with
    | nil => rfl
    | cons x xs =>
      have := hn x (by rw [hs]; simp)
      rw [hpre x (by simp)] at this; cases this
  have h2 : post = [] := by
    cases post with
    | nil => rfl
    | cons x xs =>
      have := hn x (by rw [hs]; simp)
      rw [hpost x (by simp)] at this; cases this
  rw [hs, h1, h2]; simp

theorem isLit_padded {s t : Str} (hl : isLit s) (hp : WsPadded s t) : s = t :=
  wsPadded_noWs (by rcases hl with rfl | rfl | rfl <;> decide) hp

/-- `hsc` is asked for every fuel: `jsonLoads` chooses the fuel from the length of the padded text -/
theorem evaluate_padded {s t pre post : Str} {c : Char} {q : Str} {jv : JVal}
    (hs : s = pre ++ t ++ post) (hpre : AllWs pre) (hpost : AllWs post)
    (ht : t = c :: q) (hc : isJsonWs c = false) (hq : '"' ∉ t) (hlit : ¬ isLit s)
    (hsc : ∀ f, scanJson (f+1) (t ++ post) = .ok jv post) (hjv : jv ≠ .container) :
    evaluate (some s) = .ok (cvalOf jv) := by
  have hqs : '"' ∉ s := by
    rw [hs]
    simp only [List.mem_append, not_or]
    exact ⟨⟨fun h => absurd (hpre _ h) (by decide), hq⟩, fun h => absurd (hpost _ h) (by decide)⟩
  obtain ⟨hq1, hq2⟩ := quotes_false hqs
  have hne : s.isEmpty = false := by rw [hs, ht]; cases pre <;> rfl
  have hj : jsonLoads s = .ok (some jv) := by
    unfold jsonLoads
    rw [wsPadded_skipWs hs hpre ht hc, hsc]
    simp [skipWs_allWs hpost]
  unfold isLit at hlit
  rw [evaluate_some]
  simp only [hne, hq1, hq2, hlit, hj]
  cases jv <;> first | rfl | exact absurd rfl hjv

theorem scanJson_null (f : Nat) (post : Str) :
    scanJson (f+1) ("null".toList ++ post) = .ok .null post := by
  simp [scanJson, startsWith]

end C18
end Penman
