/-
  Penman.Proofs.ConstantEval — `scanJsonString` inverts `escapeChar`, hence `jsonLoads` and
  `evaluate` give back `s` on `jsonDumpsStr s` (C18).
-/
import Penman.Proofs.Constant

namespace Penman
namespace C18

theorem hex4Val_digits (n : Nat) (hn : n < 65536) (rest : Str) :
    hex4Val (hexDigit (n / 4096 % 16) :: hexDigit (n / 256 % 16) :: hexDigit (n / 16 % 16) ::
      hexDigit (n % 16) :: rest) = some (n, rest) := by
  have m4 : n / 4096 % 16 < 16 := Nat.mod_lt _ (by decide)
  have m3 : n / 256 % 16 < 16 := Nat.mod_lt _ (by decide)
  have m2 : n / 16 % 16 < 16 := Nat.mod_lt _ (by decide)
  have m1 : n % 16 < 16 := Nat.mod_lt _ (by decide)
  simp only [hex4Val, hexVal_hexDigit _ m4, hexVal_hexDigit _ m3, hexVal_hexDigit _ m2,
    hexVal_hexDigit _ m1, bind, Option.bind, pure]
  congr 2
  omega

theorem char_valid_nat (c : Char) : c.toNat < 0xd800 ∨ (0xdfff < c.toNat ∧ c.toNat < 0x110000) := by
  have := c.valid
  unfold UInt32.isValidChar Nat.isValidChar at this
  exact this

theorem scanJsonString_hex4 (n : Nat) (hn : n < 65536) (hs : ¬ (0xd800 ≤ n ∧ n ≤ 0xdfff))
    (f : Nat) (rest acc : Str) :
    scanJsonString (f+1) (hex4 n ++ rest) acc = scanJsonString f rest (Char.ofNat n :: acc) := by
  have h1 : ¬ (0xd800 ≤ n ∧ n ≤ 0xdbff) := by omega
  have h2 : ¬ (0xdc00 ≤ n ∧ n ≤ 0xdfff) := by omega
  simp [hex4, scanJsonString, hex4Val_digits n hn, h1, h2]

theorem scanJsonString_pair (hi lo : Nat) (hhi : 0xd800 ≤ hi ∧ hi ≤ 0xdbff) (hlo : 0xdc00 ≤ lo ∧ lo ≤ 0xdfff)
    (f : Nat) (rest acc : Str) :
    scanJsonString (f+1) (hex4 hi ++ hex4 lo ++ rest) acc =
      scanJsonString f rest (Char.ofNat (0x10000 + (hi - 0xd800) * 1024 + (lo - 0xdc00)) :: acc) := by
  simp [hex4, scanJsonString, hex4Val_digits hi (by omega), hex4Val_digits lo (by omega), hhi, hlo]

theorem scanJsonString_simple {c e : Char} (h : (c, e) ∈ simpleEscapeTable) (f : Nat) (rest acc : Str) :
    scanJsonString (f+1) ('\\' :: e :: rest) acc = scanJsonString f rest (c :: acc) := by
  simp only [simpleEscapeTable, List.mem_cons, Prod.mk.injEq, List.not_mem_nil, or_false] at h
  rcases h with ⟨rfl, rfl⟩ | ⟨rfl, rfl⟩ | ⟨rfl, rfl⟩ | ⟨rfl, rfl⟩ | ⟨rfl, rfl⟩ | ⟨rfl, rfl⟩ | ⟨rfl, rfl⟩ <;>
    simp [scanJsonString]

theorem scanJsonString_escapeChar (c : Char) (f : Nat) (rest acc : Str) :
    scanJsonString (f+1) (escapeChar c ++ rest) acc = scanJsonString f rest (c :: acc) := by
  have hv := char_valid_nat c
  rcases escapeChar_cases c with ⟨e, he, h⟩ | ⟨h1, h2, h3, h⟩ | ⟨hlt, h⟩ | ⟨hge, h⟩ <;> rw [h]
  · exact scanJsonString_simple he f rest acc
  · have : ¬ c.toNat < 32 := by simp [isPrintable] at h3; omega
    simp [scanJsonString, h1, h2, this]
  · rw [scanJsonString_hex4 _ hlt (by omega), Char.ofNat_toNat]
  · rw [scanJsonString_pair _ _ (by omega) (by omega)]
    have : 0x10000 + (0xd800 + (c.toNat - 0x10000) / 1024 - 0xd800) * 1024 +
        (0xdc00 + (c.toNat - 0x10000) % 1024 - 0xdc00) = c.toNat := by omega
    rw [this, Char.ofNat_toNat]

theorem scanJsonString_body : ∀ (s : Str) (f : Nat) (acc r : Str), s.length < f →
    scanJsonString f (s.flatMap escapeChar ++ '"' :: r) acc = .ok (acc.reverse ++ s) r := by
  intro s
  induction s with
  | nil =>
    intro f acc r h
    cases f with
    | zero => simp at h
    | succ f => simp [scanJsonString]
  | cons c cs ih =>
    intro f acc r h
    cases f with
    | zero => simp at h
    | succ f =>
      rw [List.flatMap_cons, List.append_assoc, scanJsonString_escapeChar, ih _ _ _ (by simpa using h)]
      simp

theorem escapeChar_length_pos (c : Char) : 0 < (escapeChar c).length := by
  have h := isEscBlock_escapeChar c
  cases hc : escapeChar c with
  | nil => rw [hc] at h; simp [isEscBlock] at h
  | cons _ _ => simp

theorem length_le_flatMap_escapeChar (s : Str) : s.length ≤ (s.flatMap escapeChar).length := by
  induction s with
  | nil => simp
  | cons c cs ih =>
    have := escapeChar_length_pos c
    simp only [List.flatMap_cons, List.length_append, List.length_cons]
    omega

theorem startsWith_quote (r : Str) : startsWith ['"'] ('"' :: r) = true := by
  simp [startsWith, List.isPrefixOf]

theorem endsWith_quote (r : Str) : endsWith ['"'] (r ++ ['"']) = true := by
  rw [endsWith, List.isSuffixOf_iff_suffix]
  exact List.suffix_append _ _

theorem jsonLoads_jsonDumpsStr (s : Str) : jsonLoads (jsonDumpsStr s) = .ok (some (.str s)) := by
  have hlen := length_le_flatMap_escapeChar s
  have hsk : ∀ r : Str, skipWs ('"' :: r) = '"' :: r := fun r => by
    rw [skipWs, List.dropWhile_cons_of_neg (by decide)]
  simp only [jsonLoads, jsonDumpsStr, List.cons_append, hsk]
  rw [scanJson]
  rw [show s.flatMap escapeChar ++ ['"'] = s.flatMap escapeChar ++ '"' :: [] from rfl,
    scanJsonString_body s _ [] [] (by rw [List.length_append]; simp only [List.length_cons, List.length_nil]; omega)]
  simp [skipWs]

theorem evaluate_jsonDumpsStr (s : Str) : evaluate (some (jsonDumpsStr s)) = .ok (.str s) := by
  have h1 : (jsonDumpsStr s).isEmpty = false := by simp [jsonDumpsStr]
  have h2 : startsWith ['"'] (jsonDumpsStr s) = true := startsWith_quote _
  have h3 : endsWith ['"'] (jsonDumpsStr s) = true := endsWith_quote _
  have h4 : ¬ (jsonDumpsStr s = "true".toList ∨ jsonDumpsStr s = "false".toList ∨
      jsonDumpsStr s = "null".toList) := by
    simp [jsonDumpsStr]
  simp only [evaluate, h1, h2, h3, h4, jsonLoads_jsonDumpsStr]
  rfl

end C18
end Penman
