/-
  Penman.Proofs.ConstantFuel — the fuel of `scanJson`/`scanArray`/`scanObject` (C18): answers other
  than `.unmodelled` are stable under more fuel.
-/
import Penman.Proofs.ConstantTotal

namespace Penman
namespace C18

theorem fuel_step (f : Nat) :
    (∀ s, scanJson f s = .unmodelled ∨ scanJson (f+1) s = scanJson f s) ∧
    (∀ s b, scanArray f s b = .unmodelled ∨ scanArray (f+1) s b = scanArray f s b) ∧
    (∀ s b, scanObject f s b = .unmodelled ∨ scanObject (f+1) s b = scanObject f s b) := by
  induction f with
  | zero =>
    refine ⟨fun s => .inl ?_, fun s b => .inl ?_, fun s b => .inl ?_⟩
    · rw [scanJson]
    · rw [scanArray]
    · rw [scanObject]
  | succ f ih =>
    obtain ⟨ihJ, ihA, ihO⟩ := ih
    refine ⟨?_, ?_, ?_⟩
    · intro s
      unfold scanJson
      split
      · exact .inr rfl
      · exact ihO _ _
      · exact ihA _ _
      · exact .inr rfl
    · intro s b
      unfold scanArray
      split
      · exact .inr rfl
      · rcases ihJ s with hu | he
        · rw [hu]; exact .inl rfl
        · rw [he]
          cases scanJson f s with
          | ok v r =>
            simp only []
            split
            · exact ihA _ _
            · exact .inr rfl
            · exact .inr rfl
          | bad => exact .inr rfl
          | unmodelled => exact .inl rfl
    · intro s b
      unfold scanObject
      split
      · exact .inr rfl
      · rename_i rest
        cases scanJsonString (rest.length + 1) rest [] with
        | ok k r =>
          simp only []
          split
          · rename_i r1 heq
            rcases ihJ (skipWs r1) with hu | he
            · rw [hu]; exact .inl rfl
            · rw [he]
              cases scanJson f (skipWs r1) with
              | ok v r2 =>
                simp only []
                split
                · split
                  · exact ihO _ _
                  · exact .inr rfl
                · exact .inr rfl
                · exact .inr rfl
              | bad => exact .inr rfl
              | unmodelled => exact .inl rfl
          · exact .inr rfl
        | bad => exact .inr rfl
        | surrogate => exact .inr rfl
      · exact .inr rfl

end C18
end Penman
