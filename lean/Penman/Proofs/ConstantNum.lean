/-
  Penman.Proofs.ConstantNum — `scanJsonNumber` only accepts the JSON number grammar (C18).
-/
import Penman.Spec.Constant

namespace Penman
namespace C18

def signPart (s : Str) : Str × Str := match s with | '-' :: r => (['-'], r) | _ => ([], s)

def intPart (s1 : Str) : Option (Str × Str) := match s1 with
  | '0' :: r => some (['0'], r)
  | c :: _ => if '1' ≤ c && c ≤ '9' then some (s1.takeWhile isAsciiDigit, s1.dropWhile isAsciiDigit) else none
  | [] => none

/-- `marker` and the run of digits at the head of `r`; without a digit there, nothing is taken and
    the input `s` stays as it is -/
def digitsAfter (marker r s : Str) : Str × Str :=
  let ds := r.takeWhile isAsciiDigit
  if ds.isEmpty then ([], s) else (marker ++ ds, r.dropWhile isAsciiDigit)

def fracPart (s2 : Str) : Str × Str := match s2 with
  | '.' :: r => digitsAfter ['.'] r s2
  | _ => ([], s2)

def expSign (r : Str) : Str × Str := match r with
  | '-' :: r' => (['-'], r')
  | '+' :: r' => (['+'], r')
  | _ => ([], r)

def expPart (s3 : Str) : Str × Str := match s3 with
  | e :: r => if e = 'e' || e = 'E' then digitsAfter (e :: (expSign r).1) (expSign r).2 s3 else ([], s3)
  | [] => ([], s3)

theorem scanJsonNumber_eq (s : Str) : scanJsonNumber s =
    match intPart (signPart s).2 with
    | none => none
    | some (int, s2) =>
      some ((signPart s).1 ++ int ++ (fracPart s2).1 ++ (expPart (fracPart s2).2).1,
        !((fracPart s2).1.isEmpty && (expPart (fracPart s2).2).1.isEmpty), (expPart (fracPart s2).2).2) := by
  unfold scanJsonNumber
  -- the model's `let (a, b) := …` are matches on pairs; stated with the part scanners in place of
  -- their bodies the term is the same up to unfolding
  show (match signPart s with
    | (sign, s1) =>
      match intPart s1 with
      | none => none
      | some (int, s2) =>
        match fracPart s2 with
        | (frac, s3) =>
          match expPart s3 with
          | (exp, s4) => some (sign ++ int ++ frac ++ exp, !(frac.isEmpty && exp.isEmpty), s4)) = _
  rcases signPart s with ⟨sg, s1⟩
  simp only []

theorem signPart_spec (s : Str) :
    s = (signPart s).1 ++ (signPart s).2 ∧ ((signPart s).1 = [] ∨ (signPart s).1 = ['-']) := by
  unfold signPart
  split <;> simp

theorem digits_takeWhile (r : Str) : ∀ c ∈ r.takeWhile isAsciiDigit, isAsciiDigit c = true :=
  List.all_eq_true.mp List.all_takeWhile

theorem digit_of_range {c : Char} (h1 : '1' ≤ c) (h2 : c ≤ '9') : isAsciiDigit c = true := by
  simp only [isAsciiDigit, Bool.and_eq_true, decide_eq_true_eq]
  exact ⟨Char.le_trans (by decide) h1, h2⟩

theorem intPart_spec {s1 int s2 : Str} (h : intPart s1 = some (int, s2)) :
    s1 = int ++ s2 ∧
    (int = ['0'] ∨ ∃ c ds, int = c :: ds ∧ '1' ≤ c ∧ c ≤ '9' ∧ ∀ d ∈ ds, isAsciiDigit d = true) := by
  unfold intPart at h
  split at h
  · injection h with h; injection h with h1 h2; subst h1 h2; simp
  · rename_i c tl _
    split at h
    · rename_i hc
      injection h with h; injection h with h1 h2; subst h1 h2
      refine ⟨(List.takeWhile_append_dropWhile).symm, Or.inr ?_⟩
      simp only [Bool.and_eq_true, decide_eq_true_eq] at hc
      refine ⟨c, tl.takeWhile isAsciiDigit, ?_, hc.1, hc.2, digits_takeWhile tl⟩
      rw [List.takeWhile_cons_of_pos (digit_of_range hc.1 hc.2)]
    · simp at h
  · simp at h

theorem digitsAfter_spec (marker r : Str) :
    marker ++ r = (digitsAfter marker r (marker ++ r)).1 ++ (digitsAfter marker r (marker ++ r)).2 ∧
    ((digitsAfter marker r (marker ++ r)).1 = [] ∨
      ∃ ds, (digitsAfter marker r (marker ++ r)).1 = marker ++ ds ∧ IsDigits ds) := by
  unfold digitsAfter
  simp only []
  split
  · simp
  · rename_i hne
    exact ⟨by simp [List.takeWhile_append_dropWhile], .inr ⟨_, rfl, fun h => hne (by simp [h]), digits_takeWhile r⟩⟩

theorem fracPart_spec (s2 : Str) :
    s2 = (fracPart s2).1 ++ (fracPart s2).2 ∧
    ((fracPart s2).1 = [] ∨ ∃ ds, (fracPart s2).1 = '.' :: ds ∧ IsDigits ds) := by
  unfold fracPart
  split
  · exact digitsAfter_spec ['.'] _
  · simp

theorem expSign_spec (r : Str) :
    r = (expSign r).1 ++ (expSign r).2 ∧
    ((expSign r).1 = [] ∨ (expSign r).1 = ['-'] ∨ (expSign r).1 = ['+']) := by
  unfold expSign
  split <;> simp

theorem expPart_spec (s3 : Str) :
    s3 = (expPart s3).1 ++ (expPart s3).2 ∧
    ((expPart s3).1 = [] ∨ ∃ e sg ds, (expPart s3).1 = e :: sg ++ ds ∧ (e = 'e' ∨ e = 'E') ∧
      (sg = [] ∨ sg = ['-'] ∨ sg = ['+']) ∧ IsDigits ds) := by
  unfold expPart
  split
  · rename_i e r
    split
    · rename_i he
      obtain ⟨hr, hsg⟩ := expSign_spec r
      have := digitsAfter_spec (e :: (expSign r).1) (expSign r).2
      rw [List.cons_append, ← hr] at this
      refine ⟨this.1, this.2.imp id fun ⟨ds, h1, h2⟩ => ⟨e, _, ds, h1, by simpa using he, hsg, h2⟩⟩
    · simp
  · simp
theorem scanJsonNumber_spec {s t r : Str} {isF : Bool} (h : scanJsonNumber s = some (t, isF, r)) :
    s = t ++ r ∧ IsJsonNumber t isF := by
  rw [scanJsonNumber_eq] at h
  split at h
  · simp at h
  · rename_i int s2 hint
    injection h with h; injection h with h1 h; injection h with h2 h3
    obtain ⟨hs0, hs1⟩ := signPart_spec s
    obtain ⟨hi0, hi1⟩ := intPart_spec hint
    obtain ⟨hf0, hf1⟩ := fracPart_spec s2
    obtain ⟨he0, he1⟩ := expPart_spec (fracPart s2).2
    constructor
    · rw [← h1, ← h3]
      simp only [List.append_assoc]
      rw [← he0, ← hf0, ← hi0, ← hs0]
    · refine ⟨_, _, _, _, h1.symm, ⟨hs1, hi1, hf1, he1⟩, ?_⟩
      rw [← h2]
      cases (fracPart s2).1 <;> cases (expPart (fracPart s2).2).1 <;> simp

end C18
end Penman
