/-
  Penman.Proofs.ConstantNumComplete — lemmas for the converse of `scanJsonNumber_spec` /
  `evaluate_number` (proved in `Props/C18b`): each part scanner accepts every text of its part of
  the JSON number grammar when what follows cannot continue it; the characters and the head of a
  number text; `scanJson` on a text that `scanJsonNumber` accepts (C18).
-/
import Penman.Proofs.ConstantCases

namespace Penman
namespace C18

/-- the head of `r` (if any) does not satisfy `p` -/
def headNot (p : Char → Bool) : Str → Bool
  | [] => true
  | c :: _ => !p c

theorem headNot_mono {p q : Char → Bool} {r : Str} (hpq : ∀ c, p c = true → q c = true)
    (h : headNot q r = true) : headNot p r = true := by
  cases r with
  | nil => rfl
  | cons c x =>
    simp only [headNot, Bool.not_eq_true'] at h ⊢
    cases hp : p c with
    | false => rfl
    | true => rw [hpq c hp] at h; cases h

theorem takeWhile_digits_append {ds r : Str} (hd : ∀ c ∈ ds, isAsciiDigit c = true) (hr : headNot isAsciiDigit r = true) :
    (ds ++ r).takeWhile isAsciiDigit = ds ∧ (ds ++ r).dropWhile isAsciiDigit = r := by
  rw [List.takeWhile_append_of_pos hd, List.dropWhile_append_of_pos hd]
  cases r with
  | nil => simp
  | cons c q =>
    have : isAsciiDigit c = false := by simpa [headNot] using hr
    simp [this]

theorem digitsAfter_append {marker ds rest : Str} (s : Str) (hd : IsDigits ds)
    (hr : headNot isAsciiDigit rest = true) : digitsAfter marker (ds ++ rest) s = (marker ++ ds, rest) := by
  obtain ⟨t1, t2⟩ := takeWhile_digits_append hd.2 hr
  have : ds.isEmpty = false := by simpa using hd.1
  simp [digitsAfter, t1, t2, this]

theorem signPart_append {sign r : Str} (hs : sign = [] ∨ sign = ['-']) (hr : headNot (· == '-') r = true) :
    signPart (sign ++ r) = (sign, r) := by
  rcases hs with rfl | rfl
  · cases r with
    | nil => rfl
    | cons c q =>
      have : c ≠ '-' := by simpa [headNot] using hr
      unfold signPart
      split
      · rename_i h; injection h with h1 _; exact absurd h1 this
      · rfl
  · rfl

theorem intPart_append {int r : Str}
    (hi : int = ['0'] ∨ ∃ c ds, int = c :: ds ∧ '1' ≤ c ∧ c ≤ '9' ∧ ∀ d ∈ ds, isAsciiDigit d = true)
    (hr : headNot isAsciiDigit r = true) : intPart (int ++ r) = some (int, r) := by
  rcases hi with rfl | ⟨c, ds, rfl, h1, h2, hds⟩
  · rfl
  · have hc0 : c ≠ '0' := by
      intro e; subst e; exact absurd h1 (by decide)
    have hall : ∀ x ∈ c :: ds, isAsciiDigit x = true := by
      intro x hx
      rcases List.mem_cons.mp hx with rfl | hx
      · exact digit_of_range h1 h2
      · exact hds x hx
    obtain ⟨t1, t2⟩ := takeWhile_digits_append hall hr
    unfold intPart
    split
    · rename_i h; injection h with e _; exact absurd e hc0
    · rename_i c' tl _ h
      injection h with e1 e2
      subst e1
      have : ('1' ≤ c && c ≤ '9') = true := by simp [h1, h2]
      simp only [this, if_true]
      rw [t1, t2]
    · rename_i h; simp at h

theorem fracPart_append {frac r : Str} (hf : frac = [] ∨ ∃ ds, frac = '.' :: ds ∧ IsDigits ds)
    (hr : headNot (fun c => isAsciiDigit c || c == '.') r = true) : fracPart (frac ++ r) = (frac, r) := by
  rcases hf with rfl | ⟨ds, rfl, hds⟩
  · cases r with
    | nil => rfl
    | cons c q =>
      have : c ≠ '.' := by
        have := hr; simp [headNot] at this; exact this.2
      unfold fracPart
      split
      · rename_i h; injection h with h1 _; exact absurd h1 this
      · rfl
  · exact digitsAfter_append _ hds (headNot_mono (fun c hc => by simp [hc]) hr)

theorem expSign_append {sg : Str} {d : Char} (q : Str) (hsg : sg = [] ∨ sg = ['-'] ∨ sg = ['+'])
    (hd : isAsciiDigit d = true) : expSign (sg ++ d :: q) = (sg, d :: q) := by
  rcases hsg with rfl | rfl | rfl
  · have hdm : d ≠ '-' := by rintro rfl; exact absurd hd (by decide)
    have hdp : d ≠ '+' := by rintro rfl; exact absurd hd (by decide)
    unfold expSign
    split
    · rename_i h; exact absurd (List.cons.inj h).1 hdm
    · rename_i h; exact absurd (List.cons.inj h).1 hdp
    · rfl
  · rfl
  · rfl

theorem expPart_append {exp r : Str}
    (he : exp = [] ∨ ∃ e sg ds, exp = e :: sg ++ ds ∧ (e = 'e' ∨ e = 'E') ∧
      (sg = [] ∨ sg = ['-'] ∨ sg = ['+']) ∧ IsDigits ds)
    (hr : headNot (fun c => isAsciiDigit c || c == 'e' || c == 'E') r = true) :
    expPart (exp ++ r) = (exp, r) := by
  rcases he with rfl | ⟨e, sg, ds, rfl, he, hsg, hds⟩
  · cases r with
    | nil => rfl
    | cons c q =>
      have h := hr
      simp [headNot] at h
      simp only [List.nil_append, expPart]
      simp [h.1.2, h.2]
  · obtain ⟨d, ds', rfl⟩ : ∃ d ds', ds = d :: ds' := by
      cases ds with
      | nil => exact absurd rfl hds.1
      | cons d ds' => exact ⟨d, ds', rfl⟩
    have hee : (e = 'e' || e = 'E') = true := by simpa using he
    have hs := expSign_append (ds' ++ r) hsg (hds.2 d (by simp))
    simp only [List.cons_append, List.append_assoc, expPart, hee, if_true, hs]
    exact digitsAfter_append _ hds (headNot_mono (fun c hc => by simp [hc]) hr)

theorem headNot_nil (p : Char → Bool) : headNot p [] = true := rfl

/-- the characters of a number text -/
def numChar (c : Char) : Bool := isAsciiDigit c || c == '-' || c == '+' || c == '.' || c == 'e' || c == 'E'

theorem numChar_of_digit {c : Char} (h : isAsciiDigit c = true) : numChar c = true := by simp [numChar, h]

theorem parts_chars {sign int frac exp : Str} (h : JsonNumberParts sign int frac exp) :
    ∀ c ∈ sign ++ int ++ frac ++ exp, numChar c = true := by
  obtain ⟨hs, hi, hf, he⟩ := h
  intro c hc
  simp only [List.mem_append] at hc
  rcases hc with ((hc | hc) | hc) | hc
  · rcases hs with rfl | rfl
    · simp at hc
    · simp at hc; subst hc; decide
  · rcases hi with rfl | ⟨d, ds, rfl, h1, h2, hds⟩
    · simp at hc; subst hc; decide
    · rcases List.mem_cons.mp hc with rfl | hc
      · exact numChar_of_digit (digit_of_range h1 h2)
      · exact numChar_of_digit (hds c hc)
  · rcases hf with rfl | ⟨ds, rfl, _, hds⟩
    · simp at hc
    · rcases List.mem_cons.mp hc with rfl | hc
      · decide
      · exact numChar_of_digit (hds c hc)
  · rcases he with rfl | ⟨e, sg, ds, rfl, he, hsg, _, hds⟩
    · simp at hc
    · rcases List.mem_cons.mp hc with rfl | hc
      · rcases he with rfl | rfl <;> decide
      · rcases List.mem_append.mp hc with hc | hc
        · rcases hsg with rfl | rfl | rfl
          · simp at hc
          · simp at hc; subst hc; decide
          · simp at hc; subst hc; decide
        · exact numChar_of_digit (hds c hc)

theorem parts_head {sign int frac exp : Str} (h : JsonNumberParts sign int frac exp) :
    ∃ c q, sign ++ int ++ frac ++ exp = c :: q ∧ (c = '-' ∨ isAsciiDigit c = true) := by
  obtain ⟨hs, hi, hf, he⟩ := h
  rcases hs with rfl | rfl
  · rcases hi with rfl | ⟨d, ds, rfl, h1, h2, _⟩
    · exact ⟨'0', _, rfl, .inr (by decide)⟩
    · exact ⟨d, _, rfl, .inr (digit_of_range h1 h2)⟩
  · exact ⟨'-', _, rfl, .inl rfl⟩

/-- a character that could continue a number text -/
def numCont (c : Char) : Bool := isAsciiDigit c || c == '.' || c == 'e' || c == 'E'

theorem ws_not_num {x : Char} (h : isJsonWs x = true) : numCont x = false ∧ x ≠ '-' := by
  have : x = ' ' ∨ x = '\t' ∨ x = '\n' ∨ x = '\r' := by simpa [isJsonWs, or_assoc] using h
  rcases this with rfl | rfl | rfl | rfl <;> decide

theorem scanJson_number {f : Nat} {t post : Str} {isF : Bool} {c : Char} {q : Str}
    (hnum : scanJsonNumber (c :: q) = some (t, isF, post)) (hc : c = '-' ∨ isAsciiDigit c = true) :
    scanJson (f+1) (c :: q) = .ok (if isF then .float t else .int t) post := by
  have hne : ∀ x : Char, x ≠ '-' → isAsciiDigit x = false → c ≠ x := by
    intro x h1 h2 e; subst e
    rcases hc with rfl | hc
    · exact h1 rfl
    · rw [hc] at h2; cases h2
  rcases scanJson_cases f (c :: q) with ⟨_, h⟩ | ⟨_, h⟩ | ⟨_, h⟩ | h
  · exact absurd (List.cons.inj h).1 (hne '"' (by decide) (by decide))
  · exact absurd (List.cons.inj h).1 (hne '{' (by decide) (by decide))
  · exact absurd (List.cons.inj h).1 (hne '[' (by decide) (by decide))
  · have e (d : Char) (p : Str) (hd : c ≠ d) (v : JVal) (k : JScan) : litOr (d :: p) v (c :: q) k = k := by
      simp [litOr, startsWith, Ne.symm hd]
    rw [h, scanAtom]
    exact (e 'n' _ (hne 'n' (by decide) (by decide)) _ _).trans <|
      (e 't' _ (hne 't' (by decide) (by decide)) _ _).trans <|
      (e 'f' _ (hne 'f' (by decide) (by decide)) _ _).trans (by rw [hnum])

end C18
end Penman


