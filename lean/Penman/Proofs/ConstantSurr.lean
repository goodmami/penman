/-
  Penman.Proofs.ConstantSurr — `scanJsonString`: lone surrogates, fuel independence, the rest is a
  suffix of the input (C18).
-/
import Penman.Spec.Constant

namespace Penman
namespace C18

theorem hex4Val_some {es : Str} {u : Nat} {rest : Str} (h : hex4Val es = some (u, rest)) :
    ∃ a b c d, es = a :: b :: c :: d :: rest := by
  unfold hex4Val at h
  split at h
  · rename_i a b c d r
    simp only [bind, Option.bind_eq_some_iff, pure, Option.some.injEq, Prod.mk.injEq] at h
    obtain ⟨_, _, _, _, _, _, _, _, _, rfl⟩ := h
    exact ⟨a, b, c, d, rfl⟩
  · cases h
theorem hex4Val_length {es : Str} {u : Nat} {rest : Str} (h : hex4Val es = some (u, rest)) :
    es.length = rest.length + 4 := by
  obtain ⟨a, b, c, d, rfl⟩ := hex4Val_some h
  simp

theorem hex4Val_suffix {es : Str} {u : Nat} {rest : Str} (h : hex4Val es = some (u, rest)) :
    rest <:+ es := by
  obtain ⟨a, b, c, d, rfl⟩ := hex4Val_some h
  exact ⟨[a, b, c, d], rfl⟩

theorem lone_suffix {t s : Str} (h : HasLoneSurrogateEscape t) (hs : t <:+ s) :
    HasLoneSurrogateEscape s := by
  obtain ⟨p, rfl⟩ := hs
  obtain ⟨pre, post, u, rest, rfl, h1, h2⟩ := h
  exact ⟨p ++ pre, post, u, rest, by simp, h1, h2⟩

theorem suffix_cons2 {t s : Str} (a b : Char) (h : t <:+ s) : t <:+ a :: b :: s :=
  (h.trans (List.suffix_cons b s)).trans (List.suffix_cons a _)

/-
  The cases of `scanJsonString.induct`, in the order of the branches of `scanJsonString`:
  1 no fuel, 2 end of input, 3 closing quote, 4 backslash at the end, 5–12 the eight simple escapes,
  13 `\u` without four hex digits, 14 surrogate pair, 15 high surrogate and a `\u` that is no low
  surrogate, 16 high surrogate and `\u` without four hex digits, 17 high surrogate not followed by
  `\u`, 18 lone low surrogate, 19 any other `\u`, 20 unknown escape, 21 control character,
  22 plain character.
-/

theorem scanJsonString_surrogate (f : Nat) (s acc : Str) :
    scanJsonString f s acc = .surrogate → HasLoneSurrogateEscape s := by
  fun_induction scanJsonString f s acc
  case case14 ih2 ih1 =>
    rename_i hv2 _ _ _ _ _ _ _ _ _ _ hv
    intro h
    exact lone_suffix (ih1 h) (suffix_cons2 _ _ ((hex4Val_suffix hv2).trans
      ((suffix_cons2 _ _ (List.suffix_refl _)).trans (hex4Val_suffix hv))))
  case case15 =>
    rename_i es u hhi rest2 u2 rest3 hv2 hlo _ _ _ _ _ _ _ _ _ hv _
    intro _
    refine ⟨[], es, u, _, rfl, hv, Or.inr ⟨hhi.1, hhi.2, ?_⟩⟩
    rintro ⟨r2, v2, r3, heq, hv', hl⟩
    injection heq with _ heq; injection heq with _ heq; subst heq
    rw [hv2] at hv'; injection hv' with hv'; injection hv' with e1 _; subst e1
    exact hlo hl
  case case16 =>
    rename_i es u hhi rest2 hv2 _ _ _ _ _ _ _ _ _ hv _
    intro _
    refine ⟨[], es, u, _, rfl, hv, Or.inr ⟨hhi.1, hhi.2, ?_⟩⟩
    rintro ⟨r2, v2, r3, heq, hv', hl⟩
    injection heq with _ heq; injection heq with _ heq; subst heq
    rw [hv2] at hv'; simp at hv'
  case case17 =>
    rename_i es u rest hv hhi hno _ _ _ _ _ _ _ _ _ _
    intro _
    refine ⟨[], es, u, _, rfl, hv, Or.inr ⟨hhi.1, hhi.2, ?_⟩⟩
    rintro ⟨r2, v2, r3, heq, hv', hl⟩
    exact hno r2 heq
  case case18 =>
    rename_i es u rest hv _ hlo _ _ _ _ _ _ _ _ _ _
    intro _
    exact ⟨[], es, u, _, rfl, hv, Or.inl hlo⟩
  case case19 ih2 ih1 =>
    rename_i hv _ _ _ _ _ _ _ _ _ _ _
    intro h
    exact lone_suffix (ih1 h) (suffix_cons2 _ _ (hex4Val_suffix hv))
  case case22 ih1 =>
    intro h
    exact lone_suffix (ih1 h) (List.suffix_cons _ _)
  all_goals first
    | (intro h; cases h; done)
    | (rename_i ih1; intro h; exact lone_suffix (ih1 _ h) (suffix_cons2 _ _ (List.suffix_refl _)))

theorem scanJsonString_fuel (f : Nat) (s acc : Str) :
    ∀ g, s.length < f → s.length < g → scanJsonString f s acc = scanJsonString g s acc := by
  fun_induction scanJsonString f s acc <;> intro g hf hg <;>
    (cases g with
     | zero => simp at hg
     | succ g => ?_)
  all_goals (try simp only [List.length_cons] at hf hg)
  case case14.succ =>
    rename_i hv2 _ _ _ _ _ _ _ _ _ _ hv ih2 ih1
    have l1 := hex4Val_length hv
    have l2 := hex4Val_length hv2
    simp only [List.length_cons] at l1
    simp [scanJsonString, *]
    apply ih1 <;> omega
  case case19.succ =>
    rename_i hv _ _ _ _ _ _ _ _ _ _ _ ih2 ih1
    have l1 := hex4Val_length hv
    simp [scanJsonString, *]
    apply ih1 <;> omega
  all_goals first
    | omega
    | (simp [scanJsonString, *]; done)
    | (rename_i ih1; simp [scanJsonString, *]; apply ih1 <;> omega)

theorem scanJsonString_ok_suffix (f : Nat) (s acc : Str) (v r : Str) :
    scanJsonString f s acc = .ok v r → r <:+ s := by
  fun_induction scanJsonString f s acc
  case case3 => intro h; injection h with _ h; subst h; exact List.suffix_cons _ _
  case case14 ih2 ih1 =>
    rename_i hv2 _ _ _ _ _ _ _ _ _ _ hv
    intro h
    exact (ih1 h).trans (suffix_cons2 _ _ ((hex4Val_suffix hv2).trans
      ((suffix_cons2 _ _ (List.suffix_refl _)).trans (hex4Val_suffix hv))))
  case case19 ih2 ih1 =>
    rename_i hv _ _ _ _ _ _ _ _ _ _ _
    intro h
    exact (ih1 h).trans (suffix_cons2 _ _ (hex4Val_suffix hv))
  case case22 ih1 =>
    intro h
    exact (ih1 h).trans (List.suffix_cons _ _)
  all_goals first
    | (intro h; cases h; done)
    | (rename_i ih1; intro h; exact (ih1 _ h).trans (suffix_cons2 _ _ (List.suffix_refl _)))

end C18
end Penman
