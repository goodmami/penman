/-
  Penman.Proofs.ConstantTotal — `evaluate` and `jsonLoads` unfolded; the atom branch of `scanJson`
  (`scanAtom`); the invariant `ScanInv` of `scanJson`/`scanArray`/`scanObject` (the rest is a suffix,
  a container body yields `container`, `.unmodelled` at fuel `2·|s| + k` only from a lone
  surrogate); what `scanJson` returns, by value (`scanJson_inv`) (C18).
-/
import Penman.Proofs.ConstantNum
import Penman.Proofs.ConstantSurr

namespace Penman
namespace C18

/-- the literal strings that `evaluate` returns unchanged -/
def isLit (s : Str) : Prop := s = "true".toList ∨ s = "false".toList ∨ s = "null".toList

/-- `evaluate`'s view of a JSON value (on a container it raises instead) -/
def cvalOf : JVal → CVal
  | .str v => .str v
  | .int t => .int t
  | .float t => .float t
  | .const n => .str n
  | .bool => .bool
  | .null => .none
  | .container => .none

theorem evaluate_some (s : Str) : evaluate (some s) =
    if s.isEmpty then .ok .none
    else if startsWith ['"'] s != endsWith ['"'] s then .error .constant
    else if s = "true".toList ∨ s = "false".toList ∨ s = "null".toList then .ok (.str s)
    else match jsonLoads s with
      | .error e => .error e
      | .ok none => .ok (.str s)
      | .ok (some .container) => .error .constant
      | .ok (some jv) => .ok (cvalOf jv) := by
  unfold evaluate
  simp only []
  split; · rfl
  split; · rfl
  split; · rfl
  rcases jsonLoads s with e | (_ | v)
  · rfl
  · rfl
  · cases v <;> rfl

theorem jsonLoads_ok {s : Str} {v : JVal} (h : jsonLoads s = .ok (some v)) :
    ∃ rest, scanJson (2 * s.length + 2) (skipWs s) = .ok v rest ∧ skipWs rest = [] := by
  unfold jsonLoads at h
  split at h
  · rename_i v' rest hsc
    split at h
    · rename_i he
      injection h with h; injection h with h; subst h
      exact ⟨rest, hsc, by simpa using he⟩
    · simp at h
  · simp at h
  · simp at h

theorem jsonLoads_error {s : Str} {e : PyErr} (h : jsonLoads s = .error e) :
    e = .unmodelled "json: lone surrogate or nesting" ∧
      scanJson (2 * s.length + 2) (skipWs s) = .unmodelled := by
  unfold jsonLoads at h
  split at h
  · split at h <;> simp at h
  · simp at h
  · rename_i hsc; injection h with h; exact ⟨h.symm, hsc⟩

theorem skipWs_split (s : Str) : ∃ pre, s = pre ++ skipWs s ∧ AllWs pre :=
  ⟨s.takeWhile isJsonWs, List.takeWhile_append_dropWhile.symm, List.all_eq_true.mp List.all_takeWhile⟩

theorem skipWs_eq_nil {r : Str} (h : skipWs r = []) : AllWs r := by
  obtain ⟨pre, hpre, hws⟩ := skipWs_split r
  rw [h, List.append_nil] at hpre
  exact hpre ▸ hws

theorem skipWs_allWs_append {pre : Str} (h : AllWs pre) (r : Str) : skipWs (pre ++ r) = skipWs r :=
  List.dropWhile_append_of_pos h

theorem skipWs_allWs {r : Str} (h : AllWs r) : skipWs r = [] := by
  have := skipWs_allWs_append h []
  simpa [skipWs] using this

theorem skipWs_cons_of_not {c : Char} (hc : isJsonWs c = false) (r : Str) : skipWs (c :: r) = c :: r := by
  rw [skipWs, List.dropWhile_cons_of_neg (by simp [hc])]

theorem skipWs_noWs {s : Str} (h : NoWs s) : skipWs s = s := by
  cases s with
  | nil => rfl
  | cons c r => exact skipWs_cons_of_not (h c (by simp)) r

theorem skipWs_suffix (s : Str) : skipWs s <:+ s := List.dropWhile_suffix _

theorem suffix_of_skipWs_cons {r r' s : Str} {c : Char} (h : skipWs r = c :: r') (hr : r <:+ s) :
    skipWs r' <:+ s :=
  (skipWs_suffix r').trans ((List.suffix_cons c r').trans (h ▸ (skipWs_suffix r).trans hr))

theorem length_of_skipWs_cons {r r' : Str} {c : Char} (h : skipWs r = c :: r') :
    (skipWs r').length + 1 ≤ r.length := by
  have a := (skipWs_suffix r').length_le
  have b := (skipWs_suffix r).length_le
  rw [h] at b; simp only [List.length_cons] at b; omega

/-- a literal at the head: `v` if `s` starts with `p`, else `k` -/
def litOr (p : Str) (v : JVal) (s : Str) (k : JScan) : JScan :=
  if startsWith p s then .ok v (s.drop p.length) else k

theorem litOr_ok {p s r : Str} {v v' : JVal} {k : JScan} (h : litOr p v s k = .ok v' r) :
    (v' = v ∧ s = p ++ r) ∨ k = .ok v' r := by
  unfold litOr at h
  split at h
  · rename_i hp
    injection h with h1 h2
    rw [startsWith, List.isPrefixOf_iff_prefix] at hp
    obtain ⟨t, rfl⟩ := hp
    rw [List.drop_left] at h2
    exact .inl ⟨h1.symm, h2 ▸ rfl⟩
  · exact .inr h

theorem litOr_unmodelled {p s : Str} {v : JVal} {k : JScan} (h : litOr p v s k = .unmodelled) :
    k = .unmodelled := by
  unfold litOr at h
  split at h
  · cases h
  · exact h

/-- the fuel-free branch of `scanJson`: literals and numbers -/
def scanAtom (s : Str) : JScan :=
  litOr "null".toList .null s <| litOr "true".toList .bool s <| litOr "false".toList .bool s <|
  match scanJsonNumber s with
  | some (t, isF, r) => .ok (if isF then .float t else .int t) r
  | none =>
    litOr "NaN".toList (.const "NaN".toList) s <| litOr "Infinity".toList (.const "Infinity".toList) s <|
    litOr "-Infinity".toList (.const "-Infinity".toList) s .bad

theorem scanJson_cases (f : Nat) (s : Str) :
    (∃ q, s = '"' :: q) ∨ (∃ q, s = '{' :: q) ∨ (∃ q, s = '[' :: q) ∨ scanJson (f+1) s = scanAtom s := by
  unfold scanJson
  split
  · exact .inl ⟨_, rfl⟩
  · exact .inr (.inl ⟨_, rfl⟩)
  · exact .inr (.inr (.inl ⟨_, rfl⟩))
  · exact .inr (.inr (.inr rfl))

theorem scanAtom_ok {s : Str} {v : JVal} {r : Str} (h : scanAtom s = .ok v r) :
    match v with
    | .null => s = "null".toList ++ r
    | .bool => s = "true".toList ++ r ∨ s = "false".toList ++ r
    | .int t => scanJsonNumber s = some (t, false, r)
    | .float t => scanJsonNumber s = some (t, true, r)
    | .const n => s = n ++ r
    | .str _ | .container => False := by
  rcases litOr_ok h with ⟨rfl, e⟩ | h
  · exact e
  rcases litOr_ok h with ⟨rfl, e⟩ | h
  · exact .inl e
  rcases litOr_ok h with ⟨rfl, e⟩ | h
  · exact .inr e
  split at h
  · rename_i t isF r' hn
    injection h with h1 h2
    subst h1 h2
    cases isF <;> exact hn
  rcases litOr_ok h with ⟨rfl, e⟩ | h
  · exact e
  rcases litOr_ok h with ⟨rfl, e⟩ | h
  · exact e
  rcases litOr_ok h with ⟨rfl, e⟩ | h
  · exact e
  · cases h

theorem scanAtom_ne_unmodelled (s : Str) : scanAtom s ≠ .unmodelled := by
  intro h
  replace h := litOr_unmodelled (litOr_unmodelled (litOr_unmodelled h))
  split at h
  · cases h
  · cases litOr_unmodelled (litOr_unmodelled (litOr_unmodelled h))
theorem scanJson_quote_ok {f : Nat} {q : Str} {v : JVal} {r : Str}
    (h : scanJson (f+1) ('"' :: q) = .ok v r) :
    ∃ x, v = .str x ∧ scanJsonString (q.length + 1) q [] = .ok x r := by
  simp only [scanJson] at h
  split at h
  · rename_i hs; injection h with h1 h2; exact ⟨_, h1.symm, h2 ▸ hs⟩
  · cases h
  · cases h

theorem scanJson_quote_unmodelled {f : Nat} {q : Str} (h : scanJson (f+1) ('"' :: q) = .unmodelled) :
    scanJsonString (q.length + 1) q [] = .surrogate := by
  simp only [scanJson] at h
  split at h
  · cases h
  · cases h
  · assumption

theorem scanAtom_suffix {s : Str} {v : JVal} {r : Str} (h : scanAtom s = .ok v r) : r <:+ s := by
  have := scanAtom_ok h
  cases v with
  | str _ => exact this.elim
  | container => exact this.elim
  | int t => exact (scanJsonNumber_spec this).1 ▸ List.suffix_append _ _
  | float t => exact (scanJsonNumber_spec this).1 ▸ List.suffix_append _ _
  | const n => exact this ▸ List.suffix_append _ _
  | null => exact this ▸ List.suffix_append _ _
  | bool => rcases this with e | e <;> exact e ▸ List.suffix_append _ _

/-- What the answer `res` of a scanner run on `s` with fuel `f` satisfies (`k` is 1 at a value
    position, 2 in a container body): the rest is a suffix of the input, a container body yields
    `container`, and with fuel `2·|s| + k` or more `.unmodelled` comes from a lone surrogate. -/
def ScanInv (k f : Nat) (s : Str) : JScan → Prop
  | .ok v r => r <:+ s ∧ (k = 2 → v = .container)
  | .unmodelled => 2 * s.length + k ≤ f → HasLoneSurrogateEscape s
  | .bad => True

/-- from a recursive call on a later part of the input to the caller -/
theorem ScanInv.up {k k' f : Nat} {s' s : Str} {res : JScan} (h : ScanInv k' f s' res) (hs : s' <:+ s)
    (hl : 2 * s'.length + k' + 1 ≤ 2 * s.length + k) (hk : k = 2 → k' = 2) : ScanInv k (f+1) s res := by
  cases res with
  | ok v r => exact ⟨h.1.trans hs, fun e => h.2 (hk e)⟩
  | bad => trivial
  | unmodelled => exact fun hf => lone_suffix (h (by omega)) hs

theorem scan_inv (f : Nat) :
    (∀ s, ScanInv 1 f s (scanJson f s)) ∧ (∀ s b, ScanInv 2 f s (scanArray f s b)) ∧
    (∀ s b, ScanInv 2 f s (scanObject f s b)) := by
  induction f with
  | zero =>
    refine ⟨fun s => ?_, fun s b => ?_, fun s b => ?_⟩
    · rw [scanJson]; exact fun hf => by omega
    · rw [scanArray]; exact fun hf => by omega
    · rw [scanObject]; exact fun hf => by omega
  | succ f ih =>
    obtain ⟨ihJ, ihA, ihO⟩ := ih
    have lenSkip : ∀ t : Str, (skipWs t).length ≤ t.length := fun t => (skipWs_suffix t).length_le
    refine ⟨?_, ?_, ?_⟩
    · intro s
      rcases scanJson_cases f s with ⟨q, rfl⟩ | ⟨q, rfl⟩ | ⟨q, rfl⟩ | ha
      · simp only [scanJson]
        split
        · rename_i hs
          exact ⟨(scanJsonString_ok_suffix _ _ _ _ _ hs).trans (List.suffix_cons _ _), fun e => absurd e (by decide)⟩
        · trivial
        · rename_i hs
          exact fun _ => lone_suffix (scanJsonString_surrogate _ _ _ hs) (List.suffix_cons _ _)
      · rw [scanJson]
        have := lenSkip q
        exact (ihO _ _).up ((skipWs_suffix _).trans (List.suffix_cons _ _))
          (by simp only [List.length_cons]; omega) (by decide)
      · rw [scanJson]
        have := lenSkip q
        exact (ihA _ _).up ((skipWs_suffix _).trans (List.suffix_cons _ _))
          (by simp only [List.length_cons]; omega) (by decide)
      · rw [ha]
        cases hr : scanAtom s with
        | ok v r => exact ⟨scanAtom_suffix hr, fun e => absurd e (by decide)⟩
        | bad => trivial
        | unmodelled => exact absurd hr (scanAtom_ne_unmodelled s)
    · intro s b
      unfold scanArray
      split
      · split
        · exact ⟨List.suffix_cons _ _, fun _ => rfl⟩
        · trivial
      · have hJ := ihJ s
        split
        · rename_i v r hj
          rw [hj] at hJ
          have l0 := hJ.1.length_le
          split
          · rename_i r' heq
            have l1 := length_of_skipWs_cons heq
            exact (ihA _ _).up (suffix_of_skipWs_cons heq hJ.1) (by omega) id
          · rename_i r' heq
            exact ⟨(List.suffix_cons _ _).trans (heq ▸ (skipWs_suffix _).trans hJ.1), fun _ => rfl⟩
          · trivial
        · trivial
        · rename_i hj
          rw [hj] at hJ
          exact fun hf => hJ (by omega)
    · intro s b
      unfold scanObject
      split
      · split
        · exact ⟨List.suffix_cons _ _, fun _ => rfl⟩
        · trivial
      · rename_i rest
        split
        · rename_i k rk hk
          have h0 : rk <:+ '"' :: rest :=
            (scanJsonString_ok_suffix _ _ _ _ _ hk).trans (List.suffix_cons _ _)
          have l0 := h0.length_le
          split
          · rename_i r1 heq
            have h1 : skipWs r1 <:+ '"' :: rest := suffix_of_skipWs_cons heq h0
            have l1 := length_of_skipWs_cons heq
            have hJ := ihJ (skipWs r1)
            split
            · rename_i v2 r2 hj
              rw [hj] at hJ
              have h2 : r2 <:+ '"' :: rest := hJ.1.trans h1
              have l2 := hJ.1.length_le
              split
              · rename_i r3 heq2
                have l3 := length_of_skipWs_cons heq2
                split
                · exact (ihO _ _).up (suffix_of_skipWs_cons heq2 h2) (by omega) id
                · trivial
              · rename_i r3 heq2
                exact ⟨(List.suffix_cons _ _).trans (heq2 ▸ (skipWs_suffix _).trans h2), fun _ => rfl⟩
              · trivial
            · trivial
            · rename_i hj
              rw [hj] at hJ
              exact fun hf => lone_suffix (hJ (by omega)) h1
          · trivial
        · trivial
        · rename_i hs
          exact fun _ => lone_suffix (scanJsonString_surrogate _ _ _ hs) (List.suffix_cons _ _)
      · trivial
theorem scanJson_inv {f : Nat} {s : Str} {v : JVal} {r : Str} (h : scanJson (f+1) s = .ok v r) :
    match v with
    | .str _ => ∃ q, s = '"' :: q
    | .container => ∃ q, s = '[' :: q ∨ s = '{' :: q
    | .null => s = "null".toList ++ r
    | .bool => s = "true".toList ++ r ∨ s = "false".toList ++ r
    | .int t => scanJsonNumber s = some (t, false, r)
    | .float t => scanJsonNumber s = some (t, true, r)
    | .const n => s = n ++ r := by
  rcases scanJson_cases f s with ⟨q, rfl⟩ | ⟨q, rfl⟩ | ⟨q, rfl⟩ | ha
  · obtain ⟨x, rfl, _⟩ := scanJson_quote_ok h
    exact ⟨q, rfl⟩
  · rw [scanJson] at h
    have := (scan_inv f).2.2 (skipWs q) true
    rw [h] at this
    cases this.2 rfl; exact ⟨q, .inr rfl⟩
  · rw [scanJson] at h
    have := (scan_inv f).2.1 (skipWs q) true
    rw [h] at this
    cases this.2 rfl; exact ⟨q, .inl rfl⟩
  · have := scanAtom_ok (ha ▸ h)
    cases v <;> first | exact this | exact this.elim

end C18
end Penman
