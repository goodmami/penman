/-
  Penman.Proofs.Decoded — what `interpret` returns, in terms of the documented
  reading (`Decoded`), and the consequences used by C04 (variables, alignment
  tables, `~`-freeness) and C14 (node contexts, pushed variable, appears
  inverted, totality of the diagnostics, graphs without markers); conversely
  `interpret` is defined wherever the reading is (`interpret_defined`).
-/
import Penman.Proofs.InterpretGraph
namespace Penman.Interp
open Penman.Spec.Reading

theorem mem_dedup {α : Type} [DecidableEq α] (l : List α) (x : α) : x ∈ dedup l ↔ x ∈ l := by
  induction l with
  | nil => simp [dedup]
  | cons a l ih =>
    simp only [dedup, List.mem_cons, List.mem_filter, ih]
    by_cases h : x = a <;> simp [h]

/-- `g = interpret t`, tied to the reading `ds` of `t`: triples and top are those of `ds`, the epidata is
    `epimapOf es` where the entries `es` match `ds` one by one, and the stack simulation over `es` gives
    each relation its writer -/
structure Decoded (isAlpha : Char → Bool) (m : Model) (t : Tree) (g : Graph)
    (v : Str) (ds : List Denoted) (es : List (Triple × List Epi)) : Prop where
  var : t.node.var = some v
  rd : Spec.Reading.read isAlpha m t.node = .ok ⟨some v, ds⟩
  den : All2 (fun w d => denote isAlpha m t.node.vars w = .ok d) (Node.written t.node) ds
  triples : g.triples = ds.map fun d => colon d.triple
  top : g.top = some v
  epi : g.epidata = epimapOf es
  md : g.metadata = AList.ofList t.metadata
  ent : All2 EntryOk es ds
  run : ∀ vars', Good vars' ds → RunInv vars' v es (ds.map fun d => some d.ctx)

theorem decoded {isAlpha m t g} (h : interpret isAlpha m t = .ok g) :
    ∃ v ds es, Decoded isAlpha m t g v ds es := by
  obtain ⟨ts, es, hn, rfl⟩ := interpret_ok h
  obtain ⟨v, ds, hv, hds, rfl, hall, -, hrun⟩ := node_spec isAlpha m t.node.vars t.node ts es hn
  refine ⟨v, ds, es, hv, ?_, mapM_ok_all2 hds, ?_, ?_, ?_, rfl, hall, hrun⟩
  · simp [Spec.Reading.read, hds, Except.map, hv]
  · simp [Graph.mk', colon]
  · simp [Graph.mk', hv]
  · simp only [Graph.mk']
    apply ofList_of_nodup
    rw [epimapOf_eq_firstOcc]
    exact (firstOccAux_keys_nodup (·.1) [] es).1

section
variable {isAlpha : Char → Bool} {m : Model} {t : Tree} {g : Graph} {v : Str} {ds : List Denoted}
  {es : List (Triple × List Epi)}

theorem Decoded.getTop (D : Decoded isAlpha m t g v ds es) : g.getTop = some v := by
  simp [Graph.getTop, D.top]

theorem Decoded.written_of (D : Decoded isAlpha m t g v ds es) {d} (hd : d ∈ ds) :
    ∃ w ∈ Node.written t.node, w.ctx = some d.ctx ∧ parseAln? isAlpha (roleAlnText w.role) = .ok d.roleAln ∧
      Shape isAlpha m t.node.vars w d := by
  obtain ⟨w, hw, hden⟩ := D.den.mem_right hd
  exact ⟨w, hw, denote_shape hden⟩

theorem Decoded.ctx_mem (D : Decoded isAlpha m t g v ds es) {d} (hd : d ∈ ds) : d.ctx ∈ t.node.vars := by
  obtain ⟨w, hw, hc, -, -⟩ := D.written_of hd
  exact (written_node_vars t.node w hw).1 _ hc

theorem Decoded.opens_mem (D : Decoded isAlpha m t g v ds es) {d nv} (hd : d ∈ ds) (ho : d.opens = some nv) :
    nv ∈ t.node.vars := by
  obtain ⟨w, hw, -, -, hs⟩ := D.written_of hd
  cases hs with
  | opens nv' h1 h2 h3 h4 => rw [h2] at ho; cases ho; exact (written_node_vars t.node w hw).2 _ h1
  | null h1 h2 => rw [h2] at ho; cases ho
  | str raw h1 h2 => rw [h2] at ho; cases ho

theorem Decoded.src_mem (D : Decoded isAlpha m t g v ds es) {d} (hd : d ∈ ds) : d.triple.src ∈ t.node.vars := by
  have hc := D.ctx_mem hd
  obtain ⟨w, hw, -, -, hs⟩ := D.written_of hd
  cases hs with
  | opens nv h1 h2 h3 h4 =>
    rw [h4]
    cases hsw : d.swapped with
    | false => simpa [orientTriple] using hc
    | true => simpa [orientTriple, Model.invert] using (written_node_vars t.node w hw).2 _ h1
  | null h1 h2 h3 h4 => rw [h4]; exact hc
  | str raw h1 h2 h3 h4 =>
    rw [h4]
    cases hsw : d.swapped with
    | false => simpa [orientTriple] using hc
    | true =>
      rw [hsw] at h3
      have : (splitTarget raw).1 ∈ t.node.vars := by
        have := h3.symm; simp only [Bool.and_eq_true, decide_eq_true_eq] at this; exact this.2
      simpa [orientTriple, Model.invert] using this

theorem Decoded.var_is_src (D : Decoded isAlpha m t g v ds es) {x} (hx : x ∈ t.node.vars) :
    ∃ d ∈ ds, d.triple.src = x ∧ d.triple.role = CONCEPT_ROLE ∧ d.ctx = x ∧ d.swapped = false := by
  obtain ⟨w, hw, hc, hr⟩ := written_instance_node t.node x hx
  obtain ⟨d, hd, hden⟩ := D.den.mem_left hw
  obtain ⟨h1, -, hs⟩ := denote_shape hden
  rw [hc] at h1; cases h1
  refine ⟨d, hd, ?_⟩
  have hni := not_inverted_concept m
  cases hs with
  | opens nv h1 h2 h3 h4 =>
    rw [hr, hni] at h3; simp at h3
    rw [h4, h3, hr]; simp [orientTriple]
  | null h1 h2 h3 h4 => rw [h4, hr]; simp [h3]
  | str raw h1 h2 h3 h4 =>
    rw [hr, hni] at h3; simp at h3
    rw [h4, h3, hr]; simp [orientTriple]

theorem Decoded.top_mem (D : Decoded isAlpha m t g v ds es) : v ∈ t.node.vars :=
  var_mem_vars D.var

theorem Decoded.srcs (D : Decoded isAlpha m t g v ds es) :
    g.triples.map (·.src) = ds.map fun d => d.triple.src := by
  rw [D.triples]; simp [colon]

theorem Decoded.mem_srcs (D : Decoded isAlpha m t g v ds es) (y : Str) :
    y ∈ (ds.map fun d => d.triple.src) ↔ y ∈ t.node.vars := by
  simp only [List.mem_map]
  constructor
  · rintro ⟨d, hd, rfl⟩; exact D.src_mem hd
  · intro hy
    obtain ⟨d, hd, h1, -⟩ := D.var_is_src hy
    exact ⟨d, hd, h1⟩

theorem Decoded.variables_eq (D : Decoded isAlpha m t g v ds es) :
    g.variables = dedup (ds.map fun d => d.triple.src) := by
  have h : v ∈ dedup (ds.map fun d => d.triple.src) := (mem_dedup _ _).2 ((D.mem_srcs v).2 D.top_mem)
  unfold Graph.variables
  simp only [D.top, D.srcs, h, if_true]

theorem Decoded.mem_variables (D : Decoded isAlpha m t g v ds es) (x : Str) :
    x ∈ g.variables ↔ x ∈ t.node.vars := by
  rw [D.variables_eq, mem_dedup, D.mem_srcs]

theorem filterMap_congr' {α β : Type} {f g : α → Option β} {l : List α} (h : ∀ x ∈ l, f x = g x) :
    l.filterMap f = l.filterMap g := by
  induction l with
  | nil => rfl
  | cons a l ih =>
    rw [List.filterMap_cons, List.filterMap_cons, h a List.mem_cons_self,
      ih fun x hx => h x (List.mem_cons_of_mem _ hx)]

def entryProj (x : Triple × List Epi) : Triple × Option Epi × Option Epi := (x.1, roleProj x.2, tgtProj x.2)
def denProj (d : Denoted) : Triple × Option Epi × Option Epi :=
  (d.triple, d.roleAln.map fun a => Epi.roleAln a.1 a.2, d.tgtAln.map fun a => Epi.aln a.1 a.2)

theorem Decoded.epimap_proj (D : Decoded isAlpha m t g v ds es) :
    g.epidata.map entryProj = (firstOccBy (·.triple) ds).map denProj := by
  have h1 : es.map entryProj = ds.map denProj :=
    D.ent.map_eq (fun x d h => by simp [entryProj, denProj, h.key, h.ra, h.ta])
  rw [D.epi, epimapOf_eq_firstOcc]
  unfold firstOccBy
  have h2 := firstOccAux_map entryProj (·.1) [] es
  have h3 := firstOccAux_map denProj (·.1) [] ds
  simp only [entryProj] at h2
  simp only [denProj] at h3
  rw [← h2, ← h3]
  exact congrArg _ h1

theorem getAlignments_eq (g : Graph) (role : Bool) :
    getAlignments g role = (g.epidata.map entryProj).filterMap fun p =>
      (if role then p.2.1 else p.2.2).map fun e => (p.1, e) := by
  unfold getAlignments
  rw [List.filterMap_map]
  apply filterMap_congr'
  rintro ⟨tr, e⟩ _
  cases role
  · simp only [Bool.false_eq_true, if_false, Function.comp, entryProj, tgtProj]
    cases (List.filter (fun x => decide (x.mode = 2)) e).getLast? <;> rfl
  · simp only [if_true, Function.comp, entryProj, roleProj]
    cases (List.filter (fun x => decide (x.mode = 1)) e).getLast? <;> rfl

theorem Decoded.alignments (D : Decoded isAlpha m t g v ds es) :
    getAlignments g false =
      (Reading.alignments ⟨some v, ds⟩).map fun p => (p.1, Epi.aln p.2.1 p.2.2) := by
  rw [getAlignments_eq, D.epimap_proj, List.filterMap_map, Reading.alignments, List.map_filterMap]
  apply filterMap_congr'
  intro d _
  simp only [Function.comp, denProj, Bool.false_eq_true, if_false]
  cases d.tgtAln <;> rfl

theorem Decoded.roleAlignments (D : Decoded isAlpha m t g v ds es) :
    getAlignments g true =
      (Reading.roleAlignments ⟨some v, ds⟩).map fun p => (p.1, Epi.roleAln p.2.1 p.2.2) := by
  rw [getAlignments_eq, D.epimap_proj, List.filterMap_map, Reading.roleAlignments, List.map_filterMap]
  apply filterMap_congr'
  intro d _
  simp only [Function.comp, denProj, if_true]
  cases d.roleAln <;> rfl

/-! ### no `~` in a triple -/

theorem Decoded.no_tilde (D : Decoded isAlpha m t g v ds es) {d} (hd : d ∈ ds) :
    '~' ∉ (colon d.triple).role ∧
      ∀ s, (colon d.triple).tgt = .str s → '~' ∈ s → s.head? = some '"' ∨ s ∈ t.node.vars := by
  -- by the shape of the relation; swapped, its target is the writing node, a variable of the tree
  have hc := D.ctx_mem hd
  obtain ⟨w, hw, -, -, hs⟩ := D.written_of hd
  have hr := tilde_not_mem_roleName w.role
  simp only [colon]
  cases hs with
  | opens nv h1 h2 h3 h4 =>
    have hnv := (written_node_vars t.node w hw).2 _ h1
    rw [h4]
    cases d.swapped with
    | false =>
      refine ⟨tilde_not_mem_ensureColon _ hr, fun s hs _ => .inr ?_⟩
      simp only [orientTriple, Bool.false_eq_true, if_false, Atom.str.injEq] at hs; exact hs ▸ hnv
    | true =>
      refine ⟨tilde_not_mem_ensureColon _ (tilde_not_mem_invertRole m _ hr), fun s hs _ => .inr ?_⟩
      simp only [orientTriple, if_true, Model.invert, Atom.str.injEq] at hs; exact hs ▸ hc
  | null h1 h2 h3 h4 =>
    rw [h4]; exact ⟨tilde_not_mem_ensureColon _ hr, fun s hs => by cases hs⟩
  | str raw h1 h2 h3 h4 =>
    rw [h4]
    cases d.swapped with
    | false =>
      refine ⟨tilde_not_mem_ensureColon _ hr, fun s hs ht => .inl ?_⟩
      simp only [orientTriple, Bool.false_eq_true, if_false, Atom.str.injEq] at hs
      subst hs; exact tilde_splitTarget raw ht
    | true =>
      refine ⟨tilde_not_mem_ensureColon _ (tilde_not_mem_invertRole m _ hr), fun s hs _ => .inr ?_⟩
      simp only [orientTriple, if_true, Model.invert, Atom.str.injEq] at hs; exact hs ▸ hc

/-! ### C14: diagnostics on a layoutable reading -/

theorem Decoded.keys (D : Decoded isAlpha m t g v ds es) : es.map (·.1) = ds.map (·.triple) :=
  D.ent.map_eq fun _ _ h => h.key

theorem Decoded.triples_eq (D : Decoded isAlpha m t g v ds es) (L : Reading.Layoutable ⟨some v, ds⟩) :
    g.triples = ds.map (·.triple) := by
  rw [D.triples]
  apply List.map_congr_left
  intro d hd
  have := L.2.1 d hd
  simp only [colon, this]

theorem Decoded.epi_eq (D : Decoded isAlpha m t g v ds es) (L : Reading.Layoutable ⟨some v, ds⟩) :
    g.epidata = es := by
  rw [D.epi]
  exact epimapOf_of_nodup es (D.keys ▸ L.1)

theorem Decoded.lookup (D : Decoded isAlpha m t g v ds es) (L : Reading.Layoutable ⟨some v, ds⟩)
    {x} (hx : x ∈ es) : AList.get? g.epidata x.1 = some x.2 := by
  rw [D.epi_eq L]
  exact C02.get?_of_mem_nodup (by rw [AList.keys, D.keys]; exact L.1) hx

theorem eventsG_eq_events (g : Graph) (l : List (Triple × List Epi))
    (h : ∀ x ∈ l, AList.get? g.epidata x.1 = some x.2) : eventsG g (l.map (·.1)) = events l := by
  induction l with
  | nil => rfl
  | cons x l ih =>
    simp only [eventsG, events, List.map_cons, List.flatMap_cons] at ih ⊢
    rw [ih fun y hy => h y (List.mem_cons_of_mem _ hy), h x List.mem_cons_self]
    rfl

theorem Decoded.nodeContexts (D : Decoded isAlpha m t g v ds es) (L : Reading.Layoutable ⟨some v, ds⟩) :
    nodeContexts g = .ok (ds.map fun d => some d.ctx) := by
  unfold Penman.nodeContexts
  rw [loop_eq_run, D.getTop, D.triples_eq L, ← D.keys, eventsG_eq_events g es (fun x hx => D.lookup L hx)]
  have := D.run g.variables
    (fun d hd => ⟨(D.mem_variables _).2 (D.ctx_mem hd), L.2.2.1 d hd, L.2.2.2 d hd⟩) [] []
  simp only [List.append_nil, Interp.run] at this
  rw [this]

theorem Decoded.pushed (D : Decoded isAlpha m t g v ds es) (L : Reading.Layoutable ⟨some v, ds⟩)
    {d} (hd : d ∈ ds) : getPushedVariable g d.triple = d.opens := by
  obtain ⟨x, hx, hok⟩ := D.ent.mem_pair hd
  have hxe : x ∈ es := (List.of_mem_zip hx).1
  have := D.lookup L hxe
  rw [hok.key] at this
  unfold getPushedVariable
  rw [this]
  exact hok.push

theorem Decoded.pushed_none (D : Decoded isAlpha m t g v ds es) {tr : Triple}
    (h : tr ∉ ds.map (·.triple)) : getPushedVariable g tr = none := by
  unfold getPushedVariable
  rw [get?_none_of_not_mem]
  · rfl
  · rw [D.epi, epimapOf_eq_firstOcc]
    intro hm
    obtain ⟨x, hx, rfl⟩ := List.mem_map.1 hm
    have := (firstOccAux_sublist (·.1) [] es).subset hx
    exact h (D.keys ▸ List.mem_map.2 ⟨x, this, rfl⟩)

theorem scan_of_mem (ds : List Denoted) (h : (ds.map (·.triple)).Nodup) {d} (hd : d ∈ ds) :
    invertedScan d.triple (ds.map fun d => some d.ctx) (ds.map (·.triple)) = decide (d.triple.tgt = .str d.ctx) := by
  induction ds with
  | nil => cases hd
  | cons a ds ih =>
    simp only [List.map_cons, List.nodup_cons] at h
    simp only [List.map_cons, invertedScan]
    rcases List.mem_cons.1 hd with rfl | hd'
    · simp
    · have hne : a.triple ≠ d.triple := by
        intro e; exact h.1 (e ▸ List.mem_map.2 ⟨d, hd', rfl⟩)
      simp only [hne, if_false]
      exact ih h.2 hd'

theorem Decoded.isVar (D : Decoded isAlpha m t g v ds es) (s : Str) :
    g.isVar (.str s) = decide (s ∈ t.node.vars) := by
  simp only [Graph.isVar, D.mem_variables]

theorem Decoded.appearsInverted (D : Decoded isAlpha m t g v ds es) (L : Reading.Layoutable ⟨some v, ds⟩)
    {d} (hd : d ∈ ds) (hne : Atom.str d.triple.src ≠ d.triple.tgt) :
    appearsInverted g d.triple = .ok d.swapped := by
  -- the pushed variable is `d.opens`; without one, `invertedScan` finds the triple at its own context
  -- and answers `tgt = .str d.ctx` (`scan_of_mem`); then by the shape of the relation and `d.swapped`
  have hpush := D.pushed L hd
  have hctx := D.nodeContexts L
  have hscan := scan_of_mem ds L.1 hd
  have hinst := L.2.2.2 d hd
  have hc := D.ctx_mem hd
  obtain ⟨w, hw, -, -, hs⟩ := D.written_of hd
  unfold Penman.appearsInverted
  rw [hpush, hctx, D.triples_eq L]
  simp only [bind, Except.bind, pure, Except.pure, hscan]
  cases hs with
  | opens nv h1 h2 h3 h4 =>
    have hnv := (written_node_vars t.node w hw).2 _ h1
    rw [h2]
    cases hsw : d.swapped with
    | false =>
      rw [hsw] at h4
      simp only [orientTriple, Bool.false_eq_true, if_false] at h4
      rw [h4] at hne ⊢
      simp only [D.isVar, hnv, decide_true, Bool.not_true, Bool.or_false]
      by_cases hr : roleName w.role = CONCEPT_ROLE
      · simp [hr]
      · simp only [hr, decide_false, Bool.false_eq_true, if_false, Except.ok.injEq, decide_eq_false_iff_not]
        intro e; exact hne (by rw [e])
    | true =>
      have hi := hinst hsw
      rw [hsw] at h4
      simp only [orientTriple, if_true, Model.invert] at h4
      rw [h4] at hi ⊢
      simp only at hi
      simp [D.isVar, hc, hi]
  | null h1 h2 h3 h4 =>
    rw [h4, h3]; simp [Graph.isVar]
  | str raw h1 h2 h3 h4 =>
    rw [h2]
    cases hsw : d.swapped with
    | false =>
      rw [hsw] at h4 h3
      simp only [orientTriple, Bool.false_eq_true, if_false] at h4
      rw [h4] at hne ⊢
      simp only [D.isVar]
      by_cases hr : roleName w.role = CONCEPT_ROLE
      · simp [hr]
      · by_cases hv : (splitTarget raw).1 ∈ t.node.vars
        · simp only [hr, hv, decide_false, decide_true, Bool.not_true, Bool.or_false, Bool.false_eq_true,
            if_false, Except.ok.injEq, decide_eq_false_iff_not]
          intro e; simp only [Atom.str.injEq] at e; exact hne (by rw [e])
        · simp [hv]
    | true =>
      have hi := hinst hsw
      rw [hsw] at h4
      simp only [orientTriple, if_true, Model.invert] at h4
      rw [h4] at hi ⊢
      simp only at hi
      simp [D.isVar, hc, hi]
end

/-! ### totality of the diagnostics (after fix F19) and marker-less graphs -/

theorem run_length (vars : List Str) (evs : List Ev) (st : List (Option Str)) :
    (run vars evs st).length = countT evs := by
  induction evs generalizing st with
  | nil => simp [run, countT]
  | cons e evs ih =>
    cases e with
    | p => cases st <;> simp [run, countT, ih]
    | t tr push =>
      cases st with
      | nil => simp [run, countT]
      | cons top st =>
        cases top with
        | none => simp [run, countT]
        | some cur =>
          simp only [run, countT]
          split <;> simp [ih]

theorem nodeContexts_eq_run (g : Graph) :
    nodeContexts g = .ok (run g.variables (eventsG g g.triples) [g.getTop]) := by
  unfold nodeContexts; exact loop_eq_run _ _ _ _

theorem appearsInverted_eq (g : Graph) (t : Triple) :
    appearsInverted g t = .ok
      (if t.role = CONCEPT_ROLE || !g.isVar t.tgt then false
       else match getPushedVariable g t with
        | some v => decide (v = t.src)
        | none => invertedScan t (run g.variables (eventsG g g.triples) [g.getTop]) g.triples) := by
  unfold appearsInverted
  rw [nodeContexts_eq_run]
  split
  · rfl
  · cases getPushedVariable g t <;> rfl

/-- the contexts a marker-less graph gets: the top for as long as it is eligible, unknown afterwards -/
def topWhileEligible (vars : List Str) (c : Str) : List Triple → List (Option Str)
  | [] => []
  | t :: r => if c ∈ eligible vars t then some c :: topWhileEligible vars c r
              else List.replicate (r.length + 1) none

theorem eventsG_markerless (g : Graph) (h : g.epidata = []) (ts : List Triple) :
    eventsG g ts = ts.map fun t => Ev.t t none := by
  induction ts with
  | nil => rfl
  | cons t ts ih =>
    simp only [eventsG, List.flatMap_cons, List.map_cons] at ih ⊢
    rw [ih]
    simp [h, AList.get?, evOf, firstPush, countPop]

theorem countT_map_t (ts : List Triple) : countT (ts.map fun t => Ev.t t none) = ts.length := by
  induction ts with
  | nil => rfl
  | cons t ts ih => simp [countT, ih]

theorem run_markerless (vars : List Str) (c : Str) (ts : List Triple) :
    run vars (ts.map fun t => Ev.t t none) [some c] = topWhileEligible vars c ts := by
  induction ts with
  | nil => rfl
  | cons t ts ih =>
    simp only [List.map_cons, run, topWhileEligible, pushOn, ih, countT_map_t]
    by_cases h : c ∈ eligible vars t <;> simp [h]


/-! ### converse: the interpreter is defined wherever the reading is -/

theorem denote_ctx_none {isAlpha m vars role tgt d} :
    denote isAlpha m vars ⟨none, role, tgt⟩ ≠ .ok d := by
  simp [denote]

/-- a node is interpreted if its branch list is -/
theorem node_defined_of {isAlpha : Char → Bool} {m : Model} {vars : List Str} (n : Node)
    (ih : ∀ v ds, (Branches.written (some v) n.bs).mapM (denote isAlpha m vars) = .ok ds →
      ∃ out, interpretBranches isAlpha m vars v n.bs = .ok out) :
    ∀ ds, (Node.written n).mapM (denote isAlpha m vars) = .ok ds → ∃ p, interpretNode isAlpha m vars n = .ok p := by
  obtain ⟨v, bs⟩ := n
  intro ds h
  simp only [Node.written] at h
  simp only [Node.bs] at ih
  obtain ⟨b₁, b₂, h1, h2, -⟩ := mapM_append_inv h
  cases v with
  | none =>
    exfalso
    by_cases hl : labelled bs
    · cases bs with
      | nil => simp [labelled, Branches.toList] at hl
      | atom r a rest =>
        simp only [Branches.written] at h2
        obtain ⟨b, _, hb, -⟩ := mapM_cons_inv h2
        exact denote_ctx_none hb
      | sub r n rest =>
        simp only [Branches.written] at h2
        obtain ⟨b, _, hb, -⟩ := mapM_cons_inv h2
        exact denote_ctx_none hb
    · simp only [hl, Bool.false_eq_true, if_false] at h1
      obtain ⟨b, _, hb, -⟩ := mapM_cons_inv h1
      exact denote_ctx_none hb
  | some var =>
    obtain ⟨out, ho⟩ := ih var b₂ h2
    simp only [interpretNode, ho, bind, Except.bind]
    split <;> exact ⟨_, rfl⟩

/-- `interpretBranches` succeeds on a branch list all of whose written relations `denote` -/
theorem branches_defined (isAlpha : Char → Bool) (m : Model) (vars : List Str) :
    (bs : Branches) → ∀ v ds, (Branches.written (some v) bs).mapM (denote isAlpha m vars) = .ok ds →
      ∃ out, interpretBranches isAlpha m vars v bs = .ok out := by
  refine branches_ind (fun v ds _ => ⟨_, rfl⟩) ?_ ?_
  · intro r a rest ih v ds h
    simp only [Branches.written] at h
    obtain ⟨d, ds', hd, hrest, -⟩ := mapM_cons_inv h
    obtain ⟨out', ho⟩ := ih v ds' hrest
    obtain ⟨-, hra, hs⟩ := denote_shape hd
    have hpr := processRole_eq isAlpha r
    simp only at hra
    rw [hra] at hpr
    cases hs with
    | opens nv h1 => cases h1
    | null h1 =>
      simp only [WTarget.atom.injEq] at h1; subst h1
      simp only [interpretBranches, hpr, Except.map, processAtomic, ho, bind, Except.bind, pure, Except.pure]
      exact ⟨_, rfl⟩
    | str raw h1 h2 h3 h4 h5 =>
      simp only [WTarget.atom.injEq] at h1; subst h1
      have hpa := processAtomic_str isAlpha raw
      rw [h5] at hpa
      simp only [interpretBranches, hpr, Except.map, hpa, ho, bind, Except.bind, pure, Except.pure]
      exact ⟨_, rfl⟩
  · intro r n rest ihn ih v ds h
    simp only [Branches.written] at h
    obtain ⟨d, ds', hd, hrest, -⟩ := mapM_cons_inv h
    obtain ⟨dn, dr, hn, hr, -⟩ := mapM_append_inv hrest
    obtain ⟨out', ho⟩ := ih v dr hr
    obtain ⟨p, hp⟩ := node_defined_of n ihn dn hn
    obtain ⟨-, hra, hs⟩ := denote_shape hd
    have hpr := processRole_eq isAlpha r
    simp only at hra
    rw [hra] at hpr
    cases hs with
    | null h1 => cases h1
    | str raw h1 => cases h1
    | opens nv h1 =>
      simp only [WTarget.opens.injEq] at h1
      obtain ⟨nts, nes⟩ := p
      simp only [interpretBranches, hpr, Except.map, h1, hp, ho, bind, Except.bind, pure, Except.pure]
      exact ⟨_, rfl⟩

theorem node_defined (isAlpha : Char → Bool) (m : Model) (vars : List Str) (n : Node) :
    ∀ ds, (Node.written n).mapM (denote isAlpha m vars) = .ok ds → ∃ p, interpretNode isAlpha m vars n = .ok p :=
  node_defined_of n (branches_defined isAlpha m vars n.bs)

theorem interpret_defined {isAlpha m} {t : Tree} {r} (h : Spec.Reading.read isAlpha m t.node = .ok r) :
    ∃ g, interpret isAlpha m t = .ok g := by
  unfold Spec.Reading.read at h
  cases hm : (Node.written t.node).mapM (denote isAlpha m t.node.vars) with
  | error e => simp [hm, Except.map] at h
  | ok ds =>
    obtain ⟨p, hp⟩ := node_defined isAlpha m t.node.vars t.node ds hm
    obtain ⟨ts, es⟩ := p
    refine ⟨Graph.mk' ts t.node.var (epimapOf es) t.metadata, ?_⟩
    simp only [interpret, hp, bind, Except.bind, pure, Except.pure]


end Penman.Interp
