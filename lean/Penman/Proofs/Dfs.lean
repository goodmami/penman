/-
  Penman.Proofs.Dfs — the worklist `dfsLoop` terminates within its fuel and
  computes the weakly-connected component of the top (`Reach`).
-/
import Penman.Spec.Reach
import Penman.Proofs.GraphLemmas
namespace Penman

theorem length_dedup_le {α : Type} [DecidableEq α] (l : List α) : (dedup l).length ≤ l.length :=
  (dedup_sublist l).length_le

theorem mem_srcs (g : Graph) (v : Str) : v ∈ g.srcs ↔ g.IsSrc v := by
  simp only [Graph.srcs, mem_dedup, List.mem_map, Graph.IsSrc]

theorem length_srcs_le (g : Graph) : g.srcs.length ≤ g.triples.length := by
  have := length_dedup_le (g.triples.map (·.src))
  simpa [Graph.srcs] using this

theorem mem_neighbours (g : Graph) (srcs : List Str) (v w : Str) :
    w ∈ neighbours g srcs v ↔
      ∃ t ∈ g.triples, t.role ≠ CONCEPT_ROLE ∧ w ∈ srcs ∧
        ((t.src = v ∧ t.tgt = .str w) ∨ (t.src = w ∧ t.tgt = .str v)) := by
  simp only [neighbours, List.mem_filterMap]
  constructor
  · rintro ⟨t, ht, h⟩
    refine ⟨t, ht, ?_⟩
    split at h
    · simp at h
    · rename_i hr
      split at h
      · rename_i s hs
        split at h
        · rename_i h1
          simp only [Option.some.injEq] at h
          subst h
          exact ⟨hr, h1.2, Or.inl ⟨h1.1, hs⟩⟩
        · split at h
          · rename_i h2
            simp only [Option.some.injEq] at h
            subst h
            refine ⟨hr, h2.2, Or.inr ?_⟩
            constructor
            · rfl
            · rw [hs, h2.1]
          · simp at h
      · simp at h
  · rintro ⟨t, ht, hr, hw, h⟩
    refine ⟨t, ht, ?_⟩
    rw [if_neg hr]
    rcases h with ⟨h1, h2⟩ | ⟨h1, h2⟩
    · simp only [h2]
      rw [if_pos ⟨h1, hw⟩]
    · simp only [h2]
      by_cases hc : t.src = v ∧ v ∈ srcs
      · rw [if_pos hc, ← h1, hc.1]
      · rw [if_neg hc]
        simp [h1, hw]

theorem length_neighbours_le (g : Graph) (srcs : List Str) (v : Str) :
    (neighbours g srcs v).length ≤ g.triples.length := by
  simp only [neighbours]
  exact List.length_filterMap_le _ _

theorem mem_neighbours_srcs (g : Graph) (v w : Str) (hv : g.IsSrc v) :
    w ∈ neighbours g g.srcs v ↔ g.Adj v w := by
  rw [mem_neighbours]
  simp only [mem_srcs, Graph.Adj]
  constructor
  · rintro ⟨t, ht, hr, hw, h⟩
    exact ⟨hv, hw, t, ht, hr, h⟩
  · rintro ⟨_, hw, t, ht, hr, h⟩
    exact ⟨t, ht, hr, hw, h⟩

/-- the termination measure: pending agenda entries plus `n` per unvisited source -/
def dfsMeasure (n : Nat) (srcs agenda visited : List Str) : Nat :=
  agenda.length + n * (srcs.filter (· ∉ visited)).length

theorem dfsMeasure_cons_pos (n : Nat) (srcs : List Str) (a : Str) (agenda visited : List Str) :
    ¬ dfsMeasure n srcs (a :: agenda) visited ≤ 0 := by
  rw [dfsMeasure, List.length_cons]
  omega

/-- visiting a source removes it from the unvisited ones -/
theorem filter_notMem_cons_lt (srcs visited : List Str) (cur : Str)
    (hc : cur ∈ srcs) (hv : cur ∉ visited) :
    (srcs.filter (fun x => decide (x ∉ cur :: visited))).length <
      (srcs.filter (fun x => decide (x ∉ visited))).length := by
  have e : srcs.filter (fun x => decide (x ∉ cur :: visited)) =
      (srcs.filter (fun x => decide (x ∉ visited))).filter (· ≠ cur) := by
    rw [List.filter_filter]
    exact List.filter_congr fun x _ => by simp
  rw [e]
  refine Nat.lt_of_le_of_ne (List.length_filter_le _ _) fun h => ?_
  have := List.length_filter_eq_length_iff.1 h cur (List.mem_filter.2 ⟨hc, by simpa using hv⟩)
  simp at this

section
variable (g : Graph) (srcs : List Str)

theorem dfsLoop_nil (f : Nat) (visited : List Str) : dfsLoop g srcs f [] visited = visited := by
  cases f <;> rfl

theorem dfsLoop_visited (f : Nat) (cur : Str) (agenda visited : List Str) (h : cur ∈ visited) :
    dfsLoop g srcs (f+1) (cur :: agenda) visited = dfsLoop g srcs f agenda visited := by
  rw [dfsLoop, if_pos h]

theorem dfsLoop_fresh (f : Nat) (cur : Str) (agenda visited : List Str) (h : cur ∉ visited) :
    dfsLoop g srcs (f+1) (cur :: agenda) visited =
      dfsLoop g srcs f ((neighbours g srcs cur).filter (· ∉ cur :: visited) ++ agenda) (cur :: visited) := by
  rw [dfsLoop, if_neg h]

theorem dfsMeasure_fresh (cur : Str) (agenda visited : List Str)
    (hc : cur ∈ srcs) (hv : cur ∉ visited) :
    dfsMeasure g.triples.length srcs
        ((neighbours g srcs cur).filter (· ∉ cur :: visited) ++ agenda) (cur :: visited)
      < dfsMeasure g.triples.length srcs (cur :: agenda) visited := by
  simp only [dfsMeasure, List.length_append, List.length_cons]
  have h1 := filter_notMem_cons_lt srcs visited cur hc hv
  have h2 : ((neighbours g srcs cur).filter (· ∉ cur :: visited)).length ≤ g.triples.length :=
    Nat.le_trans (List.length_filter_le _ _) (length_neighbours_le g srcs cur)
  generalize (srcs.filter (· ∉ cur :: visited)).length = a at *
  generalize (srcs.filter (· ∉ visited)).length = b at *
  generalize ((neighbours g srcs cur).filter (· ∉ cur :: visited)).length = k at *
  generalize g.triples.length = n at *
  have : n * (a + 1) ≤ n * b := Nat.mul_le_mul_left n h1
  rw [Nat.mul_add, Nat.mul_one] at this
  omega

theorem dfsMeasure_visited_le {cur : Str} {agenda visited : List Str} {f : Nat}
    (h : dfsMeasure g.triples.length srcs (cur :: agenda) visited ≤ f + 1) :
    dfsMeasure g.triples.length srcs agenda visited ≤ f := by
  rw [dfsMeasure, List.length_cons] at h
  rw [dfsMeasure]
  omega

theorem dfsMeasure_fresh_le {cur : Str} {agenda visited : List Str} {f : Nat}
    (hc : cur ∈ srcs) (hv : cur ∉ visited)
    (h : dfsMeasure g.triples.length srcs (cur :: agenda) visited ≤ f + 1) :
    dfsMeasure g.triples.length srcs
      ((neighbours g srcs cur).filter (· ∉ cur :: visited) ++ agenda) (cur :: visited) ≤ f :=
  Nat.le_of_lt_succ (Nat.lt_of_lt_of_le (dfsMeasure_fresh g srcs cur agenda visited hc hv) h)

theorem neighbours_subset (v w : Str) (h : w ∈ neighbours g srcs v) : w ∈ srcs := by
  rw [mem_neighbours] at h
  obtain ⟨_, _, _, hw, _⟩ := h
  exact hw

theorem dfsLoop_fuel : ∀ (f₁ f₂ : Nat) (agenda visited : List Str), (∀ a ∈ agenda, a ∈ srcs) →
    dfsMeasure g.triples.length srcs agenda visited ≤ f₁ →
    dfsMeasure g.triples.length srcs agenda visited ≤ f₂ →
    dfsLoop g srcs f₁ agenda visited = dfsLoop g srcs f₂ agenda visited
  | f₁, f₂, [], visited, _, _, _ => by rw [dfsLoop_nil, dfsLoop_nil]
  | 0, _, cur :: agenda, visited, _, h₁, _ => absurd h₁ (dfsMeasure_cons_pos _ _ _ _ _)
  | _, 0, cur :: agenda, visited, _, _, h₂ => absurd h₂ (dfsMeasure_cons_pos _ _ _ _ _)
  | f₁+1, f₂+1, cur :: agenda, visited, hA, h₁, h₂ => by
    by_cases hv : cur ∈ visited
    · rw [dfsLoop_visited g srcs _ _ _ _ hv, dfsLoop_visited g srcs _ _ _ _ hv]
      exact dfsLoop_fuel _ _ _ _ (fun a ha => hA a (List.mem_cons_of_mem _ ha))
        (dfsMeasure_visited_le g srcs h₁) (dfsMeasure_visited_le g srcs h₂)
    · rw [dfsLoop_fresh g srcs _ _ _ _ hv, dfsLoop_fresh g srcs _ _ _ _ hv]
      have hc := hA cur (List.mem_cons_self ..)
      refine dfsLoop_fuel _ _ _ _ (fun a ha => ?_)
        (dfsMeasure_fresh_le g srcs hc hv h₁) (dfsMeasure_fresh_le g srcs hc hv h₂)
      rcases List.mem_append.1 ha with h | h
      · exact neighbours_subset g srcs cur a (List.mem_filter.1 h).1
      · exact hA a (List.mem_cons_of_mem _ h)

/-- soundness: any property closed under `neighbours` that holds of the
    agenda and the visited set holds of the result (no fuel condition) -/
theorem dfsLoop_sound (P : Str → Prop)
    (hP : ∀ v w, P v → w ∈ neighbours g srcs v → P w) :
    ∀ (f : Nat) (agenda visited : List Str), (∀ a ∈ agenda, P a) → (∀ a ∈ visited, P a) →
      ∀ a ∈ dfsLoop g srcs f agenda visited, P a
  | 0, _, _, _, hV => hV
  | _+1, [], _, _, hV => hV
  | f+1, cur :: agenda, visited, hA, hV => by
    by_cases hv : cur ∈ visited
    · rw [dfsLoop_visited g srcs _ _ _ _ hv]
      exact dfsLoop_sound P hP f _ _ (fun a ha => hA a (List.mem_cons_of_mem _ ha)) hV
    · rw [dfsLoop_fresh g srcs _ _ _ _ hv]
      have hc : P cur := hA cur (List.mem_cons_self ..)
      apply dfsLoop_sound P hP f
      · intro a ha
        rcases List.mem_append.1 ha with h | h
        · exact hP cur a hc (List.mem_filter.1 h).1
        · exact hA a (List.mem_cons_of_mem _ h)
      · intro a ha
        rcases List.mem_cons.1 ha with h | h
        · exact h ▸ hc
        · exact hV a h

/-- completeness: with enough fuel the result contains agenda and visited
    and is closed under `neighbours` -/
theorem dfsLoop_complete : ∀ (f : Nat) (agenda visited : List Str), (∀ a ∈ agenda, a ∈ srcs) →
    dfsMeasure g.triples.length srcs agenda visited ≤ f →
    (∀ v ∈ visited, ∀ w ∈ neighbours g srcs v, w ∈ visited ∨ w ∈ agenda) →
    (∀ a ∈ visited, a ∈ dfsLoop g srcs f agenda visited) ∧
    (∀ a ∈ agenda, a ∈ dfsLoop g srcs f agenda visited) ∧
    (∀ v ∈ dfsLoop g srcs f agenda visited, ∀ w ∈ neighbours g srcs v,
        w ∈ dfsLoop g srcs f agenda visited)
  | f, [], visited, _, _, hI => by
    rw [dfsLoop_nil]
    exact ⟨fun a h => h, fun a h => (nomatch h),
      fun v hv w hw => (hI v hv w hw).resolve_right List.not_mem_nil⟩
  | 0, cur :: agenda, visited, _, hf, _ => absurd hf (dfsMeasure_cons_pos _ _ _ _ _)
  | f+1, cur :: agenda, visited, hA, hf, hI => by
    by_cases hv : cur ∈ visited
    · rw [dfsLoop_visited g srcs _ _ _ _ hv]
      obtain ⟨h1, h2, h3⟩ := dfsLoop_complete f agenda visited
        (fun a ha => hA a (List.mem_cons_of_mem _ ha)) (dfsMeasure_visited_le g srcs hf)
        (by
          intro v hv' w hw
          rcases hI v hv' w hw with h | h
          · exact Or.inl h
          · rcases List.mem_cons.1 h with h | h
            · exact Or.inl (h ▸ hv)
            · exact Or.inr h)
      refine ⟨h1, ?_, h3⟩
      intro a ha
      rcases List.mem_cons.1 ha with h | h
      · exact h ▸ h1 cur hv
      · exact h2 a h
    · rw [dfsLoop_fresh g srcs _ _ _ _ hv]
      obtain ⟨h1, h2, h3⟩ := dfsLoop_complete f
        ((neighbours g srcs cur).filter (· ∉ cur :: visited) ++ agenda) (cur :: visited)
        (by
          intro a ha
          rcases List.mem_append.1 ha with h | h
          · exact neighbours_subset g srcs cur a (List.mem_filter.1 h).1
          · exact hA a (List.mem_cons_of_mem _ h))
        (dfsMeasure_fresh_le g srcs (hA cur (List.mem_cons_self ..)) hv hf)
        (by
          intro v hv' w hw
          by_cases hwv : w ∈ cur :: visited
          · exact Or.inl hwv
          · right
            rcases List.mem_cons.1 hv' with h | h
            · subst h
              exact List.mem_append_left _ (List.mem_filter.2 ⟨hw, by simpa using hwv⟩)
            · rcases hI v h w hw with h' | h'
              · exact absurd (List.mem_cons_of_mem _ h') hwv
              · rcases List.mem_cons.1 h' with h'' | h''
                · exact absurd (h'' ▸ List.mem_cons_self ..) hwv
                · exact List.mem_append_right _ h'')
      refine ⟨fun a ha => h1 a (List.mem_cons_of_mem _ ha), ?_, h3⟩
      intro a ha
      rcases List.mem_cons.1 ha with h | h
      · exact h ▸ h1 cur (List.mem_cons_self ..)
      · exact h2 a (List.mem_append_right _ h)

end

/-- the fuel `n*n+n+2` of `reachable` is beyond the measure of the initial state -/
theorem reachable_fuel_ok (g : Graph) (top : Str) :
    dfsMeasure g.triples.length g.srcs [top] [] ≤
      g.triples.length * g.triples.length + g.triples.length + 2 := by
  simp only [dfsMeasure, List.length_cons, List.length_nil]
  have h1 : (g.srcs.filter (· ∉ ([] : List Str))).length ≤ g.triples.length :=
    Nat.le_trans (List.length_filter_le _ _) (length_srcs_le g)
  have := Nat.mul_le_mul_left g.triples.length h1
  omega

theorem reachable_eq (g : Graph) (top : Str) :
    reachable g top = dfsLoop g g.srcs
      (g.triples.length * g.triples.length + g.triples.length + 2) [top] [] := rfl

/-- `reachable` does not depend on the fuel: any fuel beyond the measure
    `1 + n·|srcs|` (in particular the model's `n*n+n+2`) gives the same set -/
theorem reachable_fuel_indep (g : Graph) (top : Str) (htop : g.IsSrc top) (f : Nat)
    (hf : 1 + g.triples.length * g.srcs.length ≤ f) :
    dfsLoop g g.srcs f [top] [] = reachable g top := by
  rw [reachable_eq]
  apply dfsLoop_fuel
  · intro a ha
    simp only [List.mem_singleton] at ha
    exact ha ▸ (mem_srcs g top).2 htop
  · simp only [dfsMeasure, List.length_cons, List.length_nil]
    have : (g.srcs.filter (· ∉ ([] : List Str))).length ≤ g.srcs.length := List.length_filter_le _ _
    have := Nat.mul_le_mul_left g.triples.length this
    omega
  · exact reachable_fuel_ok g top

/-- `_dfs` computes weak connectivity -/
theorem dfs_reach (g : Graph) (top v : Str) (htop : g.IsSrc top) :
    v ∈ reachable g top ↔ Reach g top v := by
  have hsrc : top ∈ g.srcs := (mem_srcs g top).2 htop
  constructor
  · intro h
    rw [reachable_eq] at h
    refine dfsLoop_sound g g.srcs (fun a => Reach g top a ∧ g.IsSrc a) ?_ _ [top] [] ?_ ?_ v h |>.1
    · rintro a w ⟨ha, hs⟩ hw
      have hadj := (mem_neighbours_srcs g a w hs).1 hw
      exact ⟨Reach.step ha hadj, hadj.2.1⟩
    · intro a ha
      simp only [List.mem_singleton] at ha
      subst ha
      exact ⟨Reach.refl, htop⟩
    · intro a ha; cases ha
  · intro h
    have hc := dfsLoop_complete g g.srcs
      (g.triples.length * g.triples.length + g.triples.length + 2) [top] []
      (by intro a ha; simp only [List.mem_singleton] at ha; exact ha ▸ hsrc)
      (reachable_fuel_ok g top)
      (by intro v hv; cases hv)
    rw [← reachable_eq] at hc
    obtain ⟨_, h2, h3⟩ := hc
    induction h with
    | refl => exact h2 top (List.mem_singleton.2 rfl)
    | step hr hadj ih =>
      exact h3 _ ih _ ((mem_neighbours_srcs g _ _ hadj.1).2 hadj)

/-- everything `_dfs` visits is a source -/
theorem reachable_subset_srcs (g : Graph) (top v : Str) (htop : g.IsSrc top)
    (h : v ∈ reachable g top) : g.IsSrc v := by
  rw [reachable_eq] at h
  refine dfsLoop_sound g g.srcs (fun a => g.IsSrc a) ?_ _ [top] [] ?_ ?_ v h
  · intro a w _ hw
    exact (mem_srcs g w).1 (neighbours_subset g g.srcs a w hw)
  · intro a ha
    simp only [List.mem_singleton] at ha
    exact ha ▸ htop
  · intro a ha; cases ha

end Penman
