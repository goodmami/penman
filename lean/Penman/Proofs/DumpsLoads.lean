/-
  Penman.Proofs.DumpsLoads — C09 at the level of graphs (namespace `C09g`, used by `Props/C09g.lean`):
  the text `encode` writes for a graph parses completely, back to the written form of the configured
  tree, and ends in a closed line (so texts may be joined by newlines or on one line); from there
  `encodeAll_roundtrip` for a list of graphs, and what `loadToks` / `dumpStream` compute.
-/
import Penman.Spec.DumpsLoads
import Penman.Proofs.FramingInline
namespace Penman.C09g
open Penman.Spec Penman.Cfg Penman.C03Text Penman.Framing Penman.FL

/-- `C07.parseToks_treeToks` for `parseTree`: the remainder is exactly what follows the closing
    parenthesis, under every error context -/
theorem parseTree_treeToks (c : PCtx) (isSpace : Char → Bool) (cs : List Tok) (t : Node)
    (ts rest : List Tok) (hcs : ∀ x ∈ cs, x.ty = .COMMENT) (h : TreeToks t ts) :
    parseTree c isSpace (cs ++ (ts ++ rest)) =
      .ok (⟨t, cs.foldl (fun md x => commentMeta isSpace (x.text.length + 1) x.text md) []⟩, rest) := by
  obtain ⟨k, hw, rfl, rfl⟩ := h
  obtain ⟨m, ms, e, hm⟩ := k.head rest hw
  have hm' : m.ty ≠ .COMMENT := by simp [hm]
  simp only [parseTree, parseComments_eq, e]
  rw [(leadingComments_append cs m ms hcs hm').2, metaOf_append isSpace cs m ms hcs hm']
  simp only [reduceCtorEq, if_false, bind, Except.bind]
  rw [← e, parseNode_cst_top _ k rest hw]
  rfl

variable {cfg : LexCfg}

/-- `C01.format_lex` for trees with numbers: the tokens of the text are one COMMENT per metadata
    line followed by a token list of the WRITTEN FORM of the tree -/
theorem format_lex_num (hw : FmtCfgWf cfg = true) (n : Node) (md : AList Str Str)
    (ht : WfTreeText cfg (writtenForm n)) (hmd : ∀ kv ∈ md, Spec.NoBreak kv.1 ∧ Spec.NoBreak kv.2)
    (i : Indent) (c : Bool) :
    ∃ cs ts, lexStr cfg cfg.penmanOrder (format ⟨n, md⟩ i c) = cs ++ ts ∧
      (∀ x ∈ cs, x.ty = .COMMENT) ∧ cs.map (·.text) = formatMeta md ∧ TreeToks (writtenForm n) ts := by
  have hwp := FmtCfgWf.toP hw
  obtain ⟨k, hk, hkt⟩ := wfNode_cst hwp.base (writtenForm n) ht
  have h := format_lexC_num hwp k hk n hkt.symm md hmd i c
  simp only [lexP, lexC, List.map_eq_append_iff] at h
  obtain ⟨cs, ts, e, h1, h2⟩ := h
  refine ⟨cs, ts, e, ?_, ?_, hkt ▸ treeToks_of_core hk.1 h2⟩
  · intro x hx
    have := congrArg (List.map Prod.fst) h1
    simp only [List.map_map] at this
    have h3 : ∀ y ∈ cs.map (Prod.fst ∘ core), y = TokTy.COMMENT := by
      rw [this]; intro y hy; simp at hy; exact hy.2.symm
    exact h3 _ (List.mem_map.2 ⟨x, hx, rfl⟩)
  · have := congrArg (List.map Prod.snd) h1
    simpa [List.map_map, Function.comp_def, core] using this

/-- **the text of a tree parses completely**: `_parse` on its tokens returns the written form of the
    tree with the same metadata and leaves NOTHING over -/
theorem format_parses_completely (hw : FmtCfgWf cfg = true) (isSpace : Char → Bool) (n : Node)
    (md : AList Str Str) (ht : WfTreeText cfg (writtenForm n)) (hmd : WfMeta isSpace md)
    (i : Indent) (c : Bool) (ctx : PCtx) :
    parseTree ctx isSpace (lexStr cfg cfg.penmanOrder (format ⟨n, md⟩ i c)) =
      .ok (⟨writtenForm n, md⟩, []) := by
  obtain ⟨cs, ts, e, hcs, htx, htt⟩ := format_lex_num hw n md ht (C01.wfMeta_noBreak hmd) i c
  have hp := parseTree_treeToks ctx isSpace cs (writtenForm n) ts [] hcs htt
  rw [List.append_nil] at hp
  rw [e, hp]
  have hmd' := (C01.wfMeta_iff isSpace md).1 hmd
  rw [C07.metadata_fmtLines isSpace md cs htx hmd'.1 (fun kv hkv => by
    obtain ⟨a, b, c', d, e', -, -⟩ := hmd'.2 kv hkv
    rw [hasColons_eq] at c' d
    exact ⟨(entry_ok_iff kv.1 kv.2).2 ⟨a, b, c', d⟩, e'⟩)]

theorem formatNode_getLast (indent : Indent) (vars : List Str) (n : Node) (col : Int) :
    ∃ pre, formatNode indent vars n col = pre ++ [')'] := by
  cases n with
  | mk v bs =>
    cases v with
    | none => exact ⟨['('], by simp [formatNode]⟩
    | some v =>
      cases bs with
      | nil =>
        by_cases hv : v.isEmpty = true
        · exact ⟨['('], by simp [formatNode, hv]⟩
        · exact ⟨'(' :: v, by simp [formatNode, hv]⟩
      | atom r a rest =>
        by_cases hv : v.isEmpty = true
        · exact ⟨['('], by simp [formatNode, hv]⟩
        · exact ⟨_, by simp only [formatNode, hv]; rfl⟩
      | sub r k rest =>
        by_cases hv : v.isEmpty = true
        · exact ⟨['('], by simp [formatNode, hv]⟩
        · exact ⟨_, by simp only [formatNode, hv]; rfl⟩

theorem joinStr_concat (sep : Str) (l : List Str) (x : Str) : ∃ pre, joinStr sep (l ++ [x]) = pre ++ x := by
  induction l with
  | nil => exact ⟨[], rfl⟩
  | cons y l ih =>
    obtain ⟨pre, hpre⟩ := ih
    cases hl : l ++ [x] with
    | nil => simp at hl
    | cons z r =>
      rw [hl] at hpre
      exact ⟨y ++ sep ++ pre, by simp [joinStr, hl, hpre]⟩

theorem format_getLast (T : Tree) (i : Indent) (c : Bool) : (format T i c).getLast? = some ')' := by
  unfold format
  obtain ⟨pre, h⟩ := joinStr_concat ['\n'] (formatMeta T.metadata)
    (formatNode i (if c = true then T.node.vars else []) T.node 0)
  obtain ⟨pre', h'⟩ := formatNode_getLast i (if c = true then T.node.vars else []) T.node 0
  simp only [] at h ⊢
  rw [h, h', ← List.append_assoc]
  simp

theorem getLast_ne_cr {s : Str} (h : s.getLast? = some ')') : s.getLast? ≠ some '\r' := by
  rw [h]; decide

theorem splitLines_getLast (c : Char) (h1 : c ≠ '\n') (h2 : c ≠ '\r') (s : Str)
    (h : s.getLast? = some c) : ∃ ia la, splitLines s = ia ++ [la ++ [c]] := by
  obtain ⟨s0, rfl⟩ := exists_concat_of_getLast? h
  obtain ⟨ia, la, h0⟩ := splitLines_concat s0
  refine ⟨ia, la, ?_⟩
  rw [splitLines_append s0 [c] (fun _ hc => h1 (Option.some.inj hc)), h0,
    splitLines_noBreak_eq [c] (noBreak_cons.2 ⟨⟨h1, h2⟩, .nil⟩), glue_concat]

/-- the token types the grammar of a node uses: everything but COMMENT and UNEXPECTED -/
def gramTy (ty : TokTy) : Bool :=
  ty = .LPAREN || ty = .RPAREN || ty = .SYMBOL || ty = .STRING || ty = .SLASH || ty = .ROLE || ty = .ALIGNMENT

theorem ttext_gram (x : TText) (h1 : gramTy x.tok.ty = true) (h2 : x.wfAln = true) :
    ∀ t ∈ x.toks, gramTy t.ty = true := by
  intro t ht
  unfold TText.toks at ht
  unfold TText.wfAln at h2
  cases ha : x.aln with
  | none => rw [ha] at ht; simp at ht; subst ht; exact h1
  | some a =>
    rw [ha] at ht h2
    simp at ht h2
    rcases ht with rfl | rfl
    · exact h1
    · simp [gramTy, h2]

theorem isSymOrStr_gram {t : Tok} (h : isSymOrStr t = true) : gramTy t.ty = true := by
  simp only [isSymOrStr, Bool.or_eq_true, decide_eq_true_eq] at h
  rcases h with h | h <;> simp [gramTy, h]

mutual
/-- a well-formed concrete syntax tree consists of tokens of the grammar's types -/
theorem cnode_gram : (k : CNode) → k.wf = true → ∀ t ∈ k.toks, gramTy t.ty = true
  | .empty lp rp, h, t, ht => by
    simp only [CNode.wf, Bool.and_eq_true, decide_eq_true_eq] at h
    simp only [CNode.toks, List.mem_cons, List.mem_nil_iff, or_false] at ht
    rcases ht with rfl | rfl <;> simp [gramTy, h.1, h.2]
  | .mk lp var sl es rp, h, t, ht => by
    simp only [CNode.wf, Bool.and_eq_true, decide_eq_true_eq] at h
    obtain ⟨⟨⟨⟨h1, h2⟩, h3⟩, h4⟩, h5⟩ := h
    simp only [CNode.toks, List.mem_cons, List.mem_append, List.mem_nil_iff, or_false] at ht
    rcases ht with rfl | rfl | ht | ht | rfl
    · simp [gramTy, h1]
    · simp [gramTy, h2]
    · match sl, h3, ht with
      | none, _, ht => simp [slashToks] at ht
      | some (s, none), h3, ht =>
        simp [slashToks] at ht; simp [slashWf] at h3; subst ht; simp [gramTy, h3]
      | some (s, some x), h3, ht =>
        simp only [slashWf, Bool.and_eq_true, decide_eq_true_eq] at h3
        simp only [slashToks, List.mem_cons] at ht
        rcases ht with rfl | ht
        · simp [gramTy, h3.1.1]
        · exact ttext_gram x (isSymOrStr_gram h3.1.2) h3.2 t ht
    · exact cedges_gram es h4 t ht
    · simp [gramTy, h5]
theorem cedges_gram : (es : CEdges) → es.wf = true → ∀ t ∈ es.toks, gramTy t.ty = true
  | .nil, _, t, ht => by simp [CEdges.toks] at ht
  | .atom r none rest, h, t, ht => by
    simp only [CEdges.wf, Bool.and_eq_true, decide_eq_true_eq] at h
    simp only [CEdges.toks, List.mem_append] at ht
    rcases ht with ht | ht
    · exact ttext_gram r (by simp [gramTy, h.1.1]) h.1.2 t ht
    · exact cedges_gram rest h.2 t ht
  | .atom r (some a) rest, h, t, ht => by
    simp only [CEdges.wf, Bool.and_eq_true, decide_eq_true_eq] at h
    obtain ⟨⟨⟨⟨h1, h2⟩, h3⟩, h4⟩, h5⟩ := h
    simp only [CEdges.toks, List.mem_append] at ht
    rcases ht with ht | ht | ht
    · exact ttext_gram r (by simp [gramTy, h1]) h2 t ht
    · exact ttext_gram a (isSymOrStr_gram h3) h4 t ht
    · exact cedges_gram rest h5 t ht
  | .sub r n rest, h, t, ht => by
    simp only [CEdges.wf, Bool.and_eq_true, decide_eq_true_eq] at h
    obtain ⟨⟨⟨h1, h2⟩, h3⟩, h4⟩ := h
    simp only [CEdges.toks, List.mem_append] at ht
    rcases ht with ht | ht | ht
    · exact ttext_gram r (by simp [gramTy, h1]) h2 t ht
    · exact cnode_gram n h3 t ht
    · exact cedges_gram rest h4 t ht
end

theorem treeToks_gram {t : Node} {ts : List Tok} (h : TreeToks t ts) :
    ts ≠ [] ∧ ∀ x ∈ ts, x.ty ≠ .COMMENT ∧ x.ty ≠ .UNEXPECTED := by
  obtain ⟨k, hw, -, rfl⟩ := h
  refine ⟨?_, fun x hx => ?_⟩
  · cases k <;> simp [CNode.toks]
  · have := cnode_gram k hw x hx
    constructor <;> intro hc <;> simp [gramTy, hc] at this

/-- a text whose tokens are comments followed by a token list of a tree, and which ends in `)`,
    ends in a closed line -/
theorem closedLast_of_lex (order : List TokTy) (s : Str) (cs ts : List Tok) (t : Node)
    (hl : s.getLast? = some ')') (e : lexStr cfg order s = cs ++ ts)
    (hcs : ∀ x ∈ cs, x.ty = .COMMENT) (htt : TreeToks t ts) : ClosedLast cfg order s := by
  obtain ⟨hne, hty⟩ := treeToks_gram htt
  obtain ⟨ia, la, hs⟩ := splitLines_getLast ')' (by decide) (by decide) s hl
  have hnb : Framing.NoBreak (la ++ [')']) := splitLines_noBreak s (la ++ [')']) (by rw [hs]; simp)
  refine ⟨getLast_ne_cr hl, ?_⟩
  rw [hs]
  simp only [List.getLast?_append, List.getLast?_singleton, Option.some_or]
  refine ⟨by simp, hnb.noLF, ?_⟩
  -- the tokens of the last line are a suffix of `cs ++ ts`
  have hsuf : lexStr cfg order s =
      lexLinesFrom cfg order 1 ia ++ lexLine cfg order (1 + ia.length) (la ++ [')']) := by
    rw [lexStr, lexLines, hs, lexLinesFrom_concat]
  have key : ∀ x ∈ lexLine cfg order (1 + ia.length) (la ++ [')']),
      x.ty ≠ .COMMENT ∧ x.ty ≠ .UNEXPECTED := by
    intro x hx
    have hmem : x ∈ cs ++ ts := by rw [← e, hsuf]; exact List.mem_append_right _ hx
    refine ⟨?_, ?_⟩
    · -- a COMMENT can only be the last token of its line, and the last token is in `ts`
      rcases List.eq_nil_or_concat (lexLine cfg order (1 + ia.length) (la ++ [')'])) with hnil | ⟨L, z, hL⟩
      · rw [hnil] at hx; simp at hx
      · have hdl := lexLine_comment_last cfg order (1 + ia.length) (la ++ [')']) hnb.noLF
        rw [hL] at hx hdl
        simp only [List.concat_eq_append, List.dropLast_concat, List.mem_append, List.mem_singleton] at hx hdl
        rcases hx with hx | rfl
        · exact hdl x hx
        · have hz : (cs ++ ts).getLast? = some x := by
            rw [← e, hsuf, hL]; simp [List.getLast?_append]
          obtain ⟨ts', y, rfl⟩ : ∃ ts' y, ts = ts' ++ [y] := by
            rcases List.eq_nil_or_concat ts with h | ⟨a, b, h⟩
            · exact absurd h hne
            · exact ⟨a, b, by simpa using h⟩
          rw [← List.append_assoc, List.getLast?_append] at hz
          simp at hz
          subst hz
          exact (hty _ (by simp)).1
    · rcases List.mem_append.1 hmem with h | h
      · rw [hcs x h]; decide
      · exact (hty x h).2
  exact lexLine_types cfg order 1 (1 + ia.length) _ (fun ty => ty ≠ .COMMENT ∧ ty ≠ .UNEXPECTED) key

theorem format_closedLast (hw : FmtCfgWf cfg = true) (n : Node) (md : AList Str Str)
    (ht : WfTreeText cfg (writtenForm n)) (hmd : ∀ kv ∈ md, Spec.NoBreak kv.1 ∧ Spec.NoBreak kv.2)
    (i : Indent) (c : Bool) : ClosedLast cfg cfg.penmanOrder (format ⟨n, md⟩ i c) := by
  obtain ⟨cs, ts, e, hcs, _, htt⟩ := format_lex_num hw n md ht hmd i c
  exact closedLast_of_lex _ _ cs ts _ (format_getLast _ i c) e hcs htt

/-- **the text of an encoded graph parses completely** (under every error context `ctx`, in
    particular `⟨eofPos toks⟩`): `_parse` on its tokens returns the written form of the configured
    tree with its metadata and leaves nothing over; the text ends in `)` — so not in CR — and its
    last line is closed -/
theorem encode_parses_completely_aux (hcfg : FmtCfgWf cfg = true) (isSpace : Char → Bool) {m : Model}
    {g : Graph} {top : Option Str} {T : Tree} (hw : ModelWf m) (hg : WfGraph m g)
    (htx : GraphTextOK cfg isSpace m g) (hpv : PushVars g) (h : configure m g top = .ok T)
    (i : Indent) (c : Bool) :
    encode m g top i c = .ok (format T i c) ∧
    (∀ ctx, parseTree ctx isSpace (lexStr cfg cfg.penmanOrder (format T i c)) =
      .ok (⟨writtenForm T.node, T.metadata⟩, [])) ∧
    (format T i c).getLast? = some ')' ∧ (format T i c).getLast? ≠ some '\r' ∧
    ClosedLast cfg cfg.penmanOrder (format T i c) := by
  obtain ⟨h1, h2⟩ := configured_tree_wf hw hg htx hpv h
  refine ⟨by simp [encode, h, Except.map], fun ctx => ?_, format_getLast T i c,
    getLast_ne_cr (format_getLast T i c), ?_⟩
  · exact format_parses_completely hcfg isSpace T.node T.metadata h1 h2 i c ctx
  · exact format_closedLast hcfg T.node T.metadata h1 (C01.wfMeta_noBreak h2) i c

/-- one encodable graph: its text, the tree `iterparse` yields for it, the graph `interpret` makes
    of that tree -/
theorem encodable_roundtrip (hcfg : FmtCfgWf cfg = true) (isSpace isAlpha : Char → Bool) {m : Model}
    {g : Graph} (hw : ModelWf m) (hnoop : m.noop = false) (h : Encodable cfg isSpace m g)
    (i : Indent) (c : Bool) :
    ∃ s T g', encode m g none i c = .ok s ∧ s.getLast? = some ')' ∧
      ClosedLast cfg cfg.penmanOrder s ∧
      (∀ ctx, parseTree ctx isSpace (lexStr cfg cfg.penmanOrder s) = .ok (T, [])) ∧
      interpret isAlpha m T = .ok g' ∧ SameGraph m g g' := by
  obtain ⟨t, ht, htv, hreach⟩ := h.top
  obtain ⟨s, g', h1, h2, h3, h4, h5, h6, h7⟩ := encode_decode_text hcfg isSpace isAlpha (top := none)
    hw hnoop h.wf h.text h.pushVars h.pushSrc (show topOf g none = some t from ht) htv hreach i c
  obtain ⟨T, hT⟩ := encode_ok_iff.1 ⟨s, h1⟩
  obtain ⟨e1, e2, e3, _, e5⟩ := encode_parses_completely_aux hcfg isSpace hw h.wf h.text h.pushVars hT i c
  have hs : s = format T i c := by rw [e1] at h1; exact (Except.ok.inj h1).symm
  subst hs
  refine ⟨_, ⟨writtenForm T.node, T.metadata⟩, g', h1, e3, e5, e2, ?_, ⟨h3.trans ht.symm, h4, h5, h6, h7⟩⟩
  simp only [decode, C01.parse, parseToks, e2, Except.map, bind, Except.bind] at h2
  exact h2

theorem mapE_ok_length {α β ε : Type} (f : α → Except ε β) : ∀ (xs : List α) (ys : List β),
    mapE f xs = .ok ys → ys.length = xs.length := by
  intro xs
  fun_induction mapE f xs with
  | case1 =>
    intro ys h
    cases h
    rfl
  | case2 => nofun
  | case3 => nofun
  | case4 x xs y _ zs hz ih =>
    intro ys h
    cases h
    exact congrArg (· + 1) (ih zs hz)

theorem mapE_cons_ok {α β ε : Type} {f : α → Except ε β} {x : α} {xs : List α} {y : β}
    {ys : List β} (hx : f x = .ok y) (hxs : mapE f xs = .ok ys) :
    mapE f (x :: xs) = .ok (y :: ys) := by
  rw [mapE, hx, hxs]

/-- all graphs of a list: their texts `p.1`, the trees `p.2` they parse to, the loaded graphs -/
theorem encodeAll_roundtrip (hcfg : FmtCfgWf cfg = true) (isSpace isAlpha : Char → Bool) {m : Model}
    (hw : ModelWf m) (hnoop : m.noop = false) (i : Indent) (c : Bool) :
    ∀ gs : List Graph, (∀ g ∈ gs, Encodable cfg isSpace m g) →
    ∃ (ps : List (Str × Tree)) (gs' : List Graph),
      encodeAll m gs i c = .ok (ps.map (·.1)) ∧
      (∀ p ∈ ps, p.1.getLast? = some ')' ∧ ClosedLast cfg cfg.penmanOrder p.1 ∧
        ∀ ctx, parseTree ctx isSpace (lexStr cfg cfg.penmanOrder p.1) = .ok (p.2, [])) ∧
      mapE (interpret isAlpha m) (ps.map (·.2)) = .ok gs' ∧ gs'.length = gs.length ∧
      ∀ (j : Nat) (hj : j < gs.length) (hj' : j < gs'.length), SameGraph m gs[j] gs'[j] := by
  intro gs
  induction gs with
  | nil => exact fun _ => ⟨[], [], rfl, nofun, rfl, rfl, nofun⟩
  | cons g gs ih =>
    intro h
    obtain ⟨ps, gs', a1, a2, a3, a4, a5⟩ := ih (fun x hx => h x (List.mem_cons_of_mem _ hx))
    obtain ⟨s, T, g', b1, b2, b3, b4, b5, b6⟩ :=
      encodable_roundtrip hcfg isSpace isAlpha hw hnoop (h g (List.mem_cons_self ..)) i c
    refine ⟨(s, T) :: ps, g' :: gs', mapE_cons_ok b1 a1, List.forall_mem_cons.2 ⟨⟨b2, b3, b4⟩, a2⟩,
      mapE_cons_ok b5 a3, congrArg (· + 1) a4, fun j hj hj' => ?_⟩
    cases j with
    | zero => exact b6
    | succ j => exact a5 j (Nat.lt_of_succ_lt_succ hj) (Nat.lt_of_succ_lt_succ hj')

theorem loadToks_of_iterparse (isSpace isAlpha : Char → Bool) (m : Model) (toks : List Tok)
    (Ts : List Tree) (gs' : List Graph) (h1 : iterparseToks isSpace toks = (Ts, none))
    (h2 : mapE (interpret isAlpha m) Ts = .ok gs') : loadToks isSpace isAlpha m toks = .ok gs' := by
  simp [loadToks, h1, h2]

/-- `loadToks` succeeds exactly when `iterparse` ends without error and every tree is interpreted
    (so for the success case the order in which errors are raised plays no role) -/
theorem loadToks_ok_iff (isSpace isAlpha : Char → Bool) (m : Model) (toks : List Tok) (gs' : List Graph) :
    loadToks isSpace isAlpha m toks = .ok gs' ↔
      (iterparseToks isSpace toks).2 = none ∧
      mapE (interpret isAlpha m) (iterparseToks isSpace toks).1 = .ok gs' := by
  unfold loadToks
  cases h : mapE (interpret isAlpha m) (iterparseToks isSpace toks).1 with
  | error e => simp
  | ok gs =>
    cases h' : (iterparseToks isSpace toks).2 with
    | none => simp
    | some e => simp

/-- what `dump` writes is the `'\n\n'`-join followed by one line feed (nothing for no graph) -/
theorem dumpStream_eq : ∀ ss : List Str,
    dumpStream ss = joinStr ['\n', '\n'] ss ++ (if ss = [] then [] else ['\n'])
  | [] => rfl
  | [x] => by simp [dumpStream, joinStr]
  | x :: y :: r => by
    have ih := dumpStream_eq (y :: r)
    simp only [dumpStream, List.map_cons, List.flatten_cons, reduceCtorEq, if_false, joinStr] at ih ⊢
    simp only [List.append_assoc, List.cons_append, List.nil_append] at ih ⊢
    rw [← ih]

/-- what `dump` writes, with the final line feed (or nothing, for no graph) named `trail` -/
theorem dumpStream_trail (ss : List Str) :
    ∃ trail, (trail = [] ∨ trail = ['\n']) ∧ dumpStream ss = joinStr ['\n', '\n'] ss ++ trail := by
  rw [dumpStream_eq]
  split
  · exact ⟨[], .inl rfl, rfl⟩
  · exact ⟨['\n'], .inr rfl, rfl⟩

end Penman.C09g
