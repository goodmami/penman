/-
  Penman.Proofs.EncodeDecode — `encode` / `decode` (graph ↔ text) and the composition of
  * graph → tree   (`configure`: C03 / C06, `Proofs/Configure*`),
  * tree → text → tree (`format`, `parse`: C01; with numbers: `Proofs/ParseFormatNum`),
  * the configured tree is grammar-valid (`Proofs/ConfiguredTreeWf`),
  * tree → graph   (`interpret` on the written form: `Proofs/ReadConfigured`),
  * the alignments of the decoded graph (`Proofs/AlignKept`).
  The composition (`decode_encode`) is stated for graphs with alignment markers and for any `configure`
  that succeeded; the statements without markers are instances.  Namespace `C03Text`: the text level
  of property C03.
-/
import Penman.Proofs.ConfiguredTreeWf
import Penman.Proofs.AlignKept
import Penman.Props.C06

namespace Penman.C03Text
open Penman.Spec Penman.Cfg Penman.Cfg.Al

/-- `penman.codec.PENMANCodec.encode(g, top, indent, compact)` =
    `format(configure(g, top, model), indent, compact)` -/
def encode (m : Model) (g : Graph) (top : Option Str) (i : Indent) (c : Bool) : Except PyErr Str :=
  (configure m g top).map (fun T => format T i c)

/-- `penman.codec.PENMANCodec.decode(s)` = `interpret(parse(s), model)` -/
def decode (cfg : LexCfg) (isSpace isAlpha : Char → Bool) (m : Model) (s : Str) : Except PyErr Graph :=
  C01.parse cfg isSpace s >>= interpret isAlpha m

variable {cfg : LexCfg}

theorem reach_epidata {g : Graph} (e : Epidata) {a b : Str} :
    Reach { g with epidata := e } a b ↔ Reach g a b := by
  constructor
  · intro h
    induction h with
    | refl => exact Reach.refl
    | step _ hadj ih => exact Reach.step ih hadj
  · intro h
    induction h with
    | refl => exact Reach.refl
    | step _ hadj ih => exact Reach.step ih hadj

theorem wfGraph_epidata {m : Model} {g : Graph} (hg : WfGraph m g) {e : Epidata}
    (hna : NoAlign { g with epidata := e }) : WfGraph m { g with epidata := e } :=
  ⟨hg.nonempty, hg.labelled, hg.nullNodup, hg.nullAlone, hg.instNotEmpty, hg.roles, hg.srcs, hg.tgts,
    hg.noInstOf, hna⟩

theorem graphTextOK_epidata {isSpace : Char → Bool} {m : Model} {g : Graph}
    (h : GraphTextOK cfg isSpace m g) (e : Epidata) : GraphTextOK cfg isSpace m { g with epidata := e } :=
  ⟨h.srcs, h.roles, h.tgts, h.oneLabel, h.metaOK⟩

theorem noBreakB_append (a b : Str) : noBreakB (a ++ b) = (noBreakB a && noBreakB b) := by
  simp only [noBreakB, List.contains_eq_mem, List.mem_append, Bool.decide_or, Bool.not_or]
  ac_rfl

/-- if `-`, `o`, `f` are role characters (`OfOK`), the inversion of a ROLE text is a ROLE text:
    the second half of `GraphTextOK.roles` is then automatic -/
theorem roleB_invertRole (hof : OfOK cfg = true) (m : Model) {r : Str} (h : roleB cfg r = true) :
    roleB cfg (m.invertRole r) = true := by
  cases r with
  | nil => simp [roleB] at h
  | cons c b =>
    have hc : c = ':' := by
      unfold roleB at h; split at h
      · rename_i heq; simp only [List.cons.injEq] at heq; exact heq.1
      · cases h
    subst hc
    simp only [roleB, Bool.and_eq_true] at h
    obtain ⟨h1, h2⟩ := h
    unfold Model.invertRole
    split
    · rename_i hcond
      simp only [Bool.and_eq_true] at hcond
      have hsuf : ofStr <:+ (':' :: b) := List.isSuffixOf_iff_suffix.1 hcond.2
      obtain ⟨pre, hpre⟩ := hsuf
      have hde : dropEnd 3 (':' :: b) = pre := by
        unfold dropEnd
        rw [← hpre]
        simp [ofStr]
      rw [hde]
      cases pre with
      | nil => simp [ofStr] at hpre
      | cons p pre' =>
        simp only [List.cons_append, List.cons.injEq] at hpre
        obtain ⟨rfl, hb⟩ := hpre
        subst hb
        rw [List.all_append, Bool.and_eq_true] at h1
        rw [noBreakB_append, Bool.and_eq_true] at h2
        simp only [roleB, Bool.and_eq_true]
        exact ⟨h1.1, h2.1⟩
    · have ho : ofStr.all (fun c => !cfg.roleExcl.contains c) = true := hof
      have hn : noBreakB ofStr = true := by decide
      simp only [List.cons_append, roleB, List.all_append, noBreakB_append, Bool.and_eq_true]
      exact ⟨⟨h1, ho⟩, h2, hn⟩

theorem encoded_of_ok {m : Model} {g : Graph} {top : Option Str} {T : Tree} (hw : ModelWf m) (hg : WfGraph m g)
    (hpv : PushVars g) (h : configure m g top = .ok T) :
    ∃ t st l, topOf g top = some t ∧ t ∈ g.variables ∧ Encoded m g t T st l := by
  obtain ⟨t, st, l, ht, htv, E⟩ := encodedAl_of_ok hw ((wfGraph_iff m g).1 hg).1 hpv h
  exact ⟨t, st, l, ht, htv, E.toEncoded (fun x hx => roleOK2_of_colon m x (hg.roles x hx).1) hg.noAlign⟩

/-- **the configured tree is grammar-valid**, alignment suffixes included and numbers as their text,
    whenever `configure` succeeds -/
theorem configured_tree_wf_al {isSpace isAlpha : Char → Bool} {m : Model} {g : Graph} {top : Option Str} {T : Tree}
    (hw : ModelWf m) (hg : WfGraphAl m g) (hal : AlignOK isAlpha m g) (htx : GraphTextOKal cfg isSpace m g)
    (hpv : PushVars g) (h : configure m g top = .ok T) :
    WfTreeText cfg (writtenForm T.node) ∧ WfMeta isSpace T.metadata := by
  obtain ⟨t, st, l, _, htv, E⟩ := encodedAl_of_ok hw hg hpv h
  exact ⟨encodedAl_tree_wf hw hg hal htx htv E, E.metaEq ▸ htx.base.metaOK⟩

theorem configured_tree_wf {isSpace : Char → Bool} {m : Model} {g : Graph} {top : Option Str} {T : Tree}
    (hw : ModelWf m) (hg : WfGraph m g) (htx : GraphTextOK cfg isSpace m g) (hpv : PushVars g)
    (h : configure m g top = .ok T) :
    WfTreeText cfg (writtenForm T.node) ∧ WfMeta isSpace T.metadata :=
  configured_tree_wf_al hw ((wfGraph_iff m g).1 hg).1 (alignOK_of_noAlign (fun _ => false) m hg.noAlign)
    (graphTextOKal_of_noAlign htx hg.noAlign) hpv h

mutual
/-- every number of the tree has a non-empty text that is not in `vars` -/
def numsOKN (vars : List Str) : Node → Prop
  | .mk _ bs => numsOKB vars bs
def numsOKB (vars : List Str) : Branches → Prop
  | .nil => True
  | .atom _ a rest => (∀ s, a = .num s → s ≠ [] ∧ s ∉ vars) ∧ numsOKB vars rest
  | .sub _ n rest => numsOKN vars n ∧ numsOKB vars rest
end

mutual
theorem formatNode_written (indent : Indent) (vars : List Str) : (n : Node) → numsOKN vars n → ∀ col,
    formatNode indent vars (writtenForm n) col = formatNode indent vars n col
  | .mk none bs, _, col => by simp [writtenForm, formatNode]
  | .mk (some v) bs, h, col => by
    simp only [numsOKN] at h
    cases bs with
    | nil => rfl
    | atom r a rest =>
      have := formatEdges_written indent vars (.atom r a rest) h
      simp only [writtenBs] at this
      simp only [writtenForm, writtenBs, formatNode, this]
    | sub r n rest =>
      have := formatEdges_written indent vars (.sub r n rest) h
      simp only [writtenBs] at this
      simp only [writtenForm, writtenBs, formatNode, this]
theorem formatEdges_written (indent : Indent) (vars : List Str) : (bs : Branches) → numsOKB vars bs → ∀ col,
    formatEdges indent vars (writtenBs bs) col = formatEdges indent vars bs col
  | .nil, _, col => rfl
  | .atom r a rest, h, col => by
    simp only [numsOKB] at h
    simp only [writtenBs, formatEdges, formatEdges_written indent vars rest h.2 col]
    cases a with
    | none => rfl
    | str s => rfl
    | num s =>
      obtain ⟨h1, h2⟩ := h.1 s rfl
      have : s.isEmpty = false := List.isEmpty_eq_false_iff.2 h1
      simp [writtenAtom, atomInVars, Atom.isMissing, atomText, h2, this]
  | .sub r n rest, h, col => by
    simp only [numsOKB] at h
    simp only [writtenBs, formatEdges, formatEdges_written indent vars rest h.2 col,
      formatNode_written indent vars n h.1]
end

mutual
theorem numsOKN_of_triples (vars : List Str) : (n : Node) →
    (∀ x ∈ n.edgeTriples, ∀ s, x.tgt = .num s → s ≠ [] ∧ s ∉ vars) → numsOKN vars n
  | .mk v bs, h => by
    simp only [numsOKN]
    exact numsOKB_of_triples vars (v.getD []) bs h
theorem numsOKB_of_triples (vars : List Str) (v : Str) : (bs : Branches) →
    (∀ x ∈ Branches.edgeTriples v bs, ∀ s, x.tgt = .num s → s ≠ [] ∧ s ∉ vars) → numsOKB vars bs
  | .nil, _ => trivial
  | .atom r a rest, h => by
    simp only [Branches.edgeTriples, List.mem_cons, forall_eq_or_imp] at h
    exact ⟨fun s hs => h.1 s hs, numsOKB_of_triples vars v rest h.2⟩
  | .sub r n rest, h => by
    simp only [Branches.edgeTriples, List.mem_cons, List.mem_append, forall_eq_or_imp] at h
    exact ⟨numsOKN_of_triples vars n (fun x hx => h.2 x (Or.inl hx)),
      numsOKB_of_triples vars v rest (fun x hx => h.2 x (Or.inr hx))⟩
end

/-- the text of the written form is the text of the tree, when every number has a non-empty text that
    is not in the variable list the formatter tests targets against -/
theorem format_written_eq (T : Tree) (i : Indent) (c : Bool)
    (h : numsOKN (if c = true then T.node.vars else []) T.node) :
    format ⟨writtenForm T.node, T.metadata⟩ i c = format T i c := by
  simp only [format, writtenForm_vars]
  rw [formatNode_written i _ T.node h 0]

theorem tilde_not_in_symbol (hcfg : FmtCfgWf cfg = true) {s : Str} (h : symbolB cfg s = true) : '~' ∉ s := by
  have h1 := ((FL.symbolB_iff s).1 h).1.2
  intro hm
  exact h1 _ hm (FL.tilde_ends (FL.FmtCfgWf.toP hcfg)).1

theorem encode_of_configure {m : Model} {g : Graph} {top : Option Str} {T : Tree} {i : Indent} {c : Bool} {s : Str}
    (h : configure m g top = .ok T) (hf : format T i c = s) : encode m g top i c = .ok s := by
  simp [encode, h, Except.map, hf]

/-- **decode ∘ encode**, with alignment markers, for any `configure` that succeeded: the text of the
    configured tree decodes to a graph with the same top, variables, triples (constants by their
    written form, up to order and one de-inversion), alignments and metadata. -/
theorem decode_encode (hcfg : FmtCfgWf cfg = true) (isSpace isAlpha : Char → Bool) {m : Model} {g : Graph}
    {top : Option Str} {T : Tree} (hw : ModelWf m) (hnoop : m.noop = false) (hg : WfGraphAl m g)
    (hal : AlignOK isAlpha m g) (htx : GraphTextOKal cfg isSpace m g) (hpv : PushVars g)
    (h : configure m g top = .ok T) (i : Indent) (c : Bool) :
    ∃ t g', topOf g top = some t ∧ decode cfg isSpace isAlpha m (format T i c) = .ok g' ∧
      g'.getTop = some t ∧ (∀ x, x ∈ g'.variables ↔ x ∈ g.variables) ∧
      (g'.triples.map (deinvert1 m g)).Perm ((g.triples.map writtenTriple).map (deinvert1 m g)) ∧
      (∀ x ∈ g'.triples, ∃ t0 ∈ g.triples, x = writtenTriple t0 ∨ x = m.invert (writtenTriple t0)) ∧
      (∀ t0 ∈ g.triples, deinvert1 m g (writtenTriple t0) ∈ g'.triples ∧
        roleAlnOf g' (deinvert1 m g (writtenTriple t0)) = roleAlnOf g t0 ∧
        tgtAlnOf g' (deinvert1 m g (writtenTriple t0)) = tgtAlnOf g t0) ∧
      (∀ x ∈ g'.triples, ∃ t0 ∈ g.triples, x = deinvert1 m g (writtenTriple t0)) ∧
      g'.metadata = g.metadata := by
  obtain ⟨t, st, l, ht, htv, E⟩ := encodedAl_of_ok hw hg hpv h
  have hparse := parse_format_num hcfg isSpace T.node T.metadata (encodedAl_tree_wf hw hg hal htx htv E)
    (E.metaEq ▸ htx.base.metaOK) i c
  have hnumok : ∀ x ∈ g.triples, ∀ s, x.tgt = .num s → '~' ∉ s := by
    intro x hx s hs
    have := htx.base.tgts x hx
    rw [hs] at this
    exact tilde_not_in_symbol hcfg this
  obtain ⟨g', ds, h1, hread, h2, h3, h4, h5, h6, h7⟩ := decode_written_al isAlpha hw hnoop hg hal hnumok E
  rw [List.map_map] at h4
  obtain ⟨h8, h9⟩ := alignments_kept_key (fun x => deinvert1 m g (writtenTriple x))
    (fun x hx => deinvert1_idem hw (x := writtenTriple x) (hg.roles x hx).2.2) htx.agreeW h1 hread h4 h7
  rw [← List.map_map] at h4
  refine ⟨t, g', ht, ?_, h2, h3, h4, h5, h8, h9, ?_⟩
  · simp only [decode]
    rw [hparse]
    exact h1
  · rw [h6]
    exact Interp.ofList_of_nodup _ htx.base.metaOK.1

/-- **C03 at the level of text.** -/
theorem encode_decode_text (hcfg : FmtCfgWf cfg = true) (isSpace isAlpha : Char → Bool) {m : Model} {g : Graph}
    {top : Option Str} {t : Str} (hw : ModelWf m) (hnoop : m.noop = false) (hg : WfGraph m g)
    (htx : GraphTextOK cfg isSpace m g) (hpv : PushVars g) (hps : PushSrcOK g) (ht : topOf g top = some t)
    (htv : t ∈ g.variables) (hreach : ∀ v ∈ g.variables, Reach g t v) (i : Indent) (c : Bool) :
    ∃ s g', encode m g top i c = .ok s ∧ decode cfg isSpace isAlpha m s = .ok g' ∧
      g'.getTop = some t ∧ (∀ x, x ∈ g'.variables ↔ x ∈ g.variables) ∧
      (g'.triples.map (deinvert1 m g)).Perm ((g.triples.map writtenTriple).map (deinvert1 m g)) ∧
      (∀ x ∈ g'.triples, ∃ t0 ∈ g.triples, x = writtenTriple t0 ∨ x = m.invert (writtenTriple t0)) ∧
      g'.metadata = g.metadata := by
  obtain ⟨T, hT⟩ := Cfg.configure_complete hg.noInstOf hps ht htv hreach
  obtain ⟨t', g', ht', h1, h2, h3, h4, h5, _, _, h8⟩ := decode_encode hcfg isSpace isAlpha hw hnoop
    ((wfGraph_iff m g).1 hg).1 (alignOK_of_noAlign isAlpha m hg.noAlign) (graphTextOKal_of_noAlign htx hg.noAlign)
    hpv hT i c
  rw [ht] at ht'; cases ht'
  exact ⟨format T i c, g', encode_of_configure hT rfl, h1, h2, h3, h4, h5, h8⟩

theorem encode_ok_iff {m : Model} {g : Graph} {top : Option Str} {i : Indent} {c : Bool} :
    (∃ s, encode m g top i c = .ok s) ↔ ∃ T, configure m g top = .ok T := by
  unfold encode
  cases configure m g top with
  | error e => simp [Except.map]
  | ok T => simp [Except.map]

theorem encode_error_iff {m : Model} {g : Graph} {top : Option Str} {i : Indent} {c : Bool} (e : PyErr) :
    encode m g top i c = .error e ↔ configure m g top = .error e := by
  unfold encode
  cases configure m g top with
  | error e' => simp [Except.map]
  | ok T => simp [Except.map]

/-- `configure` on a concrete graph, split for evaluation: `buildNode` is defined by well-founded recursion
    and does not reduce in the kernel, so a caller evaluates the store (`hs`) and unfolds `buildNode` on
    it by its equations (`hb`) -/
theorem configure_of_store {m : Model} {g : Graph} {top : Option Str} {t : Str} {cells : Cells} {node : Node}
    (hne : g.triples.isEmpty = false) (ht : topOf g top = some t) (htv : t ∈ g.variables)
    (hs : (storeOf m g t).toOption.map (·.cells) = some cells)
    (hb : buildNode cells (2 * cells.length + 2) t = .ok node) :
    configure m g top = .ok ⟨node, g.metadata⟩ := by
  rw [configure_pipeline, hne, ht]
  simp only [Bool.false_eq_true, if_false, htv, not_true_eq_false]
  cases hst : storeOf m g t with
  | error e => rw [hst] at hs; simp [Except.toOption] at hs
  | ok st =>
    rw [hst] at hs
    simp only [Except.toOption, Option.map_some, Option.some.injEq] at hs
    subst hs
    simp [Except.bind, hb]

end Penman.C03Text
