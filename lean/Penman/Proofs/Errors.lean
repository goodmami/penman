/-
  Penman.Proofs.Errors — `Model.errors` is the dict built from an explicit
  list of `(context, message)` pairs (`errList`); membership of a message
  under a context is membership in that list; the list is characterised in
  terms of `Model.hasRole` and `Reach`.
-/
import Penman.Proofs.Dfs
import Penman.Proofs.SortStrs
namespace Penman

section AListLemmas
variable {α β : Type} [DecidableEq α]

theorem AList.mem_set (d : AList α β) (k : α) (v : β) (p : α × β) (h : p ∈ d.set k v) :
    p ∈ d ∨ p = (k, v) := by
  induction d with
  | nil =>
    simp only [AList.set, List.mem_singleton] at h
    exact Or.inr h
  | cons q r ih =>
    obtain ⟨a, b⟩ := q
    simp only [AList.set] at h
    by_cases hak : a = k
    · rw [if_pos hak] at h
      rcases List.mem_cons.1 h with h | h
      · exact Or.inr (by rw [h, hak])
      · exact Or.inl (List.mem_cons_of_mem _ h)
    · rw [if_neg hak] at h
      rcases List.mem_cons.1 h with h | h
      · exact Or.inl (h ▸ List.mem_cons_self ..)
      · rcases ih h with h | h
        · exact Or.inl (List.mem_cons_of_mem _ h)
        · exact Or.inr h

theorem AList.set_ne_nil (d : AList α β) (k : α) (v : β) : d.set k v ≠ [] := by
  cases d with
  | nil => simp [AList.set]
  | cons q r =>
    obtain ⟨a, b⟩ := q
    simp only [AList.set]
    split <;> simp

end AListLemmas

abbrev ErrDict := AList (Option Triple) (List Nat)

/-- `err[k].append(msg)` on a `defaultdict(list)` -/
def errAdd (d : ErrDict) (k : Option Triple) (msg : Nat) : ErrDict :=
  d.set k ((AList.get? d k).getD [] ++ [msg])

/-- append a whole list of `(context, message)` pairs -/
def errAddAll (d : ErrDict) (l : List (Option Triple × Nat)) : ErrDict :=
  l.foldl (fun d p => errAdd d p.1 p.2) d

theorem codes_errAdd (d : ErrDict) (k k' : Option Triple) (msg : Nat) :
    codes (errAdd d k msg) k' = if k = k' then codes d k ++ [msg] else codes d k' := by
  simp only [codes, errAdd, AList.get?_set]
  by_cases h : k = k' <;> simp [h]

theorem codes_errAddAll (d : ErrDict) (l : List (Option Triple × Nat)) (k : Option Triple) :
    codes (errAddAll d l) k = codes d k ++ (l.filter (fun p => p.1 = k)).map (·.2) := by
  induction l generalizing d with
  | nil => simp [errAddAll]
  | cons p l ih =>
    have : errAddAll d (p :: l) = errAddAll (errAdd d p.1 p.2) l := rfl
    rw [this, ih, codes_errAdd]
    by_cases h : p.1 = k
    · simp [h]
    · simp [h]

theorem errAddAll_append (d : ErrDict) (l₁ l₂ : List (Option Triple × Nat)) :
    errAddAll d (l₁ ++ l₂) = errAddAll (errAddAll d l₁) l₂ := by
  simp [errAddAll, List.foldl_append]

theorem errAddAll_eq_nil (d : ErrDict) (l : List (Option Triple × Nat)) :
    errAddAll d l = [] ↔ d = [] ∧ l = [] := by
  induction l generalizing d with
  | nil => simp [errAddAll]
  | cons p l ih =>
    have : errAddAll d (p :: l) = errAddAll (errAdd d p.1 p.2) l := rfl
    rw [this, ih]
    simp [errAdd, AList.set_ne_nil]

/-- entries are never empty lists, keys are never repeated -/
def ErrDictWf (d : ErrDict) : Prop := (∀ p ∈ d, p.2 ≠ []) ∧ (d.map (·.1)).Nodup

theorem errAdd_wf (d : ErrDict) (k : Option Triple) (msg : Nat) (h : ErrDictWf d) :
    ErrDictWf (errAdd d k msg) := by
  constructor
  · intro p hp
    rcases AList.mem_set _ _ _ _ hp with hp | hp
    · exact h.1 p hp
    · rw [hp]; simp
  · exact AList.nodup_keys_set h.2 _ _

theorem errAddAll_wf (d : ErrDict) (l : List (Option Triple × Nat)) (h : ErrDictWf d) :
    ErrDictWf (errAddAll d l) := by
  induction l generalizing d with
  | nil => exact h
  | cons p l ih => exact ih _ (errAdd_wf d p.1 p.2 h)

/-- folds that add conditionally / in nested loops are `errAddAll` of an explicit list -/
theorem foldl_cond_add {α : Type} (l : List α) (p : α → Bool) (key : α → Option Triple) (msg : Nat)
    (d : ErrDict) :
    l.foldl (fun d x => if p x then d else errAdd d (key x) msg) d =
      errAddAll d ((l.filter (fun x => !p x)).map (fun x => (key x, msg))) := by
  induction l generalizing d with
  | nil => rfl
  | cons a l ih =>
    simp only [List.foldl_cons, ih, List.filter_cons]
    by_cases h : p a = true
    · simp [h]
    · simp only [h, Bool.false_eq_true, if_false]
      simp only [Bool.not_eq_true] at h
      simp [errAddAll]

theorem foldl_add {α : Type} (l : List α) (key : α → Option Triple) (msg : Nat) (d : ErrDict) :
    l.foldl (fun d x => errAdd d (key x) msg) d = errAddAll d (l.map (fun x => (key x, msg))) := by
  simp [errAddAll, List.foldl_map]

/-- the "invalid role" entries, in triple order -/
def roleErrs (m : Model) (g : Graph) : List (Option Triple × Nat) :=
  (g.triples.filter (fun t => !m.hasRole t.role)).map (fun t => (some t, E_ROLE))

/-- the unreachable variables in the order they are reported -/
def unreachVars (g : Graph) (top : Str) : List Str :=
  sortStrs (g.srcs.filter (· ∉ reachable g top))

/-- the "unreachable" entries: per unreachable variable in sorted order, its triples -/
def unreachErrs (g : Graph) (top : Str) : List (Option Triple × Nat) :=
  ((unreachVars g top).flatMap (fun u => g.triples.filter (·.src = u))).map
    (fun t => (some t, E_UNREACH))

/-- every `(context, message)` pair `Model.errors` records, in order -/
def errList (m : Model) (g : Graph) : List (Option Triple × Nat) :=
  if g.triples.isEmpty then [(none, E_EMPTY)]
  else roleErrs m g ++
    match g.getTop with
    | none => [(none, E_NOTOP)]
    | some top =>
      if top.isEmpty then [(none, E_NOTOP)]
      else if top ∉ g.srcs then [(none, E_TOPVAR)]
      else unreachErrs g top

/-- the first loop of `Model.errors` -/
def roleFold (m : Model) (g : Graph) : ErrDict :=
  g.triples.foldl (fun (d : ErrDict) (t : Triple) => if m.hasRole t.role then d else errAdd d (some t) 0) []

theorem errors_eq_errAddAll (m : Model) (g : Graph) : m.errors g = errAddAll [] (errList m g) := by
  unfold Model.errors errList
  by_cases he : g.triples.isEmpty = true
  · simp only [he, if_true]
    rfl
  · simp only [he, Bool.false_eq_true, if_false]
    -- the `let`s of `Model.errors` read as `errAdd`, `roleFold` and `g.srcs`
    change (match g.getTop with
      | none => errAdd (roleFold m g) none 3
      | some top =>
        if top.isEmpty then errAdd (roleFold m g) none 3
        else if top ∉ g.srcs then errAdd (roleFold m g) none 4
        else (sortStrs (g.srcs.filter (· ∉ reachable g top))).foldl
          (fun (d : ErrDict) (u : Str) =>
            (g.triples.filter (fun (t : Triple) => t.src = u)).foldl (fun (d : ErrDict) (t : Triple) => errAdd d (some t) 1) d)
          (roleFold m g)) = _
    unfold roleFold
    rw [foldl_cond_add g.triples (fun t => m.hasRole t.role) some 0 []]
    rw [errAddAll_append]
    change _ = errAddAll (errAddAll [] (roleErrs m g)) _
    cases g.getTop with
    | none => rfl
    | some top =>
      simp only
      by_cases h1 : top.isEmpty = true
      · simp only [h1, if_true]; rfl
      · simp only [h1, Bool.false_eq_true, if_false]
        by_cases h2 : top ∉ g.srcs
        · simp only [h2, not_false_eq_true, if_true]; rfl
        · simp only [h2, if_false]
          rw [← List.foldl_flatMap, foldl_add]
          rfl

theorem mem_codes_errors (m : Model) (g : Graph) (k : Option Triple) (c : Nat) :
    c ∈ codes (m.errors g) k ↔ (k, c) ∈ errList m g := by
  rw [errors_eq_errAddAll, codes_errAddAll]
  simp only [codes, AList.get?, List.find?_nil, Option.map_none, Option.getD_none, List.nil_append,
    List.mem_map, List.mem_filter, decide_eq_true_eq]
  constructor
  · rintro ⟨p, ⟨hp, hk⟩, hc⟩
    obtain ⟨a, b⟩ := p
    simp only at hk hc
    subst hk; subst hc
    exact hp
  · intro h
    exact ⟨(k, c), ⟨h, rfl⟩, rfl⟩

theorem errors_wf (m : Model) (g : Graph) : ErrDictWf (m.errors g) := by
  rw [errors_eq_errAddAll]
  exact errAddAll_wf [] _ ⟨fun _ h => (nomatch h), List.nodup_nil⟩

theorem errors_eq_nil_iff (m : Model) (g : Graph) : m.errors g = [] ↔ errList m g = [] := by
  rw [errors_eq_errAddAll, errAddAll_eq_nil]
  simp

theorem errors_entry (m : Model) (g : Graph) (k : Option Triple) (cs : List Nat)
    (h : (k, cs) ∈ m.errors g) : cs ≠ [] ∧ codes (m.errors g) k = cs := by
  have wf := errors_wf m g
  refine ⟨wf.1 _ h, ?_⟩
  simp only [codes, (AList.get?_eq_some_iff_mem wf.2 k cs).2 h, Option.getD_some]

theorem errors_key_iff (m : Model) (g : Graph) (k : Option Triple) :
    k ∈ (m.errors g).map (·.1) ↔ ∃ c, (k, c) ∈ errList m g := by
  constructor
  · intro h
    obtain ⟨⟨k', cs⟩, hp, hk⟩ := List.mem_map.1 h
    simp only at hk
    subst hk
    obtain ⟨hne, hc⟩ := errors_entry m g k' cs hp
    cases cs with
    | nil => exact absurd rfl hne
    | cons c cs =>
      exact ⟨c, (mem_codes_errors m g k' c).1 (by rw [hc]; exact List.mem_cons_self ..)⟩
  · rintro ⟨c, hc⟩
    have := (mem_codes_errors m g k c).2 hc
    simp only [codes] at this
    cases hg : AList.get? (m.errors g) k with
    | none => simp [hg] at this
    | some cs =>
      exact List.mem_map.2 ⟨(k, cs), AList.mem_of_get?_eq_some hg, rfl⟩

theorem mem_roleErrs (m : Model) (g : Graph) (k : Option Triple) (c : Nat) :
    (k, c) ∈ roleErrs m g ↔ c = E_ROLE ∧ ∃ t, k = some t ∧ t ∈ g.triples ∧ m.hasRole t.role = false := by
  simp only [roleErrs, List.mem_map, List.mem_filter, Bool.not_eq_true', Prod.mk.injEq]
  constructor
  · rintro ⟨t, ⟨ht, hr⟩, hk, hc⟩
    exact ⟨hc.symm, t, hk.symm, ht, hr⟩
  · rintro ⟨hc, t, hk, ht, hr⟩
    exact ⟨t, ⟨ht, hr⟩, hk.symm, hc.symm⟩

theorem mem_unreachVars (g : Graph) (top v : Str) (htop : g.IsSrc top) :
    v ∈ unreachVars g top ↔ g.IsSrc v ∧ ¬ Reach g top v := by
  simp only [unreachVars, mem_sortStrs, List.mem_filter, decide_eq_true_eq, mem_srcs,
    dfs_reach g top v htop]

theorem mem_unreachErrs (g : Graph) (top : Str) (htop : g.IsSrc top) (k : Option Triple) (c : Nat) :
    (k, c) ∈ unreachErrs g top ↔
      c = E_UNREACH ∧ ∃ t, k = some t ∧ t ∈ g.triples ∧ ¬ Reach g top t.src := by
  simp only [unreachErrs, List.mem_map, List.mem_flatMap, List.mem_filter, decide_eq_true_eq,
    Prod.mk.injEq]
  constructor
  · rintro ⟨t, ⟨u, hu, ht, hsrc⟩, hk, hc⟩
    subst hsrc
    exact ⟨hc.symm, t, hk.symm, ht, ((mem_unreachVars g top _ htop).1 hu).2⟩
  · rintro ⟨hc, t, hk, ht, hr⟩
    exact ⟨t, ⟨t.src, (mem_unreachVars g top _ htop).2 ⟨⟨t, ht, rfl⟩, hr⟩, ht, rfl⟩, hk.symm, hc.symm⟩

/-- the shape of `errList` by cases on the graph -/
inductive TopCase (g : Graph) : Prop
  | unset : g.getTop = none ∨ g.getTop = some [] → TopCase g
  | notVar (top : Str) : g.getTop = some top → top ≠ [] → ¬ g.IsSrc top → TopCase g
  | ok (top : Str) : g.TopOk top → TopCase g

theorem errList_empty (m : Model) (g : Graph) (h : g.triples = []) : errList m g = [(none, E_EMPTY)] := by
  simp [errList, h]

theorem errList_unset (m : Model) (g : Graph) (h : g.triples ≠ [])
    (ht : g.getTop = none ∨ g.getTop = some []) : errList m g = roleErrs m g ++ [(none, E_NOTOP)] := by
  simp only [errList, List.isEmpty_eq_false_iff.2 h, Bool.false_eq_true, if_false]
  rcases ht with ht | ht <;> simp [ht]

theorem errList_notVar (m : Model) (g : Graph) (top : Str) (h : g.triples ≠ [])
    (ht : g.getTop = some top) (hne : top ≠ []) (hs : ¬ g.IsSrc top) :
    errList m g = roleErrs m g ++ [(none, E_TOPVAR)] := by
  simp only [errList, List.isEmpty_eq_false_iff.2 h, Bool.false_eq_true, if_false, ht,
    List.isEmpty_eq_false_iff.2 hne, mem_srcs, hs, not_false_eq_true, if_true]

theorem errList_ok (m : Model) (g : Graph) (top : Str) (h : g.triples ≠ []) (ht : g.TopOk top) :
    errList m g = roleErrs m g ++ unreachErrs g top := by
  simp only [errList, List.isEmpty_eq_false_iff.2 h, Bool.false_eq_true, if_false, ht.1,
    List.isEmpty_eq_false_iff.2 ht.2.1, mem_srcs, ht.2.2, not_true_eq_false]

theorem topCase (g : Graph) : TopCase g := by
  cases h : g.getTop with
  | none => exact .unset (Or.inl h)
  | some top =>
    by_cases h1 : top = []
    · exact .unset (Or.inr (by rw [h, h1]))
    · by_cases h2 : g.IsSrc top
      · exact .ok top ⟨h, h1, h2⟩
      · exact .notVar top h h1 h2

theorem TopOk_unique (g : Graph) (a b : Str) (ha : g.TopOk a) (hb : g.TopOk b) : a = b := by
  have := ha.1.symm.trans hb.1
  exact Option.some.inj this

theorem not_unset_of_some {g : Graph} {top : Str} (ht : g.getTop = some top) (hne : top ≠ []) :
    ¬ (g.getTop = none ∨ g.getTop = some []) := by
  rintro (h | h) <;> rw [ht] at h
  · cases h
  · exact hne (Option.some.inj h)

theorem not_topOk_of_unset {g : Graph} (ht : g.getTop = none ∨ g.getTop = some []) (top : Str) :
    ¬ g.TopOk top :=
  fun hok => not_unset_of_some hok.1 hok.2.1 ht

theorem not_notVar_of_unset {g : Graph} (ht : g.getTop = none ∨ g.getTop = some []) :
    ¬ ∃ top, g.getTop = some top ∧ top ≠ [] ∧ ¬ g.IsSrc top :=
  fun ⟨_, h, hne, _⟩ => not_unset_of_some h hne ht

theorem not_topOk_of_notVar {g : Graph} {top : Str} (ht : g.getTop = some top) (hs : ¬ g.IsSrc top)
    (top' : Str) : ¬ g.TopOk top' := by
  rintro ⟨h, _, hs'⟩
  rw [ht] at h
  exact hs ((Option.some.inj h) ▸ hs')

theorem TopOk_not_unset {g : Graph} {top : Str} (hok : g.TopOk top) :
    ¬ (g.getTop = none ∨ g.getTop = some []) :=
  not_unset_of_some hok.1 hok.2.1

theorem TopOk_not_notVar {g : Graph} {top : Str} (hok : g.TopOk top) :
    ¬ ∃ top, g.getTop = some top ∧ top ≠ [] ∧ ¬ g.IsSrc top := by
  rintro ⟨top', h, _, hs'⟩
  rw [hok.1] at h
  exact hs' ((Option.some.inj h) ▸ hok.2.2)

/-- a usable top is the only one -/
theorem exists_topOk_iff {g : Graph} {top : Str} (hok : g.TopOk top) (P : Str → Prop) :
    (∃ top', g.TopOk top' ∧ P top') ↔ P top :=
  ⟨fun ⟨top', hok', h⟩ => TopOk_unique g top' top hok' hok ▸ h, fun h => ⟨top, hok, h⟩⟩

/-- what can be recorded, and exactly when -/
def ErrSpec (m : Model) (g : Graph) (k : Option Triple) (c : Nat) : Prop :=
  (g.triples = [] ∧ k = none ∧ c = E_EMPTY) ∨
  (g.triples ≠ [] ∧
    ((c = E_ROLE ∧ ∃ t, k = some t ∧ t ∈ g.triples ∧ m.hasRole t.role = false) ∨
     (c = E_UNREACH ∧ ∃ t, k = some t ∧ t ∈ g.triples ∧ ∃ top, g.TopOk top ∧ ¬ Reach g top t.src) ∨
     (k = none ∧ c = E_NOTOP ∧ (g.getTop = none ∨ g.getTop = some [])) ∨
     (k = none ∧ c = E_TOPVAR ∧ ∃ top, g.getTop = some top ∧ top ≠ [] ∧ ¬ g.IsSrc top)))

theorem mem_errList (m : Model) (g : Graph) (k : Option Triple) (c : Nat) :
    (k, c) ∈ errList m g ↔ ErrSpec m g k c := by
  unfold ErrSpec
  by_cases he : g.triples = []
  · rw [errList_empty m g he]
    simp [he]
  · simp only [he, false_and, false_or, ne_eq, not_false_eq_true, true_and]
    rcases topCase g with ht | ⟨top, ht, hne, hs⟩ | ⟨top, hok⟩
    · rw [errList_unset m g he ht, List.mem_append, mem_roleErrs]
      simp only [List.mem_singleton, Prod.mk.injEq, ht, not_topOk_of_unset ht, not_notVar_of_unset ht,
        false_and, exists_false, and_false, and_true, or_false, false_or]
    · rw [errList_notVar m g top he ht hne hs, List.mem_append, mem_roleErrs]
      have hv : ∃ top, g.getTop = some top ∧ top ≠ [] ∧ ¬ g.IsSrc top := ⟨top, ht, hne, hs⟩
      simp only [List.mem_singleton, Prod.mk.injEq, hv, not_topOk_of_notVar ht hs, not_unset_of_some ht hne,
        false_and, exists_false, and_false, and_true, false_or]
    · rw [errList_ok m g top he hok, List.mem_append, mem_roleErrs, mem_unreachErrs g top hok.2.2]
      simp only [TopOk_not_unset hok, TopOk_not_notVar hok, exists_topOk_iff hok, and_false, or_false]

/-- every message under every context, exactly when it applies -/
theorem mem_codes_errors_iff (m : Model) (g : Graph) (k : Option Triple) (c : Nat) :
    c ∈ codes (m.errors g) k ↔ ErrSpec m g k c := by
  rw [mem_codes_errors, mem_errList]

theorem errors_role (m : Model) (g : Graph) (t : Triple) :
    E_ROLE ∈ codes (m.errors g) (some t) ↔ t ∈ g.triples ∧ m.hasRole t.role = false := by
  rw [mem_codes_errors_iff]
  unfold ErrSpec
  constructor
  · rintro (⟨_, h, _⟩ | ⟨_, ⟨_, t', hk, ht, hr⟩ | ⟨h, _⟩ | ⟨h, _⟩ | ⟨h, _⟩⟩)
    · cases h
    · cases hk; exact ⟨ht, hr⟩
    · cases h
    · cases h
    · cases h
  · rintro ⟨ht, hr⟩
    exact Or.inr ⟨List.ne_nil_of_mem ht, Or.inl ⟨rfl, t, rfl, ht, hr⟩⟩

theorem errors_unreach (m : Model) (g : Graph) (t : Triple) :
    E_UNREACH ∈ codes (m.errors g) (some t) ↔
      t ∈ g.triples ∧ ∃ top, g.TopOk top ∧ ¬ Reach g top t.src := by
  rw [mem_codes_errors_iff]
  unfold ErrSpec
  constructor
  · rintro (⟨_, h, _⟩ | ⟨_, ⟨h, _⟩ | ⟨_, t', hk, ht, hr⟩ | ⟨h, _⟩ | ⟨h, _⟩⟩)
    · cases h
    · cases h
    · cases hk; exact ⟨ht, hr⟩
    · cases h
    · cases h
  · rintro ⟨ht, hr⟩
    exact Or.inr ⟨List.ne_nil_of_mem ht, Or.inr (Or.inl ⟨rfl, t, rfl, ht, hr⟩)⟩

theorem errors_general_empty (m : Model) (g : Graph) :
    E_EMPTY ∈ codes (m.errors g) none ↔ g.triples = [] := by
  rw [mem_codes_errors_iff]
  unfold ErrSpec
  constructor
  · rintro (⟨h, _⟩ | ⟨_, ⟨h, _⟩ | ⟨h, _⟩ | ⟨_, h, _⟩ | ⟨_, h, _⟩⟩)
    · exact h
    all_goals cases h
  · intro h
    exact Or.inl ⟨h, rfl, rfl⟩

theorem errors_general_notop (m : Model) (g : Graph) :
    E_NOTOP ∈ codes (m.errors g) none ↔
      g.triples ≠ [] ∧ (g.getTop = none ∨ g.getTop = some []) := by
  rw [mem_codes_errors_iff]
  unfold ErrSpec
  constructor
  · rintro (⟨_, _, h⟩ | ⟨hne, ⟨h, _⟩ | ⟨h, _⟩ | ⟨_, _, h⟩ | ⟨_, h, _⟩⟩)
    · cases h
    · cases h
    · cases h
    · exact ⟨hne, h⟩
    · cases h
  · rintro ⟨hne, h⟩
    exact Or.inr ⟨hne, Or.inr (Or.inr (Or.inl ⟨rfl, rfl, h⟩))⟩

theorem errors_general_topvar (m : Model) (g : Graph) :
    E_TOPVAR ∈ codes (m.errors g) none ↔
      g.triples ≠ [] ∧ ∃ top, g.getTop = some top ∧ top ≠ [] ∧ ¬ g.IsSrc top := by
  rw [mem_codes_errors_iff]
  unfold ErrSpec
  constructor
  · rintro (⟨_, _, h⟩ | ⟨hne, ⟨h, _⟩ | ⟨h, _⟩ | ⟨_, h, _⟩ | ⟨_, _, h⟩⟩)
    · cases h
    · cases h
    · cases h
    · cases h
    · exact ⟨hne, h⟩
  · rintro ⟨hne, h⟩
    exact Or.inr ⟨hne, Or.inr (Or.inr (Or.inr ⟨rfl, rfl, h⟩))⟩

/-- no other message anywhere: triple contexts carry only 0/1 and are triples
    of the graph, the general context carries only 2/3/4 -/
theorem errors_no_other (m : Model) (g : Graph) (k : Option Triple) (c : Nat)
    (h : c ∈ codes (m.errors g) k) :
    (∃ t, k = some t ∧ t ∈ g.triples ∧ (c = E_ROLE ∨ c = E_UNREACH)) ∨
    (k = none ∧ (c = E_EMPTY ∨ c = E_NOTOP ∨ c = E_TOPVAR)) := by
  rw [mem_codes_errors_iff] at h
  rcases h with ⟨_, hk, hc⟩ | ⟨_, ⟨hc, t, hk, ht, _⟩ | ⟨hc, t, hk, ht, _⟩ | ⟨hk, hc, _⟩ | ⟨hk, hc, _⟩⟩
  · exact Or.inr ⟨hk, Or.inl hc⟩
  · exact Or.inl ⟨t, hk, ht, Or.inl hc⟩
  · exact Or.inl ⟨t, hk, ht, Or.inr hc⟩
  · exact Or.inr ⟨hk, Or.inr (Or.inl hc)⟩
  · exact Or.inr ⟨hk, Or.inr (Or.inr hc)⟩

/-- the report is empty exactly for a non-empty graph with only modelled
    roles whose top is a variable from which every variable is reachable -/
theorem errors_empty_iff (m : Model) (g : Graph) :
    m.errors g = [] ↔
      g.triples ≠ [] ∧ (∀ t ∈ g.triples, m.hasRole t.role = true) ∧
      ∃ top, g.TopOk top ∧ ∀ t ∈ g.triples, Reach g top t.src := by
  have key : m.errors g = [] ↔ ∀ k c, ¬ ErrSpec m g k c := by
    rw [errors_eq_nil_iff]
    constructor
    · intro h k c hs
      have := (mem_errList m g k c).2 hs
      rw [h] at this
      cases this
    · intro h
      cases hl : errList m g with
      | nil => rfl
      | cons p l =>
        exfalso
        exact h p.1 p.2 ((mem_errList m g p.1 p.2).1 (by rw [hl]; exact List.mem_cons_self ..))
  rw [key]
  constructor
  · intro h
    have hne : g.triples ≠ [] := fun he => h none E_EMPTY (Or.inl ⟨he, rfl, rfl⟩)
    refine ⟨hne, ?_, ?_⟩
    · intro t ht
      cases hr : m.hasRole t.role with
      | true => rfl
      | false => exact absurd (Or.inr ⟨hne, Or.inl ⟨rfl, t, rfl, ht, hr⟩⟩) (h (some t) E_ROLE)
    · rcases topCase g with ht | ⟨top, ht, hne', hs⟩ | ⟨top, hok⟩
      · exact absurd (Or.inr ⟨hne, Or.inr (Or.inr (Or.inl ⟨rfl, rfl, ht⟩))⟩) (h none E_NOTOP)
      · exact absurd (Or.inr ⟨hne, Or.inr (Or.inr (Or.inr ⟨rfl, rfl, top, ht, hne', hs⟩))⟩)
          (h none E_TOPVAR)
      · refine ⟨top, hok, ?_⟩
        intro t ht
        apply Classical.byContradiction
        intro hr
        exact h (some t) E_UNREACH (Or.inr ⟨hne, Or.inr (Or.inl ⟨rfl, t, rfl, ht, top, hok, hr⟩)⟩)
  · rintro ⟨hne, hroles, top, hok, hreach⟩ k c hs
    rcases hs with ⟨he, _⟩ | ⟨_, ⟨_, t, _, ht, hr⟩ | ⟨_, t, _, ht, top', hok', hr⟩ | ⟨_, _, h⟩ | ⟨_, _, top', h, hne', hs'⟩⟩
    · exact hne he
    · rw [hroles t ht] at hr; cases hr
    · have := TopOk_unique g top' top hok' hok
      subst this
      exact hr (hreach t ht)
    · exact TopOk_not_unset hok h
    · exact TopOk_not_notVar hok ⟨top', h, hne', hs'⟩

/-- if every source is reachable from a usable top, only "invalid role" is ever reported -/
theorem errors_only_role_of_reach (m : Model) (g : Graph) (top : Str) (hok : g.TopOk top)
    (hreach : ∀ v, g.IsSrc v → Reach g top v) (k : Option Triple) (c : Nat)
    (h : c ∈ codes (m.errors g) k) :
    c = E_ROLE ∧ ∃ t, k = some t ∧ t ∈ g.triples ∧ m.hasRole t.role = false := by
  rw [mem_codes_errors_iff] at h
  have hne : g.triples ≠ [] := by
    obtain ⟨t, ht, _⟩ := hok.2.2
    exact List.ne_nil_of_mem ht
  rcases h with ⟨he, _⟩ | ⟨_, h | ⟨_, t, _, ht, top', hok', hr⟩ | ⟨_, _, h⟩ | ⟨_, _, top', h, hne', hs'⟩⟩
  · exact absurd he hne
  · exact h
  · have := TopOk_unique g top' top hok' hok
    subst this
    exact absurd (hreach t.src ⟨t, ht, rfl⟩) hr
  · exact absurd h (TopOk_not_unset hok)
  · exact absurd ⟨top', h, hne', hs'⟩ (TopOk_not_notVar hok)

end Penman
