import Penman.Proofs.EvalAttr
import Penman.Generated
/-!
Kernel evaluation of closed statements about concrete inputs.

Inputs are written `"(a / b)".toList`.  Evaluated in the kernel, `String.toList` runs the UTF-8
encoder and decoder on every literal.  `eval_lits` therefore unfolds the definitions tagged
`eval_unfold` (and those given in brackets) and rewrites each `"…".toList` to its list of
characters with `String.toList_ofList` — a propositional rewrite, so the kernel never runs the
decoder.  `eval_decide` and `eval_rfl` do this
and then evaluate.  On a goal without literals `simp` makes no progress and fails: such a goal
needs plain `decide +kernel`.

A 0-ary definition whose body is directly a literal (`def sample : Str := "…".toList`) must be
opened with `delta` first, never tagged or given in brackets: realising its equation lemma runs
the decoder in the elaborator.
-/

/-- Rewrites every `"…".toList` of the goal to its list of characters.  The generated tables are
    named in the simp call and not tagged: tagging makes `simp` preprocess their bodies, decoder
    included.  `-index`: a string literal is `String.ofList _` only up to unfolding, which the
    discrimination tree does not see. -/
syntax "eval_lits" (" [" Lean.Parser.Tactic.simpLemma,* "]")? : tactic
macro_rules
  | `(tactic| eval_lits) => `(tactic| eval_lits [])
  | `(tactic| eval_lits [$ds,*]) =>
    `(tactic|
      simp -index only [eval_unfold, String.toList_ofList, Penman.Generated.defaultModel,
        Penman.Generated.amrModel, Penman.Generated.noopModel,
        Penman.Generated.rearrangeKeys, Penman.Generated.reconfigureKeys,
        Penman.Generated.processInOrder, Penman.Generated.processOutOrder, $ds,*])

syntax "eval_decide" (" [" Lean.Parser.Tactic.simpLemma,* "]")? : tactic
macro_rules
  | `(tactic| eval_decide) => `(tactic| (eval_lits []; decide +kernel))
  | `(tactic| eval_decide [$ds,*]) => `(tactic| (eval_lits [$ds,*]; decide +kernel))

/-- for a type without `DecidableEq` (`Except PyErr _`, automaton outcomes) -/
syntax "eval_rfl" (" [" Lean.Parser.Tactic.simpLemma,* "]")? : tactic
macro_rules
  | `(tactic| eval_rfl) => `(tactic| (eval_lits []; rfl))
  | `(tactic| eval_rfl [$ds,*]) => `(tactic| (eval_lits [$ds,*]; rfl))
