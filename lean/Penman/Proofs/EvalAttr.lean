import Lean.Meta.Tactic.Simp.RegisterCommand
/-!
The simp attribute of `Penman/Proofs/Eval.lean`, in a module of its own: an attribute made by
`register_simp_attr` cannot be used in the module that declares it.
-/
/-- Definitions that `eval_decide` unfolds before the kernel evaluates: those whose bodies hold
    string literals (`"…".toList`). -/
register_simp_attr eval_unfold
