/-
  The shape of `joinParts` / `formatNode` output: the edge texts, in order, glued
  with separators that are either one space or the joiner.
  (`FL` : format ∘ lex — the namespace of the files `Proofs/Format*.lean`, `TextWfLemmas`, `ParseWf`.)
-/
import Penman.Format

namespace Penman.FL

/-- `xs` glued together with separators satisfying `J` -/
inductive Joined (J : Str → Prop) : List Str → Str → Prop
  | nil : Joined J [] []
  | one (x : Str) : Joined J [x] x
  | cons (x y : Str) (r : List Str) (sep s : Str) : J sep → Joined J (y :: r) s →
      Joined J (x :: y :: r) (x ++ sep ++ s)

theorem joinStr_joined {J : Str → Prop} {sep : Str} (hsep : J sep) :
    ∀ xs : List Str, Joined J xs (joinStr sep xs)
  | [] => .nil
  | [x] => .one x
  | x :: y :: r => by
    rw [joinStr]
    exact .cons x y r sep _ hsep (joinStr_joined hsep (y :: r))

/-- a glued group may stand for its members -/
theorem Joined.flatten_head {J : Str → Prop} {xs : List Str} {x : Str} (h : Joined J xs x) :
    xs ≠ [] → ∀ {L : List Str} {s : Str}, Joined J (x :: L) s → Joined J (xs ++ L) s := by
  induction h with
  | nil => intro h; exact absurd rfl h
  | one x => intro _ L s h; exact h
  | cons x' y r sep s' hsep _ ih =>
    intro _ L s h
    cases h with
    | one _ => simpa using Joined.cons x' y r sep s' hsep ‹_›
    | cons _ z L' sep2 s2 hsep2 h2 =>
      have := ih (by simp) (Joined.cons s' z L' sep2 s2 hsep2 h2)
      have := Joined.cons x' y (r ++ z :: L') sep _ hsep this
      simpa [List.append_assoc] using this

theorem joinParts_joined {J : Str → Prop} {joiner : Str} (h1 : J [' ']) (h2 : J joiner) :
    ∀ (es : List (Bool × Str)) (compact : Bool) (parts : List Str),
      Joined J (parts.reverse ++ es.map (·.2)) (joinParts joiner compact parts es) := by
  intro es
  induction es with
  | nil =>
    intro compact parts
    simp only [joinParts, List.map_nil, List.append_nil]
    cases compact with
    | true => simpa [joinStr] using joinStr_joined h1 parts.reverse
    | false => simpa using joinStr_joined h2 parts.reverse
  | cons e es ih =>
    intro compact parts
    obtain ⟨brk, txt⟩ := e
    simp only [joinParts, List.map_cons]
    split
    · by_cases hp : parts = []
      · subst hp
        simpa using ih false [txt]
      · have hp' : parts.isEmpty = false := List.isEmpty_eq_false_iff.2 hp
        simp only [hp', Bool.false_eq_true, if_false]
        have := ih false [txt, joinStr [' '] parts.reverse]
        simp only [List.reverse_cons, List.reverse_nil, List.nil_append, List.cons_append] at this
        have hj := joinStr_joined h1 parts.reverse
        exact hj.flatten_head (by simpa using hp) this
    · have := ih compact (txt :: parts)
      simpa [List.append_assoc] using this

/-- separators of `formatNode`: one space, or a line feed and an indentation -/
def Sep (s : Str) : Prop := s = [' '] ∨ ∃ k, s = '\n' :: List.replicate k ' '

theorem sep_space : Sep [' '] := .inl rfl
theorem sep_joiner (indent : Indent) (col : Int) :
    Sep (match indent with | none => [' '] | some _ => '\n' :: spaces col) := by
  cases indent with
  | none => exact .inl rfl
  | some i => exact .inr ⟨_, rfl⟩

theorem formatNode_some (indent : Indent) (vars : List Str) (v : Str) (bs : Branches) (column : Int)
    (hv : v ≠ []) (hbs : bs ≠ .nil) :
    ∃ (col : Int) (j : Str), Joined Sep ((formatEdges indent vars bs col).map (·.2)) j ∧
      formatNode indent vars (.mk (some v) bs) column = '(' :: v ++ ' ' :: (j ++ [')']) := by
  have hv' : v.isEmpty = false := List.isEmpty_eq_false_iff.2 hv
  let col : Int := match indent with
    | none => column
    | some i => if i = -1 then column + v.length + 2 else column + i
  cases bs with
  | nil => exact absurd rfl hbs
  | atom r a rest =>
    have hj := joinParts_joined sep_space (sep_joiner indent col)
      (formatEdges indent vars (.atom r a rest) col) (!vars.isEmpty) []
    refine ⟨col, _, by simpa using hj, ?_⟩
    simp [formatNode, hv', col]; rfl
  | sub r n rest =>
    have hj := joinParts_joined sep_space (sep_joiner indent col)
      (formatEdges indent vars (.sub r n rest) col) (!vars.isEmpty) []
    refine ⟨col, _, by simpa using hj, ?_⟩
    simp [formatNode, hv', col]; rfl

theorem formatNode_nil (indent : Indent) (vars : List Str) (v : Str) (column : Int) (hv : v ≠ []) :
    formatNode indent vars (.mk (some v) .nil) column = '(' :: v ++ [')'] := by
  have hv' : v.isEmpty = false := List.isEmpty_eq_false_iff.2 hv
  simp [formatNode, hv']

theorem formatNode_none (indent : Indent) (vars : List Str) (bs : Branches) (column : Int) :
    formatNode indent vars (.mk none bs) column = ['(', ')'] := by
  simp [formatNode]

end Penman.FL
