/-
  format ∘ lex: the text `formatNode` writes for the abstract tree of a concrete
  syntax tree `k` (whose token texts are in their class languages) lexes, under every
  indentation / compactness option and followed by anything, to a token list with the same
  (type, text) sequence as `k.toks`.  The mutual induction over `CNode` / `CEdges` is done once,
  for any `Reading` of the text as the tokens of `k` (`node_reads`), and for any tree whose
  written form (numbers written by their text, `Spec/EncodeText.lean`) is `k.tree`; lexing is
  one reading (`lexReading`), `Woven` (`Proofs/FormatWoven.lean`) another, and the trees with
  numbers of `Proofs/ParseFormatNum.lean` use the first.
-/
import Penman.Proofs.LexStr
import Penman.Proofs.FormatJoin
import Penman.Proofs.ParseRoundTrip
import Penman.Spec.TextWf
import Penman.Spec.EncodeText

namespace Penman.FL
open Penman.Spec Penman.Lex

structure FmtCfgWfP (cfg : LexCfg) : Prop where
  base : CfgWfP cfg
  space_blank : ' ' ∈ cfg.blank
  lf_blank : '\n' ∈ cfg.blank
  penman_head : ∃ tl, cfg.penmanOrder = .COMMENT :: tl
  triple_head : ∃ tl, cfg.tripleOrder = .COMMENT :: tl
  p_string : TokTy.STRING ∈ cfg.penmanOrder
  p_lparen : TokTy.LPAREN ∈ cfg.penmanOrder
  p_rparen : TokTy.RPAREN ∈ cfg.penmanOrder
  p_slash : TokTy.SLASH ∈ cfg.penmanOrder
  p_role : TokTy.ROLE ∈ cfg.penmanOrder
  p_symbol : TokTy.SYMBOL ∈ cfg.penmanOrder
  p_alignment : TokTy.ALIGNMENT ∈ cfg.penmanOrder
  t_string : TokTy.STRING ∈ cfg.tripleOrder
  t_lparen : TokTy.LPAREN ∈ cfg.tripleOrder
  t_rparen : TokTy.RPAREN ∈ cfg.tripleOrder
  t_symbol : TokTy.SYMBOL ∈ cfg.tripleOrder
  comma_sym : ',' ∉ cfg.symExcl
  caret_sym : '^' ∉ cfg.symExcl

theorem FmtCfgWf.toP {cfg : LexCfg} (h : FmtCfgWf cfg = true) : FmtCfgWfP cfg := by
  simp only [FmtCfgWf, Bool.and_eq_true, List.contains_eq_mem, decide_eq_true_eq, beq_iff_eq,
    List.all_cons, List.all_nil, Bool.and_true, Bool.not_eq_true', decide_eq_false_iff_not] at h
  obtain ⟨⟨⟨⟨⟨⟨⟨⟨h0, h1⟩, h2⟩, h3⟩, h4⟩, p1, p2, p3, p4, p5, p6, p7⟩, t1, t2, t3, t4⟩, c1⟩, c2⟩ := h
  refine ⟨CfgWf.toP h0, h1, h2, ?_, ?_, p1, p2, p3, p4, p5, p6, p7, t1, t2, t3, t4, c1, c2⟩
  · cases hc : cfg.penmanOrder with
    | nil => simp [hc] at h3
    | cons a tl => simp [hc] at h3; exact ⟨tl, by rw [h3]⟩
  · cases hc : cfg.tripleOrder with
    | nil => simp [hc] at h4
    | cons a tl => simp [hc] at h4; exact ⟨tl, by rw [h4]⟩

/-- a token as the lexer produces it from one line: text in the language of its class, no line
    break, and a SYMBOL does not start with `#` (that would be a COMMENT) -/
def TokGood (cfg : LexCfg) (t : Tok) : Prop :=
  Lang cfg t.ty t.text ∧ NoBreak t.text ∧ (t.ty = .SYMBOL → t.text.head? ≠ some '#')

/-- what follows an edge text inside a node: a space, a line feed, or `)` -/
def SepHead (tail : Str) : Prop := ∀ c, tail.head? = some c → c = ' ' ∨ c = '\n' ∨ c = ')'

variable {cfg : LexCfg}

theorem sepHead_ends (hw : FmtCfgWfP cfg) {c : Char} (h : c = ' ' ∨ c = '\n' ∨ c = ')') :
    c ∈ cfg.symExcl ∧ c ∈ cfg.roleExcl ∧ inRanges cfg.alnDigit c = false ∧ c ≠ ',' := by
  apply sep_ends hw.base
  rcases h with rfl | rfl | rfl
  · exact .inl hw.space_blank
  · exact .inl hw.lf_blank
  · exact .inr (by simp [delims])

theorem tilde_ends (hw : FmtCfgWfP cfg) : '~' ∈ cfg.symExcl ∧ '~' ∈ cfg.roleExcl :=
  ⟨(sep_ends hw.base (.inr (by simp [delims]))).1, (sep_ends hw.base (.inr (by simp [delims]))).2.1⟩

theorem sepHead_cons {c : Char} (t : Str) (h : c = ' ' ∨ c = '\n' ∨ c = ')') : SepHead (c :: t) := by
  intro d hd; simp at hd; subst hd; exact h

abbrev lexP (cfg : LexCfg) (s : Str) : List (TokTy × Str) := lexC cfg cfg.penmanOrder s

theorem lexP_lparen (hw : FmtCfgWfP cfg) (rest : Str) :
    lexP cfg ('(' :: rest) = (.LPAREN, ['(']) :: lexP cfg rest :=
  lexC_delim hw.base hw.base.penman_order (by simp) hw.p_lparen rest

theorem lexP_rparen (hw : FmtCfgWfP cfg) (rest : Str) :
    lexP cfg (')' :: rest) = (.RPAREN, [')']) :: lexP cfg rest :=
  lexC_delim hw.base hw.base.penman_order (by simp) hw.p_rparen rest

theorem lexP_slash (hw : FmtCfgWfP cfg) (rest : Str) :
    lexP cfg ('/' :: rest) = (.SLASH, ['/']) :: lexP cfg rest :=
  lexC_delim hw.base hw.base.penman_order (by simp) hw.p_slash rest

theorem lexP_symbol (hw : FmtCfgWfP cfg) {s rest : Str} (hs : IsSymbol cfg s) (hnb : NoBreak s)
    (hhash : s.head? ≠ some '#') (hrest : ∀ c, rest.head? = some c → c ∈ cfg.symExcl) :
    lexP cfg (s ++ rest) = (.SYMBOL, s) :: lexP cfg rest :=
  lexC_symbol hw.base hw.base.penman_order hw.p_symbol hs hnb hhash hrest

theorem lexP_role (hw : FmtCfgWfP cfg) {s rest : Str} (hs : IsRole cfg s) (hnb : NoBreak s)
    (hrest : ∀ c, rest.head? = some c → c ∈ cfg.roleExcl) :
    lexP cfg (s ++ rest) = (.ROLE, s) :: lexP cfg rest :=
  lexC_role hw.base hw.base.penman_order hw.p_role hs hnb hrest

theorem lexP_string (hw : FmtCfgWfP cfg) {s : Str} (rest : Str) (hs : IsString cfg s) (hnb : NoBreak s) :
    lexP cfg (s ++ rest) = (.STRING, s) :: lexP cfg rest :=
  lexC_string hw.base hw.base.penman_order hw.p_string rest hs hnb

theorem lexP_space (hw : FmtCfgWfP cfg) (rest : Str) : lexP cfg (' ' :: rest) = lexP cfg rest :=
  lexC_blank hw.base hw.space_blank (by decide) (by decide) rest

theorem lexP_sep (hw : FmtCfgWfP cfg) {sep : Str} (h : Sep sep) (rest : Str) :
    lexP cfg (sep ++ rest) = lexP cfg rest := by
  rcases h with rfl | ⟨k, rfl⟩
  · exact lexP_space hw rest
  · rw [List.cons_append, lexP, lexC_newline]
    exact lexC_blanks hw.base hw.space_blank (by decide) (by decide) k rest

theorem sep_sepHead {sep : Str} (h : Sep sep) (rest : Str) : SepHead (sep ++ rest) := by
  rcases h with rfl | ⟨k, rfl⟩
  · exact sepHead_cons _ (.inl rfl)
  · exact sepHead_cons _ (.inr (.inl rfl))

def alnText : Option Tok → Str
  | none => []
  | some a => a.text

theorem ttText_eq (x : TText) : x.text = x.tok.text ++ alnText x.aln := by
  unfold TText.text alnText; cases x.aln <;> simp

theorem ttToks_eq (x : TText) : x.toks = x.tok :: x.aln.toList := by
  unfold TText.toks; cases x.aln <;> rfl

theorem aln_lex (hw : FmtCfgWfP cfg) (o : Option Tok) (hty : ∀ a, o = some a → a.ty = .ALIGNMENT)
    (hg : ∀ a, o = some a → TokGood cfg a) (tail : Str) (ht : AlnEnd cfg tail) :
    lexP cfg (alnText o ++ tail) = o.toList.map core ++ lexP cfg tail := by
  cases o with
  | none => rfl
  | some a =>
    have hty := hty a rfl
    obtain ⟨hl, hnb, -⟩ := hg a rfl
    rw [hty] at hl
    simp only [alnText, Option.toList_some, List.map_cons, List.map_nil, List.singleton_append, core, hty]
    exact lexC_alignment hw.base hw.base.penman_order hw.p_alignment hl hnb ht

theorem aln_head (o : Option Tok) (hty : ∀ a, o = some a → a.ty = .ALIGNMENT)
    (hg : ∀ a, o = some a → TokGood cfg a) (tail : Str) :
    ∀ c, (alnText o ++ tail).head? = some c → c = '~' ∨ tail.head? = some c := by
  intro c hc
  cases o with
  | none => exact .inr hc
  | some a =>
    have hty := hty a rfl
    obtain ⟨hl, -, -⟩ := hg a rfl
    rw [hty] at hl
    obtain ⟨pre, ds, tl, he, -⟩ := hl
    simp only [alnText, he, List.cons_append, List.head?_cons, Option.some.injEq] at hc
    exact .inl hc.symm

theorem ttParts (x : TText) (ha : x.wfAln = true) (hg : ∀ t ∈ x.toks, TokGood cfg t) :
    TokGood cfg x.tok ∧ (∀ a, x.aln = some a → a.ty = .ALIGNMENT) ∧ (∀ a, x.aln = some a → TokGood cfg a) := by
  refine ⟨hg _ (by rw [ttToks_eq x]; simp), ?_, ?_⟩
  · intro a h; simpa [TText.wfAln, h] using ha
  · intro a h; exact hg a (by rw [ttToks_eq x, h]; simp)

theorem role_lex (hw : FmtCfgWfP cfg) (x : TText) (hty : x.tok.ty = .ROLE) (ha : x.wfAln = true)
    (hg : ∀ t ∈ x.toks, TokGood cfg t) (tail : Str) (ht : SepHead tail) :
    lexP cfg (x.text ++ tail) = x.toks.map core ++ lexP cfg tail := by
  obtain ⟨⟨hl, hnb, -⟩, h1, h2⟩ := ttParts x ha hg
  rw [hty] at hl
  rw [ttText_eq x, ttToks_eq x, List.append_assoc]
  rw [lexP_role hw hl hnb]
  · rw [aln_lex hw x.aln h1 h2 tail (fun c hc => by
      have := sepHead_ends hw (ht c hc); exact ⟨this.2.2.2, this.2.2.1⟩)]
    simp [core, hty]
  · intro c hc
    rcases aln_head x.aln h1 h2 tail c hc with rfl | h
    · exact (tilde_ends hw).2
    · exact (sepHead_ends hw (ht c h)).2.1

theorem atom_lex (hw : FmtCfgWfP cfg) (x : TText) (hty : isSymOrStr x.tok = true) (ha : x.wfAln = true)
    (hg : ∀ t ∈ x.toks, TokGood cfg t) (tail : Str) (ht : SepHead tail) :
    lexP cfg (x.text ++ tail) = x.toks.map core ++ lexP cfg tail := by
  obtain ⟨⟨hl, hnb, hh⟩, h1, h2⟩ := ttParts x ha hg
  have hal := aln_lex hw x.aln h1 h2 tail (fun c hc => by
      have := sepHead_ends hw (ht c hc); exact ⟨this.2.2.2, this.2.2.1⟩)
  rw [ttText_eq x, ttToks_eq x, List.append_assoc]
  simp only [isSymOrStr, Bool.or_eq_true, decide_eq_true_eq] at hty
  rcases hty with hty | hty
  · rw [hty] at hl
    rw [lexP_symbol hw hl hnb (hh hty), hal]
    · simp [core, hty]
    · intro c hc
      rcases aln_head x.aln h1 h2 tail c hc with rfl | h
      · exact (tilde_ends hw).1
      · exact (sepHead_ends hw (ht c h)).1
  · rw [hty] at hl
    rw [lexP_string hw _ hl hnb, hal]
    simp [core, hty]

theorem ttText_ne_nil (x : TText) (hg : TokGood cfg x.tok) (h : isSymOrStr x.tok = true ∨ x.tok.ty = .ROLE) :
    x.text ≠ [] := by
  rw [ttText_eq x]
  obtain ⟨hl, -, -⟩ := hg
  simp only [isSymOrStr, Bool.or_eq_true, decide_eq_true_eq] at h
  rcases h with (h | h) | h <;> rw [h] at hl
  · have := hl.1; simp [this]
  · obtain ⟨b, hb, -⟩ := hl; simp [hb]
  · obtain ⟨b, hb, -⟩ := hl; simp [hb]

theorem role_text_colon (x : TText) (hty : x.tok.ty = .ROLE) (hg : TokGood cfg x.tok) :
    ensureColonRole x.text = x.text := by
  obtain ⟨hl, -, -⟩ := hg
  rw [hty] at hl
  obtain ⟨b, hb, -⟩ := hl
  rw [ttText_eq x, hb]
  simp [ensureColonRole, startsWith]

theorem joined_cons_lex (hw : FmtCfgWfP cfg) {x : Str} {L : List Str} {s : Str} {cx cL : List (TokTy × Str)}
    {rest : Str} (hj : Joined Sep (x :: L) s)
    (hx : ∀ tail, SepHead tail → lexP cfg (x ++ tail) = cx ++ lexP cfg tail)
    (hL : ∀ s', Joined Sep L s' → lexP cfg (s' ++ ')' :: rest) = cL ++ lexP cfg (')' :: rest)) :
    lexP cfg (s ++ ')' :: rest) = cx ++ (cL ++ lexP cfg (')' :: rest)) := by
  cases hj with
  | one _ =>
    have h0 := hL [] .nil
    simp only [List.nil_append] at h0
    rw [← h0, hx _ (sepHead_cons _ (.inr (.inr rfl)))]
  | cons _ y r sep s' hsep h2 =>
    rw [List.append_assoc, List.append_assoc, hx _ (sep_sepHead hsep _), lexP_sep hw hsep, hL s' h2]

theorem lang_lparen {t : Tok} (h1 : t.ty = .LPAREN) (h : TokGood cfg t) : core t = (.LPAREN, ['(']) := by
  have := h.1; rw [h1] at this; simp only [Lang] at this; simp [core, h1, this]
theorem lang_rparen {t : Tok} (h1 : t.ty = .RPAREN) (h : TokGood cfg t) : core t = (.RPAREN, [')']) := by
  have := h.1; rw [h1] at this; simp only [Lang] at this; simp [core, h1, this]
theorem lang_slash {t : Tok} (h1 : t.ty = .SLASH) (h : TokGood cfg t) : core t = (.SLASH, ['/']) := by
  have := h.1; rw [h1] at this; simp only [Lang] at this; simp [core, h1, this]

theorem cedges_tree_ne_nil : (es : CEdges) → es ≠ .nil → es.tree ≠ .nil
  | .nil, h => absurd rfl h
  | .atom r none rest, _ => by simp [CEdges.tree]
  | .atom r (some a) rest, _ => by simp [CEdges.tree]
  | .sub r n rest, _ => by simp [CEdges.tree]

def GoodToks (cfg : LexCfg) (ts : List Tok) : Prop := ∀ t ∈ ts, TokGood cfg t

theorem goodToks_append {a b : List Tok} : GoodToks cfg (a ++ b) ↔ GoodToks cfg a ∧ GoodToks cfg b := by
  simp only [GoodToks, List.mem_append]
  exact ⟨fun h => ⟨fun t ht => h t (.inl ht), fun t ht => h t (.inr ht)⟩,
    fun h t ht => ht.elim (h.1 t) (h.2 t)⟩

theorem goodToks_cons {a : Tok} {b : List Tok} : GoodToks cfg (a :: b) ↔ TokGood cfg a ∧ GoodToks cfg b := by
  simp [GoodToks]

theorem goodToks_nil : GoodToks cfg [] := by simp [GoodToks]

/-- What it takes to read the text `formatNode` writes for the abstract tree of a concrete syntax
    tree as the tokens of that tree: `T ts x` reads an edge text `x` (what follows is a separator
    or `)`), `E ts j` reads edge texts glued with separators, `N ts s` reads a node. -/
structure Reading (cfg : LexCfg) (T E N : List Tok → Str → Prop) : Prop where
  role (x : TText) : x.tok.ty = .ROLE → x.wfAln = true → (∀ t ∈ x.toks, TokGood cfg t) → T x.toks x.text
  atom (x : TText) : isSymOrStr x.tok = true → x.wfAln = true → (∀ t ∈ x.toks, TokGood cfg t) → T x.toks x.text
  slash (s : Tok) : s.ty = .SLASH → TokGood cfg s → T [s] ['/']
  space {a b : List Tok} {x y : Str} : T a x → T b y → T (a ++ b) (x ++ ' ' :: y)
  node {a : List Tok} {s : Str} : N a s → T a s
  nil : E [] []
  cons {x : Str} {L : List Str} {s : Str} {a b : List Tok} : Joined Sep (x :: L) s → T a x →
    (∀ s', Joined Sep L s' → E b s') → E (a ++ b) s
  empty (lp rp : Tok) : lp.ty = .LPAREN → rp.ty = .RPAREN → TokGood cfg lp → TokGood cfg rp →
    N [lp, rp] ['(', ')']
  leaf (lp var rp : Tok) : lp.ty = .LPAREN → var.ty = .SYMBOL → rp.ty = .RPAREN → TokGood cfg lp →
    TokGood cfg var → TokGood cfg rp → N [lp, var, rp] ('(' :: var.text ++ [')'])
  wrap (lp var rp : Tok) {a : List Tok} {j : Str} : lp.ty = .LPAREN → var.ty = .SYMBOL → rp.ty = .RPAREN →
    TokGood cfg lp → TokGood cfg var → TokGood cfg rp → E a j →
    N (lp :: var :: (a ++ [rp])) ('(' :: var.text ++ ' ' :: (j ++ [')']))

open C03Text

theorem writtenAtom_eq_none {a : Atom} (h : writtenAtom a = .none) : a = .none := by
  cases a <;> simp [writtenAtom] at h ⊢

theorem writtenAtom_eq_str {a : Atom} {s : Str} (h : writtenAtom a = .str s) : a = .str s ∨ a = .num s := by
  cases a <;> simp [writtenAtom] at h ⊢ <;> exact h

theorem writtenBs_eq_nil {bs : Branches} (h : writtenBs bs = .nil) : bs = .nil := by
  cases bs <;> simp [writtenBs] at h ⊢

theorem writtenBs_eq_atom {bs : Branches} {r : Str} {a : Atom} {B : Branches} (h : writtenBs bs = .atom r a B) :
    ∃ a0 bs', bs = .atom r a0 bs' ∧ writtenAtom a0 = a ∧ writtenBs bs' = B := by
  cases bs with
  | nil => simp [writtenBs] at h
  | atom r' a' rest =>
    simp only [writtenBs, Branches.atom.injEq] at h
    obtain ⟨rfl, h2, h3⟩ := h
    exact ⟨a', rest, rfl, h2, h3⟩
  | sub r' n' rest => simp [writtenBs] at h

theorem writtenBs_eq_sub {bs : Branches} {r : Str} {k : Node} {B : Branches} (h : writtenBs bs = .sub r k B) :
    ∃ n bs', bs = .sub r n bs' ∧ writtenForm n = k ∧ writtenBs bs' = B := by
  cases bs with
  | nil => simp [writtenBs] at h
  | atom r' a' rest => simp [writtenBs] at h
  | sub r' n' rest =>
    simp only [writtenBs, Branches.sub.injEq] at h
    obtain ⟨rfl, h2, h3⟩ := h
    exact ⟨n', rest, rfl, h2, h3⟩

theorem writtenForm_eq_mk {n : Node} {v : Option Str} {B : Branches} (h : writtenForm n = .mk v B) :
    ∃ bs, n = .mk v bs ∧ writtenBs bs = B := by
  cases n with
  | mk v' bs =>
    simp only [writtenForm, Node.mk.injEq] at h
    obtain ⟨rfl, h2⟩ := h
    exact ⟨bs, rfl, h2⟩

mutual
/-- the abstract tree of a concrete syntax tree has no numbers -/
theorem written_tree : (k : CNode) → writtenForm k.tree = k.tree
  | .empty _ _ => rfl
  | .mk _ _ none es _ => by simp [CNode.tree, writtenForm, written_edges es]
  | .mk _ _ (some (_, none)) es _ => by simp [CNode.tree, writtenForm, writtenBs, writtenAtom, written_edges es]
  | .mk _ _ (some (_, some _)) es _ => by
    simp [CNode.tree, writtenForm, writtenBs, writtenAtom, written_edges es]
theorem written_edges : (es : CEdges) → writtenBs es.tree = es.tree
  | .nil => rfl
  | .atom _ none es => by simp [CEdges.tree, writtenBs, writtenAtom, written_edges es]
  | .atom _ (some _) es => by simp [CEdges.tree, writtenBs, writtenAtom, written_edges es]
  | .sub _ n es => by simp [CEdges.tree, writtenBs, written_tree n, written_edges es]
end

variable {T E N : List Tok → Str → Prop}

/- The tree formatted is any `n` whose written form is the abstract tree of `k`: a number and
   the string of its text are written alike, although they may break compact mode differently.
   A node with branches is `formatNode_some`: `( var`, then the edge texts glued by separators;
   `R.cons` reads the first text (`/`, `/ concept`, `role`, `role atom`, `role node`) and leaves
   the rest to `edges_reads`. -/
mutual
theorem node_reads (R : Reading cfg T E N) : (k : CNode) → k.wf = true → (∀ t ∈ k.toks, TokGood cfg t) →
    ∀ (n : Node), writtenForm n = k.tree →
    ∀ (indent : Indent) (vars : List Str) (column : Int), N k.toks (formatNode indent vars n column)
  | .empty lp rp, hwf, hg, n, hn, indent, vars, column => by
    obtain ⟨bs, rfl, -⟩ := writtenForm_eq_mk hn
    simp only [CNode.wf, Bool.and_eq_true, decide_eq_true_eq] at hwf
    rw [formatNode_none]
    exact R.empty lp rp hwf.1 hwf.2 (hg lp (by simp [CNode.toks])) (hg rp (by simp [CNode.toks]))
  | .mk lp var sl es rp, hwf, hg, n, hn, indent, vars, column => by
    simp only [CNode.tree] at hn
    obtain ⟨bs, rfl, hbs⟩ := writtenForm_eq_mk hn
    simp only [CNode.wf, Bool.and_eq_true, decide_eq_true_eq] at hwf
    obtain ⟨⟨⟨⟨hlp, hv⟩, hsl⟩, hes⟩, hrp⟩ := hwf
    obtain ⟨glp, hg⟩ := goodToks_cons.1 hg
    obtain ⟨gvar, hg⟩ := goodToks_cons.1 hg
    obtain ⟨gsl, hg⟩ := goodToks_append.1 hg
    obtain ⟨ges, hg⟩ := goodToks_append.1 hg
    have grp := (goodToks_cons.1 hg).1
    have hvne : var.text ≠ [] := by have := gvar.1; rw [hv] at this; exact this.1
    have fin : ∀ (a : List Tok) (j : Str), E a j →
        N (lp :: var :: (a ++ [rp])) ('(' :: var.text ++ ' ' :: (j ++ [')'])) :=
      fun a j h => R.wrap lp var rp hlp hv hrp glp gvar grp h
    match sl, hsl, gsl, hbs with
    | none, _, _, hbs =>
      simp only [] at hbs
      have ihE := edges_reads R es hes ges bs hbs indent vars
      simp only [CNode.toks, slashToks, List.nil_append]
      by_cases hnil : es = .nil
      · subst hnil
        obtain rfl := writtenBs_eq_nil hbs
        rw [formatNode_nil indent vars _ column hvne]
        exact R.leaf lp var rp hlp hv hrp glp gvar grp
      · have hbne : bs ≠ .nil := by
          rintro rfl
          exact cedges_tree_ne_nil es hnil hbs.symm
        obtain ⟨col, j, hj, he⟩ := formatNode_some indent vars var.text bs column hvne hbne
        rw [he]
        exact fin _ j (ihE col j hj)
    | some (s, none), hsl, gsl, hbs =>
      simp only [] at hbs
      obtain ⟨a0, bs', rfl, ha0, hbs'⟩ := writtenBs_eq_atom hbs
      obtain rfl := writtenAtom_eq_none ha0
      simp only [slashWf, decide_eq_true_eq] at hsl
      obtain ⟨col, j, hj, he⟩ := formatNode_some indent vars var.text (.atom ['/'] .none bs') column hvne
        (by simp)
      have hj' : Joined Sep (['/'] :: (formatEdges indent vars bs' col).map (·.2)) j := by
        simpa [formatEdges, ensureColonRole, Atom.isMissing] using hj
      simp only [CNode.toks, slashToks, ← List.append_assoc]
      rw [he]
      exact fin _ j (R.cons hj' (R.slash s hsl (goodToks_cons.1 gsl).1)
        (edges_reads R es hes ges bs' hbs' indent vars col))
    | some (s, some c), hsl, gsl, hbs =>
      simp only [] at hbs
      obtain ⟨a0, bs', rfl, ha0, hbs'⟩ := writtenBs_eq_atom hbs
      simp only [slashWf, Bool.and_eq_true, decide_eq_true_eq] at hsl
      obtain ⟨⟨hs, hc⟩, hca⟩ := hsl
      obtain ⟨gs, gc⟩ := goodToks_cons.1 gsl
      have hcne : c.text ≠ [] := ttText_ne_nil c (gc _ (by rw [ttToks_eq c]; simp)) (.inl hc)
      have hcne' : c.text.isEmpty = false := List.isEmpty_eq_false_iff.2 hcne
      obtain ⟨col, j, hj, he⟩ := formatNode_some indent vars var.text (.atom ['/'] a0 bs')
        column hvne (by simp)
      have hj' : Joined Sep ((['/'] ++ ' ' :: c.text) :: (formatEdges indent vars bs' col).map (·.2)) j := by
        rcases writtenAtom_eq_str ha0 with rfl | rfl <;>
          simpa [formatEdges, ensureColonRole, Atom.isMissing, hcne', atomText] using hj
      simp only [CNode.toks, slashToks, ← List.append_assoc, ← List.singleton_append (l := c.toks)]
      rw [he]
      exact fin _ j (R.cons hj' (R.space (R.slash s hs gs) (R.atom c hc hca gc))
        (edges_reads R es hes ges bs' hbs' indent vars col))
theorem edges_reads (R : Reading cfg T E N) : (es : CEdges) → es.wf = true → (∀ t ∈ es.toks, TokGood cfg t) →
    ∀ (bs : Branches), writtenBs bs = es.tree →
    ∀ (indent : Indent) (vars : List Str) (column : Int) (j : Str),
      Joined Sep ((formatEdges indent vars bs column).map (·.2)) j → E es.toks j
  | .nil, _, _, bs, hbs, indent, vars, column, j, hj => by
    obtain rfl := writtenBs_eq_nil hbs
    simp only [formatEdges, List.map_nil] at hj
    cases hj
    exact R.nil
  | .atom r none es, hwf, hg, bs, hbs, indent, vars, column, j, hj => by
    rw [CEdges.tree] at hbs
    obtain ⟨a0, bs', rfl, ha0, hbs'⟩ := writtenBs_eq_atom hbs
    obtain rfl := writtenAtom_eq_none ha0
    simp only [CEdges.wf, Bool.and_eq_true, decide_eq_true_eq] at hwf
    obtain ⟨⟨hr, hra⟩, hes⟩ := hwf
    obtain ⟨gr, ges⟩ := goodToks_append.1 hg
    have hcol := role_text_colon r hr (gr _ (by rw [ttToks_eq r]; simp))
    have hj' : Joined Sep (r.text :: (formatEdges indent vars bs' column).map (·.2)) j := by
      simpa [formatEdges, hcol, Atom.isMissing] using hj
    exact R.cons hj' (R.role r hr hra gr) (edges_reads R es hes ges bs' hbs' indent vars column)
  | .atom r (some a) es, hwf, hg, bs, hbs, indent, vars, column, j, hj => by
    rw [CEdges.tree] at hbs
    obtain ⟨a0, bs', rfl, ha0, hbs'⟩ := writtenBs_eq_atom hbs
    simp only [CEdges.wf, Bool.and_eq_true, decide_eq_true_eq] at hwf
    obtain ⟨⟨⟨⟨hr, hra⟩, ha⟩, haa⟩, hes⟩ := hwf
    obtain ⟨gr, hg⟩ := goodToks_append.1 hg
    obtain ⟨ga, ges⟩ := goodToks_append.1 hg
    have hcol := role_text_colon r hr (gr _ (by rw [ttToks_eq r]; simp))
    have hane : a.text ≠ [] := ttText_ne_nil a (ga _ (by rw [ttToks_eq a]; simp)) (.inl ha)
    have hane' : a.text.isEmpty = false := List.isEmpty_eq_false_iff.2 hane
    have hj' : Joined Sep ((r.text ++ ' ' :: a.text) :: (formatEdges indent vars bs' column).map (·.2)) j := by
      rcases writtenAtom_eq_str ha0 with rfl | rfl <;>
        simpa [formatEdges, hcol, Atom.isMissing, hane', atomText] using hj
    rw [CEdges.toks, ← List.append_assoc]
    exact R.cons hj' (R.space (R.role r hr hra gr) (R.atom a ha haa ga))
      (edges_reads R es hes ges bs' hbs' indent vars column)
  | .sub r k es, hwf, hg, bs, hbs, indent, vars, column, j, hj => by
    rw [CEdges.tree] at hbs
    obtain ⟨n, bs', rfl, hn, hbs'⟩ := writtenBs_eq_sub hbs
    simp only [CEdges.wf, Bool.and_eq_true, decide_eq_true_eq] at hwf
    obtain ⟨⟨⟨hr, hra⟩, hk⟩, hes⟩ := hwf
    obtain ⟨gr, hg⟩ := goodToks_append.1 hg
    obtain ⟨gn, ges⟩ := goodToks_append.1 hg
    have hcol := role_text_colon r hr (gr _ (by rw [ttToks_eq r]; simp))
    simp only [formatEdges, hcol, List.map_cons, List.append_assoc, List.singleton_append] at hj
    rw [CEdges.toks, ← List.append_assoc]
    exact R.cons hj (R.space (R.role r hr hra gr) (R.node (node_reads R k hk gn n hn indent vars _)))
      (edges_reads R es hes ges bs' hbs' indent vars column)
end

theorem lexReading (hw : FmtCfgWfP cfg) : Reading cfg
    (fun ts x => ∀ tail, SepHead tail → lexP cfg (x ++ tail) = ts.map core ++ lexP cfg tail)
    (fun ts j => ∀ rest, lexP cfg (j ++ ')' :: rest) = ts.map core ++ lexP cfg (')' :: rest))
    (fun ts s => ∀ rest, lexP cfg (s ++ rest) = ts.map core ++ lexP cfg rest) where
  role x h1 h2 h3 := role_lex hw x h1 h2 h3
  atom x h1 h2 h3 := atom_lex hw x h1 h2 h3
  slash s h g tail _ := by
    rw [List.map_cons, lang_slash h g]
    exact lexP_slash hw tail
  space ha hb tail ht := by
    rw [List.append_assoc, List.cons_append, ha _ (sepHead_cons _ (.inl rfl)), lexP_space hw, hb tail ht,
      List.map_append, List.append_assoc]
  node h tail _ := h tail
  nil _ := rfl
  cons hj hx hL rest := by
    rw [joined_cons_lex hw hj hx (fun s' hs' => hL s' hs' rest), List.map_append, List.append_assoc]
  empty lp rp h1 h2 g1 g2 rest := by
    simp only [List.map_cons, List.map_nil, lang_lparen h1 g1, lang_rparen h2 g2, List.cons_append,
      List.nil_append]
    rw [lexP_lparen hw, lexP_rparen hw]
  leaf lp var rp h1 hv h2 g1 gv g2 rest := by
    have hvl := gv.1
    rw [hv] at hvl
    simp only [List.map_cons, List.map_nil, lang_lparen h1 g1, lang_rparen h2 g2, List.cons_append,
      List.append_assoc, List.nil_append]
    rw [lexP_lparen hw, lexP_symbol hw hvl gv.2.1 (gv.2.2 hv) (fun c hc =>
      (sepHead_ends hw (sepHead_cons _ (.inr (.inr rfl)) c hc)).1), lexP_rparen hw]
    simp [core, hv]
  wrap lp var rp _ _ h1 hv h2 g1 gv g2 hE rest := by
    have hvl := gv.1
    rw [hv] at hvl
    simp only [List.map_cons, List.map_append, List.map_nil, lang_lparen h1 g1, lang_rparen h2 g2,
      List.cons_append, List.append_assoc, List.nil_append]
    rw [lexP_lparen hw, lexP_symbol hw hvl gv.2.1 (gv.2.2 hv) (fun c hc =>
      (sepHead_ends hw (sepHead_cons _ (.inl rfl) c hc)).1), lexP_space hw, hE rest, lexP_rparen hw]
    simp [core, hv]

theorem edges_lex (hw : FmtCfgWfP cfg) : (es : CEdges) → es.wf = true → (∀ t ∈ es.toks, TokGood cfg t) →
    ∀ (indent : Indent) (vars : List Str) (column : Int) (j rest : Str),
      Joined Sep ((formatEdges indent vars es.tree column).map (·.2)) j →
      lexP cfg (j ++ ')' :: rest) = es.toks.map core ++ lexP cfg (')' :: rest) :=
  fun es hwf hg indent vars column j rest hj =>
    edges_reads (lexReading hw) es hwf hg es.tree (written_edges es) indent vars column j hj rest

end Penman.FL
