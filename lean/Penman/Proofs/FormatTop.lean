/-
  Top level of format ∘ lex:
  * `TreeToks` only depends on token types and texts (`cnode_relabel`);
  * the metadata lines of `format` are COMMENT tokens (`lexC_lines`);
  * `format_lexC_written`: the (type, text) sequence of `lex(format(tree))`.
-/
import Penman.Proofs.TextWfLemmas

namespace Penman.FL
open Penman.Spec Penman.Lex

variable {cfg : LexCfg}

theorem core_eq_iff (a b : Tok) : core a = core b ↔ a.ty = b.ty ∧ a.text = b.text := by
  simp [core]

theorem ttext_relabel (x : TText) (ts : List Tok) (h : ts.map core = x.toks.map core) :
    ∃ x' : TText, x'.toks = ts ∧ x'.tok.ty = x.tok.ty ∧ x'.wfAln = x.wfAln ∧ x'.text = x.text := by
  obtain ⟨tok, aln⟩ := x
  cases aln with
  | none =>
    simp only [TText.toks, List.map_cons, List.map_nil, List.map_eq_cons_iff, List.map_eq_nil_iff] at h
    obtain ⟨t', r, rfl, ht, rfl⟩ := h
    rw [core_eq_iff] at ht
    exact ⟨⟨t', none⟩, rfl, ht.1, rfl, by simp [TText.text, ht.2]⟩
  | some a =>
    simp only [TText.toks, List.map_cons, List.map_nil, List.map_eq_cons_iff, List.map_eq_nil_iff] at h
    obtain ⟨t', r, rfl, ht, a', r', rfl, ha, rfl⟩ := h
    rw [core_eq_iff] at ht ha
    exact ⟨⟨t', some a'⟩, rfl, ht.1, by simp [TText.wfAln, ha.1], by simp [TText.text, ht.2, ha.2]⟩

theorem isSymOrStr_congr {a b : Tok} (h : a.ty = b.ty) : isSymOrStr a = isSymOrStr b := by
  simp [isSymOrStr, h]

theorem slash_relabel (sl : Option (Tok × Option TText)) (ts : List Tok)
    (h : ts.map core = (slashToks sl).map core) :
    ∃ sl', slashToks sl' = ts ∧ slashWf sl' = slashWf sl ∧
      ∀ (lp lp' var var' rp rp' : Tok) (es : CEdges), var.text = var'.text →
        (CNode.mk lp var sl' es rp).tree = (CNode.mk lp' var' sl es rp').tree := by
  match sl, h with
  | none, h =>
    simp only [slashToks, List.map_nil, List.map_eq_nil_iff] at h
    subst h
    exact ⟨none, rfl, rfl, by intros; simp [CNode.tree, *]⟩
  | some (s, none), h =>
    simp only [slashToks, List.map_cons, List.map_nil, List.map_eq_cons_iff, List.map_eq_nil_iff] at h
    obtain ⟨s', r, rfl, hs, rfl⟩ := h
    rw [core_eq_iff] at hs
    exact ⟨some (s', none), rfl, by simp [slashWf, hs.1], by intros; simp [CNode.tree, *]⟩
  | some (s, some c), h =>
    simp only [slashToks, List.map_cons, List.map_eq_cons_iff] at h
    obtain ⟨s', r, rfl, hs, hr⟩ := h
    rw [core_eq_iff] at hs
    obtain ⟨c', rfl, c1, c2, c3⟩ := ttext_relabel c r hr
    exact ⟨some (s', some c'), rfl, by simp [slashWf, hs.1, isSymOrStr_congr c1, c2],
      by intros; simp [CNode.tree, *]⟩

mutual
theorem cnode_relabel : (k : CNode) → (ts : List Tok) → ts.map core = k.toks.map core →
    ∃ k' : CNode, k'.toks = ts ∧ k'.wf = k.wf ∧ k'.tree = k.tree
  | .empty lp rp, ts, h => by
    simp only [CNode.toks, List.map_cons, List.map_nil, List.map_eq_cons_iff, List.map_eq_nil_iff] at h
    obtain ⟨lp', r, rfl, h1, rp', r', rfl, h2, rfl⟩ := h
    rw [core_eq_iff] at h1 h2
    exact ⟨.empty lp' rp', rfl, by simp [CNode.wf, h1.1, h2.1], rfl⟩
  | .mk lp var sl es rp, ts, h => by
    simp only [CNode.toks, List.map_cons, List.map_append, List.map_nil, List.map_eq_cons_iff,
      List.map_eq_append_iff, List.map_eq_nil_iff] at h
    obtain ⟨lp', r, rfl, h1, var', r', rfl, h2, a, b, rfl, ha, e, f, rfl, he, rp', r'', rfl, h3, rfl⟩ := h
    rw [core_eq_iff] at h1 h2 h3
    obtain ⟨sl', rfl, s1, s2⟩ := slash_relabel sl a ha
    obtain ⟨es', rfl, e1, e2⟩ := cedges_relabel es e he
    refine ⟨.mk lp' var' sl' es' rp', by simp [CNode.toks], by simp [CNode.wf, h1.1, h2.1, h3.1, s1, e1], ?_⟩
    rw [s2 lp' lp var' var rp' rp es' h2.2]
    simp [CNode.tree, e2]
theorem cedges_relabel : (es : CEdges) → (ts : List Tok) → ts.map core = es.toks.map core →
    ∃ es' : CEdges, es'.toks = ts ∧ es'.wf = es.wf ∧ es'.tree = es.tree
  | .nil, ts, h => by
    simp only [CEdges.toks, List.map_nil, List.map_eq_nil_iff] at h
    subst h
    exact ⟨.nil, rfl, rfl, rfl⟩
  | .atom r none es, ts, h => by
    simp only [CEdges.toks, List.map_append, List.map_eq_append_iff] at h
    obtain ⟨a, b, rfl, ha, hb⟩ := h
    obtain ⟨r', rfl, r1, r2, r3⟩ := ttext_relabel r a ha
    obtain ⟨es', rfl, e1, e2⟩ := cedges_relabel es b hb
    exact ⟨.atom r' none es', rfl, by simp [CEdges.wf, r1, r2, e1], by simp [CEdges.tree, r3, e2]⟩
  | .atom r (some x) es, ts, h => by
    simp only [CEdges.toks, List.map_append, List.map_eq_append_iff] at h
    obtain ⟨a, b, rfl, ha, c, d, rfl, hc, hd⟩ := h
    obtain ⟨r', rfl, r1, r2, r3⟩ := ttext_relabel r a ha
    obtain ⟨x', rfl, x1, x2, x3⟩ := ttext_relabel x c hc
    obtain ⟨es', rfl, e1, e2⟩ := cedges_relabel es d hd
    exact ⟨.atom r' (some x') es', rfl, by simp [CEdges.wf, r1, r2, isSymOrStr_congr x1, x2, e1],
      by simp [CEdges.tree, r3, x3, e2]⟩
  | .sub r n es, ts, h => by
    simp only [CEdges.toks, List.map_append, List.map_eq_append_iff] at h
    obtain ⟨a, b, rfl, ha, c, d, rfl, hc, hd⟩ := h
    obtain ⟨r', rfl, r1, r2, r3⟩ := ttext_relabel r a ha
    obtain ⟨n', rfl, n1, n2⟩ := cnode_relabel n c hc
    obtain ⟨es', rfl, e1, e2⟩ := cedges_relabel es d hd
    exact ⟨.sub r' n' es', rfl, by simp [CEdges.wf, r1, r2, n1, e1], by simp [CEdges.tree, r3, n2, e2]⟩
end

/-- a token list with the (type, text) sequence of a well-formed concrete syntax tree is a
    token list of its abstract tree -/
theorem treeToks_of_core {k : CNode} (hk : k.wf = true) {ts : List Tok}
    (h : ts.map core = k.toks.map core) : TreeToks k.tree ts := by
  obtain ⟨k', h1, h2, h3⟩ := cnode_relabel k ts h
  exact ⟨k', by rw [h2, hk], h3, h1⟩

theorem joinStr_cons_ne (sep x : Str) {xs : List Str} (h : xs ≠ []) :
    joinStr sep (x :: xs) = x ++ sep ++ joinStr sep xs := by
  cases xs with
  | nil => exact absurd rfl h
  | cons y r => rfl

/-- `'\n'.join(lines + [last])` where every line is `#…` without line break: one COMMENT
    token per line, then the tokens of `last` -/
theorem lexC_lines {order tl : List TokTy} (ho : order = .COMMENT :: tl) (last : Str) :
    ∀ lines : List Str, (∀ l ∈ lines, ∃ body, l = '#' :: body ∧ NoBreak body) →
      lexC cfg order (joinStr ['\n'] (lines ++ [last])) =
        lines.map (fun l => (TokTy.COMMENT, l)) ++ lexC cfg order last
  | [], _ => by simp [joinStr]
  | l :: ls, h => by
    obtain ⟨body, rfl, hb⟩ := h l (by simp)
    have ih := lexC_lines ho last ls (fun l hl => h l (by simp [hl]))
    rw [List.cons_append, joinStr_cons_ne _ _ (by simp), List.append_assoc]
    have hnb : NoBreak ('#' :: body) := (noBreak_cons (by decide) (by decide)).2 hb
    have hs : splitLines (('#' :: body) ++ (['\n'] ++ joinStr ['\n'] (ls ++ [last]))) =
        (('#' :: body) ++ []) :: splitLines (joinStr ['\n'] (ls ++ [last])) :=
      splitLines_append hnb (by simp [splitLines])
    rw [lexC_eq, hs, List.map_cons, List.flatten_cons, ← lexC_eq, ih, List.append_nil,
      lexC_comment_line ho body hb]
    simp

theorem formatMeta_lines (md : AList Str Str) (hmd : ∀ kv ∈ md, NoBreak kv.1 ∧ NoBreak kv.2) :
    ∀ l ∈ formatMeta md, ∃ body, l = '#' :: body ∧ NoBreak body := by
  intro l hl
  simp only [formatMeta, List.mem_map] at hl
  obtain ⟨⟨k, v⟩, hkv, rfl⟩ := hl
  obtain ⟨h1, h2⟩ := hmd _ hkv
  refine ⟨" ::".toList ++ k ++ (if v.isEmpty then v else ' ' :: v), rfl, ?_⟩
  apply noBreak_append (noBreak_append ⟨by decide, by decide⟩ h1)
  split
  · exact h2
  · exact (noBreak_cons (by decide) (by decide)).2 h2

/-- **the (type, text) sequence of `lex(format(tree, indent, compact))`**: one COMMENT per
    metadata line, then the (type, text) sequence of the concrete syntax tree — whatever
    `indent` and `compact` are, for every tree `n` whose written form is the tree of `k` -/
theorem format_lexC_written (hw : FmtCfgWfP cfg) (k : CNode) (hk : CNode.Good cfg k) (n : Node)
    (hn : C03Text.writtenForm n = k.tree) (md : AList Str Str)
    (hmd : ∀ kv ∈ md, NoBreak kv.1 ∧ NoBreak kv.2) (i : Indent) (c : Bool) :
    lexP cfg (format ⟨n, md⟩ i c) =
      (formatMeta md).map (fun l => (TokTy.COMMENT, l)) ++ k.toks.map core := by
  obtain ⟨tl, ho⟩ := hw.penman_head
  simp only [format]
  rw [lexP, lexC_lines ho _ _ (formatMeta_lines md hmd)]
  have := node_reads (lexReading hw) k hk.1 hk.2 n hn i (if c = true then n.vars else []) 0 []
  simp only [List.append_nil] at this
  rw [show lexC cfg cfg.penmanOrder = lexP cfg from rfl, this]
  have : lexP cfg [] = [] := rfl
  rw [this, List.append_nil]

theorem format_lexC (hw : FmtCfgWfP cfg) (k : CNode) (hk : CNode.Good cfg k) (md : AList Str Str)
    (hmd : ∀ kv ∈ md, NoBreak kv.1 ∧ NoBreak kv.2) (i : Indent) (c : Bool) :
    lexP cfg (format ⟨k.tree, md⟩ i c) =
      (formatMeta md).map (fun l => (TokTy.COMMENT, l)) ++ k.toks.map core :=
  format_lexC_written hw k hk k.tree (written_tree k) md hmd i c

theorem split_comments {toks : List Tok} {lines : List Str} {cores : List (TokTy × Str)}
    (h : toks.map core = lines.map (fun l => (TokTy.COMMENT, l)) ++ cores) :
    ∃ cs ts, toks = cs ++ ts ∧ (∀ x ∈ cs, x.ty = .COMMENT) ∧ cs.map (·.text) = lines ∧ ts.map core = cores := by
  rw [List.map_eq_append_iff] at h
  obtain ⟨cs, ts, e, h1, h2⟩ := h
  refine ⟨cs, ts, e, ?_, ?_, h2⟩
  · intro x hx
    have := congrArg (List.map Prod.fst) h1
    simp only [List.map_map] at this
    have h3 : ∀ y ∈ cs.map (Prod.fst ∘ core), y = TokTy.COMMENT := by
      rw [this]; intro y hy; simp at hy; exact hy.2.symm
    exact h3 _ (List.mem_map.2 ⟨x, hx, rfl⟩)
  · have := congrArg (List.map Prod.snd) h1
    simpa [List.map_map, Function.comp_def, core] using this

end Penman.FL
