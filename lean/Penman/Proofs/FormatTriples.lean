/-
  formatTriples ∘ lex (triple mode): the text of a triple conjunction, in every spacing
  variant of `Spec/TripleVariants.lean`, lexes to a token list that is a `ConjToks` of the
  triples (roles with one leading colon).
-/
import Penman.Proofs.FormatTop
import Penman.Proofs.ParseTriples
import Penman.Spec.TripleVariants

namespace Penman.FL
open Penman.Spec Penman.Lex

variable {cfg : LexCfg}

abbrev lexT (cfg : LexCfg) (s : Str) : List (TokTy × Str) := lexC cfg cfg.tripleOrder s

/-- a text that is one SYMBOL token -/
def SymOk (cfg : LexCfg) (s : Str) : Prop := IsSymbol cfg s ∧ s.head? ≠ some '#' ∧ NoBreak s

theorem lexT_symbol (hw : FmtCfgWfP cfg) {s rest : Str} (hs : SymOk cfg s)
    (hrest : ∀ c, rest.head? = some c → c ∈ cfg.symExcl) :
    lexT cfg (s ++ rest) = (.SYMBOL, s) :: lexT cfg rest :=
  lexC_symbol hw.base hw.base.triple_order hw.t_symbol hs.1 hs.2.2 hs.2.1 hrest

theorem lexT_string (hw : FmtCfgWfP cfg) {s : Str} (rest : Str) (hs : IsString cfg s) (hnb : NoBreak s) :
    lexT cfg (s ++ rest) = (.STRING, s) :: lexT cfg rest :=
  lexC_string hw.base hw.base.triple_order hw.t_string rest hs hnb

theorem lexT_lparen (hw : FmtCfgWfP cfg) (rest : Str) :
    lexT cfg ('(' :: rest) = (.LPAREN, ['(']) :: lexT cfg rest :=
  lexC_delim hw.base hw.base.triple_order (by simp) hw.t_lparen rest

theorem lexT_rparen (hw : FmtCfgWfP cfg) (rest : Str) :
    lexT cfg (')' :: rest) = (.RPAREN, [')']) :: lexT cfg rest :=
  lexC_delim hw.base hw.base.triple_order (by simp) hw.t_rparen rest

theorem lexT_space (hw : FmtCfgWfP cfg) (rest : Str) : lexT cfg (' ' :: rest) = lexT cfg rest :=
  lexC_blank hw.base hw.space_blank (by decide) (by decide) rest

theorem lexT_spaces (hw : FmtCfgWfP cfg) (k : Nat) (rest : Str) :
    lexT cfg (List.replicate k ' ' ++ rest) = lexT cfg rest :=
  lexC_blanks hw.base hw.space_blank (by decide) (by decide) k rest

/-- characters that end a SYMBOL -/
theorem headEx (hw : FmtCfgWfP cfg) {c : Char} (h : c = ' ' ∨ c = '\n' ∨ c = '(' ∨ c = ')' ∨ c = '"')
    (t : Str) : ∀ d, (c :: t).head? = some d → d ∈ cfg.symExcl := by
  intro d hd; simp at hd; subst hd
  rcases h with rfl | rfl | rfl | rfl | rfl
  · exact hw.base.blank_sym _ hw.space_blank
  · exact hw.base.blank_sym _ hw.lf_blank
  · exact (delim_facts hw.base).2.1
  · exact (delim_facts hw.base).2.2.1
  · exact (delim_facts hw.base).1

theorem symOk_cons (hw : FmtCfgWfP cfg) {c : Char} (hc : c = ',' ∨ c = '^') {s : Str}
    (hs : (∀ x ∈ s, x ∉ cfg.symExcl) ∧ NoBreak s) : SymOk cfg (c :: s) := by
  have h1 : c ∉ cfg.symExcl := by rcases hc with rfl | rfl; exact hw.comma_sym; exact hw.caret_sym
  have h2 : c ≠ '#' ∧ c ≠ '\n' ∧ c ≠ '\r' := by rcases hc with rfl | rfl <;> decide
  refine ⟨⟨by simp, ?_⟩, by simp [h2.1], (noBreak_cons h2.2.1 h2.2.2).2 hs.2⟩
  intro x hx; simp only [List.mem_cons] at hx
  rcases hx with rfl | hx
  · exact h1
  · exact hs.1 x hx

theorem symOk_name {s : Str} (h : SymOk cfg s) : (∀ x ∈ s, x ∉ cfg.symExcl) ∧ NoBreak s := ⟨h.1.2, h.2.2⟩

theorem symOk_append {a b : Str} (ha : SymOk cfg a) (hb : (∀ x ∈ b, x ∉ cfg.symExcl) ∧ NoBreak b) :
    SymOk cfg (a ++ b) := by
  refine ⟨⟨by simp [ha.1.1], ?_⟩, ?_, noBreak_append ha.2.2 hb.2⟩
  · intro x hx; simp only [List.mem_append] at hx
    exact hx.elim (ha.1.2 x) (hb.1 x)
  · cases a with
    | nil => exact absurd rfl ha.1.1
    | cons c cs => simpa using ha.2.1

theorem symOk_comma (hw : FmtCfgWfP cfg) : SymOk cfg [','] := symOk_cons hw (.inl rfl) ⟨by simp, noBreak_nil⟩
theorem symOk_caret (hw : FmtCfgWfP cfg) : SymOk cfg ['^'] := symOk_cons hw (.inr rfl) ⟨by simp, noBreak_nil⟩

def tgtTy (isStr : Bool) : TokTy := if isStr then .STRING else .SYMBOL

/-- a STRING target cannot be glued to the comma: `a,"x"` and `a ,"x"` lex like `a, "x"` and `a , "x"` -/
def argCores (cs : CommaStyle) (isStr : Bool) (src s : Str) : List (TokTy × Str) :=
  match cs, isStr with
  | .glued, false => [(.SYMBOL, src ++ ',' :: s)]
  | .right, false => [(.SYMBOL, src), (.SYMBOL, ',' :: s)]
  | .glued, true | .left, _ => [(.SYMBOL, src ++ [',']), (tgtTy isStr, s)]
  | .right, true | .spaced, _ => [(.SYMBOL, src), (.SYMBOL, [',']), (tgtTy isStr, s)]

/-- the target text is a SYMBOL (`isStr = false`) or a STRING literal (`isStr = true`) -/
def TgtOk (cfg : LexCfg) (isStr : Bool) (s : Str) : Prop :=
  if isStr then IsString cfg s ∧ NoBreak s else SymOk cfg s

theorem tgt_lex (hw : FmtCfgWfP cfg) {isStr : Bool} {s : Str} (hs : TgtOk cfg isStr s) (tail : Str) :
    lexT cfg (s ++ ')' :: tail) = (tgtTy isStr, s) :: lexT cfg (')' :: tail) := by
  cases isStr with
  | false => exact lexT_symbol hw hs (headEx hw (c := ')') (by simp) tail)
  | true => exact lexT_string hw _ hs.1 hs.2

theorem args_lex (hw : FmtCfgWfP cfg) (cs : CommaStyle) (isStr : Bool) {src s : Str} (hsrc : SymOk cfg src)
    (hs : TgtOk cfg isStr s) (tail : Str) :
    lexT cfg (src ++ (cs.text ++ (s ++ ')' :: tail))) =
      argCores cs isStr src s ++ lexT cfg (')' :: tail) := by
  have hrp := headEx hw (c := ')') (by simp) tail
  have hsc : SymOk cfg (src ++ [',']) :=
    symOk_append hsrc ⟨by simp [hw.comma_sym], noBreak_singleton (by decide) (by decide)⟩
  -- a STRING literal starts with `"`, which ends a SYMBOL
  have hq : isStr = true → ∀ rest c, (s ++ rest).head? = some c → c ∈ cfg.symExcl := by
    rintro rfl rest c hc
    obtain ⟨body, rfl, -⟩ := hs.1
    simp at hc; subst hc; exact (delim_facts hw.base).1
  match cs, isStr, hs, hq with
  | .glued, false, hs, _ =>
    have e : src ++ ([','] ++ (s ++ ')' :: tail)) = (src ++ ',' :: s) ++ ')' :: tail := by simp
    rw [CommaStyle.text, e,
      lexT_symbol hw (symOk_append hsrc (symOk_name (symOk_cons hw (.inl rfl) (symOk_name hs)))) hrp]
    rfl
  | .right, false, hs, _ =>
    have e : src ++ ([' ', ','] ++ (s ++ ')' :: tail)) = src ++ ' ' :: ((',' :: s) ++ ')' :: tail) := by simp
    rw [CommaStyle.text, e, lexT_symbol hw hsrc (headEx hw (by simp) _), lexT_space hw,
      lexT_symbol hw (symOk_cons hw (.inl rfl) (symOk_name hs)) hrp]
    rfl
  | .glued, true, hs, hq =>
    have e : src ++ ([','] ++ (s ++ ')' :: tail)) = (src ++ [',']) ++ (s ++ ')' :: tail) := by simp
    rw [CommaStyle.text, e, lexT_symbol hw hsc (hq rfl _), tgt_lex hw hs]
    rfl
  | .right, true, hs, hq =>
    have e : src ++ ([' ', ','] ++ (s ++ ')' :: tail)) = src ++ ' ' :: ([','] ++ (s ++ ')' :: tail)) := by simp
    rw [CommaStyle.text, e, lexT_symbol hw hsrc (headEx hw (by simp) _), lexT_space hw,
      lexT_symbol hw (symOk_comma hw) (hq rfl _), tgt_lex hw hs]
    rfl
  | .left, _, hs, _ =>
    have e : src ++ ([',', ' '] ++ (s ++ ')' :: tail)) = (src ++ [',']) ++ ' ' :: (s ++ ')' :: tail) := by simp
    rw [CommaStyle.text, e, lexT_symbol hw hsc (headEx hw (by simp) _), lexT_space hw, tgt_lex hw hs]
    rfl
  | .spaced, _, hs, _ =>
    have e : src ++ ([' ', ',', ' '] ++ (s ++ ')' :: tail)) =
        src ++ ' ' :: ([','] ++ ' ' :: (s ++ ')' :: tail)) := by simp
    rw [CommaStyle.text, e, lexT_symbol hw hsrc (headEx hw (by simp) _), lexT_space hw,
      lexT_symbol hw (symOk_comma hw) (headEx hw (by simp) _), lexT_space hw, tgt_lex hw hs]
    rfl

theorem core_eq_iff_mk (a : Tok) (ty : TokTy) (s : Str) : core a = (ty, s) ↔ a.ty = ty ∧ a.text = s := by
  simp [core]

theorem argToks_of_cores (cs : CommaStyle) (isStr : Bool) (src s : Str) (hs : s ≠ []) (ts : List Tok)
    (h : ts.map core = argCores cs isStr src s) : ArgToks src (.str s) ts := by
  have ty_ok : ∀ {isStr : Bool} {n : Tok}, n.ty = tgtTy isStr → isSymOrStr n = true := by
    intro isStr n h; cases isStr <;> simp [isSymOrStr, h, tgtTy]
  match cs, isStr, h with
  | .glued, false, h =>
    simp only [argCores, List.map_eq_cons_iff, List.map_eq_nil_iff, core_eq_iff_mk] at h
    obtain ⟨t, r, rfl, ⟨h1, h2⟩, rfl⟩ := h
    exact .glued t s h1 h2 hs
  | .right, false, h =>
    simp only [argCores, List.map_eq_cons_iff, List.map_eq_nil_iff, core_eq_iff_mk] at h
    obtain ⟨a, r, rfl, ⟨h1, h2⟩, n, r', rfl, ⟨h3, h4⟩, rfl⟩ := h
    exact .commaRight a n s h1 h2 h3 h4 hs
  | .glued, true, h | .left, _, h =>
    simp only [argCores, List.map_eq_cons_iff, List.map_eq_nil_iff, core_eq_iff_mk] at h
    obtain ⟨t, r, rfl, ⟨h1, h2⟩, n, r', rfl, ⟨h3, h4⟩, rfl⟩ := h
    exact h4 ▸ .commaLeft t n h1 h2 (ty_ok h3)
  | .right, true, h | .spaced, _, h =>
    simp only [argCores, List.map_eq_cons_iff, List.map_eq_nil_iff, core_eq_iff_mk] at h
    obtain ⟨a, r, rfl, ⟨h1, h2⟩, cm, r', rfl, ⟨h3, h4⟩, n, r'', rfl, ⟨h5, h6⟩, rfl⟩ := h
    exact h6 ▸ .spaced a cm n h1 h2 h3 h4 (ty_ok h5)

/-- the text of the target (`[]` when the target is not a string) -/
def tgtStr (t : Triple) : Str := match t.tgt with | .str s => s | _ => []

/-- unpacked `WfTripleText`; the target is a STRING token iff it is a STRING literal -/
structure TripleOk (cfg : LexCfg) (t : Triple) : Prop where
  src : SymOk cfg t.src
  nocomma : ',' ∉ t.src
  role : SymOk cfg (lstripChar ':' t.role)
  tgt : t.tgt = .str (tgtStr t)
  tgtOk : TgtOk cfg (stringB cfg (tgtStr t)) (tgtStr t)

theorem wfTriple_unpack (hw : FmtCfgWfP cfg) {t : Triple} (h : WfTripleText cfg t) : TripleOk cfg t := by
  simp only [WfTripleText, wfTripleB, Bool.and_eq_true, Bool.not_eq_true', List.contains_eq_mem,
    decide_eq_false_iff_not] at h
  obtain ⟨⟨⟨h1, h2⟩, h3⟩, h4⟩ := h
  cases ht : t.tgt with
  | none => simp [ht] at h4
  | num x => simp [ht] at h4
  | str s =>
    have e : tgtStr t = s := by rw [tgtStr, ht]
    refine ⟨(symbolB_iff _).1 h1, h2, (symbolB_iff _).1 h3, by rw [e, ht], ?_⟩
    simp only [ht, Bool.or_eq_true] at h4
    rw [e, TgtOk]
    cases hstr : stringB cfg s with
    | true => exact (stringB_iff hw.base s).1 hstr
    | false => exact (symbolB_iff _).1 (h4.resolve_right (by simp [hstr]))

theorem tgtOk_ne_nil {isStr : Bool} {s : Str} (h : TgtOk cfg isStr s) : s ≠ [] := by
  cases isStr with
  | false => simp only [TgtOk, Bool.false_eq_true, if_false] at h; exact h.1.1
  | true => simp only [TgtOk, if_true] at h; obtain ⟨b, rfl, -⟩ := h.1; simp

def caretPre (strip : Bool) : Str := if strip then ['^'] else []

/-- the (type, text) sequence of one triple; `strip` : the role token carries a caret -/
def tripleCores (cfg : LexCfg) (strip : Bool) (cs : CommaStyle) (t : Triple) : List (TokTy × Str) :=
  (.SYMBOL, caretPre strip ++ lstripChar ':' t.role) :: (.LPAREN, ['(']) ::
    (argCores cs (stringB cfg (tgtStr t)) t.src (tgtStr t) ++ [(.RPAREN, [')'])])

theorem triple_lex (hw : FmtCfgWfP cfg) (strip : Bool) (cs : CommaStyle) {t : Triple}
    (ht : TripleOk cfg t) (tail : Str) :
    lexT cfg (caretPre strip ++ (tripleText cs t ++ tail)) = tripleCores cfg strip cs t ++ lexT cfg tail := by
  have hr : SymOk cfg (caretPre strip ++ lstripChar ':' t.role) := by
    cases strip with
    | false => simpa [caretPre] using ht.role
    | true => simpa [caretPre] using symOk_cons hw (.inr rfl) (symOk_name ht.role)
  have e : caretPre strip ++ (tripleText cs t ++ tail) =
      (caretPre strip ++ lstripChar ':' t.role) ++ '(' :: (t.src ++ (cs.text ++ (tgtStr t ++ ')' :: tail))) := by
    rw [tripleText, ht.tgt]
    simp [atomText]
  rw [e, lexT_symbol hw hr (headEx hw (by simp) _), lexT_lparen hw, args_lex hw cs _ ht.src ht.tgtOk,
    lexT_rparen hw]
  simp [tripleCores]

theorem colonRole_of_symOk (hw : FmtCfgWfP cfg) {r : Str} (h : SymOk cfg r) : colonRole r = ':' :: r := by
  have : ':' ∈ cfg.symExcl := (delim_facts hw.base).2.2.2.2.1
  cases r with
  | nil => rfl
  | cons c cs =>
    have hc : c ≠ ':' := by rintro rfl; exact h.1.2 _ (by simp) this
    have : (':' == c) = false := beq_eq_false_iff_ne.2 (fun h => hc h.symm)
    simp [colonRole, startsWith, List.isPrefixOf, this]

theorem oneTriple_of_cores (hw : FmtCfgWfP cfg) (strip : Bool) (cs : CommaStyle) {t : Triple}
    (ht : TripleOk cfg t) (ts : List Tok) (h : ts.map core = tripleCores cfg strip cs t) :
    OneTripleToks strip (normTriple t) ts := by
  simp only [tripleCores, List.map_eq_cons_iff, List.map_eq_append_iff, List.map_eq_nil_iff,
    core_eq_iff_mk] at h
  obtain ⟨rt, r1, rfl, ⟨h1, h2⟩, lp, r2, rfl, ⟨h3, -⟩, args, r3, rfl, ha, rp, r4, rfl, ⟨h5, -⟩, rfl⟩ := h
  refine ⟨lstripChar ':' t.role, rt, lp, rp, args, ⟨h1, ?_⟩, h3, h5, ?_, ht.nocomma, ?_, rfl⟩
  · cases strip with
    | false => simpa [caretPre] using h2
    | true => simpa [caretPre] using ⟨h2, ht.role.1.1⟩
  · have := argToks_of_cores cs _ t.src _ (tgtOk_ne_nil ht.tgtOk) args ha
    simpa [normTriple, ht.tgt] using this
  · simp [normTriple, colonRole_of_symOk hw ht.role]

/-- the caret is a SYMBOL of its own when a blank or a line feed follows it; otherwise it is the
    first character of the next role token -/
theorem conjText_lex (hw : FmtCfgWfP cfg) (j : ConjStyle) (F : Str) :
    lexT cfg (j.text ++ F) =
      if j.glued then lexT cfg (caretPre true ++ F) else (.SYMBOL, ['^']) :: lexT cfg (caretPre false ++ F) := by
  obtain ⟨pre, nl, post⟩ := j
  simp only [ConjStyle.text, ConjStyle.glued, List.append_assoc, caretPre, if_true, Bool.false_eq_true,
    if_false, List.nil_append, List.cons_append]
  rw [lexT_spaces hw]
  cases nl with
  | true =>
    simp only [if_true, Bool.not_true, Bool.false_and, Bool.false_eq_true, if_false, List.cons_append,
      List.nil_append]
    have := lexT_symbol hw (symOk_caret hw) (headEx hw (c := '\n') (by simp) (List.replicate post ' ' ++ F))
    simp only [List.cons_append, List.nil_append] at this
    rw [this, lexT, lexC_newline]
    exact congrArg _ (lexT_spaces hw post F)
  | false =>
    simp only [Bool.false_eq_true, if_false, List.nil_append, Bool.not_false, Bool.true_and, beq_iff_eq]
    cases post with
    | zero => simp
    | succ p =>
      simp only [Nat.add_one_ne_zero, if_false, List.replicate_succ, List.cons_append]
      have := lexT_symbol hw (symOk_caret hw) (headEx hw (c := ' ') (by simp) (List.replicate p ' ' ++ F))
      simp only [List.cons_append, List.nil_append] at this
      rw [this, lexT_space hw]
      exact congrArg _ (lexT_spaces hw p F)

theorem formatTriplesV_cons (x y : Triple × CommaStyle × ConjStyle) (rest : List (Triple × CommaStyle × ConjStyle)) :
    formatTriplesV (x :: y :: rest) = tripleText x.2.1 x.1 ++ (x.2.2.text ++ formatTriplesV (y :: rest)) := by
  obtain ⟨t, cs, j⟩ := x
  rw [formatTriplesV]; simp

/-- tokens with the (type, text) sequence of a conjunction in any spacing variant form a
    `ConjToks`; `strip` : a caret is glued in front of the first role -/
theorem conjToks_of_lex (hw : FmtCfgWfP cfg) : ∀ (l : List (Triple × CommaStyle × ConjStyle)) (strip : Bool)
    (ts : List Tok), l ≠ [] → (∀ x ∈ l, WfTripleText cfg x.1) →
    ts.map core = lexT cfg (caretPre strip ++ formatTriplesV l) →
    ConjToks strip (l.map fun x => normTriple x.1) ts
  | [], _, _, hl, _, _ => absurd rfl hl
  | [(t, cs, j)], strip, ts, _, h, hc => by
    have ht := wfTriple_unpack hw (h (t, cs, j) (by simp))
    have := triple_lex hw strip cs ht []
    rw [List.append_nil, show lexT cfg [] = [] from rfl, List.append_nil] at this
    rw [formatTriplesV, this] at hc
    exact .last strip _ ts (oneTriple_of_cores hw strip cs ht ts hc)
  | (t, cs, j) :: x :: rest, strip, ts, _, h, hc => by
    have ht := wfTriple_unpack hw (h (t, cs, j) (by simp))
    have hrest : ∀ y ∈ x :: rest, WfTripleText cfg y.1 := fun y hy => h y (by simp [hy])
    rw [formatTriplesV_cons, triple_lex hw strip cs ht, conjText_lex hw, List.map_eq_append_iff] at hc
    obtain ⟨a, b, rfl, ha, hb⟩ := hc
    have h1 := oneTriple_of_cores hw strip cs ht a ha
    by_cases hg : j.glued = true
    · rw [if_pos hg] at hb
      exact .glue strip _ a _ b h1 (conjToks_of_lex hw (x :: rest) true b (by simp) hrest hb)
    · rw [if_neg hg, List.map_eq_cons_iff] at hb
      obtain ⟨caret, more, rfl, hc', hm⟩ := hb
      rw [core_eq_iff_mk] at hc'
      exact .sep strip _ a caret _ more h1 hc'.1 hc'.2
        (conjToks_of_lex hw (x :: rest) false more (by simp) hrest hm)

/-- **the tokens of a triple conjunction in any spacing variant** -/
theorem formatTriplesV_conjToks (hw : FmtCfgWfP cfg) (l : List (Triple × CommaStyle × ConjStyle)) (hl : l ≠ [])
    (h : ∀ x ∈ l, WfTripleText cfg x.1) :
    ConjToks false (l.map fun x => normTriple x.1) (lexStr cfg cfg.tripleOrder (formatTriplesV l)) :=
  conjToks_of_lex hw l false _ hl h rfl

/-- a conjunction written in one style throughout is a `join` -/
theorem formatTriplesV_join (st : CommaStyle × ConjStyle) : ∀ ts : List Triple,
    formatTriplesV (ts.map fun t => (t, st)) = joinStr st.2.text (ts.map (tripleText st.1))
  | [] => rfl
  | [t] => rfl
  | t :: u :: r => by
    have ih := formatTriplesV_join st (u :: r)
    simp only [List.map_cons] at ih ⊢
    rw [formatTriplesV_cons, ih, joinStr, List.append_assoc]

/-- `format_triples` is the variant "`, `" with `" ^\n"` / `" ^ "` -/
theorem formatTriples_eq (ts : List Triple) (indent : Bool) :
    formatTriples ts indent = formatTriplesV (ts.map fun t => (t, stdStyle indent)) := by
  have hd : (if indent then " ^\n".toList else " ^ ".toList) = (stdStyle indent).2.text := by
    cases indent <;> rfl
  have hf : ∀ t : Triple, lstripChar ':' t.role ++ ['('] ++ t.src ++ ", ".toList ++
      (match t.tgt with | .none => "None".toList | a => atomText a) ++ [')'] = tripleText (stdStyle indent).1 t := by
    intro t
    simp only [tripleText, stdStyle, CommaStyle.text, List.append_assoc, List.cons_append, List.nil_append]
    rfl
  rw [formatTriplesV_join, formatTriples, hd]
  exact congrArg _ (List.map_congr_left fun t _ => hf t)

end Penman.FL
