/-
  The formatted text is woven from its token texts: between the token texts there are only
  spaces and line feeds (`Woven`, `Spec/TextWf.lean`): a second `Reading` of `formatNode`'s text.
-/
import Penman.Proofs.FormatTop

namespace Penman.FL
open Penman.Spec Penman.Lex

variable {cfg : LexCfg}

theorem gapStr_nil : GapStr [] := by simp [GapStr]
theorem gapStr_append {a b : Str} (ha : GapStr a) (hb : GapStr b) : GapStr (a ++ b) := by
  intro c hc; simp only [List.mem_append] at hc; exact hc.elim (ha c) (hb c)
theorem gapStr_space : GapStr [' '] := by simp [GapStr]
theorem gapStr_lf : GapStr ['\n'] := by simp [GapStr]
theorem gapStr_sep {s : Str} (h : Sep s) : GapStr s := by
  rcases h with rfl | ⟨k, rfl⟩
  · exact gapStr_space
  · intro c hc
    simp only [List.mem_cons, List.mem_replicate] at hc
    rcases hc with rfl | ⟨-, rfl⟩
    · exact .inr rfl
    · exact .inl rfl

theorem _root_.Penman.Spec.Woven.gap_left {g : Str} (hg : GapStr g) {ts : List Str} {s : Str} (h : Woven ts s) :
    Woven ts (g ++ s) := by
  cases h with
  | nil g' hg' => exact .nil _ (gapStr_append hg hg')
  | cons g' t ts' s' hg' h' =>
    rw [← List.append_assoc]
    exact .cons _ t ts' s' (gapStr_append hg hg') h'

theorem _root_.Penman.Spec.Woven.append {a : List Str} {s : Str} (h1 : Woven a s) :
    ∀ {b : List Str} {s' : Str}, Woven b s' → Woven (a ++ b) (s ++ s') := by
  induction h1 with
  | nil g hg => intro b s' h2; exact h2.gap_left hg
  | cons g t ts s0 hg _ ih =>
    intro b s' h2
    have := Woven.cons g t _ _ hg (ih h2)
    simpa [List.append_assoc] using this

theorem woven_one (t : Str) : Woven [t] t := by
  have := Woven.cons [] t [] [] gapStr_nil (.nil [] gapStr_nil)
  simpa using this

theorem joined_cons_woven {x : Str} {L : List Str} {s : Str} {cx cL : List Str}
    (hj : Joined Sep (x :: L) s) (hx : Woven cx x) (hL : ∀ s', Joined Sep L s' → Woven cL s') :
    Woven (cx ++ cL) s := by
  cases hj with
  | one _ => simpa using hx.append (hL [] .nil)
  | cons _ y r sep s' hsep h2 =>
    rw [List.append_assoc]
    exact hx.append ((hL s' h2).gap_left (gapStr_sep hsep))

theorem ttext_woven (x : TText) : Woven (x.toks.map (·.text)) x.text := by
  obtain ⟨tok, aln⟩ := x
  cases aln with
  | none => exact woven_one _
  | some a => exact (woven_one tok.text).append (woven_one a.text)

theorem text_lparen {t : Tok} (h1 : t.ty = .LPAREN) (h : TokGood cfg t) : t.text = ['('] := by
  have := h.1; rw [h1] at this; exact this
theorem text_rparen {t : Tok} (h1 : t.ty = .RPAREN) (h : TokGood cfg t) : t.text = [')'] := by
  have := h.1; rw [h1] at this; exact this
theorem text_slash {t : Tok} (h1 : t.ty = .SLASH) (h : TokGood cfg t) : t.text = ['/'] := by
  have := h.1; rw [h1] at this; exact this

/-- reading the text as woven from the token texts: the same for edge texts, glued edge texts
    and nodes -/
theorem wovenReading : Reading cfg (fun ts x => Woven (ts.map (·.text)) x)
    (fun ts x => Woven (ts.map (·.text)) x) (fun ts x => Woven (ts.map (·.text)) x) where
  role x _ _ _ := ttext_woven x
  atom x _ _ _ := ttext_woven x
  slash s h g := by
    rw [List.map_cons, text_slash h g]
    exact woven_one _
  space ha hb := by
    rw [List.map_append]
    exact ha.append (hb.gap_left gapStr_space)
  node h := h
  nil := .nil [] gapStr_nil
  cons hj hx hL := by
    rw [List.map_append]
    exact joined_cons_woven hj hx hL
  empty lp rp h1 h2 g1 g2 := by
    simp only [List.map_cons, List.map_nil, text_lparen h1 g1, text_rparen h2 g2]
    exact (woven_one ['(']).append (woven_one [')'])
  leaf lp var rp h1 _ h2 g1 _ g2 := by
    simp only [List.map_cons, List.map_nil, text_lparen h1 g1, text_rparen h2 g2]
    exact (woven_one ['(']).append ((woven_one var.text).append (woven_one [')']))
  wrap lp var rp _ _ h1 _ h2 g1 _ g2 hE := by
    simp only [List.map_cons, List.map_append, List.map_nil, text_lparen h1 g1, text_rparen h2 g2]
    exact (woven_one ['(']).append ((woven_one var.text).append
      ((hE.gap_left gapStr_space).append (woven_one [')'])))

theorem node_woven : (k : CNode) → k.wf = true → (∀ t ∈ k.toks, TokGood cfg t) →
    ∀ (indent : Indent) (vars : List Str) (column : Int),
      Woven (k.toks.map (·.text)) (formatNode indent vars k.tree column) :=
  fun k hwf hg => node_reads wovenReading k hwf hg k.tree (written_tree k)

theorem edges_woven : (es : CEdges) → es.wf = true → (∀ t ∈ es.toks, TokGood cfg t) →
    ∀ (indent : Indent) (vars : List Str) (column : Int) (j : Str),
      Joined Sep ((formatEdges indent vars es.tree column).map (·.2)) j →
      Woven (es.toks.map (·.text)) j :=
  fun es hwf hg => edges_reads wovenReading es hwf hg es.tree (written_edges es)

theorem lines_woven (last : Str) {cl : List Str} (hl : Woven cl last) :
    ∀ lines : List Str, Woven (lines ++ cl) (joinStr ['\n'] (lines ++ [last]))
  | [] => by simpa [joinStr] using hl
  | l :: ls => by
    simp only [List.cons_append]
    rw [joinStr_cons_ne _ _ (by simp), List.append_assoc]
    exact (woven_one l).append ((lines_woven last hl ls).gap_left gapStr_lf)

/-- the formatted text is woven from the metadata lines and the token texts of the tree -/
theorem format_woven (k : CNode) (hk : CNode.Good cfg k) (md : AList Str Str) (i : Indent) (c : Bool) :
    Woven (formatMeta md ++ k.toks.map (·.text)) (format ⟨k.tree, md⟩ i c) := by
  simp only [format]
  exact lines_woven _ (node_woven k hk.1 hk.2 i _ 0) _

end Penman.FL
