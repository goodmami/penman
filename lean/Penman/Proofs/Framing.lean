/-
  Penman.Proofs.Framing — property C09 "the same text means the same graphs in every
  container and stream framing": where the lexer side (FramingSplit, FramingLex, FramingLines)
  meets the parser side (FramingMeta, FramingParse).  Token streams are compared by `LSim`;
  here are the streams of texts joined by newlines and of lines kept with their terminators.
-/
import Penman.Proofs.FramingLines
import Penman.Proofs.FramingParse
namespace Penman.Framing

/-- white space glued to a COMMENT token is invisible to a successful parse, provided the
    comment's last metadata key has its value separator -/
theorem tokSim_tailTok (isSpace : Char → Bool) (rs : Str)
    (hrs : ∀ c ∈ rs, isSpace c = true ∧ c ≠ ':') (t : Tok)
    (h : t.ty = .COMMENT → MetaStable t.text) : TokSim isSpace t (tailTok rs t) := by
  unfold tailTok
  by_cases hc : t.ty = .COMMENT
  · simp only [hc, ↓reduceIte]
    refine ⟨hc, fun hn => absurd hc hn, fun _ md => ?_⟩
    exact (commentMeta_tail isSpace t.text rs md hrs (h hc)).symm
  · simp only [hc, ↓reduceIte]
    exact TokSim.refl isSpace t

/-- the CR that a COMMENT swallows at the end of a CRLF- or CR-terminated line -/
theorem cr_swallowed {isSpace : Char → Bool} (hsp : isSpace '\r' = true) :
    ∀ c ∈ ['\r'], isSpace c = true ∧ c ≠ ':' :=
  List.forall_mem_cons.2 ⟨⟨hsp, by decide⟩, nofun⟩

theorem lsim_map_tailTok (isSpace : Char → Bool) (rs : Str)
    (hrs : ∀ c ∈ rs, isSpace c = true ∧ c ≠ ':') (ts : List Tok)
    (h : ∀ t ∈ ts, t.ty = .COMMENT → MetaStable t.text) :
    LSim isSpace [] ts (ts.map (tailTok rs)) := by
  induction ts with
  | nil => exact .nil
  | cons t ts ih =>
    exact .cons (tokSim_tailTok isSpace rs hrs t (h t (List.mem_cons_self ..)))
      (ih (fun x hx => h x (List.mem_cons_of_mem _ hx)))

theorem lsim_lexFrom (isSpace : Char → Bool) (cfg : LexCfg) (order : List TokTy) (n n' : Nat)
    (s : Str) : ∀ off off' : Nat,
    LSim isSpace [] (lexFrom cfg order n off s) (lexFrom cfg order n' off' s) := by
  induction s using lex_induct cfg order with
  | nil => intro _ _; exact .nil
  | skip c cs hm ih =>
    intro off off'
    rw [lexFrom_skip hm, lexFrom_skip hm]
    exact ih _ _
  | tok ty m after hm ih =>
    intro off off'
    rw [lexFrom_tok hm, lexFrom_tok hm]
    exact .cons ⟨rfl, fun _ => rfl, fun _ _ => rfl⟩ (ih _ _)

theorem lsim_lexLine (isSpace : Char → Bool) (cfg : LexCfg) (order : List TokTy) (n n' : Nat) (l : Str) :
    LSim isSpace [] (lexLine cfg order n l) (lexLine cfg order n' l) :=
  lsim_lexFrom isSpace cfg order n n' l 0 0

theorem LSim.forall_ty {isSpace : Char → Bool} {a b : List Tok} (hs : LSim isSpace [] a b)
    {P : TokTy → Prop} (h : ∀ t ∈ b, P t.ty) : ∀ t ∈ a, P t.ty := by
  induction hs with
  | nil => exact h
  | cons ht _ ih =>
    obtain ⟨h0, h'⟩ := List.forall_mem_cons.1 h
    exact List.forall_mem_cons.2 ⟨ht.1 ▸ h0, ih h'⟩

theorem lexLine_types (cfg : LexCfg) (order : List TokTy) (n n' : Nat) (l : Str) (P : TokTy → Prop)
    (h : ∀ t ∈ lexLine cfg order n' l, P t.ty) : ∀ t ∈ lexLine cfg order n l, P t.ty :=
  (lsim_lexLine (fun _ => false) cfg order n n' l).forall_ty h

theorem lsim_lexLinesFrom (isSpace : Char → Bool) (cfg : LexCfg) (order : List TokTy) (i j : Nat)
    (ls : List Str) : LSim isSpace [] (lexLinesFrom cfg order i ls) (lexLinesFrom cfg order j ls) := by
  induction ls generalizing i j with
  | nil => exact .nil
  | cons l ls ih => exact LSim.append (lsim_lexLine isSpace cfg order i j l) (ih _ _)

/-- texts joined by a separator `sep`, then `trail`: if one text followed by `sep` and anything
    is lexed as the text and then the rest (up to positions), so is the whole join -/
theorem lexJoin_sim_of (isSpace : Char → Bool) (cfg : LexCfg) (order : List TokTy) (sep trail : Str)
    (Q : Str → Prop) (hnil : ∀ i, lexLinesFrom cfg order i (splitLines trail) = [])
    (hone : ∀ x i, Q x →
      LSim isSpace [] (lexLinesFrom cfg order i (splitLines (x ++ trail))) (lexStr cfg order x))
    (hstep : ∀ x J i, Q x → ∃ j,
      LSim isSpace [] (lexLinesFrom cfg order i (splitLines (x ++ (sep ++ J))))
        (lexStr cfg order x ++ lexLinesFrom cfg order j (splitLines J))) :
    ∀ (ss : List Str), (∀ x ∈ ss, Q x) → ∀ i,
    LSim isSpace [] (lexLinesFrom cfg order i (splitLines (joinStr sep ss ++ trail)))
      ((ss.map (lexStr cfg order)).flatten) := by
  intro ss
  induction ss with
  | nil =>
    intro _ i
    rw [joinStr, List.nil_append, hnil]
    exact .nil
  | cons x r ih =>
    intro h i
    obtain ⟨hx, hr⟩ := List.forall_mem_cons.1 h
    cases r with
    | nil =>
      rw [joinStr, List.map_cons, List.map_nil, List.flatten_cons, List.flatten_nil, List.append_nil]
      exact hone x i hx
    | cons y r =>
      obtain ⟨j, hj⟩ := hstep x (joinStr sep (y :: r) ++ trail) i hx
      rw [joinStr, List.append_assoc, List.append_assoc, List.map_cons, List.flatten_cons]
      exact hj.trans_nil (LSim.append (LSim.refl_nil isSpace _) (ih hr j))

/-- the token stream of texts joined by `k+1` newlines (and an optional final newline) is,
    up to line numbers, the concatenation of the token streams of the texts -/
theorem lexJoin_sim (isSpace : Char → Bool) (cfg : LexCfg) (order : List TokTy) (k : Nat)
    (trail : Str) (ht : trail = [] ∨ trail = ['\n']) : ∀ (ss : List Str),
    (∀ x ∈ ss, x.getLast? ≠ some '\r') → ∀ i,
    LSim isSpace [] (lexLinesFrom cfg order i
        (splitLines (joinStr ('\n' :: List.replicate k '\n') ss ++ trail)))
      ((ss.map (lexStr cfg order)).flatten) := by
  apply lexJoin_sim_of isSpace cfg order _ trail (fun x => x.getLast? ≠ some '\r')
    (fun i => lexLinesFrom_trail cfg order i trail ht)
  · intro x i hx
    rcases ht with rfl | rfl
    · rw [List.append_nil]
      exact lsim_lexLinesFrom isSpace cfg order i 1 _
    · rw [splitLines_append_lf_nil x hx, lexLinesFrom_append, lexLinesFrom_nil_line,
        List.append_nil]
      exact lsim_lexLinesFrom isSpace cfg order i 1 _
  · intro x J i hx
    rw [List.cons_append, splitLines_append_lf x _ hx, splitLines_replicate_lf, lexLinesFrom_append,
      lexLinesFrom_append, lexLinesFrom_replicate_nil, List.nil_append]
    exact ⟨_, LSim.append (lsim_lexLinesFrom isSpace cfg order i 1 _) (LSim.refl_nil isSpace _)⟩

/-- a token stream that is, up to what a parse cannot see, the concatenation of the tokens of texts
    that each parse completely: `iterparse` returns exactly their trees, in order, without error -/
theorem iterparse_of_sim (isSpace : Char → Bool) (cfg : LexCfg) (order : List TokTy)
    (gs : List (Str × Tree)) (toks : List Tok)
    (hsim : LSim isSpace [] toks (((gs.map (·.1)).map (lexStr cfg order)).flatten))
    (hp : ∀ p ∈ gs, ∃ c0, parseTree c0 isSpace (lexStr cfg order p.1) = .ok (p.2, [])) :
    iterparseToks isSpace toks = (gs.map (·.2), none) := by
  have hcat := iterparseToks_concat isSpace (gs.map fun p => (lexStr cfg order p.1, p.2))
    (by intro q hq; obtain ⟨p, hp', rfl⟩ := List.mem_map.1 hq; exact hp p hp')
  simp only [List.map_map, Function.comp_def] at hsim hcat
  obtain ⟨h1, h2⟩ := iterparseToks_sim isSpace _ _ hsim
  rw [hcat] at h1 h2
  generalize iterparseToks isSpace toks = a at h1 h2
  obtain ⟨a1, a2⟩ := a
  cases a2 with
  | none => exact congrArg (·, none) h1
  | some e => cases h2

theorem iterparse_join (isSpace : Char → Bool) (cfg : LexCfg) (order : List TokTy) (k : Nat)
    (trail : Str) (ht : trail = [] ∨ trail = ['\n']) (gs : List (Str × Tree))
    (hcr : ∀ p ∈ gs, p.1.getLast? ≠ some '\r')
    (hp : ∀ p ∈ gs, ∃ c0, parseTree c0 isSpace (lexStr cfg order p.1) = .ok (p.2, [])) :
    iterparseToks isSpace
        (lexStr cfg order (joinStr ('\n' :: List.replicate k '\n') (gs.map (·.1)) ++ trail)) =
      (gs.map (·.2), none) :=
  iterparse_of_sim isSpace cfg order gs _ (lexJoin_sim isSpace cfg order k trail ht (gs.map Prod.fst)
    (by intro x hx; obtain ⟨p, hp', rfl⟩ := List.mem_map.1 hx; exact hcr p hp') 1) hp

/-- the decidable well-formedness condition on the lexer tables used for C09: LF and CR
    are token-free separators -/
def LexWf (cfg : LexCfg) : Prop := SepChar cfg '\n' ∧ SepChar cfg '\r'

instance (cfg : LexCfg) : Decidable (LexWf cfg) := by unfold LexWf; infer_instance

/-- every metadata comment among the tokens has a value separator after its last key -/
def CommentsStable (toks : List Tok) : Prop := ∀ t ∈ toks, t.ty = .COMMENT → MetaStable t.text

instance (toks : List Tok) : Decidable (CommentsStable toks) := by
  unfold CommentsStable; infer_instance

/-- a terminator (or none) as separators-before-LF and LF -/
theorem term_split (cfg : LexCfg) (hwf : LexWf cfg) (t : Str) (ht : t = [] ∨ IsTerm t) :
    ∃ rs nl, t = rs ++ nl ∧ SepTail cfg rs nl ∧ (rs = [] ∨ rs = ['\r']) := by
  rcases ht with rfl | rfl | rfl | rfl
  · exact ⟨[], [], rfl, ⟨by simp, Or.inl rfl⟩, Or.inl rfl⟩
  · exact ⟨[], ['\n'], rfl, sepTail_lf hwf.1, Or.inl rfl⟩
  · exact ⟨['\r'], ['\n'], rfl, sepTail_crlf hwf.1 hwf.2, Or.inr rfl⟩
  · exact ⟨['\r'], [], rfl, sepTail_cr hwf.2, Or.inr rfl⟩

theorem lsim_keepends (isSpace : Char → Bool) (cfg : LexCfg) (order : List TokTy) (hwf : LexWf cfg)
    (hsp : isSpace '\r' = true) : ∀ (ps : List (Str × Str)) (k : Nat),
    (∀ p ∈ ps, NoLF p.1 ∧ (p.2 = [] ∨ IsTerm p.2)) →
    CommentsStable (lexLinesFrom cfg order k (ps.map Prod.fst)) →
    LSim isSpace [] (lexLinesFrom cfg order k (ps.map Prod.fst))
      (lexLinesFrom cfg order k (ps.map fun p => p.1 ++ p.2)) := by
  intro ps
  induction ps with
  | nil => intro k _ _; exact .nil
  | cons p ps ih =>
    intro k hps hst
    obtain ⟨l, t⟩ := p
    obtain ⟨hl, ht⟩ := hps (l, t) (List.mem_cons_self ..)
    obtain ⟨rs, nl, rfl, hsep, hrs⟩ := term_split cfg hwf t ht
    simp only [List.map_cons, lexLinesFrom] at hst ⊢
    rw [lexLine_tail cfg order k l rs nl hl hsep]
    have hrs' : ∀ c ∈ rs, isSpace c = true ∧ c ≠ ':' := by
      rcases hrs with rfl | rfl
      · nofun
      · exact cr_swallowed hsp
    refine LSim.append (lsim_map_tailTok isSpace rs hrs' _
      (fun x hx => hst x (List.mem_append_left _ hx))) ?_
    exact ih (k + 1) (fun q hq => hps q (List.mem_cons_of_mem _ hq))
      (fun x hx => hst x (List.mem_append_right _ hx))

theorem lexLinesFrom_keepends_lf (cfg : LexCfg) (order : List TokTy) (hc : SepChar cfg '\n') :
    ∀ (ps : List (Str × Str)) (k : Nat),
    (∀ p ∈ ps, NoLF p.1 ∧ (p.2 = [] ∨ p.2 = ['\n'])) →
    lexLinesFrom cfg order k (ps.map fun p => p.1 ++ p.2) =
      lexLinesFrom cfg order k (ps.map Prod.fst) := by
  intro ps k h
  have := lexLinesFrom_tails cfg order [] Prod.fst Prod.snd ps k (fun p hp =>
    ⟨(h p hp).1, nofun, (h p hp).2.imp id (fun e => ⟨e, hc⟩)⟩)
  rwa [map_tailTok_nil] at this

/-- the lines of `s` with the terminators they have in `s` -/
def keepends (s : Str) : List Str := (splitLinesT s).map fun p => p.1 ++ p.2

theorem keepends_spec (s : Str) : ∀ p ∈ splitLinesT s, NoLF p.1 ∧ (p.2 = [] ∨ IsTerm p.2) :=
  fun p hp => ⟨(splitLinesT_noBreak s p hp).noLF, splitLinesT_snd s p hp⟩

theorem lsim_lexLines_keepends (isSpace : Char → Bool) (cfg : LexCfg) (order : List TokTy)
    (hwf : LexWf cfg) (hsp : isSpace '\r' = true) (s : Str)
    (hst : CommentsStable (lexStr cfg order s)) :
    LSim isSpace [] (lexStr cfg order s) (lexLines cfg order (keepends s)) := by
  have := lsim_keepends isSpace cfg order hwf hsp (splitLinesT s) 1 (keepends_spec s)
    (by rw [splitLinesT_fst]; exact hst)
  rw [splitLinesT_fst] at this
  exact this

theorem lexLines_keepends_lfOnly (cfg : LexCfg) (order : List TokTy) (hc : SepChar cfg '\n')
    (s : Str) (h : '\r' ∉ s) : lexLines cfg order (keepends s) = lexStr cfg order s := by
  unfold lexLines keepends lexStr lexLines
  rw [lexLinesFrom_keepends_lf cfg order hc (splitLinesT s) 1, splitLinesT_fst]
  exact fun p hp => ⟨(splitLinesT_noBreak s p hp).noLF, splitLinesT_snd_lfOnly s h p hp⟩

end Penman.Framing
