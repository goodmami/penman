/-
  Penman.Proofs.FramingInline — property C09: two serialised graphs on the same line
  (separated by blanks or by nothing).  A line that ends in `)` and whose tokens contain
  neither COMMENT nor UNEXPECTED is lexed the same way whatever follows it.
-/
import Penman.Proofs.Framing
namespace Penman.Framing

/-- `)` ends ROLE / SYMBOL / ALIGNMENT matches; `"` cannot start a SYMBOL and is not skipped -/
def ParenStop (cfg : LexCfg) : Prop :=
  ')' ∈ cfg.roleExcl ∧ ')' ∈ cfg.symExcl ∧ inRanges cfg.alnDigit ')' = false ∧
  inRanges cfg.alnPrefix ')' = false ∧ '"' ∈ cfg.symExcl ∧ '"' ∉ cfg.blank

instance (cfg : LexCfg) : Decidable (ParenStop cfg) := by unfold ParenStop; infer_instance

/-- the alternation tries COMMENT, then STRING, first, and has the catch-all UNEXPECTED -/
def OrderOk (order : List TokTy) : Prop :=
  ∃ rest, order = .COMMENT :: .STRING :: rest ∧ .COMMENT ∉ rest ∧ .STRING ∉ rest ∧
    .UNEXPECTED ∈ rest

instance (order : List TokTy) : Decidable (OrderOk order) :=
  decidable_of_iff (order.take 2 = [.COMMENT, .STRING] ∧ .COMMENT ∉ order.drop 2 ∧
      .STRING ∉ order.drop 2 ∧ .UNEXPECTED ∈ order.drop 2)
    ⟨fun ⟨h0, h⟩ => ⟨order.drop 2, by rw [← List.take_append_drop 2 order, h0]; rfl, h⟩,
     fun ⟨_, e, h⟩ => e ▸ ⟨rfl, h⟩⟩

theorem scanTy_paren (cfg : LexCfg) (hp : ParenStop cfg) (ty : TokTy) (h1 : ty ≠ .COMMENT)
    (h2 : ty ≠ .STRING) (s0 u : Str) :
    scanTy cfg ty (s0 ++ ')' :: u) = scanTy cfg ty (s0 ++ [')']) := by
  obtain ⟨p1, p2, p3, p4, _, _⟩ := hp
  cases ty with
  | COMMENT => exact absurd rfl h1
  | STRING => exact absurd rfl h2
  | LPAREN =>
    exact (scanChar_append _ s0 ')' u (by decide)).trans (scanChar_append _ s0 ')' [] (by decide)).symm
  | RPAREN => cases s0 <;> simp [scanTy, scanChar]
  | SLASH =>
    exact (scanChar_append _ s0 ')' u (by decide)).trans (scanChar_append _ s0 ')' [] (by decide)).symm
  | ROLE =>
    exact (scanRole_append _ s0 ')' u p1 (by decide)).trans (scanRole_append _ s0 ')' [] p1 (by decide)).symm
  | SYMBOL => exact (scanSymbol_append _ s0 ')' u p2).trans (scanSymbol_append _ s0 ')' [] p2).symm
  | ALIGNMENT =>
    exact (scanAlignment_append cfg ')' u p3 p4 (by decide) (by decide) (by decide) s0).trans
      (scanAlignment_append cfg ')' [] p3 p4 (by decide) (by decide) (by decide) s0).symm
  | UNEXPECTED => cases s0 <;> simp [scanTy, scanUnexpected]

theorem firstMatch_stable (cfg : LexCfg) (tys : List TokTy) (s u : Str)
    (h : ∀ ty ∈ tys, scanTy cfg ty (s ++ u) = scanTy cfg ty s) :
    firstMatch cfg tys (s ++ u) = firstMatch cfg tys s := by
  induction tys with
  | nil => rfl
  | cons ty tys ih =>
    simp only [firstMatch, h ty (List.mem_cons_self ..)]
    rw [ih (fun t ht => h t (List.mem_cons_of_mem _ ht))]

/-- at a double quote whose STRING does not close, the first match of the remaining
    alternatives is UNEXPECTED -/
theorem firstMatch_quote (cfg : LexCfg) (hp : ParenStop cfg) (rest : List TokTy)
    (h1 : .COMMENT ∉ rest) (h2 : .STRING ∉ rest) (h3 : .UNEXPECTED ∈ rest) (cs : Str) :
    ∃ m, firstMatch cfg rest ('"' :: cs) = some (.UNEXPECTED, m) := by
  obtain ⟨_, _, _, _, q1, q2⟩ := hp
  have hu : scanTy cfg .UNEXPECTED ('"' :: cs) = some ['"'] := by
    simp [scanTy, scanUnexpected, q2]
  cases hf : firstMatch cfg rest ('"' :: cs) with
  | none => exact absurd (hu.symm.trans (Lex.firstMatch_eq_none.1 hf _ h3)) nofun
  | some p =>
    obtain ⟨ty, m⟩ := p
    obtain ⟨pre, post, e, _, hs⟩ := Lex.firstMatch_some hf
    have hmem : ty ∈ rest := e ▸ List.mem_append_right _ (List.mem_cons_self ..)
    cases ty with
    | COMMENT => exact absurd hmem h1
    | STRING => exact absurd hmem h2
    | LPAREN => simp [scanTy, scanChar] at hs
    | RPAREN => simp [scanTy, scanChar] at hs
    | SLASH => simp [scanTy, scanChar] at hs
    | ROLE => simp [scanTy, scanRole] at hs
    | SYMBOL => simp [scanTy, scanSymbol, spanP, q1] at hs
    | ALIGNMENT => simp [scanTy, scanAlignment] at hs
    | UNEXPECTED => exact ⟨m, rfl⟩

theorem getLast?_append_cons (m : Str) (d : Char) (ds : Str) :
    (m ++ d :: ds).getLast? = (d :: ds).getLast? := by
  rw [List.getLast?_append, List.getLast?_cons]
  rfl

theorem exists_concat_of_getLast? {s : Str} {c : Char} (h : s.getLast? = some c) :
    ∃ s0, s = s0 ++ [c] := by
  rcases List.eq_nil_or_concat s with rfl | ⟨init, last, rfl⟩
  · simp at h
  · simp at h; subst h; exact ⟨init, by simp⟩

/-- the match at the start of `s = s0 ++ ")"` does not depend on what follows, unless it is
    a COMMENT or an UNEXPECTED -/
theorem firstMatch_paren (cfg : LexCfg) (hp : ParenStop cfg) (order : List TokTy)
    (ho : OrderOk order) (s u : Str) (hl : s.getLast? = some ')') (hs : NoLF s)
    (hbad : ∀ m, firstMatch cfg order s ≠ some (.COMMENT, m) ∧
      firstMatch cfg order s ≠ some (.UNEXPECTED, m)) :
    firstMatch cfg order (s ++ u) = firstMatch cfg order s := by
  obtain ⟨rest, rfl, h1, h2, h3⟩ := ho
  have hhead : (s ++ u).head? = s.head? := by
    cases s with
    | nil => cases hl
    | cons c cs => rfl
  have hrest : firstMatch cfg rest (s ++ u) = firstMatch cfg rest s := by
    obtain ⟨s0, rfl⟩ := exists_concat_of_getLast? hl
    refine firstMatch_stable cfg rest _ u (fun ty hty => ?_)
    rw [List.append_assoc]
    exact scanTy_paren cfg hp ty (fun h => h1 (h ▸ hty)) (fun h => h2 (h ▸ hty)) s0 u
  -- a `#` would start a COMMENT that runs to the end of the line
  have hhash : s.head? ≠ some '#' := by
    intro hh
    obtain ⟨cs, rfl⟩ := List.head?_eq_some_iff.1 hh
    exact (hbad ('#' :: cs)).1 (by simp [firstMatch, scanTy, scanComment_noLF cs hs.tail])
  simp only [firstMatch, scanTy, scanComment_not_hash s hhash,
    scanComment_not_hash (s ++ u) (hhead ▸ hhash)]
  cases hst : scanString cfg.strExcl s with
  | some m => rw [scanString_append_some hst u]
  | none =>
    by_cases hq : s.head? = some '"'
    · -- an unclosed string: the quote is an UNEXPECTED token
      obtain ⟨cs, rfl⟩ := List.head?_eq_some_iff.1 hq
      obtain ⟨m, hm⟩ := firstMatch_quote cfg hp rest h1 h2 h3 cs
      exact absurd (by simp [firstMatch, scanTy, scanComment_not_hash _ hhash, hst, hm]) (hbad m).2
    · rw [scanString_not_quote (hhead ▸ hq)]
      exact hrest

/-- a line suffix that ends in `)` and whose tokens are neither COMMENT nor UNEXPECTED is
    lexed independently of what follows on the line -/
theorem lexFrom_closed (cfg : LexCfg) (hp : ParenStop cfg) (order : List TokTy) (ho : OrderOk order)
    (n : Nat) (u s : Str) : ∀ off : Nat, s.getLast? = some ')' → NoLF s →
    (∀ t ∈ lexFrom cfg order n off s, t.ty ≠ .COMMENT ∧ t.ty ≠ .UNEXPECTED) →
    lexFrom cfg order n off (s ++ u) =
      lexFrom cfg order n off s ++ lexFrom cfg order n (off + s.length) u := by
  induction s using lex_induct cfg order with
  | nil => intro _ hl; cases hl
  | skip c cs hm ih =>
    intro off hl hs htok
    have hm' := firstMatch_paren cfg hp order ho (c :: cs) u hl hs
      (fun m => ⟨fun h => absurd (hm.symm.trans h) nofun, fun h => absurd (hm.symm.trans h) nofun⟩)
    rw [hm, List.cons_append] at hm'
    rw [lexFrom_skip hm] at htok ⊢
    rw [List.cons_append, lexFrom_skip hm']
    cases cs with
    | nil => rfl
    | cons d ds =>
      rw [ih (off + 1) (by rwa [List.getLast?_cons_cons] at hl) hs.tail htok, Nat.add_assoc,
        Nat.add_comm 1]
      rfl
  | tok ty m after hm ih =>
    intro off hl hs htok
    rw [lexFrom_tok hm] at htok ⊢
    obtain ⟨hc, hu⟩ := htok _ (List.mem_cons_self ..)
    have hm' := firstMatch_paren cfg hp order ho (m ++ after) u hl hs
      (fun m' => ⟨fun h => hc (Prod.mk.inj (Option.some.inj (hm.symm.trans h))).1,
        fun h => hu (Prod.mk.inj (Option.some.inj (hm.symm.trans h))).1⟩)
    rw [hm, List.append_assoc] at hm'
    rw [List.append_assoc, lexFrom_tok hm', List.length_append, ← Nat.add_assoc]
    cases after with
    | nil => rfl
    | cons d ds =>
      rw [ih (off + m.length) (by rwa [getLast?_append_cons] at hl)
        hs.right (fun t ht => htok t (List.mem_cons_of_mem _ ht))]
      rfl

/-- a closed line: ends in `)`, no LF, and no COMMENT or UNEXPECTED among its tokens -/
def ClosedLine (cfg : LexCfg) (order : List TokTy) (l : Str) : Prop :=
  l.getLast? = some ')' ∧ NoLF l ∧
  ∀ t ∈ lexLine cfg order 1 l, t.ty ≠ .COMMENT ∧ t.ty ≠ .UNEXPECTED

instance (cfg : LexCfg) (order : List TokTy) (l : Str) : Decidable (ClosedLine cfg order l) := by
  unfold ClosedLine; infer_instance

/-- a closed line, separators, then any text on the same line: up to positions, the tokens
    of the closed line followed by the tokens of the text -/
theorem lsim_closed_line (isSpace : Char → Bool) (cfg : LexCfg) (hp : ParenStop cfg)
    (order : List TokTy) (ho : OrderOk order) (la sp fb : Str) (hla : ClosedLine cfg order la)
    (hsp : ∀ c ∈ sp, SepChar cfg c) (n n1 n2 : Nat) :
    LSim isSpace [] (lexLine cfg order n (la ++ (sp ++ fb)))
      (lexLine cfg order n1 la ++ lexLine cfg order n2 fb) := by
  obtain ⟨h1, h2, h3⟩ := hla
  have htok := lexLine_types cfg order n 1 la (fun ty => ty ≠ .COMMENT ∧ ty ≠ .UNEXPECTED) h3
  rw [lexLine_eq_lexFrom, lexFrom_closed cfg hp order ho n (sp ++ fb) la 0 h1 h2 htok,
    lexFrom_skip_seps sp fb hsp]
  exact LSim.append (lsim_lexFrom isSpace cfg order n n1 la 0 0) (lsim_lexFrom isSpace cfg order n n2 fb _ 0)

/-- the last line of the text is closed, and the text does not end in CR -/
def ClosedLast (cfg : LexCfg) (order : List TokTy) (x : Str) : Prop :=
  x.getLast? ≠ some '\r' ∧
  match (splitLines x).getLast? with
  | some la => ClosedLine cfg order la
  | none => False

instance (cfg : LexCfg) (order : List TokTy) (x : Str) : Decidable (ClosedLast cfg order x) := by
  unfold ClosedLast
  cases (splitLines x).getLast? <;> infer_instance

theorem ClosedLast.exists {cfg : LexCfg} {order : List TokTy} {x : Str}
    (h : ClosedLast cfg order x) :
    ∃ ia la, splitLines x = ia ++ [la] ∧ ClosedLine cfg order la := by
  obtain ⟨ia, la, hx⟩ := splitLines_concat x
  have := h.2
  rw [hx] at this
  simp only [List.getLast?_append, List.getLast?_singleton, Option.some_or] at this
  exact ⟨ia, la, hx, this⟩

/-- texts with a closed last line, joined by separators that are not line breaks (or by
    nothing): up to positions, the concatenation of their token streams -/
theorem lexJoinInline_sim (isSpace : Char → Bool) (cfg : LexCfg) (hp : ParenStop cfg)
    (order : List TokTy) (ho : OrderOk order) (sp : Str) (hsp : ∀ c ∈ sp, SepChar cfg c)
    (hnb : NoBreak sp) : ∀ (ss : List Str), (∀ x ∈ ss, ClosedLast cfg order x) → ∀ i,
    LSim isSpace [] (lexLinesFrom cfg order i (splitLines (joinStr sp ss)))
      ((ss.map (lexStr cfg order)).flatten) := by
  intro ss h i
  have := lexJoin_sim_of isSpace cfg order sp [] (ClosedLast cfg order)
    (fun i => lexLinesFrom_nil_line cfg order i) ?_ ?_ ss h i
  · rwa [List.append_nil] at this
  · intro x i _
    rw [List.append_nil]
    exact lsim_lexLinesFrom isSpace cfg order i 1 _
  · intro x J i hx
    obtain ⟨ia, la, hxl, hcl⟩ := hx.exists
    obtain ⟨fJ, tJ, hJ⟩ := splitLines_exists J
    rw [splitLines_append x _ (fun h => absurd h hx.1),
      splitLines_noBreak_append sp _ fJ tJ hnb hJ, hxl, glue_concat, lexLinesFrom_append, lexStr,
      lexLines, hxl, lexLinesFrom_concat, hJ]
    refine ⟨i + ia.length, ?_⟩
    rw [List.append_assoc]
    refine LSim.append (lsim_lexLinesFrom isSpace cfg order i 1 ia) ?_
    rw [lexLinesFrom, lexLinesFrom, ← List.append_assoc (lexLine cfg order (1 + ia.length) la)]
    exact LSim.append (lsim_closed_line isSpace cfg hp order ho la sp fJ hcl hsp _ _ _)
      (LSim.refl_nil isSpace _)

/-- texts that each parse completely and end in a closed line, joined on the same line by
    blanks or by nothing: `iterparse` returns exactly their trees, in order, without error -/
theorem iterparse_join_inline (isSpace : Char → Bool) (cfg : LexCfg) (hp : ParenStop cfg)
    (order : List TokTy) (ho : OrderOk order) (sp : Str) (hsp : ∀ c ∈ sp, SepChar cfg c)
    (hnb : NoBreak sp) (gs : List (Str × Tree))
    (hcl : ∀ p ∈ gs, ClosedLast cfg order p.1)
    (hpt : ∀ p ∈ gs, ∃ c0, parseTree c0 isSpace (lexStr cfg order p.1) = .ok (p.2, [])) :
    iterparseToks isSpace (lexStr cfg order (joinStr sp (gs.map (·.1)))) =
      (gs.map (·.2), none) :=
  iterparse_of_sim isSpace cfg order gs _ (lexJoinInline_sim isSpace cfg hp order ho sp hsp hnb
    (gs.map Prod.fst) (by intro x hx; obtain ⟨p, hp', rfl⟩ := List.mem_map.1 hx; exact hcl p hp') 1) hpt

end Penman.Framing
