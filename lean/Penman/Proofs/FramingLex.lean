/-
  Penman.Proofs.FramingLex — the lexer and line terminators (property C09):
  appending token-free separator characters (and a final LF) to a line changes no
  token, except that a COMMENT swallows the separators that precede the LF.
  The tokens of a line are taken through `lexFrom` (the lexer without its fuel) and
  `lex_induct` (one step per skipped character or token).
-/
import Penman.Proofs.FramingSplit
namespace Penman.Framing

theorem spanP_append_stop (p : Char → Bool) (s : Str) (c0 : Char) (t : Str) (h : p c0 = false) :
    spanP p (s ++ c0 :: t) = ((spanP p s).1, (spanP p s).2 ++ c0 :: t) := by
  induction s with
  | nil => simp [spanP, h]
  | cons c cs ih =>
    simp only [List.cons_append, spanP]
    split <;> simp [ih]

theorem spanP_snd_length_le (p : Char → Bool) (s : Str) : (spanP p s).2.length ≤ s.length :=
  Lex.spanP_length p s ▸ Nat.le_add_left _ _

theorem spanP_snd_append_length_le (p : Char → Bool) (s x : Str) :
    ((spanP p s).2 ++ x).length ≤ (s ++ x).length := by
  rw [List.length_append, List.length_append]
  exact Nat.add_le_add_right (spanP_snd_length_le p s) _

/-- characters with a lexical role of their own -/
def specials : List Char := ['#', '"', '(', ')', '/', ':', '~', '.', ',', '\\']

/-- `c` can only separate tokens: it is skipped between tokens, ends ROLE and SYMBOL runs,
    is no part of an ALIGNMENT and has no lexical role of its own.
    (For the generated tables: space, TAB, CR, LF, VT, FF.) -/
def SepChar (cfg : LexCfg) (c : Char) : Prop :=
  c ∈ cfg.blank ∧ c ∈ cfg.roleExcl ∧ c ∈ cfg.symExcl ∧
  inRanges cfg.alnDigit c = false ∧ inRanges cfg.alnPrefix c = false ∧ c ∉ specials

instance (cfg : LexCfg) (c : Char) : Decidable (SepChar cfg c) := by unfold SepChar; infer_instance

def NoLF (s : Str) : Prop := ∀ c ∈ s, c ≠ '\n'
instance (s : Str) : Decidable (NoLF s) := by unfold NoLF; infer_instance

theorem NoBreak.noLF {s : Str} (h : NoBreak s) : NoLF s := fun c hc => (h c hc).1

theorem NoLF.tail {c : Char} {s : Str} (h : NoLF (c :: s)) : NoLF s :=
  fun d hd => h d (List.mem_cons_of_mem _ hd)

theorem NoLF.right {m s : Str} (h : NoLF (m ++ s)) : NoLF s :=
  fun d hd => h d (List.mem_append_right _ hd)

theorem head?_append_ne {s t : Str} {c : Char} (hs : s.head? ≠ some c) (ht : t.head? ≠ some c) :
    (s ++ t).head? ≠ some c := by
  cases s with
  | nil => exact ht
  | cons d ds => exact hs

theorem scanString_not_quote {excl : List Char} {s : Str} (h : s.head? ≠ some '"') :
    scanString excl s = none := by
  unfold scanString
  split
  · exact absurd rfl h
  · rfl

theorem scanRole_not_colon {excl : List Char} {s : Str} (h : s.head? ≠ some ':') :
    scanRole excl s = none := by
  unfold scanRole
  split
  · exact absurd rfl h
  · rfl

theorem scanStringBody_append_some (excl : List Char) (t : Str) (f : Nat) (s : Str) :
    ∀ m, scanStringBody excl f s = some m → ∀ f', f ≤ f' →
      scanStringBody excl f' (s ++ t) = some m := by
  fun_induction scanStringBody excl f s with
  | case1 => nofun
  | case2 => nofun
  | case3 f cs =>  -- the closing quote
    intro m h f' hf'
    obtain ⟨g, rfl⟩ := Nat.exists_eq_add_one_of_ne_zero (Nat.ne_zero_of_lt hf')
    simpa only [List.cons_append, scanStringBody, if_true] using h
  | case4 => nofun
  | case5 f d ds hd _ ih =>  -- an escaped character
    intro m h f' hf'
    obtain ⟨g, rfl⟩ := Nat.exists_eq_add_one_of_ne_zero (Nat.ne_zero_of_lt hf')
    obtain ⟨r, hr, rfl⟩ := Option.map_eq_some_iff.1 h
    simp [scanStringBody, hd, ih r hr g (Nat.le_of_succ_le_succ hf')]
  | case6 => nofun
  | case7 => nofun
  | case8 f c cs hq hb he ih =>  -- a plain character
    intro m h f' hf'
    obtain ⟨g, rfl⟩ := Nat.exists_eq_add_one_of_ne_zero (Nat.ne_zero_of_lt hf')
    obtain ⟨r, hr, rfl⟩ := Option.map_eq_some_iff.1 h
    simp [scanStringBody, hq, hb, he, ih r hr g (Nat.le_of_succ_le_succ hf')]

theorem scanStringBody_noquote (excl : List Char) (f : Nat) (s : Str) (h : ∀ c ∈ s, c ≠ '"') :
    scanStringBody excl f s = none := by
  fun_induction scanStringBody excl f s with
  | case1 => rfl
  | case2 => rfl
  | case3 f cs => exact absurd rfl (h '"' (List.mem_cons_self ..))
  | case4 => rfl
  | case5 f d ds _ _ ih => rw [ih (fun c hc => h c (List.mem_cons_of_mem _ (List.mem_cons_of_mem _ hc)))]; rfl
  | case6 => rfl
  | case7 => rfl
  | case8 f c cs _ _ _ ih => rw [ih (fun c hc => h c (List.mem_cons_of_mem _ hc))]; rfl

theorem scanStringBody_append_none (excl : List Char) (t : Str) (ht : ∀ c ∈ t, c ≠ '"') (f : Nat)
    (s : Str) : s.length < f → scanStringBody excl f s = none →
      ∀ f', scanStringBody excl f' (s ++ t) = none := by
  fun_induction scanStringBody excl f s with
  | case1 => intro h; cases h
  | case2 =>  -- end of the input: the appended text brings no closing quote
    intro _ _ f'
    exact scanStringBody_noquote excl f' t ht
  | case3 => nofun
  | case4 f ds => intro _ _ f'; cases f' <;> simp [scanStringBody]
  | case5 f d ds hd _ ih =>
    intro hl h f'
    cases f' with
    | zero => rfl
    | succ g =>
      have := ih (Nat.lt_of_succ_lt (Nat.lt_of_succ_lt_succ hl)) (Option.map_eq_none_iff.1 h) g
      simp [scanStringBody, hd, this]
  | case6 f =>  -- a backslash ends the input: it escapes the first appended character
    intro _ _ f'
    cases f' with
    | zero => rfl
    | succ g =>
      cases t with
      | nil => simp [scanStringBody]
      | cons d ds =>
        simp [scanStringBody, scanStringBody_noquote excl g ds (fun c hc => ht c (List.mem_cons_of_mem _ hc))]
  | case7 f c cs hq hb he => intro _ _ f'; cases f' <;> simp [scanStringBody, hq, hb, he]
  | case8 f c cs hq hb he ih =>
    intro hl h f'
    cases f' with
    | zero => rfl
    | succ g =>
      have := ih (Nat.lt_of_succ_lt_succ hl) (Option.map_eq_none_iff.1 h) g
      simp [scanStringBody, hq, hb, he, this]

theorem scanString_append_some {excl : List Char} {s m : Str} (h : scanString excl s = some m)
    (u : Str) : scanString excl (s ++ u) = some m := by
  by_cases hq : s.head? = some '"'
  · obtain ⟨cs, rfl⟩ := List.head?_eq_some_iff.1 hq
    simp only [scanString, List.cons_append, Option.map_eq_some_iff] at h ⊢
    obtain ⟨b, hb, rfl⟩ := h
    exact ⟨b, scanStringBody_append_some excl u _ cs b hb _ (by simp), rfl⟩
  · rw [scanString_not_quote hq] at h
    cases h

theorem scanString_append (excl : List Char) (s t : Str) (ht : ∀ c ∈ t, c ≠ '"') :
    scanString excl (s ++ t) = scanString excl s := by
  by_cases hq : s.head? = some '"'
  · obtain ⟨cs, rfl⟩ := List.head?_eq_some_iff.1 hq
    simp only [List.cons_append, scanString]
    cases h : scanStringBody excl (cs.length + 1) cs with
    | none => rw [scanStringBody_append_none excl t ht _ cs (Nat.lt_succ_self _) h]
    | some m => rw [scanStringBody_append_some excl t _ cs m h _ (by simp)]
  · rw [scanString_not_quote hq, scanString_not_quote (head?_append_ne hq ?_)]
    cases t with
    | nil => nofun
    | cons d ds => exact fun h => ht d (List.mem_cons_self ..) (Option.some.inj h)

/-- ROLE: an excluded character (other than `:`) ends the run -/
theorem scanRole_append (excl : List Char) (s : Str) (c0 : Char) (t : Str) (h0 : c0 ∈ excl)
    (h1 : c0 ≠ ':') : scanRole excl (s ++ c0 :: t) = scanRole excl s := by
  by_cases hc : s.head? = some ':'
  · obtain ⟨cs, rfl⟩ := List.head?_eq_some_iff.1 hc
    simp only [List.cons_append, scanRole]
    rw [spanP_append_stop _ cs c0 t (by simp [h0])]
  · rw [scanRole_not_colon hc,
      scanRole_not_colon (head?_append_ne hc (t := c0 :: t) (fun h => h1 (Option.some.inj h)))]

theorem scanSymbol_append (excl : List Char) (s : Str) (c0 : Char) (t : Str) (h0 : c0 ∈ excl) :
    scanSymbol excl (s ++ c0 :: t) = scanSymbol excl s := by
  unfold scanSymbol
  simp only
  rw [spanP_append_stop _ s c0 t (by simp [h0])]

theorem scanChar_append (c : Char) (s : Str) (c0 : Char) (t : Str) (h0 : c0 ≠ c) :
    scanChar c (s ++ c0 :: t) = scanChar c s := by
  cases s with
  | nil => simp [scanChar, h0]
  | cons d ds => simp [scanChar]

theorem scanUnexpected_append (blank : List Char) (s : Str) (c0 : Char) (t : Str) (h0 : c0 ∈ blank) :
    scanUnexpected blank (s ++ c0 :: t) = scanUnexpected blank s := by
  cases s with
  | nil => simp [scanUnexpected, h0]
  | cons d ds => simp [scanUnexpected]

theorem scanAlnTail_succ_comma (dig : Char → Bool) (f : Nat) (rest : Str) :
    scanAlnTail dig (f + 1) (',' :: rest) =
      if (spanP dig rest).1.isEmpty then []
      else ',' :: (spanP dig rest).1 ++ scanAlnTail dig f (spanP dig rest).2 := by
  rw [scanAlnTail]

theorem scanAlnTail_not_comma (dig : Char → Bool) (f : Nat) (s : Str) (h : s.head? ≠ some ',') :
    scanAlnTail dig f s = [] := by
  cases f with
  | zero => rfl
  | succ f =>
    unfold scanAlnTail
    split
    · exact absurd rfl h
    · rfl

theorem scanAlnTail_fuel (dig : Char → Bool) : ∀ (f : Nat) (s : Str), s.length ≤ f →
    ∀ f', s.length ≤ f' → scanAlnTail dig f s = scanAlnTail dig f' s := by
  intro f s
  fun_induction scanAlnTail dig f s with
  | case1 s =>
    intro hs f' _
    cases s with
    | nil => exact (scanAlnTail_not_comma dig f' [] nofun).symm
    | cons c cs => cases hs
  | case2 f rest _ he =>
    intro _ f' hf'
    obtain ⟨g, rfl⟩ := Nat.exists_eq_add_one_of_ne_zero (Nat.ne_zero_of_lt hf')
    rw [scanAlnTail_succ_comma, if_pos he]
  | case3 f rest _ he ih =>
    intro hs f' hf'
    obtain ⟨g, rfl⟩ := Nat.exists_eq_add_one_of_ne_zero (Nat.ne_zero_of_lt hf')
    have hl := spanP_snd_length_le dig rest
    rw [scanAlnTail_succ_comma, if_neg he, ih (Nat.le_trans hl (Nat.le_of_succ_le_succ hs)) g
      (Nat.le_trans hl (Nat.le_of_succ_le_succ hf'))]
  | case4 f s hne =>
    intro _ f' _
    exact (scanAlnTail_not_comma dig f' s (head?_ne_of hne)).symm
/-- `c0` ends a digit run and cannot open the next `,digits` group -/
theorem scanAlnTail_append (dig : Char → Bool) (c0 : Char) (t : Str) (h0 : dig c0 = false)
    (h1 : c0 ≠ ',') (f : Nat) (s : Str) : s.length ≤ f → ∀ f', (s ++ c0 :: t).length ≤ f' →
    scanAlnTail dig f' (s ++ c0 :: t) = scanAlnTail dig f s := by
  have hc0 : (c0 :: t).head? ≠ some ',' := fun h => h1 (Option.some.inj h)
  fun_induction scanAlnTail dig f s with
  | case1 s =>
    intro hs f' _
    cases s with
    | nil => exact scanAlnTail_not_comma dig f' _ hc0
    | cons c cs => cases hs
  | case2 f rest _ he =>
    intro _ f' hf'
    obtain ⟨g, rfl⟩ := Nat.exists_eq_add_one_of_ne_zero (Nat.ne_zero_of_lt hf')
    rw [List.cons_append, scanAlnTail_succ_comma, spanP_append_stop dig rest c0 t h0, if_pos he]
  | case3 f rest _ he ih =>
    intro hs f' hf'
    obtain ⟨g, rfl⟩ := Nat.exists_eq_add_one_of_ne_zero (Nat.ne_zero_of_lt hf')
    rw [List.cons_append, scanAlnTail_succ_comma, spanP_append_stop dig rest c0 t h0, if_neg he,
      ih (Nat.le_trans (spanP_snd_length_le dig rest) (Nat.le_of_succ_le_succ hs)) g
        (Nat.le_trans (spanP_snd_append_length_le dig rest _) (Nat.le_of_succ_le_succ hf'))]
  | case4 f s hne =>
    intro _ f' _
    exact scanAlnTail_not_comma dig f' _ (head?_append_ne (head?_ne_of hne) hc0)

theorem scanAlnDigits_append (dig : Char → Bool) (c0 : Char) (t : Str) (h0 : dig c0 = false)
    (h1 : c0 ≠ ',') (s : Str) : scanAlnDigits dig (s ++ c0 :: t) = scanAlnDigits dig s := by
  unfold scanAlnDigits
  simp only
  rw [spanP_append_stop dig s c0 t h0]
  simp only
  split
  · rfl
  · rw [scanAlnTail_append dig c0 t h0 h1 s.length _ (spanP_snd_length_le dig s) _
      (spanP_snd_append_length_le dig s _)]

theorem scanAlignment_not_tilde (cfg : LexCfg) (s : Str) (h : s.head? ≠ some '~') :
    scanAlignment cfg s = none := by
  unfold scanAlignment
  split
  · exact absurd rfl h
  · rfl

theorem viaPrefix_append (cfg : LexCfg) (c0 : Char) (t : Str)
    (h0 : inRanges cfg.alnDigit c0 = false) (hp : inRanges cfg.alnPrefix c0 = false)
    (h1 : c0 ≠ ',') (h2 : c0 ≠ '.') (rest : Str) :
    Lex.viaPrefix cfg (rest ++ c0 :: t) = Lex.viaPrefix cfg rest := by
  have hd := scanAlnDigits_append (inRanges cfg.alnDigit) c0 t h0 h1
  cases rest with
  | nil => simp [Lex.viaPrefix, hp]
  | cons p r1 =>
    cases r1 with
    | nil =>
      have := hd []
      simp only [List.nil_append] at this
      simp [Lex.viaPrefix, this, h2]
    | cons q r2 =>
      have := hd (q :: r2)
      simp only [List.cons_append] at this
      by_cases hq : q = '.'
      · subst hq
        simp only [List.cons_append, Lex.viaPrefix, hd r2, this]
      · simp [Lex.viaPrefix, this, hq]
theorem scanAlignment_append (cfg : LexCfg) (c0 : Char) (t : Str)
    (h0 : inRanges cfg.alnDigit c0 = false) (hp : inRanges cfg.alnPrefix c0 = false)
    (h1 : c0 ≠ ',') (h2 : c0 ≠ '.') (h3 : c0 ≠ '~') (s : Str) :
    scanAlignment cfg (s ++ c0 :: t) = scanAlignment cfg s := by
  by_cases hc : s.head? = some '~'
  · obtain ⟨cs, rfl⟩ := List.head?_eq_some_iff.1 hc
    rw [List.cons_append, Lex.scanAlignment_tilde, Lex.scanAlignment_tilde,
      scanAlnDigits_append _ c0 t h0 h1 cs, viaPrefix_append cfg c0 t h0 hp h1 h2 cs]
  · rw [scanAlignment_not_tilde _ _ hc, scanAlignment_not_tilde _ _
      (head?_append_ne hc (t := c0 :: t) (fun h => h3 (Option.some.inj h)))]

theorem scanComment_not_hash (s : Str) (h : s.head? ≠ some '#') : scanComment s = none := by
  unfold scanComment
  split
  · simp at h
  · rfl

/-- `.*$` : the comment swallows everything up to, and excluding, a final LF -/
theorem scanComment_tail (r rs nl : Str) (hr : NoLF r) (hrs : NoLF rs) (hnl : nl = [] ∨ nl = ['\n']) :
    scanComment ('#' :: (r ++ (rs ++ nl))) = some ('#' :: (r ++ rs)) := by
  have hsp : spanP (· != '\n') (r ++ rs ++ nl) = (r ++ rs, nl) :=
    Lex.spanP_eq _ _ nl
      (fun c hc => by
        rcases List.mem_append.1 hc with h | h
        · simpa using hr c h
        · simpa using hrs c h)
      (by rcases hnl with rfl | rfl <;> simp)
  rw [← List.append_assoc]
  simp only [scanComment, hsp]
  rcases hnl with rfl | rfl <;> simp

theorem scanComment_noLF (r : Str) (h : NoLF r) : scanComment ('#' :: r) = some ('#' :: r) := by
  simpa using scanComment_tail r [] [] h nofun (.inl rfl)

/-- a line tail: token-free separators `rs` (no LF among them) followed by at most one LF -/
structure SepTail (cfg : LexCfg) (rs nl : Str) : Prop where
  rs_sep : ∀ c ∈ rs, SepChar cfg c ∧ c ≠ '\n'
  nl_ok : nl = [] ∨ (nl = ['\n'] ∧ SepChar cfg '\n')

theorem SepTail.all {cfg : LexCfg} {rs nl : Str} (h : SepTail cfg rs nl) :
    ∀ c ∈ rs ++ nl, SepChar cfg c := by
  intro c hc
  rcases List.mem_append.1 hc with h1 | h1
  · exact (h.rs_sep c h1).1
  · rcases h.nl_ok with h2 | ⟨h2, h3⟩
    · subst h2; simp at h1
    · subst h2; simp at h1; subst h1; exact h3

theorem SepTail.noLF {cfg : LexCfg} {rs nl : Str} (h : SepTail cfg rs nl) : NoLF rs :=
  fun c hc => (h.rs_sep c hc).2

theorem SepTail.nl {cfg : LexCfg} {rs nl : Str} (h : SepTail cfg rs nl) : nl = [] ∨ nl = ['\n'] := by
  rcases h.nl_ok with h | h
  · exact Or.inl h
  · exact Or.inr h.1

theorem SepChar.not_special {cfg : LexCfg} {c : Char} (h : SepChar cfg c) :
    c ≠ '#' ∧ c ≠ '"' ∧ c ≠ '(' ∧ c ≠ ')' ∧ c ≠ '/' ∧ c ≠ ':' ∧ c ≠ '~' ∧ c ≠ '.' ∧ c ≠ ',' := by
  have := h.2.2.2.2.2
  simp only [specials, List.mem_cons, List.not_mem_nil, or_false, not_or] at this
  obtain ⟨a1, a2, a3, a4, a5, a6, a7, a8, a9, _⟩ := this
  exact ⟨a1, a2, a3, a4, a5, a6, a7, a8, a9⟩

theorem scanComment_append_tail (cfg : LexCfg) (s rs nl : Str) (hs : NoLF s) (ht : SepTail cfg rs nl) :
    scanComment (s ++ (rs ++ nl)) = (scanComment s).map (· ++ rs) := by
  cases s with
  | nil =>
    rw [scanComment_not_hash [] (by simp), List.nil_append, scanComment_not_hash]
    · rfl
    · cases h : rs ++ nl with
      | nil => simp
      | cons d ds =>
        have := (ht.all d (by rw [h]; simp)).not_special.1
        simpa using this
  | cons c r =>
    by_cases hc : c = '#'
    · subst hc
      rw [List.cons_append, scanComment_tail r rs nl hs.tail ht.noLF ht.nl, scanComment_noLF r hs.tail]
      simp
    · rw [List.cons_append, scanComment_not_hash (c :: r) (by simpa using hc),
        scanComment_not_hash _ (by simpa using hc)]
      rfl

theorem scanTy_append (cfg : LexCfg) (ty : TokTy) (hty : ty ≠ .COMMENT) (s t : Str)
    (ht : ∀ c ∈ t, SepChar cfg c) : scanTy cfg ty (s ++ t) = scanTy cfg ty s := by
  cases t with
  | nil => simp
  | cons c0 t' =>
    have h0 := ht c0 (List.mem_cons_self ..)
    obtain ⟨a1, a2, a3, a4, a5, a6, a7, a8, a9⟩ := h0.not_special
    obtain ⟨b1, b2, b3, b4, b5, _⟩ := h0
    cases ty with
    | COMMENT => exact absurd rfl hty
    | STRING => exact scanString_append _ s _ (fun c hc => (ht c hc).not_special.2.1)
    | LPAREN => exact scanChar_append _ s c0 t' a3
    | RPAREN => exact scanChar_append _ s c0 t' a4
    | SLASH => exact scanChar_append _ s c0 t' a5
    | ROLE => exact scanRole_append _ s c0 t' b2 a6
    | SYMBOL => exact scanSymbol_append _ s c0 t' b3
    | ALIGNMENT => exact scanAlignment_append cfg c0 t' b4 b5 a9 a8 a7 s
    | UNEXPECTED => exact scanUnexpected_append _ s c0 t' b1

theorem scanTy_sep_head (cfg : LexCfg) (ty : TokTy) (c : Char) (rest : Str) (h : SepChar cfg c) :
    scanTy cfg ty (c :: rest) = none := by
  obtain ⟨a1, a2, a3, a4, a5, a6, a7, a8, a9⟩ := h.not_special
  obtain ⟨b1, b2, b3, b4, b5, _⟩ := h
  cases ty with
  | COMMENT => exact scanComment_not_hash _ (by simpa using a1)
  | STRING => exact scanString_not_quote (fun h => a2 (Option.some.inj h))
  | LPAREN => simp [scanTy, scanChar, a3]
  | RPAREN => simp [scanTy, scanChar, a4]
  | SLASH => simp [scanTy, scanChar, a5]
  | ROLE => exact scanRole_not_colon (fun h => a6 (Option.some.inj h))
  | SYMBOL => simp [scanTy, scanSymbol, spanP, b3]
  | ALIGNMENT => exact scanAlignment_not_tilde _ _ (by simpa using a7)
  | UNEXPECTED => simp [scanTy, scanUnexpected, b1]

theorem firstMatch_sep_head (cfg : LexCfg) (order : List TokTy) (c : Char) (rest : Str)
    (h : SepChar cfg c) : firstMatch cfg order (c :: rest) = none := by
  induction order with
  | nil => rfl
  | cons ty tys ih => simp [firstMatch, scanTy_sep_head cfg ty c rest h, ih]

/-- what the line tail does to a match: only a COMMENT grows, by the separators before the LF -/
def tailMatch (rs : Str) (p : TokTy × Str) : TokTy × Str :=
  if p.1 = .COMMENT then (p.1, p.2 ++ rs) else p

theorem firstMatch_tail (cfg : LexCfg) (order : List TokTy) (s rs nl : Str) (hs : NoLF s)
    (ht : SepTail cfg rs nl) :
    firstMatch cfg order (s ++ (rs ++ nl)) = (firstMatch cfg order s).map (tailMatch rs) := by
  induction order with
  | nil => rfl
  | cons ty tys ih =>
    simp only [firstMatch]
    by_cases hty : ty = .COMMENT
    · subst hty
      simp only [scanTy, scanComment_append_tail cfg s rs nl hs ht]
      cases scanComment s with
      | none => simpa using ih
      | some m => simp [tailMatch]
    · rw [scanTy_append cfg ty hty s _ ht.all]
      cases scanTy cfg ty s with
      | none => simpa using ih
      | some m => simp [tailMatch, hty]

theorem firstMatch_comment_all (cfg : LexCfg) (order : List TokTy) (s m : Str) (hs : NoLF s)
    (h : firstMatch cfg order s = some (.COMMENT, m)) : m = s := by
  induction order with
  | nil => simp [firstMatch] at h
  | cons ty tys ih =>
    simp only [firstMatch] at h
    split at h
    · rename_i m' hm
      cases h
      simp only [scanTy] at hm
      cases s with
      | nil => simp [scanComment] at hm
      | cons c r =>
        by_cases hc : c = '#'
        · subst hc; rw [scanComment_noLF r hs.tail] at hm; cases hm; rfl
        · rw [scanComment_not_hash _ (by simpa using hc)] at hm; cases hm
    · exact ih h

/-- the tokens of the rest `s` of line `n`, which starts at offset `off`: `lexAux` with enough fuel -/
def lexFrom (cfg : LexCfg) (order : List TokTy) (n off : Nat) (s : Str) : List Tok :=
  lexAux cfg order n (s.length + 1) off s

theorem lexLine_eq_lexFrom (cfg : LexCfg) (order : List TokTy) (n : Nat) (l : Str) :
    lexLine cfg order n l = lexFrom cfg order n 0 l := rfl

variable {cfg : LexCfg} {order : List TokTy} {n off : Nat}

theorem lexFrom_skip {c : Char} {cs : Str} (h : firstMatch cfg order (c :: cs) = none) :
    lexFrom cfg order n off (c :: cs) = lexFrom cfg order n (off + 1) cs :=
  Lex.lexAux_none h

theorem lexFrom_tok {ty : TokTy} {m after : Str}
    (h : firstMatch cfg order (m ++ after) = some (ty, m)) :
    lexFrom cfg order n off (m ++ after) =
      ⟨ty, m, n, off⟩ :: lexFrom cfg order n (off + m.length) after :=
  Lex.lexAux_step h (Nat.lt_succ_self _)

/-- induction along the tokens of a line: a character is skipped, or a token `m` is taken and
    lexing goes on after it -/
theorem lex_induct (cfg : LexCfg) (order : List TokTy) {motive : Str → Prop} (nil : motive [])
    (skip : ∀ c cs, firstMatch cfg order (c :: cs) = none → motive cs → motive (c :: cs))
    (tok : ∀ ty m after, firstMatch cfg order (m ++ after) = some (ty, m) →
      motive after → motive (m ++ after)) : ∀ s, motive s := by
  intro s
  induction hn : s.length using Nat.strongRecOn generalizing s with
  | _ k ih =>
    subst hn
    cases s with
    | nil => exact nil
    | cons c cs =>
      cases hm : firstMatch cfg order (c :: cs) with
      | none => exact skip c cs hm (ih _ (by simp) cs rfl)
      | some p =>
        obtain ⟨ty, m⟩ := p
        obtain ⟨after, hafter⟩ := Lex.firstMatch_prefix hm
        have hlt : after.length < (c :: cs).length := by
          rw [← hafter, List.length_append]
          exact Nat.lt_add_of_pos_left (List.length_pos_iff.2 (Lex.firstMatch_ne_nil hm))
        rw [← hafter] at hm ⊢
        exact tok ty m after hm (ih _ hlt after rfl)

theorem lexFrom_skip_seps (sp v : Str) (hsp : ∀ c ∈ sp, SepChar cfg c) :
    lexFrom cfg order n off (sp ++ v) = lexFrom cfg order n (off + sp.length) v := by
  induction sp generalizing off with
  | nil => rfl
  | cons c cs ih =>
    rw [List.cons_append, lexFrom_skip (firstMatch_sep_head cfg order c _ (hsp c (List.mem_cons_self ..))),
      ih (fun d hd => hsp d (List.mem_cons_of_mem _ hd)), List.length_cons, Nat.add_assoc, Nat.add_comm 1]

theorem lexFrom_seps (t : Str) (ht : ∀ c ∈ t, SepChar cfg c) : lexFrom cfg order n off t = [] := by
  have := lexFrom_skip_seps (cfg := cfg) (order := order) (n := n) (off := off) t [] ht
  rwa [List.append_nil] at this

/-- what the line tail does to a token: only a COMMENT grows -/
def tailTok (rs : Str) (t : Tok) : Tok :=
  if t.ty = .COMMENT then { t with text := t.text ++ rs } else t

theorem lexFrom_tail {rs nl : Str} (ht : SepTail cfg rs nl) (s : Str) (hs : NoLF s) :
    lexFrom cfg order n off (s ++ (rs ++ nl)) = (lexFrom cfg order n off s).map (tailTok rs) := by
  induction s using lex_induct cfg order generalizing off with
  | nil => rw [List.nil_append, lexFrom_seps _ ht.all]; rfl
  | skip c cs hm ih =>
    have hm' := firstMatch_tail cfg order (c :: cs) rs nl hs ht
    rw [hm, List.cons_append] at hm'
    rw [lexFrom_skip hm, List.cons_append, lexFrom_skip hm']
    exact ih hs.tail
  | tok ty m after hm ih =>
    have hm' := firstMatch_tail cfg order (m ++ after) rs nl hs ht
    rw [hm] at hm'
    rw [lexFrom_tok hm, List.map_cons]
    by_cases hty : ty = .COMMENT
    · -- the comment is the whole remaining line; it swallows `rs`, and `nl` gives no token
      subst hty
      have hafter : after = [] := by
        simpa using firstMatch_comment_all cfg order (m ++ after) m hs hm
      subst hafter
      simp only [tailMatch, ↓reduceIte, Option.map_some, List.append_nil] at hm' ⊢
      rw [← List.append_assoc] at hm' ⊢
      rw [lexFrom_tok hm', lexFrom_seps nl (fun d hd => ht.all d (by simp [hd]))]
      rfl
    · simp only [tailMatch, hty, ↓reduceIte, Option.map_some] at hm'
      rw [List.append_assoc] at hm' ⊢
      rw [lexFrom_tok hm', ih hs.right]
      simp [tailTok, hty]

end Penman.Framing
