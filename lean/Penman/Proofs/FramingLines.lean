/-
  Penman.Proofs.FramingLines — lines with and without terminators, `fileLines`,
  and the token stream of a text in its different containers (property C09).
-/
import Penman.Proofs.FramingLex
import Penman.Main
namespace Penman.Framing

theorem tailTok_nil (t : Tok) : tailTok [] t = t := by
  unfold tailTok; split <;> simp

theorem map_tailTok_nil (ts : List Tok) : ts.map (tailTok []) = ts := by
  induction ts with
  | nil => rfl
  | cons t ts ih => simp [tailTok_nil, ih]

/-- a line followed by separators and at most one LF: the same tokens, a COMMENT grows -/
theorem lexLine_tail (cfg : LexCfg) (order : List TokTy) (n : Nat) (l rs nl : Str) (hl : NoLF l)
    (ht : SepTail cfg rs nl) :
    lexLine cfg order n (l ++ (rs ++ nl)) = (lexLine cfg order n l).map (tailTok rs) :=
  lexFrom_tail ht l hl

theorem sepTail_lf {cfg : LexCfg} (h : SepChar cfg '\n') : SepTail cfg [] ['\n'] :=
  ⟨by simp, Or.inr ⟨rfl, h⟩⟩

theorem sepTail_crlf {cfg : LexCfg} (h : SepChar cfg '\n') (h' : SepChar cfg '\r') :
    SepTail cfg ['\r'] ['\n'] :=
  ⟨by simp [h'], Or.inr ⟨rfl, h⟩⟩

theorem sepTail_cr {cfg : LexCfg} (h' : SepChar cfg '\r') : SepTail cfg ['\r'] [] :=
  ⟨by simp [h'], Or.inl rfl⟩

theorem lexLine_lf (cfg : LexCfg) (order : List TokTy) (n : Nat) (l : Str) (hl : NoLF l)
    (h : SepChar cfg '\n') : lexLine cfg order n (l ++ ['\n']) = lexLine cfg order n l := by
  have := lexLine_tail cfg order n l [] ['\n'] hl (sepTail_lf h)
  simpa [map_tailTok_nil] using this

/-- a terminating CRLF: the CR is swallowed by a COMMENT, nothing else changes -/
theorem lexLine_crlf (cfg : LexCfg) (order : List TokTy) (n : Nat) (l : Str) (hl : NoLF l)
    (h : SepChar cfg '\n') (h' : SepChar cfg '\r') :
    lexLine cfg order n (l ++ ['\r', '\n']) = (lexLine cfg order n l).map (tailTok ['\r']) := by
  have := lexLine_tail cfg order n l ['\r'] ['\n'] hl (sepTail_crlf h h')
  simpa using this

theorem lexLine_cr (cfg : LexCfg) (order : List TokTy) (n : Nat) (l : Str) (hl : NoLF l)
    (h' : SepChar cfg '\r') :
    lexLine cfg order n (l ++ ['\r']) = (lexLine cfg order n l).map (tailTok ['\r']) := by
  have := lexLine_tail cfg order n l ['\r'] [] hl (sepTail_cr h')
  simpa using this

theorem lexLine_nil (cfg : LexCfg) (order : List TokTy) (n : Nat) : lexLine cfg order n [] = [] :=
  rfl

theorem lexLine_seps (cfg : LexCfg) (order : List TokTy) (n : Nat) (l : Str)
    (h : ∀ c ∈ l, SepChar cfg c) : lexLine cfg order n l = [] :=
  lexFrom_seps l h

theorem lexFrom_comment_last (cfg : LexCfg) (order : List TokTy) (n : Nat) (s : Str) (hs : NoLF s) :
    ∀ off, ∀ t ∈ (lexFrom cfg order n off s).dropLast, t.ty ≠ .COMMENT := by
  induction s using lex_induct cfg order with
  | nil => intro off t ht; cases ht
  | skip c cs hm ih =>
    intro off
    rw [lexFrom_skip hm]
    exact ih hs.tail _
  | tok ty m after hm ih =>
    intro off t ht
    rw [lexFrom_tok hm] at ht
    by_cases hty : ty = .COMMENT
    · -- a comment is the whole remaining line
      subst hty
      have hafter : after = [] := by
        simpa using firstMatch_comment_all cfg order (m ++ after) m hs hm
      subst hafter
      cases ht
    · cases hr : lexFrom cfg order n (off + m.length) after with
      | nil => rw [hr] at ht; cases ht
      | cons x xs =>
        rw [hr, List.dropLast_cons_cons] at ht
        rcases List.mem_cons.1 ht with rfl | ht
        · exact hty
        · exact ih hs.right _ t (hr ▸ ht)

theorem lexLine_comment_last (cfg : LexCfg) (order : List TokTy) (n : Nat) (l : Str) (hl : NoLF l) :
    ∀ t ∈ (lexLine cfg order n l).dropLast, t.ty ≠ .COMMENT :=
  lexFrom_comment_last cfg order n l hl 0

/-- `tailTok` applied to the last token only -/
def tailLast (rs : Str) : List Tok → List Tok
  | [] => []
  | [t] => [tailTok rs t]
  | t :: u :: r => t :: tailLast rs (u :: r)

theorem map_tailTok_eq_tailLast (rs : Str) : ∀ (ts : List Tok),
    (∀ t ∈ ts.dropLast, t.ty ≠ .COMMENT) → ts.map (tailTok rs) = tailLast rs ts
  | [], _ => rfl
  | [t], _ => rfl
  | t :: u :: r, h => by
    have ht : t.ty ≠ .COMMENT := h t (List.mem_cons_self ..)
    have := map_tailTok_eq_tailLast rs (u :: r) (fun x hx => h x (by
      rw [List.dropLast_cons_cons]; exact List.mem_cons_of_mem _ hx))
    simp only [List.map_cons, tailLast] at this ⊢
    rw [this]
    simp [tailTok, ht]

theorem lexLinesFrom_append (cfg : LexCfg) (order : List TokTy) (k : Nat) (a b : List Str) :
    lexLinesFrom cfg order k (a ++ b) =
      lexLinesFrom cfg order k a ++ lexLinesFrom cfg order (k + a.length) b := by
  induction a generalizing k with
  | nil => simp [lexLinesFrom]
  | cons l ls ih =>
    rw [List.cons_append, lexLinesFrom, lexLinesFrom, ih, List.append_assoc, List.length_cons,
      Nat.add_assoc, Nat.add_comm 1]

theorem lexLinesFrom_concat (cfg : LexCfg) (order : List TokTy) (k : Nat) (ia : List Str) (la : Str) :
    lexLinesFrom cfg order k (ia ++ [la]) =
      lexLinesFrom cfg order k ia ++ lexLine cfg order (k + ia.length) la := by
  rw [lexLinesFrom_append, lexLinesFrom, lexLinesFrom, List.append_nil]

/-- the one induction over the lines of a container: every line `line x` followed by the same
    separators `rs` and by its own `nl x` (a LF or nothing) -/
theorem lexLinesFrom_tails {α : Type} (cfg : LexCfg) (order : List TokTy) (rs : Str)
    (line nl : α → Str) : ∀ (xs : List α) (k : Nat),
    (∀ x ∈ xs, NoLF (line x) ∧ SepTail cfg rs (nl x)) →
    lexLinesFrom cfg order k (xs.map fun x => line x ++ (rs ++ nl x)) =
      (lexLinesFrom cfg order k (xs.map line)).map (tailTok rs) := by
  intro xs
  induction xs with
  | nil => intro _ _; rfl
  | cons x xs ih =>
    intro k h
    obtain ⟨⟨hl, ht⟩, hxs⟩ := List.forall_mem_cons.1 h
    rw [List.map_cons, List.map_cons, lexLinesFrom, lexLinesFrom, List.map_append,
      lexLine_tail cfg order k _ rs _ hl ht, ih _ hxs]

theorem lexLinesFrom_map_tail (cfg : LexCfg) (order : List TokTy) (rs nl : Str)
    (ht : SepTail cfg rs nl) (k : Nat) (ls : List Str) (h : ∀ l ∈ ls, NoLF l) :
    lexLinesFrom cfg order k (ls.map (· ++ (rs ++ nl))) =
      (lexLinesFrom cfg order k ls).map (tailTok rs) := by
  have := lexLinesFrom_tails cfg order rs (fun l => l) (fun _ => nl) ls k (fun l hl => ⟨h l hl, ht⟩)
  rwa [List.map_id'] at this

theorem lexLinesFrom_map_lf (cfg : LexCfg) (order : List TokTy) (hc : SepChar cfg '\n') (k : Nat)
    (ls : List Str) (h : ∀ l ∈ ls, NoLF l) :
    lexLinesFrom cfg order k (ls.map (· ++ ['\n'])) = lexLinesFrom cfg order k ls := by
  have := lexLinesFrom_map_tail cfg order [] ['\n'] (sepTail_lf hc) k ls h
  simpa [map_tailTok_nil] using this

theorem lexLinesFrom_nil_line (cfg : LexCfg) (order : List TokTy) (k : Nat) :
    lexLinesFrom cfg order k [[]] = [] := by
  simp [lexLinesFrom, lexLine_nil]

theorem lexLinesFrom_replicate_nil (cfg : LexCfg) (order : List TokTy) (i k : Nat) :
    lexLinesFrom cfg order i (List.replicate k []) = [] := by
  induction k generalizing i with
  | zero => simp [lexLinesFrom]
  | succ k ih => simp [List.replicate_succ, lexLinesFrom, lexLine_nil, ih]

theorem lexLinesFrom_trail (cfg : LexCfg) (order : List TokTy) (i : Nat) (trail : Str)
    (ht : trail = [] ∨ trail = ['\n']) : lexLinesFrom cfg order i (splitLines trail) = [] := by
  rcases ht with rfl | rfl <;> simp [splitLines, lexLinesFrom, lexLine_nil]

theorem fileLines_aux (n : Nat) (x : Str) : ∀ (ls : List Str) (k : Nat), k + ls.length + 1 = n →
    ((ls ++ [x]).zipIdx k).filterMap (fun (p : Str × Nat) =>
        if p.2 + 1 < n then some (p.1 ++ ['\n']) else (if p.1.isEmpty then none else some p.1)) =
      ls.map (· ++ ['\n']) ++ (if x.isEmpty then [] else [x]) := by
  intro ls
  induction ls with
  | nil =>
    intro k hk
    have : ¬ (k + 1 < n) := hk ▸ Nat.lt_irrefl _
    simp only [List.nil_append, List.zipIdx_cons, List.zipIdx_nil, List.filterMap_cons, this,
      ↓reduceIte, List.filterMap_nil, List.map_nil]
    by_cases hx : x.isEmpty = true <;> simp [hx]
  | cons l ls ih =>
    intro k hk
    have h1 : k + 1 < n := hk ▸ Nat.succ_lt_succ (Nat.lt_add_of_pos_right (Nat.succ_pos _))
    simp only [List.cons_append, List.zipIdx_cons, List.filterMap_cons, h1, ↓reduceIte,
      List.map_cons]
    rw [ih (k + 1) (Nat.add_right_comm k 1 _ ▸ hk)]

/-- `fileLines` : every piece but the last gets an LF; an empty last piece is dropped -/
theorem fileLines_eq (s : Str) (init : List Str) (last : Str) (h : splitLines s = init ++ [last]) :
    fileLines s = init.map (· ++ ['\n']) ++ (if last.isEmpty then [] else [last]) := by
  unfold fileLines
  simp only [h]
  exact fileLines_aux _ last init 0 (by simp)

/-- a text read as a file (universal newlines) gives exactly the tokens of the text as a
    string: same types, texts, line numbers and offsets -/
theorem lexLines_fileLines (cfg : LexCfg) (order : List TokTy) (hc : SepChar cfg '\n') (s : Str) :
    lexLines cfg order (fileLines s) = lexStr cfg order s := by
  obtain ⟨init, last, h⟩ := splitLines_concat s
  have hno : ∀ l ∈ init, NoLF l := fun l hl =>
    (splitLines_noBreak s l (by rw [h]; simp [hl])).noLF
  rw [fileLines_eq s init last h]
  unfold lexStr lexLines
  rw [h, lexLinesFrom_append, lexLinesFrom_append, lexLinesFrom_map_lf cfg order hc 1 init hno]
  congr 1
  simp only [List.length_map]
  split
  · rename_i he
    have : last = [] := by simpa using he
    subst this
    simp [lexLinesFrom, lexLine_nil]
  · rfl

theorem lexLines_map_lf (cfg : LexCfg) (order : List TokTy) (hc : SepChar cfg '\n') (s : Str) :
    lexLines cfg order ((splitLines s).map (· ++ ['\n'])) = lexStr cfg order s :=
  lexLinesFrom_map_lf cfg order hc 1 _ (fun l hl => (splitLines_noBreak s l hl).noLF)

theorem lexLines_map_crlf (cfg : LexCfg) (order : List TokTy) (hc : SepChar cfg '\n')
    (hr : SepChar cfg '\r') (s : Str) :
    lexLines cfg order ((splitLines s).map (· ++ ['\r', '\n'])) =
      (lexStr cfg order s).map (tailTok ['\r']) :=
  lexLinesFrom_map_tail cfg order ['\r'] ['\n'] (sepTail_crlf hc hr) 1 _
    (fun l hl => (splitLines_noBreak s l hl).noLF)

end Penman.Framing
