/-
  Penman.Proofs.FramingMeta — `commentMeta` and trailing white space swallowed by a
  COMMENT token (the CR of a CRLF-terminated line), property C09.
-/
import Penman.Parse
namespace Penman.Framing

theorem rfindAux_bound (sep : Str) : ∀ (s : Str) (i : Nat) (acc : Option Nat) (j : Nat),
    rfindAux sep s i acc = some j → acc = some j ∨ (i ≤ j ∧ j + sep.length ≤ i + s.length) := by
  intro s
  induction s with
  | nil => intro i acc j h; simp [rfindAux] at h; exact Or.inl h
  | cons c cs ih =>
    intro i acc j h
    simp only [rfindAux] at h
    rcases ih (i + 1) _ j h with h1 | h1
    · split at h1
      · rename_i hp
        cases h1
        have := (List.isPrefixOf_iff_prefix.1 hp).length_le
        exact Or.inr ⟨Nat.le_refl _, by simpa using this⟩
      · exact Or.inl h1
    · refine Or.inr ⟨Nat.le_of_succ_le h1.1, ?_⟩
      rw [List.length_cons, Nat.add_comm cs.length 1, ← Nat.add_assoc]
      exact h1.2

/-- where `rpartition('::')` finds its separator -/
theorem rfind_colons_bound {s : Str} {i : Nat} (hf : rfindAux [':', ':'] s 0 none = some i) :
    i + 2 ≤ s.length := by
  rcases rfindAux_bound _ s 0 none i hf with h | h
  · cases h
  · exact (Nat.zero_add s.length) ▸ h.2

theorem rfindAux_noColon (rs : Str) (h : ∀ c ∈ rs, c ≠ ':') : ∀ (i : Nat) (acc : Option Nat),
    rfindAux [':', ':'] rs i acc = acc := by
  induction rs with
  | nil => intro i acc; rfl
  | cons c cs ih =>
    intro i acc
    have hc : c ≠ ':' := h c (List.mem_cons_self ..)
    simp only [rfindAux]
    have : List.isPrefixOf [':', ':'] (c :: cs) = false := by
      simp [List.isPrefixOf, Ne.symm hc]
    rw [this]
    exact ih (fun d hd => h d (List.mem_cons_of_mem _ hd)) (i + 1) acc

theorem rfindAux_append_noColon (rs : Str) (h : ∀ c ∈ rs, c ≠ ':') : ∀ (s : Str) (i : Nat) (acc : Option Nat),
    rfindAux [':', ':'] (s ++ rs) i acc = rfindAux [':', ':'] s i acc := by
  intro s
  induction s with
  | nil => intro i acc; simpa [rfindAux] using rfindAux_noColon rs h i acc
  | cons c cs ih =>
    intro i acc
    simp only [List.cons_append, rfindAux]
    have : List.isPrefixOf [':', ':'] (c :: (cs ++ rs)) = List.isPrefixOf [':', ':'] (c :: cs) := by
      cases cs with
      | nil =>
        cases rs with
        | nil => rfl
        | cons d ds =>
          have hd : d ≠ ':' := h d (List.mem_cons_self ..)
          simp [List.isPrefixOf, Ne.symm hd]
      | cons d ds => simp [List.isPrefixOf]
    rw [this, ih]

theorem rpartitionStr_append (rs : Str) (h : ∀ c ∈ rs, c ≠ ':') (s : Str) :
    rpartitionStr [':', ':'] (s ++ rs) =
      if (rpartitionStr [':', ':'] s).2.1 then
        ((rpartitionStr [':', ':'] s).1, true, (rpartitionStr [':', ':'] s).2.2 ++ rs)
      else ([], false, s ++ rs) := by
  unfold rpartitionStr
  rw [rfindAux_append_noColon rs h]
  cases hf : rfindAux [':', ':'] s 0 none with
  | none => simp
  | some i =>
    have h2 := rfind_colons_bound hf
    simp only [List.length_cons, List.length_nil, ↓reduceIte]
    rw [List.take_append_of_le_length (Nat.le_trans (Nat.le_add_right i 2) h2),
      List.drop_append_of_le_length h2]

theorem rpartitionStr_fst_length (s : Str) (h : (rpartitionStr [':', ':'] s).2.1 = true) :
    (rpartitionStr [':', ':'] s).1.length < s.length := by
  unfold rpartitionStr at h ⊢
  cases hf : rfindAux [':', ':'] s 0 none with
  | none => rw [hf] at h; simp at h
  | some i =>
    rw [List.length_take]
    exact Nat.lt_of_le_of_lt (Nat.min_le_left _ _)
      (Nat.lt_of_lt_of_le (Nat.lt_add_of_pos_right (by decide)) (rfind_colons_bound hf))

theorem isPrefixOf_space (c : Char) (x : Str) : List.isPrefixOf [' '] (c :: x) = (c == ' ') := by
  by_cases h : c = ' '
  · subst h; rfl
  · have h1 : (c == ' ') = false := beq_false_of_ne h
    have h2 : (' ' == c) = false := beq_false_of_ne (Ne.symm h)
    simp only [List.isPrefixOf, h1, h2, Bool.false_and]

theorem partitionStr_space_found (a : Str) (h : ' ' ∈ a) : (partitionStr [' '] a).2.1 = true := by
  fun_induction partitionStr [' '] a with
  | case1 => cases h
  | case2 => rfl
  | case3 => rfl
  | case4 c cs hp r hnot ih =>
    rw [isPrefixOf_space, beq_iff_eq] at hp
    rcases List.mem_cons.1 h with h | h
    · exact absurd h.symm hp
    · exact absurd (ih h) hnot

theorem partitionStr_space_append (a b : Str) (h : (partitionStr [' '] a).2.1 = true) :
    partitionStr [' '] (a ++ b) =
      ((partitionStr [' '] a).1, true, (partitionStr [' '] a).2.2 ++ b) := by
  fun_induction partitionStr [' '] a with
  | case1 => cases h
  | case2 c cs hp =>
    rw [List.cons_append, partitionStr, if_pos (by rwa [isPrefixOf_space] at hp ⊢)]
    rfl
  | case3 c cs hp r hfound ih =>
    rw [List.cons_append, partitionStr, if_neg (by rwa [isPrefixOf_space] at hp ⊢)]
    simp only [ih hfound, if_true]
    rfl
  | case4 c cs hp r hnot ih => cases h
theorem dropWhile_append_all (p : Char → Bool) (l m : Str) (h : ∀ c ∈ l, p c = true) :
    (l ++ m).dropWhile p = m.dropWhile p := by
  induction l with
  | nil => rfl
  | cons c cs ih =>
    have hc := h c (List.mem_cons_self ..)
    simp only [List.cons_append, List.dropWhile_cons, hc, ↓reduceIte]
    exact ih (fun d hd => h d (List.mem_cons_of_mem _ hd))

theorem rstripBy_append (p : Char → Bool) (v rs : Str) (h : ∀ c ∈ rs, p c = true) :
    rstripBy p (v ++ rs) = rstripBy p v := by
  unfold rstripBy
  rw [List.reverse_append, dropWhile_append_all p _ _ (fun c hc => h c (by simpa using hc))]

theorem commentMeta_fuel (isSpace : Char → Bool) (f : Nat) (s : Str) (md : AList Str Str) :
    ∀ f', s.length < f → s.length < f' → commentMeta isSpace f s md = commentMeta isSpace f' s md := by
  fun_induction commentMeta isSpace f s md with
  | case1 s md => intro _ h; cases h
  | case2 f s md he =>
    intro f' _ hf'
    obtain ⟨g, rfl⟩ := Nat.exists_eq_add_one_of_ne_zero (Nat.ne_zero_of_lt hf')
    rw [commentMeta, if_pos he]
  | case3 f s md he p hfound kv ih =>
    intro f' hf hf'
    obtain ⟨g, rfl⟩ := Nat.exists_eq_add_one_of_ne_zero (Nat.ne_zero_of_lt hf')
    have hl := rpartitionStr_fst_length s hfound
    rw [commentMeta, if_neg he, if_pos hfound]
    exact ih g (Nat.lt_of_lt_of_le hl (Nat.le_of_lt_succ hf)) (Nat.lt_of_lt_of_le hl (Nat.le_of_lt_succ hf'))
  | case4 f s md he p hnot =>
    intro f' _ hf'
    obtain ⟨g, rfl⟩ := Nat.exists_eq_add_one_of_ne_zero (Nat.ne_zero_of_lt hf')
    rw [commentMeta, if_neg he, if_neg hnot]
/-- the value separator is present after the last `::` (or there is no `::` at all):
    then white space glued to the end of the comment only lengthens a value, which
    `rstrip` removes again -/
def MetaStable (text : Str) : Prop :=
  (rpartitionStr [':', ':'] text).2.1 = true → ' ' ∈ (rpartitionStr [':', ':'] text).2.2

instance (text : Str) : Decidable (MetaStable text) := by unfold MetaStable; infer_instance

/-- colon-free white space that a COMMENT token swallowed at the end of the line does not change
    the metadata, provided the last key has its separator -/
theorem commentMeta_tail (isSpace : Char → Bool) (s rs : Str) (md : AList Str Str)
    (hrs : ∀ c ∈ rs, isSpace c = true ∧ c ≠ ':') (hst : MetaStable s) :
    commentMeta isSpace ((s ++ rs).length + 1) (s ++ rs) md =
      commentMeta isSpace (s.length + 1) s md := by
  have hcol : ∀ c ∈ rs, c ≠ ':' := fun c hc => (hrs c hc).2
  simp only [commentMeta]
  rw [rpartitionStr_append rs hcol s]
  by_cases hfound : (rpartitionStr [':', ':'] s).2.1 = true
  · have hsp := hst hfound
    have hne : s ≠ [] := by
      intro h; subst h; simp [rpartitionStr, rfindAux] at hfound
    have hne' : s ++ rs ≠ [] := by simp [hne]
    simp only [List.isEmpty_iff, hne, hne', hfound, ↓reduceIte]
    rw [partitionStr_space_append _ rs (partitionStr_space_found _ hsp)]
    simp only
    rw [rstripBy_append isSpace _ rs (fun c hc => (hrs c hc).1)]
    have := rpartitionStr_fst_length s hfound
    apply commentMeta_fuel
    · rw [List.length_append]
      exact Nat.lt_of_lt_of_le this (Nat.le_add_right _ _)
    · exact this
  · simp only [hfound, Bool.false_eq_true, ↓reduceIte]
    split <;> split <;> rfl

end Penman.Framing
