/-
  Penman.Proofs.FramingParse — the parser on token streams that differ only in what a
  successful parse cannot see (positions, white space swallowed by comments, what
  follows the graph), `iterparse` on concatenated streams (property C09).
-/
import Penman.Proofs.FramingMeta
import Penman.Proofs.ParseLemmas
namespace Penman.Framing

/-- tokens that a successful parse cannot tell apart: same type, same text unless a
    COMMENT, same metadata if a COMMENT; positions are ignored -/
def TokSim (isSpace : Char → Bool) (t t' : Tok) : Prop :=
  t.ty = t'.ty ∧ (t.ty ≠ .COMMENT → t.text = t'.text) ∧
  (t.ty = .COMMENT → ∀ md, commentMeta isSpace (t.text.length + 1) t.text md =
      commentMeta isSpace (t'.text.length + 1) t'.text md)

theorem TokSim.refl (isSpace : Char → Bool) (t : Tok) : TokSim isSpace t t :=
  ⟨rfl, fun _ => rfl, fun _ _ => rfl⟩

theorem TokSim.symm {isSpace : Char → Bool} {t t' : Tok} (h : TokSim isSpace t t') :
    TokSim isSpace t' t :=
  ⟨h.1.symm, fun hn => (h.2.1 (by rw [h.1]; exact hn)).symm,
   fun hc md => (h.2.2 (by rw [h.1]; exact hc) md).symm⟩

theorem TokSim.trans {isSpace : Char → Bool} {a b c : Tok} (h : TokSim isSpace a b)
    (h' : TokSim isSpace b c) : TokSim isSpace a c :=
  ⟨h.1.trans h'.1, fun hn => (h.2.1 hn).trans (h'.2.1 (by rw [← h.1]; exact hn)),
   fun hc md => (h.2.2 hc md).trans (h'.2.2 (by rw [← h.1]; exact hc) md)⟩

/-- `ts'` is token-wise similar to `ts`, followed by `rest` -/
inductive LSim (isSpace : Char → Bool) (rest : List Tok) : List Tok → List Tok → Prop
  | nil : LSim isSpace rest [] rest
  | cons {t t' : Tok} {ts ts' : List Tok} : TokSim isSpace t t' → LSim isSpace rest ts ts' →
      LSim isSpace rest (t :: ts) (t' :: ts')

theorem LSim.cons_inv {isSpace : Char → Bool} {rest : List Tok} {t : Tok} {ts ts' : List Tok}
    (h : LSim isSpace rest (t :: ts) ts') :
    ∃ t' ts'', ts' = t' :: ts'' ∧ TokSim isSpace t t' ∧ LSim isSpace rest ts ts'' := by
  cases h with
  | cons h1 h2 => exact ⟨_, _, rfl, h1, h2⟩

theorem LSim.append_refl (isSpace : Char → Bool) (rest : List Tok) :
    ∀ ts, LSim isSpace rest ts (ts ++ rest)
  | [] => .nil
  | t :: ts => .cons (TokSim.refl isSpace t) (LSim.append_refl isSpace rest ts)

theorem LSim.trans_nil {isSpace : Char → Bool} {a b c : List Tok} (h : LSim isSpace [] a b)
    (h' : LSim isSpace [] b c) : LSim isSpace [] a c := by
  induction h generalizing c with
  | nil => exact h'
  | cons h1 _ ih =>
    obtain ⟨t'', ts'', rfl, h2, h3⟩ := h'.cons_inv
    exact .cons (h1.trans h2) (ih h3)

theorem TokSim.text_eq {isSpace : Char → Bool} {t t' : Tok} (h : TokSim isSpace t t') {ty : TokTy}
    (e : t.ty = ty) (hne : ty ≠ .COMMENT := by decide) : t'.text = t.text :=
  (h.2.1 (e ▸ hne)).symm

theorem TokSim.symOrStr {isSpace : Char → Bool} {t t' : Tok} (h : TokSim isSpace t t') :
    isSymOrStr t' = isSymOrStr t := by
  simp only [isSymOrStr, h.1]

theorem TokSim.text_eq_of_symOrStr {isSpace : Char → Bool} {t t' : Tok} (h : TokSim isSpace t t')
    (e : isSymOrStr t = true) : t'.text = t.text :=
  (h.2.1 (fun hc => by simp [isSymOrStr, hc] at e)).symm

theorem ite_eq_iff {α : Type} {p : Prop} [Decidable p] {a b v : α} :
    (if p then a else b) = v ↔ p ∧ a = v ∨ ¬p ∧ b = v := by
  by_cases hp : p
  · simp [hp]
  · simp [hp]

theorem takeAln_aln {c : PCtx} {text : Str} {t : Tok} {ts : List Tok} (h : t.ty = .ALIGNMENT) :
    takeAln c text (t :: ts) = .ok (text ++ t.text, ts) :=
  if_pos h

theorem takeAln_other {c : PCtx} {text : Str} {t : Tok} {ts : List Tok} (h : t.ty ≠ .ALIGNMENT) :
    takeAln c text (t :: ts) = .ok (text, t :: ts) :=
  if_neg h

theorem takeAln_sim {isSpace : Char → Bool} {rest : List Tok} {c c' : PCtx} {text x : Str}
    {ts r ts' : List Tok} (h : takeAln c text ts = .ok (x, r)) (hs : LSim isSpace rest ts ts') :
    ∃ r', takeAln c' text ts' = .ok (x, r') ∧ LSim isSpace rest r r' := by
  cases hs with
  | nil => cases h
  | @cons t t' ts0 ts0' ht hs0 =>
    by_cases ha : t.ty = .ALIGNMENT
    · rw [takeAln_aln ha] at h
      cases h
      exact ⟨ts0', ht.text_eq ha ▸ takeAln_aln (ht.1 ▸ ha), hs0⟩
    · rw [takeAln_other ha] at h
      cases h
      exact ⟨t' :: ts0', takeAln_other (ht.1 ▸ ha), .cons ht hs0⟩

/-- a successful parse goes through unchanged on every similar stream, whatever follows it and
    whatever the error context.  The proof reads the two streams in lockstep: every token the
    parser inspects on the left peels one `LSim.cons` off, whose `TokSim` carries the test the
    parser makes to the right. -/
theorem parse_sim (isSpace : Char → Bool) (c c' : PCtx) (rest : List Tok) : ∀ f,
    (∀ ts n r, parseNode c f ts = .ok (n, r) → ∀ f' ts', f ≤ f' → LSim isSpace rest ts ts' →
      ∃ r', parseNode c' f' ts' = .ok (n, r') ∧ LSim isSpace rest r r') ∧
    (∀ ts b r, parseEdges c f ts = .ok (b, r) → ∀ f' ts', f ≤ f' → LSim isSpace rest ts ts' →
      ∃ r', parseEdges c' f' ts' = .ok (b, r') ∧ LSim isSpace rest r r') := by
  intro f
  induction f with
  | zero => exact ⟨fun _ _ _ h => (nomatch h), fun _ _ _ h => (nomatch h)⟩
  | succ f ih =>
    obtain ⟨ihN, ihE⟩ := ih
    constructor
    · intro ts n r h f' ts' hf hs
      obtain ⟨g, rfl⟩ := Nat.exists_eq_add_one_of_ne_zero (Nat.ne_zero_of_lt hf)
      have hg := Nat.le_of_succ_le_succ hf
      cases hs with
      | nil => cases h
      | @cons lp lp' ts0 ts0' slp hs =>
        rw [parseNode, bind_eq_ok] at h
        obtain ⟨⟨_, _⟩, hx, h⟩ := h
        obtain ⟨e, hlp⟩ := expectTy_ok hx
        cases e
        replace hlp := slp.1 ▸ hlp
        cases hs with
        | nil => cases h
        | @cons t t' ts1 ts1' st hs =>
          rw [ite_eq_iff] at h
          obtain ⟨hr, h⟩ | ⟨hr, h⟩ := h
          · cases h
            refine ⟨ts1', ?_, hs⟩
            simp [parseNode, expectTy, hlp, st.1 ▸ hr, bind, Except.bind, pure, Except.pure]
          rw [bind_eq_ok] at h
          obtain ⟨⟨_, _⟩, hx, h⟩ := h
          obtain ⟨e, hv⟩ := expectTy_ok hx
          cases e
          have ev := st.text_eq hv
          replace hv := st.1 ▸ hv
          cases hs with
          | nil => cases h
          | @cons s s' ts2 ts2' ss hs =>
            rw [ite_eq_iff] at h
            obtain ⟨hsl, h⟩ | ⟨hsl, h⟩ := h
            · cases hs with
              | nil => cases h
              | @cons k k' ts3 ts3' sk hs =>
                rw [ite_eq_iff] at h
                obtain ⟨hk, h⟩ | ⟨hk, h⟩ := h
                · rw [bind_eq_ok] at h
                  obtain ⟨⟨x, ts4⟩, ha, h⟩ := h
                  rw [bind_eq_ok] at h
                  obtain ⟨⟨bs, r⟩, he, h⟩ := h
                  cases h
                  obtain ⟨ts4', ha', hs⟩ := takeAln_sim (c' := c') ha hs
                  obtain ⟨r', he', hs⟩ := ihE _ _ _ he g ts4' hg hs
                  refine ⟨r', ?_, hs⟩
                  simp [parseNode, expectTy, hlp, hv, ev, ss.1 ▸ hsl, sk.symOrStr.trans hk,
                    sk.text_eq_of_symOrStr hk, ha', he', bind, Except.bind, pure, Except.pure]
                · rw [bind_eq_ok] at h
                  obtain ⟨⟨bs, r⟩, he, h⟩ := h
                  cases h
                  obtain ⟨r', he', hs⟩ := ihE _ _ _ he g _ hg (.cons sk hs)
                  refine ⟨r', ?_, hs⟩
                  simp [parseNode, expectTy, hlp, hv, ev, ss.1 ▸ hsl, sk.symOrStr ▸ hk, he', bind,
                    Except.bind, pure, Except.pure]
            · rw [bind_eq_ok] at h
              obtain ⟨⟨bs, r⟩, he, h⟩ := h
              cases h
              obtain ⟨r', he', hs⟩ := ihE _ _ _ he g _ hg (.cons ss hs)
              refine ⟨r', ?_, hs⟩
              simp [parseNode, expectTy, hlp, hv, ev, ss.1 ▸ hsl, he', bind, Except.bind, pure,
                Except.pure]
    · intro ts b r h f' ts' hf hs
      obtain ⟨g, rfl⟩ := Nat.exists_eq_add_one_of_ne_zero (Nat.ne_zero_of_lt hf)
      have hg := Nat.le_of_succ_le_succ hf
      cases hs with
      | nil => cases h
      | @cons t t' ts ts' st hs =>
        rw [parseEdges, ite_eq_iff] at h
        obtain ⟨hr, h⟩ | ⟨hr, h⟩ := h
        · cases h
          exact ⟨ts', if_pos (st.1 ▸ hr), hs⟩
        rw [ite_eq_iff] at h
        obtain ⟨_, h⟩ | ⟨ht, h⟩ := h
        · cases h
        replace ht := Decidable.of_not_not ht
        rw [bind_eq_ok] at h
        obtain ⟨⟨role, ts1⟩, ha, h⟩ := h
        obtain ⟨ts1', ha', hs⟩ := takeAln_sim (c' := c') ha hs
        rw [← st.text_eq ht] at ha'
        replace ht := st.1 ▸ ht
        cases hs with
        | nil => cases h
        | @cons n n' ts2 ts2' sn hs =>
          rw [ite_eq_iff] at h
          obtain ⟨hn, h⟩ | ⟨hn, h⟩ := h
          · rw [bind_eq_ok] at h
            obtain ⟨⟨target, ts3⟩, hb, h⟩ := h
            rw [bind_eq_ok] at h
            obtain ⟨⟨bs, r⟩, he, h⟩ := h
            cases h
            obtain ⟨ts3', hb', hs⟩ := takeAln_sim (c' := c') hb hs
            obtain ⟨r', he', hs⟩ := ihE _ _ _ he g ts3' hg hs
            refine ⟨r', ?_, hs⟩
            simp [parseEdges, ht, ha', sn.symOrStr.trans hn, sn.text_eq_of_symOrStr hn, hb', he',
              bind, Except.bind, pure, Except.pure]
          rw [ite_eq_iff] at h
          obtain ⟨hl, h⟩ | ⟨hl, h⟩ := h
          · rw [bind_eq_ok] at h
            obtain ⟨⟨node, ts3⟩, hb, h⟩ := h
            rw [bind_eq_ok] at h
            obtain ⟨⟨bs, r⟩, he, h⟩ := h
            cases h
            obtain ⟨ts3', hb', hs⟩ := ihN _ _ _ hb g _ hg (.cons sn hs)
            obtain ⟨r', he', hs⟩ := ihE _ _ _ he g ts3' hg hs
            refine ⟨r', ?_, hs⟩
            simp [parseEdges, ht, ha', isSymOrStr, sn.1 ▸ hl, hb', he', bind, Except.bind, pure,
              Except.pure]
          rw [ite_eq_iff] at h
          obtain ⟨hrr, h⟩ | ⟨_, h⟩ := h
          · rw [bind_eq_ok] at h
            obtain ⟨⟨bs, r⟩, he, h⟩ := h
            cases h
            obtain ⟨r', he', hs⟩ := ihE _ _ _ he g _ hg (.cons sn hs)
            refine ⟨r', ?_, hs⟩
            simp [parseEdges, ht, ha', sn.symOrStr ▸ hn, sn.1 ▸ hl, sn.1 ▸ hrr, he', bind,
              Except.bind, pure, Except.pure]
          · cases h

theorem LSim.length {isSpace : Char → Bool} {rest ts ts' : List Tok} (h : LSim isSpace rest ts ts') :
    ts'.length = ts.length + rest.length := by
  induction h with
  | nil => exact (Nat.zero_add _).symm
  | cons _ _ ih => rw [List.length_cons, List.length_cons, ih, Nat.add_right_comm]

theorem LSim.refl_nil (isSpace : Char → Bool) (ts : List Tok) : LSim isSpace [] ts ts := by
  simpa using LSim.append_refl isSpace [] ts

theorem parseComments_comment {c : PCtx} {isSpace : Char → Bool} {t : Tok} {ts : List Tok}
    {md : AList Str Str} (h : t.ty = .COMMENT) : parseComments c isSpace (t :: ts) md =
      parseComments c isSpace ts (commentMeta isSpace (t.text.length + 1) t.text md) :=
  if_pos h

theorem parseComments_other {c : PCtx} {isSpace : Char → Bool} {t : Tok} {ts : List Tok}
    {md : AList Str Str} (h : t.ty ≠ .COMMENT) :
    parseComments c isSpace (t :: ts) md = .ok (md, t :: ts) :=
  if_neg h

theorem parseComments_sim {isSpace : Char → Bool} {rest : List Tok} {c c' : PCtx} :
    ∀ {ts ts' r : List Tok} {md md' : AList Str Str},
      parseComments c isSpace ts md = .ok (md', r) → LSim isSpace rest ts ts' →
      ∃ r', parseComments c' isSpace ts' md = .ok (md', r') ∧ LSim isSpace rest r r' ∧
        r.length ≤ ts.length := by
  intro ts ts' r md md' h hs
  induction hs generalizing md with
  | nil => cases h
  | @cons t t' ts0 ts0' ht hs0 ih =>
    by_cases hc : t.ty = .COMMENT
    · rw [parseComments_comment hc] at h
      obtain ⟨r', h1, h2, h3⟩ := ih h
      rw [ht.2.2 hc md, ← parseComments_comment (ht.1 ▸ hc)] at h1
      exact ⟨r', h1, h2, Nat.le_succ_of_le h3⟩
    · rw [parseComments_other hc] at h
      cases h
      exact ⟨t' :: ts0', parseComments_other (ht.1 ▸ hc), .cons ht hs0, Nat.le_refl _⟩

theorem parseTree_ok {isSpace : Char → Bool} {c : PCtx} {ts r : List Tok} {T : Tree} :
    parseTree c isSpace ts = .ok (T, r) ↔ ∃ md ts1 node, parseComments c isSpace ts [] = .ok (md, ts1) ∧
      parseNode c (ts1.length + 1) ts1 = .ok (node, r) ∧ T = ⟨node, md⟩ := by
  rw [parseTree, bind_eq_ok]
  constructor
  · rintro ⟨⟨md, ts1⟩, hc, h⟩
    rw [bind_eq_ok] at h
    obtain ⟨⟨node, r⟩, hn, h⟩ := h
    cases h
    exact ⟨md, ts1, node, hc, hn, rfl⟩
  · rintro ⟨md, ts1, node, hc, hn, rfl⟩
    exact ⟨(md, ts1), hc, bind_eq_ok.2 ⟨(node, r), hn, rfl⟩⟩

/-- a successful `_parse` gives the same tree on every similar token stream, whatever follows -/
theorem parseTree_sim {isSpace : Char → Bool} {rest : List Tok} {c c' : PCtx}
    {ts ts' r : List Tok} {T : Tree}
    (h : parseTree c isSpace ts = .ok (T, r)) (hs : LSim isSpace rest ts ts') :
    ∃ r', parseTree c' isSpace ts' = .ok (T, r') ∧ LSim isSpace rest r r' ∧
      r.length < ts.length := by
  obtain ⟨md, ts1, node, hc, hn, rfl⟩ := parseTree_ok.1 h
  obtain ⟨ts1', hc', hs1, hl1⟩ := parseComments_sim (c' := c') hc hs
  have hl2 := parseNode_length' hn
  obtain ⟨r', hn', hs2⟩ := (parse_sim isSpace c c' rest _).1 ts1 node r hn
    (ts1'.length + 1) ts1' (Nat.succ_le_succ (hs1.length ▸ Nat.le_add_right _ _)) hs1
  exact ⟨r', parseTree_ok.2 ⟨md, ts1', node, hc', hn', rfl⟩, hs2, Nat.lt_of_lt_of_le hl2 hl1⟩

theorem parseTree_length {isSpace : Char → Bool} {c : PCtx} {ts r : List Tok} {T : Tree}
    (h : parseTree c isSpace ts = .ok (T, r)) : r.length < ts.length :=
  let ⟨_, _, _, hl⟩ := parseTree_sim (c' := c) h (LSim.refl_nil isSpace ts)
  hl

theorem LSim.symm_nil {isSpace : Char → Bool} {ts ts' : List Tok} (h : LSim isSpace [] ts ts') :
    LSim isSpace [] ts' ts := by
  induction h with
  | nil => exact .nil
  | cons h1 _ ih => exact .cons h1.symm ih

theorem LSim.nil_inv {isSpace : Char → Bool} {rest ts' : List Tok} (h : LSim isSpace rest [] ts') :
    ts' = rest := by
  cases h; rfl

theorem LSim.append {isSpace : Char → Bool} {a a' b b' : List Tok} (h : LSim isSpace [] a a')
    (h' : LSim isSpace [] b b') : LSim isSpace [] (a ++ b) (a' ++ b') := by
  induction h with
  | nil => simpa using h'
  | cons h1 _ ih => exact .cons h1 ih

theorem parseTree_ok_head {isSpace : Char → Bool} {c : PCtx} {ts r : List Tok} {T : Tree}
    (h : parseTree c isSpace ts = .ok (T, r)) :
    ∃ t ts0, ts = t :: ts0 ∧ (t.ty = .COMMENT ∨ t.ty = .LPAREN) := by
  obtain ⟨md, ts1, node, hc, hn, _⟩ := parseTree_ok.1 h
  cases ts with
  | nil => cases hc
  | cons t ts0 =>
    refine ⟨t, ts0, rfl, ?_⟩
    by_cases hct : t.ty = .COMMENT
    · exact .inl hct
    · rw [parseComments_other hct] at hc
      cases hc
      rw [parseNode, bind_eq_ok] at hn
      obtain ⟨_, hx, _⟩ := hn
      obtain ⟨e, hty⟩ := expectTy_ok hx
      cases e
      exact .inr hty

theorem iterparseLoop_ok {isSpace : Char → Bool} {c : PCtx} {ts r : List Tok} {T : Tree}
    (h : parseTree c isSpace ts = .ok (T, r)) (f : Nat) (acc : List Tree) :
    iterparseLoop c isSpace (f + 1) ts acc = iterparseLoop c isSpace f r (T :: acc) := by
  obtain ⟨t, ts0, rfl, hty⟩ := parseTree_ok_head h
  exact (if_pos hty).trans (by rw [h])

theorem iterparseLoop_error {isSpace : Char → Bool} {c : PCtx} {t : Tok} {ts : List Tok} {e : PyErr}
    (hty : t.ty = .COMMENT ∨ t.ty = .LPAREN) (h : parseTree c isSpace (t :: ts) = .error e)
    (f : Nat) (acc : List Tree) :
    iterparseLoop c isSpace (f + 1) (t :: ts) acc = (acc.reverse, some e) :=
  (if_pos hty).trans (by rw [h])

theorem iterparseLoop_stop {isSpace : Char → Bool} {c : PCtx} {t : Tok} {ts : List Tok}
    (hty : ¬(t.ty = .COMMENT ∨ t.ty = .LPAREN)) (f : Nat) (acc : List Tree) :
    iterparseLoop c isSpace (f + 1) (t :: ts) acc = (acc.reverse, none) :=
  if_neg hty

theorem iterparseLoop_sim (isSpace : Char → Bool) (c c' : PCtx) : ∀ (f : Nat) (ts ts' : List Tok)
    (acc : List Tree) (f' : Nat), LSim isSpace [] ts ts' → ts.length < f → ts'.length < f' →
    (iterparseLoop c isSpace f ts acc).1 = (iterparseLoop c' isSpace f' ts' acc).1 ∧
    (iterparseLoop c isSpace f ts acc).2.isSome = (iterparseLoop c' isSpace f' ts' acc).2.isSome := by
  intro f
  induction f with
  | zero => exact fun _ _ _ _ _ h => absurd h (Nat.not_lt_zero _)
  | succ f ih =>
    intro ts ts' acc f' hs hl hl'
    obtain ⟨g, rfl⟩ := Nat.exists_eq_add_one_of_ne_zero (Nat.ne_zero_of_lt hl')
    cases hp : parseTree c isSpace ts with
    | ok v =>
      obtain ⟨T, r⟩ := v
      obtain ⟨r', hp', hsr, hlr⟩ := parseTree_sim (c' := c') hp hs
      rw [iterparseLoop_ok hp, iterparseLoop_ok hp']
      exact ih r r' (T :: acc) g hsr (Nat.lt_of_lt_of_le hlr (Nat.le_of_lt_succ hl))
        (Nat.lt_of_lt_of_le (parseTree_length hp') (Nat.le_of_lt_succ hl'))
    | error e =>
      cases hp' : parseTree c' isSpace ts' with
      | ok v =>
        obtain ⟨r, hp2, _, _⟩ := parseTree_sim (c' := c) hp' hs.symm_nil
        rw [hp] at hp2
        cases hp2
      | error e' =>
        cases hs with
        | nil => exact ⟨rfl, rfl⟩
        | @cons t t' ts0 ts0' ht hs0 =>
          by_cases hc : t.ty = .COMMENT ∨ t.ty = .LPAREN
          · rw [iterparseLoop_error hc hp, iterparseLoop_error (ht.1 ▸ hc) hp']
            exact ⟨rfl, rfl⟩
          · rw [iterparseLoop_stop hc, iterparseLoop_stop (ht.1 ▸ hc)]
            exact ⟨rfl, rfl⟩

theorem iterparseToks_sim (isSpace : Char → Bool) (ts ts' : List Tok) (hs : LSim isSpace [] ts ts') :
    (iterparseToks isSpace ts).1 = (iterparseToks isSpace ts').1 ∧
    (iterparseToks isSpace ts).2.isSome = (iterparseToks isSpace ts').2.isSome :=
  iterparseLoop_sim isSpace _ _ _ ts ts' [] _ hs (Nat.lt_succ_self _) (Nat.lt_succ_self _)

/-- the frame property: a token list that parses completely parses the same way, leaving
    exactly `rest`, whatever `rest` is (and whatever the error context) -/
theorem parseTree_frame {isSpace : Char → Bool} {c : PCtx} {ts : List Tok} {T : Tree}
    (h : parseTree c isSpace ts = .ok (T, [])) (c' : PCtx) (rest : List Tok) :
    parseTree c' isSpace (ts ++ rest) = .ok (T, rest) := by
  obtain ⟨r', h', hs, _⟩ := parseTree_sim (c' := c') h (LSim.append_refl isSpace rest ts)
  rw [hs.nil_inv] at h'
  exact h'

theorem iterparseLoop_concat_tail (isSpace : Char → Bool) (c : PCtx) (tail : List Tok) :
    ∀ (gs : List (List Tok × Tree)), (∀ p ∈ gs, ∃ c0, parseTree c0 isSpace p.1 = .ok (p.2, [])) →
    ∀ (f : Nat) (acc : List Tree), ((gs.map (·.1)).flatten ++ tail).length < f →
    ∃ f', tail.length < f' ∧
      iterparseLoop c isSpace f ((gs.map (·.1)).flatten ++ tail) acc =
        iterparseLoop c isSpace f' tail ((gs.map (·.2)).reverse ++ acc) := by
  intro gs
  induction gs with
  | nil => exact fun _ f _ hf => ⟨f, hf, rfl⟩
  | cons p gs ih =>
    intro h f acc hf
    obtain ⟨g, rfl⟩ := Nat.exists_eq_add_one_of_ne_zero (Nat.ne_zero_of_lt hf)
    obtain ⟨c0, hp⟩ := h p (List.mem_cons_self ..)
    have hfr := parseTree_frame hp c ((gs.map (·.1)).flatten ++ tail)
    have hl := parseTree_length hfr
    simp only [List.map_cons, List.flatten_cons, List.append_assoc] at hf ⊢
    rw [iterparseLoop_ok hfr]
    obtain ⟨f', hf', e⟩ := ih (fun q hq => h q (List.mem_cons_of_mem _ hq)) g (p.2 :: acc)
      (Nat.lt_of_lt_of_le hl (Nat.le_of_lt_succ hf))
    exact ⟨f', hf', by rw [e]; simp⟩

theorem iterparseLoop_concat (isSpace : Char → Bool) (c : PCtx) :
    ∀ (gs : List (List Tok × Tree)), (∀ p ∈ gs, ∃ c0, parseTree c0 isSpace p.1 = .ok (p.2, [])) →
    ∀ (f : Nat) (acc : List Tree), (gs.map (·.1)).flatten.length < f →
    iterparseLoop c isSpace f (gs.map (·.1)).flatten acc = (acc.reverse ++ gs.map (·.2), none) := by
  intro gs h f acc hf
  obtain ⟨f', hf', e⟩ := iterparseLoop_concat_tail isSpace c [] gs h f acc
    ((List.append_nil _).symm ▸ hf)
  obtain ⟨g, rfl⟩ := Nat.exists_eq_add_one_of_ne_zero (Nat.ne_zero_of_lt hf')
  rw [List.append_nil] at e
  rw [e, iterparseLoop, List.reverse_append, List.reverse_reverse]

/-- `iterparse` on a concatenation of complete graphs yields exactly their trees, in order,
    without error; every block of metadata comments stays with the graph that follows it -/
theorem iterparseToks_concat (isSpace : Char → Bool) (gs : List (List Tok × Tree))
    (h : ∀ p ∈ gs, ∃ c0, parseTree c0 isSpace p.1 = .ok (p.2, [])) :
    iterparseToks isSpace (gs.map (·.1)).flatten = (gs.map (·.2), none) :=
  iterparseLoop_concat isSpace _ gs h _ [] (Nat.lt_succ_self _)

theorem parseComments_all (isSpace : Char → Bool) (c : PCtx) : ∀ (cs : List Tok) (md : AList Str Str),
    (∀ t ∈ cs, t.ty = .COMMENT) → parseComments c isSpace cs md = .error c.eofErr := by
  intro cs
  induction cs with
  | nil => intro md _; rfl
  | cons t ts ih =>
    intro md h
    rw [parseComments_comment (h t (List.mem_cons_self ..))]
    exact ih _ (fun x hx => h x (List.mem_cons_of_mem _ hx))

/-- O8: COMMENT tokens after the last graph are not dropped: `iterparse` yields all the
    graphs and then raises a decode error positioned at the end of the input -/
theorem iterparseToks_trailing_comments (isSpace : Char → Bool) (gs : List (List Tok × Tree))
    (h : ∀ p ∈ gs, ∃ c0, parseTree c0 isSpace p.1 = .ok (p.2, []))
    (cs : List Tok) (hne : cs ≠ []) (hcs : ∀ t ∈ cs, t.ty = .COMMENT) :
    iterparseToks isSpace ((gs.map (·.1)).flatten ++ cs) =
      (gs.map (·.2), some (PCtx.eofErr ⟨eofPos ((gs.map (·.1)).flatten ++ cs)⟩)) := by
  unfold iterparseToks
  obtain ⟨f', hf', e⟩ := iterparseLoop_concat_tail isSpace
    ⟨eofPos ((gs.map (·.1)).flatten ++ cs)⟩ cs gs h
    (((gs.map (·.1)).flatten ++ cs).length + 1) [] (Nat.lt_succ_self _)
  rw [e]
  obtain ⟨g, rfl⟩ := Nat.exists_eq_add_one_of_ne_zero (Nat.ne_zero_of_lt hf')
  cases cs with
  | nil => exact absurd rfl hne
  | cons t ts =>
    rw [iterparseLoop_error (.inl (hcs t (List.mem_cons_self ..)))
      (by rw [parseTree, parseComments_all isSpace _ _ [] hcs]; rfl)]
    simp

end Penman.Framing
