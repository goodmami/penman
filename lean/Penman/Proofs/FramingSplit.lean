/-
  Penman.Proofs.FramingSplit — `splitLines` (`_LINE_BREAK_RE.split`) for property C09: the pieces with
  the terminators that were removed (`splitLinesT`), that this decomposition is the only one, and how
  a concatenation splits.
-/
import Penman.Lexer
import Penman.Proofs.LexLemmas
namespace Penman.Framing

theorem splitLines_nil : splitLines [] = [[]] := rfl

theorem splitLines_lf (r : Str) : splitLines ('\n' :: r) = [] :: splitLines r := rfl

theorem splitLines_crlf (r : Str) : splitLines ('\r' :: '\n' :: r) = [] :: splitLines r := rfl

theorem head?_ne_of {s : Str} {c : Char} (h : ∀ r, s = c :: r → False) : s.head? ≠ some c := by
  intro hh
  obtain ⟨r, rfl⟩ := List.head?_eq_some_iff.1 hh
  exact h r rfl

theorem ne_lf_cons {r : Str} (h : r.head? ≠ some '\n') (r' : Str) : r = '\n' :: r' → False := by
  rintro rfl
  exact h rfl

theorem splitLines_cr (r : Str) (h : r.head? ≠ some '\n') :
    splitLines ('\r' :: r) = [] :: splitLines r :=
  splitLines.eq_3 r (ne_lf_cons h)

theorem splitLines_exists (r : Str) : ∃ l ls, splitLines r = l :: ls :=
  List.exists_cons_of_ne_nil (Lex.splitLines_ne_nil r)

/-- `splitLines` that also returns, for every piece, the terminator that ended it
    (`[]` for the last piece). -/
def splitLinesT : Str → List (Str × Str)
  | [] => [([], [])]
  | '\r' :: '\n' :: rest => ([], ['\r', '\n']) :: splitLinesT rest
  | '\r' :: rest => ([], ['\r']) :: splitLinesT rest
  | '\n' :: rest => ([], ['\n']) :: splitLinesT rest
  | c :: rest =>
    match splitLinesT rest with
    | [] => [([c], [])]
    | (l, t) :: ls => (c :: l, t) :: ls

/-- number of line terminators, CRLF counted once -/
def countBreaks : Str → Nat
  | [] => 0
  | '\r' :: '\n' :: rest => countBreaks rest + 1
  | '\r' :: rest => countBreaks rest + 1
  | '\n' :: rest => countBreaks rest + 1
  | _ :: rest => countBreaks rest

def NoBreak (s : Str) : Prop := ∀ c ∈ s, c ≠ '\n' ∧ c ≠ '\r'

instance (s : Str) : Decidable (NoBreak s) := by unfold NoBreak; infer_instance

def IsTerm (t : Str) : Prop := t = ['\n'] ∨ t = ['\r', '\n'] ∨ t = ['\r']

instance (t : Str) : Decidable (IsTerm t) := by unfold IsTerm; infer_instance

theorem NoBreak.nil : NoBreak [] := nofun

theorem noBreak_cons {c : Char} {s : Str} : NoBreak (c :: s) ↔ (c ≠ '\n' ∧ c ≠ '\r') ∧ NoBreak s :=
  List.forall_mem_cons

theorem splitLinesT_ne_nil (s : Str) : splitLinesT s ≠ [] := by
  fun_cases splitLinesT s <;> exact List.cons_ne_nil _ _

theorem splitLinesT_nil : splitLinesT [] = [([], [])] := rfl
theorem splitLinesT_lf (r : Str) : splitLinesT ('\n' :: r) = ([], ['\n']) :: splitLinesT r := rfl
theorem splitLinesT_crlf (r : Str) :
    splitLinesT ('\r' :: '\n' :: r) = ([], ['\r', '\n']) :: splitLinesT r := rfl
theorem splitLinesT_cr (r : Str) (h : r.head? ≠ some '\n') :
    splitLinesT ('\r' :: r) = ([], ['\r']) :: splitLinesT r :=
  splitLinesT.eq_3 r (ne_lf_cons h)
theorem splitLinesT_other (c : Char) (r l t : Str) (ls : List (Str × Str)) (h1 : c ≠ '\n')
    (h2 : c ≠ '\r') (h : splitLinesT r = (l, t) :: ls) :
    splitLinesT (c :: r) = (c :: l, t) :: ls := by
  rw [splitLinesT.eq_5 c r (by intro _ hc; exact absurd hc h2) (fun hc => h2 hc) (fun hc => h1 hc), h]

theorem countBreaks_lf (r : Str) : countBreaks ('\n' :: r) = countBreaks r + 1 := rfl

theorem countBreaks_crlf (r : Str) : countBreaks ('\r' :: '\n' :: r) = countBreaks r + 1 := rfl

theorem countBreaks_cr (r : Str) (h : r.head? ≠ some '\n') :
    countBreaks ('\r' :: r) = countBreaks r + 1 :=
  countBreaks.eq_3 r (ne_lf_cons h)

theorem countBreaks_other (c : Char) (r : Str) (h1 : c ≠ '\n') (h2 : c ≠ '\r') :
    countBreaks (c :: r) = countBreaks r :=
  countBreaks.eq_5 c r (by intro _ hc; exact absurd hc h2) (fun hc => h2 hc) (fun hc => h1 hc)

/-- induction over the graph of `splitLinesT`: its five clauses with usable side conditions, the
    result for the tail already taken apart in the last one -/
theorem splitLinesT_induct {motive : Str → List (Str × Str) → Prop}
    (nil : motive [] [([], [])])
    (crlf : ∀ r ps, motive r ps → motive ('\r' :: '\n' :: r) (([], ['\r', '\n']) :: ps))
    (cr : ∀ r ps, r.head? ≠ some '\n' → motive r ps → motive ('\r' :: r) (([], ['\r']) :: ps))
    (lf : ∀ r ps, motive r ps → motive ('\n' :: r) (([], ['\n']) :: ps))
    (other : ∀ c r l t ps, c ≠ '\n' → c ≠ '\r' → motive r ((l, t) :: ps) →
      motive (c :: r) ((c :: l, t) :: ps))
    (s : Str) : motive s (splitLinesT s) := by
  fun_induction splitLinesT s with
  | case1 => exact nil
  | case2 rest ih => exact crlf rest _ ih
  | case3 rest h ih => exact cr rest _ (head?_ne_of h) ih
  | case4 rest ih => exact lf rest _ ih
  | case5 c rest h1 h2 h3 hnil ih => exact absurd hnil (splitLinesT_ne_nil rest)
  | case6 c rest h1 h2 h3 l t ls heq ih =>
    rw [heq] at ih
    exact other c rest l t ls (fun h => h3 h) (fun h => h2 h) ih

theorem splitLinesT_fst (s : Str) : (splitLinesT s).map Prod.fst = splitLines s := by
  apply splitLinesT_induct (motive := fun s ps => ps.map Prod.fst = splitLines s)
  case nil => rfl
  case crlf =>
    intro r ps ih
    rw [splitLines_crlf, ← ih]
    rfl
  case cr =>
    intro r ps h ih
    rw [splitLines_cr r h, ← ih]
    rfl
  case lf =>
    intro r ps ih
    rw [splitLines_lf, ← ih]
    rfl
  case other => intro c r l t ps h1 h2 ih; exact (Lex.splitLines_cons_plain h1 h2 r ih.symm).symm

theorem splitLinesT_join (s : Str) :
    ((splitLinesT s).map fun p => p.1 ++ p.2).flatten = s := by
  apply splitLinesT_induct (motive := fun s ps => (ps.map fun p => p.1 ++ p.2).flatten = s)
  case nil => rfl
  case crlf => intro r ps ih; simp [ih]
  case cr => intro r ps _ ih; simp [ih]
  case lf => intro r ps ih; simp [ih]
  case other =>
    intro c r l t ps _ _ ih
    simp only [List.map_cons, List.flatten_cons, List.cons_append, List.append_assoc] at ih ⊢
    rw [ih]

theorem splitLinesT_noBreak (s : Str) : ∀ p ∈ splitLinesT s, NoBreak p.1 := by
  apply splitLinesT_induct (motive := fun _ ps => ∀ p ∈ ps, NoBreak p.1)
  case nil => exact List.forall_mem_cons.2 ⟨.nil, nofun⟩
  case crlf => exact fun r ps ih => List.forall_mem_cons.2 ⟨.nil, ih⟩
  case cr => exact fun r ps _ ih => List.forall_mem_cons.2 ⟨.nil, ih⟩
  case lf => exact fun r ps ih => List.forall_mem_cons.2 ⟨.nil, ih⟩
  case other =>
    intro c r l t ps h1 h2 ih
    obtain ⟨hl, hps⟩ := List.forall_mem_cons.1 ih
    exact List.forall_mem_cons.2 ⟨noBreak_cons.2 ⟨⟨h1, h2⟩, hl⟩, hps⟩

/-- every pair but the last carries one of the three terminators, the last carries none -/
def TermsOk : List (Str × Str) → Prop
  | [] => False
  | [p] => p.2 = []
  | p :: q :: r => IsTerm p.2 ∧ TermsOk (q :: r)

instance TermsOk.dec : ∀ l : List (Str × Str), Decidable (TermsOk l)
  | [] => isFalse (by simp [TermsOk])
  | [p] => by unfold TermsOk; infer_instance
  | p :: q :: r =>
    have := TermsOk.dec (q :: r)
    by unfold TermsOk; infer_instance

theorem TermsOk.cons {p : Str × Str} {l : List (Str × Str)} (hp : IsTerm p.2) (hl : TermsOk l) :
    TermsOk (p :: l) := by
  cases l with
  | nil => exact absurd hl (by simp [TermsOk])
  | cons q r => exact ⟨hp, hl⟩

/-- the conditions only look at the terminator of a pair -/
theorem TermsOk.of_snd {l l' t : Str} {ps : List (Str × Str)} (h : TermsOk ((l, t) :: ps)) :
    TermsOk ((l', t) :: ps) := by
  cases ps with
  | nil => exact h
  | cons q r => exact h

theorem splitLinesT_terms (s : Str) : TermsOk (splitLinesT s) := by
  apply splitLinesT_induct (motive := fun _ ps => TermsOk ps)
  case nil => rfl
  case crlf => exact fun r ps ih => .cons (.inr (.inl rfl)) ih
  case cr => exact fun r ps _ ih => .cons (.inr (.inr rfl)) ih
  case lf => exact fun r ps ih => .cons (.inl rfl) ih
  case other => exact fun c r l t ps _ _ ih => ih.of_snd

theorem TermsOk.snd : ∀ {l : List (Str × Str)}, TermsOk l → ∀ p ∈ l, p.2 = [] ∨ IsTerm p.2
  | [], h => h.elim
  | [_], h => List.forall_mem_cons.2 ⟨.inl h, nofun⟩
  | _ :: _ :: _, h => List.forall_mem_cons.2 ⟨.inr h.1, TermsOk.snd h.2⟩

theorem splitLinesT_snd (s : Str) : ∀ p ∈ splitLinesT s, p.2 = [] ∨ IsTerm p.2 :=
  (splitLinesT_terms s).snd

theorem splitLinesT_snd_lfOnly (s : Str) :
    '\r' ∉ s → ∀ p ∈ splitLinesT s, p.2 = [] ∨ p.2 = ['\n'] := by
  apply splitLinesT_induct (motive := fun s ps => '\r' ∉ s → ∀ p ∈ ps, p.2 = [] ∨ p.2 = ['\n'])
  case nil => exact fun _ => List.forall_mem_cons.2 ⟨.inl rfl, nofun⟩
  case crlf => exact fun r ps _ h => absurd (List.mem_cons_self ..) h
  case cr => exact fun r ps _ _ h => absurd (List.mem_cons_self ..) h
  case lf =>
    exact fun r ps ih h => List.forall_mem_cons.2 ⟨.inr rfl, ih (fun hr => h (List.mem_cons_of_mem _ hr))⟩
  case other =>
    intro c r l t ps _ _ ih h
    -- the first pair keeps its terminator `t`; only its piece grows
    obtain ⟨h0, hps⟩ := List.forall_mem_cons.1 (ih (fun hr => h (List.mem_cons_of_mem _ hr)))
    exact List.forall_mem_cons.2 ⟨h0, hps⟩

/-- maximal munch (what makes the decomposition unique): the text after a lone-CR
    terminator does not start with LF. -/
def MunchOk : List (Str × Str) → Prop
  | [] => True
  | [_] => True
  | p :: q :: r => ¬ (p.2 = ['\r'] ∧ q.1 = [] ∧ q.2 = ['\n']) ∧ MunchOk (q :: r)

instance MunchOk.dec : ∀ l : List (Str × Str), Decidable (MunchOk l)
  | [] => isTrue trivial
  | [_] => isTrue trivial
  | p :: q :: r =>
    have := MunchOk.dec (q :: r)
    by unfold MunchOk; infer_instance

theorem MunchOk.cons {p : Str × Str} {l : List (Str × Str)}
    (hp : ∀ q ∈ l.head?, ¬ (p.2 = ['\r'] ∧ q.1 = [] ∧ q.2 = ['\n'])) (hl : MunchOk l) :
    MunchOk (p :: l) := by
  cases l with
  | nil => trivial
  | cons q r => exact ⟨hp q rfl, hl⟩

theorem MunchOk.of_snd {l l' t : Str} {ps : List (Str × Str)} (h : MunchOk ((l, t) :: ps)) :
    MunchOk ((l', t) :: ps) := by
  cases ps with
  | nil => trivial
  | cons q r => exact h

/-- `MunchOk` with what its induction needs at a lone CR: the first pair is `([], "\n")` only if
    the text starts with LF -/
theorem splitLinesT_munch_head (s : Str) :
    MunchOk (splitLinesT s) ∧
      ∀ q ∈ (splitLinesT s).head?, q.1 = [] → q.2 = ['\n'] → s.head? = some '\n' := by
  apply splitLinesT_induct
    (motive := fun s ps =>
      MunchOk ps ∧ ∀ q ∈ ps.head?, q.1 = [] → q.2 = ['\n'] → s.head? = some '\n')
  case nil => exact ⟨trivial, by rintro _ ⟨⟩ _ h; cases h⟩
  case crlf =>
    exact fun r ps ih => ⟨.cons (fun _ _ h => by cases h.1) ih.1, by rintro _ ⟨⟩ _ h; cases h⟩
  case cr =>
    exact fun r ps hr ih =>
      ⟨.cons (fun q hq h => hr (ih.2 q hq h.2.1 h.2.2)) ih.1, by rintro _ ⟨⟩ _ h; cases h⟩
  case lf => exact fun r ps ih => ⟨.cons (fun _ _ h => by cases h.1) ih.1, fun _ _ _ _ => rfl⟩
  case other => exact fun c r l t ps _ _ ih => ⟨ih.1.of_snd, by rintro _ ⟨⟩ h; cases h⟩

theorem splitLinesT_munch (s : Str) : MunchOk (splitLinesT s) := (splitLinesT_munch_head s).1

theorem splitLines_noBreak (s : Str) : ∀ l ∈ splitLines s, NoBreak l := by
  intro l hl
  rw [← splitLinesT_fst] at hl
  obtain ⟨p, hp, rfl⟩ := List.mem_map.1 hl
  exact splitLinesT_noBreak s p hp

theorem splitLinesT_length (s : Str) : (splitLinesT s).length = (splitLines s).length := by
  rw [← splitLinesT_fst]; simp

theorem splitLinesT_count_length (s : Str) :
    ((splitLinesT s).filter fun p => !p.2.isEmpty).length = countBreaks s ∧
      (splitLinesT s).length = countBreaks s + 1 := by
  apply splitLinesT_induct (motive := fun s ps =>
    (ps.filter fun p => !p.2.isEmpty).length = countBreaks s ∧ ps.length = countBreaks s + 1)
  case nil => exact ⟨rfl, rfl⟩
  case crlf => intro r ps ih; simp [countBreaks_crlf, ih]
  case cr => intro r ps h ih; simp [countBreaks_cr r h, ih]
  case lf => intro r ps ih; simp [countBreaks_lf, ih]
  case other =>
    intro c r l t ps h1 h2 ih
    rw [countBreaks_other c r h1 h2]
    simpa only [← List.countP_eq_length_filter, List.countP_cons, List.length_cons] using ih

theorem splitLinesT_count (s : Str) :
    ((splitLinesT s).filter fun p => !p.2.isEmpty).length = countBreaks s :=
  (splitLinesT_count_length s).1

theorem splitLines_length (s : Str) : (splitLines s).length = countBreaks s + 1 := by
  rw [← splitLinesT_length]; exact (splitLinesT_count_length s).2

theorem countBreaks_lfOnly (s : Str) (h : '\r' ∉ s) : countBreaks s = s.count '\n' := by
  induction s with
  | nil => rfl
  | cons c r ih =>
    obtain ⟨hc, hr⟩ := List.ne_and_not_mem_of_not_mem_cons h
    by_cases hn : c = '\n'
    · subst hn; simp [countBreaks_lf, ih hr]
    · rw [countBreaks_other c r hn hc.symm, ih hr, List.count_cons]; simp [hn]

theorem splitLines_noBreak_append (sp b fb : Str) (tb : List Str) (hsp : NoBreak sp)
    (hb : splitLines b = fb :: tb) : splitLines (sp ++ b) = (sp ++ fb) :: tb := by
  induction sp with
  | nil => exact hb
  | cons c r ih =>
    obtain ⟨hc, hr⟩ := noBreak_cons.1 hsp
    exact Lex.splitLines_cons_plain hc.1 hc.2 _ (ih hr)

/-- any character other than LF and CR (VT, FF, NEL, LS, PS, FS …) never splits -/
theorem splitLines_noBreak_eq (s : Str) (h : NoBreak s) : splitLines s = [s] := by
  simpa using splitLines_noBreak_append s [] [] [] h rfl

theorem splitLines_singleton_iff (s : Str) : splitLines s = [s] ↔ NoBreak s :=
  ⟨fun h => splitLines_noBreak s s (by rw [h]; simp), splitLines_noBreak_eq s⟩

/-- LF-only text: `splitLines` is `str.split('\n')` -/
theorem splitLines_lfOnly (s : Str) (h : '\r' ∉ s) : splitLines s = splitChar '\n' s := by
  induction s with
  | nil => rfl
  | cons c r ih =>
    obtain ⟨hc, hr⟩ := List.ne_and_not_mem_of_not_mem_cons h
    by_cases hn : c = '\n'
    · subst hn; simp [splitLines_lf, splitChar, ih hr]
    · obtain ⟨l, ls, h'⟩ := splitLines_exists r
      rw [Lex.splitLines_cons_plain hn hc.symm r h', splitChar]
      simp only [beq_iff_eq, hn, ↓reduceIte]
      rw [← ih hr, h']

theorem joinStr_cons_cons (sep x : Str) (l : List Str) (h : l ≠ []) :
    joinStr sep (x :: l) = x ++ sep ++ joinStr sep l := by
  cases l with
  | nil => exact absurd rfl h
  | cons y r => rfl

theorem splitLines_join_lf (s : Str) (h : '\r' ∉ s) : joinStr ['\n'] (splitLines s) = s := by
  induction s with
  | nil => rfl
  | cons c r ih =>
    obtain ⟨hc, hr⟩ := List.ne_and_not_mem_of_not_mem_cons h
    have ih' := ih hr
    by_cases hn : c = '\n'
    · subst hn
      rw [splitLines_lf, joinStr_cons_cons _ _ _ (Lex.splitLines_ne_nil r), ih']; rfl
    · obtain ⟨l, ls, h'⟩ := splitLines_exists r
      rw [Lex.splitLines_cons_plain hn hc.symm r h']
      rw [h'] at ih'
      cases ls with
      | nil => exact congrArg (c :: ·) ih'
      | cons y ys => exact congrArg (c :: ·) ih'

theorem splitLines_concat (s : Str) : ∃ init last, splitLines s = init ++ [last] := by
  rcases List.eq_nil_or_concat (splitLines s) with h | ⟨init, last, h⟩
  · exact absurd h (Lex.splitLines_ne_nil s)
  · exact ⟨init, last, by simpa using h⟩

/-- the lines of `a ++ b` from the lines of `a` and of `b`: the last line of `a` and the first
    line of `b` become one -/
def glue : List Str → List Str → List Str
  | [], B => B
  | [x], B => match B with | [] => [x] | y :: B' => (x ++ y) :: B'
  | x :: x' :: A, B => x :: glue (x' :: A) B

theorem glue_cons (x : Str) (A B : List Str) (h : A ≠ []) : glue (x :: A) B = x :: glue A B := by
  cases A with
  | nil => exact absurd rfl h
  | cons x' A' => rfl

theorem glue_concat : ∀ (ia : List Str) (la fb : Str) (tb : List Str),
    glue (ia ++ [la]) (fb :: tb) = ia ++ (la ++ fb) :: tb
  | [], la, fb, tb => rfl
  | x :: ia, la, fb, tb => by
    rw [List.cons_append, glue_cons _ _ _ (by simp), glue_concat ia la fb tb]; rfl

theorem getLast?_cons_of {c d : Char} {r : Str} (h : r.getLast? = some d) :
    (c :: r).getLast? = some d := by
  cases r with
  | nil => cases h
  | cons e es => rw [List.getLast?_cons_cons, h]

/-- the text splits where its two parts split, unless a CRLF straddles the seam -/
theorem splitLines_append (a b : Str) (h : a.getLast? = some '\r' → b.head? ≠ some '\n') :
    splitLines (a ++ b) = glue (splitLines a) (splitLines b) := by
  fun_induction splitLines a with
  | case1 =>
    obtain ⟨l, ls, hb⟩ := splitLines_exists b
    rw [List.nil_append, hb]; rfl
  | case2 rest ih =>
    rw [List.cons_append, List.cons_append, splitLines_crlf,
      ih (fun hr => h (getLast?_cons_of (getLast?_cons_of hr))),
      glue_cons _ _ _ (Lex.splitLines_ne_nil rest)]
  | case3 rest hne ih =>
    have hh := head?_ne_of hne
    rw [glue_cons _ _ _ (Lex.splitLines_ne_nil rest), ← ih (fun hr => h (getLast?_cons_of hr)),
      List.cons_append]
    apply splitLines_cr
    cases rest with
    | nil => exact h rfl
    | cons d ds => exact hh
  | case4 rest ih =>
    rw [List.cons_append, splitLines_lf, ih (fun hr => h (getLast?_cons_of hr)),
      glue_cons _ _ _ (Lex.splitLines_ne_nil rest)]
  | case5 c rest h1 h2 h3 hnil => exact absurd hnil (Lex.splitLines_ne_nil rest)
  | case6 c rest h1 h2 h3 l ls heq ih =>
    have ih' := ih (fun hr => h (getLast?_cons_of hr))
    obtain ⟨y, B, hb⟩ := splitLines_exists b
    rw [heq, hb] at ih'
    rw [hb, List.cons_append]
    cases ls with
    | nil => exact Lex.splitLines_cons_plain (fun e => h3 e) (fun e => h2 e) _ ih'
    | cons x' A => exact Lex.splitLines_cons_plain (fun e => h3 e) (fun e => h2 e) _ ih'

theorem splitLines_append_lf (a b : Str) (h : a.getLast? ≠ some '\r') :
    splitLines (a ++ '\n' :: b) = splitLines a ++ splitLines b := by
  obtain ⟨ia, la, ha⟩ := splitLines_concat a
  rw [splitLines_append a _ (fun h' => absurd h' h), splitLines_lf, ha, glue_concat]
  simp

theorem splitLines_append_lf_nil (a : Str) (h : a.getLast? ≠ some '\r') :
    splitLines (a ++ ['\n']) = splitLines a ++ [[]] := by
  rw [splitLines_append_lf a [] h, splitLines_nil]

theorem splitLines_replicate_lf (k : Nat) (b : Str) :
    splitLines (List.replicate k '\n' ++ b) = List.replicate k [] ++ splitLines b := by
  induction k with
  | zero => simp
  | succ k ih => simp [List.replicate_succ, splitLines_lf, ih]

theorem splitLinesT_noBreak_eq (s : Str) (h : NoBreak s) : splitLinesT s = [(s, [])] := by
  induction s with
  | nil => rfl
  | cons c r ih =>
    obtain ⟨hc, hr⟩ := noBreak_cons.1 h
    exact splitLinesT_other c r r [] [] hc.1 hc.2 (ih hr)

theorem splitLinesT_piece (l t rest : Str) (hl : NoBreak l) (ht : IsTerm t)
    (hm : t = ['\r'] → rest.head? ≠ some '\n') :
    splitLinesT (l ++ t ++ rest) = (l, t) :: splitLinesT rest := by
  induction l with
  | nil =>
    rcases ht with rfl | rfl | rfl
    · exact splitLinesT_lf rest
    · exact splitLinesT_crlf rest
    · exact splitLinesT_cr rest (hm rfl)
  | cons c r ih =>
    obtain ⟨hc, hr⟩ := noBreak_cons.1 hl
    exact splitLinesT_other c _ r t _ hc.1 hc.2 (ih hr)

theorem piece_head_lf {l t rest : Str} (hl : NoBreak l) (ht : t = [] ∧ rest = [] ∨ IsTerm t)
    (hh : (l ++ t ++ rest).head? = some '\n') : l = [] ∧ t = ['\n'] := by
  cases l with
  | cons d ds => exact absurd (Option.some.inj hh) (hl d (List.mem_cons_self ..)).1
  | nil =>
    refine ⟨rfl, ?_⟩
    rcases ht with ⟨rfl, rfl⟩ | rfl | rfl | rfl
    · cases hh
    · rfl
    · exact absurd (Option.some.inj hh) (by decide)
    · exact absurd (Option.some.inj hh) (by decide)

/-- any decomposition of `s` into break-free pieces with LF / CRLF / CR terminators
    (the last piece unterminated, no lone CR directly before an LF) is the one
    `splitLinesT` computes -/
theorem splitLinesT_unique : ∀ (ps : List (Str × Str)) (s : Str),
    (∀ p ∈ ps, NoBreak p.1) → TermsOk ps → MunchOk ps →
    (ps.map fun p => p.1 ++ p.2).flatten = s → splitLinesT s = ps
  | [], _, _, ht, _, _ => ht.elim
  | [(l, t)], s, hn, ht, _, hj => by
    cases (ht : t = [])
    subst hj
    simpa using splitLinesT_noBreak_eq l (hn (l, []) (List.mem_cons_self ..))
  | (l, t) :: (ql, qt) :: r, s, hn, ht, hm, hj => by
    have ih := splitLinesT_unique ((ql, qt) :: r) _ (fun x hx => hn x (List.mem_cons_of_mem _ hx))
      ht.2 hm.2 rfl
    subst hj
    simp only [List.map_cons, List.flatten_cons] at ih ⊢
    rw [splitLinesT_piece l t _ (hn _ (List.mem_cons_self ..)) ht.1, ih]
    intro hcr hhead
    refine hm.1 ⟨hcr, piece_head_lf (hn (ql, qt) (by simp)) ?_ hhead⟩
    cases r with
    | nil => exact .inl ⟨ht.2, rfl⟩
    | cons r0 rs => exact .inr ht.2.1

end Penman.Framing
