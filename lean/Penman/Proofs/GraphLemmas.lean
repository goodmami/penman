/-
  Penman.Proofs.GraphLemmas — `dedup` and the association lists of Penman/Basic.lean
  (`AList.get?`, `set`, `keys`, `update`, `ofList`), used by the C15, C16 and C17 proofs
  (Dfs, Errors, CheckCli, OrderIndep), and for property C15 the queries of
  Penman/Graph.lean as filters and the set operators `|`, `-`, `|=`, `-=`.
-/
import Penman.Graph
namespace Penman

theorem mem_dedup {α : Type} [DecidableEq α] {a : α} : ∀ {l : List α}, a ∈ dedup l ↔ a ∈ l
  | [] => Iff.rfl
  | x :: xs => by
    rw [dedup, List.mem_cons, List.mem_cons, List.mem_filter, mem_dedup (l := xs), decide_eq_true_eq]
    exact ⟨fun h => h.imp id And.left,
      fun h => (Decidable.em (a = x)).imp id fun hne => ⟨h.resolve_left hne, hne⟩⟩

theorem nodup_dedup {α : Type} [DecidableEq α] : ∀ l : List α, (dedup l).Nodup
  | [] => by simp [dedup]
  | x :: xs => by
    simp only [dedup, List.nodup_cons, List.mem_filter]
    exact ⟨by simp, (nodup_dedup xs).sublist List.filter_sublist⟩

theorem dedup_sublist {α : Type} [DecidableEq α] : ∀ l : List α, (dedup l).Sublist l
  | [] => by simp [dedup]
  | x :: xs => by
    simp only [dedup]
    exact (List.filter_sublist.trans (dedup_sublist xs)).cons_cons x

namespace AList
variable {α β : Type} [DecidableEq α]

@[simp] theorem get?_nil (k : α) : get? ([] : AList α β) k = none := rfl

theorem get?_cons (p : α × β) (r : AList α β) (k : α) :
    get? (p :: r) k = if p.1 = k then some p.2 else get? r k := by
  simp only [get?, List.find?_cons]
  by_cases h : p.1 = k <;> simp [h]

theorem set_cons (a : α) (b : β) (r : AList α β) (k : α) (v : β) :
    set ((a, b) :: r) k v = if a = k then (a, v) :: r else (a, b) :: set r k v := rfl

omit [DecidableEq α] in
theorem keys_cons (p : α × β) (r : AList α β) : keys (p :: r) = p.1 :: keys r := rfl

theorem get?_append (a b : AList α β) (k : α) :
    get? (a ++ b) k = (get? a k).or (get? b k) := by
  induction a with
  | nil => simp
  | cons p r ih =>
    simp only [List.cons_append, get?_cons, ih]
    by_cases h : p.1 = k <;> simp [h]

theorem get?_eq_none_iff (d : AList α β) (k : α) : get? d k = none ↔ k ∉ keys d := by
  induction d with
  | nil => exact ⟨fun _ => List.not_mem_nil, fun _ => rfl⟩
  | cons p r ih =>
    rw [get?_cons, keys_cons, List.mem_cons, not_or]
    by_cases h : p.1 = k
    · rw [if_pos h]
      exact ⟨nofun, fun h' => absurd h.symm h'.1⟩
    · rw [if_neg h, ih]
      exact ⟨fun h2 => ⟨fun e => h e.symm, h2⟩, fun h2 => h2.2⟩

theorem get?_isSome_iff (d : AList α β) (k : α) : (get? d k).isSome ↔ k ∈ keys d := by
  rw [← Decidable.not_iff_not, ← get?_eq_none_iff]
  cases get? d k <;> simp

theorem mem_of_get?_eq_some {d : AList α β} {k : α} {v : β} (h : get? d k = some v) :
    (k, v) ∈ d := by
  induction d with
  | nil => simp at h
  | cons p r ih =>
    rw [get?_cons] at h
    by_cases hk : p.1 = k
    · simp only [hk, if_true, Option.some.injEq] at h
      simp [← hk, ← h]
    · simp only [hk, if_false] at h
      exact List.mem_cons_of_mem _ (ih h)

theorem get?_eq_some_iff_mem {d : AList α β} (hd : (keys d).Nodup) (k : α) (v : β) :
    get? d k = some v ↔ (k, v) ∈ d := by
  refine ⟨mem_of_get?_eq_some, ?_⟩
  induction d with
  | nil => simp
  | cons p r ih =>
    simp only [keys, List.map_cons, List.nodup_cons] at hd
    intro hm
    rw [get?_cons]
    rcases List.mem_cons.1 hm with rfl | hm
    · simp
    · have : p.1 ≠ k := by
        intro e; apply hd.1; rw [e]; exact List.mem_map.2 ⟨(k, v), hm, rfl⟩
      simp only [this, if_false]
      exact ih hd.2 hm

omit [DecidableEq α] in
theorem keys_reverse (d : AList α β) : keys d.reverse = (keys d).reverse := by
  simp [keys]

/-- With duplicate-free keys (always the case for a Python `dict`), looking up in
    the reversed list gives the same answer. -/
theorem get?_reverse {d : AList α β} (hd : (keys d).Nodup) (k : α) :
    get? d.reverse k = get? d k := by
  have hr : (keys d.reverse).Nodup := by rw [keys_reverse]; exact (List.reverse_perm _).symm.nodup hd
  cases h : get? d k with
  | none =>
    rw [get?_eq_none_iff] at h ⊢
    simpa [keys_reverse] using h
  | some v =>
    rw [get?_eq_some_iff_mem hd] at h
    rw [get?_eq_some_iff_mem hr]
    simpa using h

theorem get?_reverse_eq_none_iff (d : AList α β) (k : α) :
    get? d.reverse k = none ↔ get? d k = none := by
  simp [get?_eq_none_iff, keys_reverse]

theorem get?_set (d : AList α β) (k : α) (v : β) (k' : α) :
    get? (set d k v) k' = if k = k' then some v else get? d k' := by
  induction d with
  | nil => exact get?_cons (k, v) [] k'
  | cons p r ih =>
    obtain ⟨a, b⟩ := p
    rw [set_cons]
    by_cases h : a = k
    · subst h
      rw [if_pos rfl, get?_cons, get?_cons]
      by_cases h2 : a = k'
      · rw [if_pos h2, if_pos h2]
      · rw [if_neg h2, if_neg h2, if_neg h2]
    · rw [if_neg h, get?_cons, get?_cons, ih]
      by_cases h2 : a = k'
      · rw [if_pos h2, if_pos h2, if_neg (fun e => h (h2.trans e.symm))]
      · rw [if_neg h2, if_neg h2]

theorem set_of_not_mem {d : AList α β} {k : α} (h : k ∉ keys d) (v : β) :
    set d k v = d ++ [(k, v)] := by
  induction d with
  | nil => rfl
  | cons p r ih =>
    rw [keys_cons, List.mem_cons, not_or] at h
    rw [set_cons, if_neg (fun e => h.1 e.symm), ih h.2]
    rfl

theorem keys_set_of_mem {d : AList α β} {k : α} (h : k ∈ keys d) (v : β) :
    keys (set d k v) = keys d := by
  induction d with
  | nil => cases h
  | cons p r ih =>
    rw [set_cons]
    by_cases h1 : p.1 = k
    · rw [if_pos h1]; rfl
    · rw [if_neg h1, keys_cons, keys_cons, ih ((List.mem_cons.1 h).resolve_left fun e => h1 e.symm)]

theorem keys_set (d : AList α β) (k : α) (v : β) :
    keys (set d k v) = if k ∈ keys d then keys d else keys d ++ [k] := by
  by_cases h : k ∈ keys d
  · simp [h, keys_set_of_mem h]
  · rw [if_neg h, set_of_not_mem h]; simp [keys]

theorem nodup_keys_set {d : AList α β} (hd : (keys d).Nodup) (k : α) (v : β) :
    (keys (set d k v)).Nodup := by
  rw [keys_set]
  by_cases h : k ∈ keys d
  · simpa [h] using hd
  · simp only [h, if_false]
    rw [List.nodup_append]
    exact ⟨hd, by simp, by
      intro a ha b hb e
      simp only [List.mem_singleton] at hb
      exact h (by rw [← hb, ← e]; exact ha)⟩

theorem nodup_keys_foldl_set (e : List (α × β)) {d : AList α β} (hd : (keys d).Nodup) :
    (keys (e.foldl (fun d p => d.set p.1 p.2) d)).Nodup := by
  induction e generalizing d with
  | nil => exact hd
  | cons p r ih => exact ih (nodup_keys_set hd _ _)

theorem nodup_keys_ofList (l : List (α × β)) : (keys (ofList l)).Nodup :=
  nodup_keys_foldl_set l (d := []) (by simp [keys])

theorem nodup_keys_update {d : AList α β} (hd : (keys d).Nodup) (e : AList α β) :
    (keys (update d e)).Nodup := nodup_keys_foldl_set e hd

theorem get?_foldl_set (e : List (α × β)) (d : AList α β) (k : α) :
    get? (e.foldl (fun d p => d.set p.1 p.2) d) k = (get? e.reverse k).or (get? d k) := by
  induction e generalizing d with
  | nil => simp
  | cons p r ih =>
    simp only [List.foldl_cons, ih, List.reverse_cons, get?_append, get?_set, get?_cons, get?_nil]
    by_cases h : p.1 = k <;> simp [h]

/-- `d.update(e)`: the value of the *last* entry of `e` for the key wins, else `d`'s. -/
theorem get?_update (d e : AList α β) (k : α) :
    get? (update d e) k = (get? e.reverse k).or (get? d k) := get?_foldl_set e d k

theorem get?_update_of_nodup (d : AList α β) {e : AList α β} (he : (keys e).Nodup) (k : α) :
    get? (update d e) k = (get? e k).or (get? d k) := by
  rw [get?_update, get?_reverse he]

theorem get?_ofList (l : List (α × β)) (k : α) : get? (ofList l) k = get? l.reverse k := by
  simp [ofList, get?_foldl_set]

theorem foldl_set_of_nodup (e : List (α × β)) (d : AList α β) (h : (keys (d ++ e)).Nodup) :
    e.foldl (fun d p => d.set p.1 p.2) d = d ++ e := by
  induction e generalizing d with
  | nil => simp
  | cons p r ih =>
    have hp : p.1 ∉ keys d := by
      simp only [keys, List.map_append, List.map_cons, List.nodup_append] at h
      intro hm
      exact h.2.2 _ hm _ (List.mem_cons_self) rfl
    simp only [List.foldl_cons, set_of_not_mem hp]
    rw [ih]
    · simp
    · simpa using h

/-- `dict(d.items()) == d` including order, when keys are duplicate-free -/
theorem ofList_of_nodup {d : AList α β} (h : (keys d).Nodup) : ofList d = d := by
  simpa [ofList] using foldl_set_of_nodup d [] (by simpa using h)

theorem ofList_idem (l : List (α × β)) : ofList (ofList l) = ofList l :=
  ofList_of_nodup (nodup_keys_ofList l)

theorem get?_filter_key (q : α → Bool) (d : AList α β) (k : α) :
    get? (d.filter (fun p => q p.1)) k = if q k then get? d k else none := by
  induction d with
  | nil => simp
  | cons p r ih =>
    simp only [List.filter_cons]
    by_cases hq : q p.1
    · simp only [hq, if_true, get?_cons, ih]
      by_cases h : p.1 = k
      · subst h; simp [hq]
      · simp [h]
    · simp only [hq]
      by_cases h : p.1 = k
      · subst h; simp [hq, ih]
      · simp [h, ih, get?_cons]

omit [DecidableEq α] in
theorem keys_filter_key (q : α → Bool) (d : AList α β) :
    keys (d.filter (fun p => q p.1)) = (keys d).filter q := by
  simp [keys, List.filter_map, Function.comp_def]

omit [DecidableEq α] in
theorem _root_.Penman.filterMap_ite (l : List α) (p : α → Prop) [DecidablePred p] (f : α → β) :
    (l.filterMap fun v => if p v then some (f v) else none) = (l.filter p).map f := by
  induction l with
  | nil => rfl
  | cons x r ih => by_cases hx : p x <;> simp [hx, ih]

theorem get?_map_graph (l : List α) (f : α → β) (v : α) :
    get? (l.map fun x => (x, f x)) v = if v ∈ l then some (f v) else none := by
  induction l with
  | nil => rfl
  | cons x r ih =>
    rw [List.map_cons, get?_cons, ih]
    by_cases e : x = v
    · subst e; simp
    · simp [e, Ne.symm e]

end AList

def isInstT (t : Triple) : Bool := t.role = CONCEPT_ROLE
/-- the triple is an edge of `g`: not an instance triple and its target is a variable of `g` -/
def Graph.isEdgeT (g : Graph) (t : Triple) : Bool := t.role ≠ CONCEPT_ROLE && g.isVar t.tgt
/-- the triple is an attribute of `g`: not an instance triple and its target is not a variable -/
def Graph.isAttrT (g : Graph) (t : Triple) : Bool := t.role ≠ CONCEPT_ROLE && !g.isVar t.tgt
/-- the `(source, role, target)` filter pattern of `edges()`/`attributes()`; `none` = wildcard -/
def matchT (src : Option Str) (role : Option Str) (tgt : Option Atom) (t : Triple) : Bool :=
  (src.all (· = t.src)) && (role.all (· = t.role)) && (tgt.all (· = t.tgt))

theorem matchT_iff (src role : Option Str) (tgt : Option Atom) (t : Triple) :
    matchT src role tgt t = true ↔
      (∀ s, src = some s → s = t.src) ∧ (∀ r, role = some r → r = t.role) ∧
      (∀ a, tgt = some a → a = t.tgt) := by
  simp only [matchT, Bool.and_eq_true, Option.all_eq_true, decide_eq_true_eq, and_assoc]

@[simp] theorem matchT_none (t : Triple) : matchT none none none t = true := rfl

theorem class_exclusive_exhaustive (g : Graph) (t : Triple) :
    (isInstT t = true ∧ g.isEdgeT t = false ∧ g.isAttrT t = false) ∨
    (isInstT t = false ∧ g.isEdgeT t = true ∧ g.isAttrT t = false) ∨
    (isInstT t = false ∧ g.isEdgeT t = false ∧ g.isAttrT t = true) := by
  simp only [isInstT, Graph.isEdgeT, Graph.isAttrT]
  by_cases h1 : t.role = CONCEPT_ROLE <;> cases h2 : g.isVar t.tgt <;> simp [h1]

theorem filterTriples_eq (g : Graph) (s r : Option Str) (t : Option Atom) :
    g.filterTriples s r t = g.triples.filter (matchT s r t) := rfl

theorem instances_eq_filter (g : Graph) : g.instances = g.triples.filter isInstT := by
  simp only [Graph.instances, Graph.filterTriples]
  apply List.filter_congr
  intro t _
  simp [isInstT, eq_comm]

theorem edges_eq_filter' (g : Graph) (s r : Option Str) (t : Option Atom) :
    g.edges s r t = g.triples.filter (fun x => matchT s r t x && g.isEdgeT x) := by
  simp only [Graph.edges, filterTriples_eq, List.filter_filter]
  apply List.filter_congr
  intro x _
  simp only [Graph.isEdgeT, Bool.and_comm]

theorem attributes_eq_filter' (g : Graph) (s r : Option Str) (t : Option Atom) :
    g.attributes s r t = g.triples.filter (fun x => matchT s r t x && g.isAttrT x) := by
  simp only [Graph.attributes, filterTriples_eq, List.filter_filter]
  apply List.filter_congr
  intro x _
  simp only [Graph.isAttrT, Bool.and_comm]

theorem edges_eq_filter (g : Graph) : g.edges = g.triples.filter g.isEdgeT := by
  rw [edges_eq_filter']; simp

theorem attributes_eq_filter (g : Graph) : g.attributes = g.triples.filter g.isAttrT := by
  rw [attributes_eq_filter']; simp

theorem edges_filtered (g : Graph) (s r : Option Str) (t : Option Atom) :
    g.edges s r t = g.edges.filter (matchT s r t) := by
  rw [edges_eq_filter', edges_eq_filter, List.filter_filter]

theorem attributes_filtered (g : Graph) (s r : Option Str) (t : Option Atom) :
    g.attributes s r t = g.attributes.filter (matchT s r t) := by
  rw [attributes_eq_filter', attributes_eq_filter, List.filter_filter]

/-- every element of a list is counted in exactly one class -/
theorem countP_partition (g : Graph) (q : Triple → Bool) (l : List Triple) :
    l.countP q = (l.filter isInstT).countP q + (l.filter g.isEdgeT).countP q +
      (l.filter g.isAttrT).countP q := by
  induction l with
  | nil => rfl
  | cons x r ih =>
    rcases class_exclusive_exhaustive g x with h | h | h <;>
      simp only [List.filter_cons, h.1, h.2.1, h.2.2, List.countP_cons, ih, if_true,
        Bool.false_eq_true, if_false] <;> omega

theorem count_partition (g : Graph) (l : List Triple) (t : Triple) :
    l.count t = (l.filter isInstT).count t + (l.filter g.isEdgeT).count t +
      (l.filter g.isAttrT).count t := countP_partition g (· == t) l

theorem length_partition (g : Graph) (l : List Triple) :
    l.length = (l.filter isInstT).length + (l.filter g.isEdgeT).length +
      (l.filter g.isAttrT).length := by
  simpa only [List.countP_true] using countP_partition g (fun _ => true) l

theorem mem_variables (g : Graph) (v : Str) :
    v ∈ g.variables ↔ (∃ t ∈ g.triples, t.src = v) ∨ g.top = some v := by
  unfold Graph.variables
  cases htop : g.top with
  | none => simp [mem_dedup]
  | some t =>
    by_cases h : t ∈ dedup (g.triples.map (·.src))
    · simp only [h, if_true, mem_dedup, List.mem_map, Option.some.injEq]
      constructor
      · exact Or.inl
      · rintro (h' | rfl)
        · exact h'
        · simpa [mem_dedup] using h
    · simp only [h, if_false, List.mem_append, mem_dedup, List.mem_map, List.mem_singleton,
        Option.some.injEq]
      constructor
      · rintro (h' | rfl)
        · exact Or.inl h'
        · exact Or.inr rfl
      · rintro (h' | rfl)
        · exact Or.inl h'
        · exact Or.inr rfl

theorem variables_nodup (g : Graph) : g.variables.Nodup := by
  unfold Graph.variables
  cases g.top with
  | none => exact nodup_dedup _
  | some t =>
    by_cases h : t ∈ dedup (g.triples.map (·.src))
    · simpa [h] using nodup_dedup _
    · simp only [h, if_false]
      rw [List.nodup_append]
      refine ⟨nodup_dedup _, by simp, ?_⟩
      intro a ha b hb e
      simp only [List.mem_singleton] at hb
      exact h (by rw [← hb, ← e]; exact ha)

theorem isVar_iff (g : Graph) (a : Atom) : g.isVar a = true ↔ ∃ v, a = .str v ∧ v ∈ g.variables := by
  cases a <;> simp [Graph.isVar]

theorem getTop_of_top_none {g : Graph} (h : g.top = none) :
    g.getTop = g.triples.head?.map (·.src) := by
  unfold Graph.getTop
  rw [h]
  cases g.triples <;> rfl

theorem getTop_of_top_some {g : Graph} {t : Str} (h : g.top = some t) : g.getTop = some t := by
  unfold Graph.getTop; rw [h]

/-- the (implicit or explicit) top is always a variable -/
theorem getTop_mem_variables {g : Graph} {v : Str} (h : g.getTop = some v) : v ∈ g.variables := by
  rw [mem_variables]
  cases ht : g.top with
  | some t => rw [getTop_of_top_some ht] at h; exact Or.inr h
  | none =>
    rw [getTop_of_top_none ht] at h
    cases hl : g.triples with
    | nil => simp [hl] at h
    | cons t r =>
      simp only [hl, List.head?_cons, Option.map_some, Option.some.injEq] at h
      exact Or.inl ⟨t, by simp, h⟩

/-- in-degree of `v` (number of edges whose target is `v`), plus one if `v` is the top -/
def Graph.reentCount (g : Graph) (v : Str) : Nat :=
  g.edges.countP (fun t => t.tgt = Atom.str v) + (if g.getTop = some v then 1 else 0)

theorem countStr_append (v : Str) (a b : List Str) :
    countStr v (a ++ b) = countStr v a + countStr v b := by
  simp [countStr]

theorem countStr_pos_iff (v : Str) (l : List Str) : 0 < countStr v l ↔ v ∈ l := by
  induction l with
  | nil => simp [countStr]
  | cons x r ih =>
    simp only [countStr, List.filter_cons, List.mem_cons] at ih ⊢
    by_cases h : x = v
    · simp [h]
    · simp only [h, decide_false, Bool.false_eq_true, if_false, ih]
      constructor
      · exact Or.inr
      · rintro (e | e)
        · exact absurd e.symm h
        · exact e

@[simp] theorem tgtStr?_none : tgtStr? Atom.none = none := rfl
@[simp] theorem tgtStr?_str (s : Str) : tgtStr? (Atom.str s) = some s := rfl
@[simp] theorem tgtStr?_num (s : Str) : tgtStr? (Atom.num s) = none := rfl

theorem countStr_filterMap_tgt (v : Str) (l : List Triple) :
    countStr v (l.filterMap (fun t => tgtStr? t.tgt)) = l.countP (fun t => t.tgt = Atom.str v) := by
  induction l with
  | nil => rfl
  | cons t r ih =>
    simp only [countStr] at ih
    rcases ht : t.tgt with _ | s | n
    · simp [countStr, ht, ih]
    · by_cases h : s = v
      · simp [countStr, ht, ih, h]
      · simp [countStr, ht, ih, h]
    · simp [countStr, ht, ih]

/-- the list of "entrances" used by `reentrancies()` -/
def Graph.ents (g : Graph) : List Str :=
  (match g.getTop with | some t => [t] | none => []) ++ (g.edges.filterMap (fun t => tgtStr? t.tgt))

theorem countStr_ents (g : Graph) (v : Str) : countStr v g.ents = g.reentCount v := by
  unfold Graph.ents Graph.reentCount
  rw [countStr_append, countStr_filterMap_tgt, Nat.add_comm]
  congr 1
  cases g.getTop with
  | none => simp [countStr]
  | some t => by_cases h : t = v <;> simp [countStr, h]

theorem reentrancies_eq (g : Graph) :
    g.reentrancies = (dedup g.ents).filterMap fun v =>
      if 2 ≤ g.reentCount v then some (v, g.reentCount v - 1) else none := by
  unfold Graph.reentrancies
  simp only [← countStr_ents]
  rfl

theorem reentrancies_get? (g : Graph) (v : Str) :
    AList.get? g.reentrancies v =
      if 2 ≤ g.reentCount v then some (g.reentCount v - 1) else none := by
  rw [reentrancies_eq, filterMap_ite, AList.get?_map_graph]
  by_cases h : 2 ≤ g.reentCount v
  · have : v ∈ dedup g.ents := by
      rw [mem_dedup, ← countStr_pos_iff, countStr_ents]; omega
    simp [h, this]
  · simp [h]

theorem reentrancies_keys (g : Graph) :
    AList.keys g.reentrancies = (dedup g.ents).filter (fun v => 2 ≤ g.reentCount v) := by
  rw [reentrancies_eq, filterMap_ite, AList.keys, List.map_map]
  exact List.map_id _

theorem reentrancies_keys_nodup (g : Graph) : (AList.keys g.reentrancies).Nodup := by
  rw [reentrancies_keys]
  exact (nodup_dedup _).sublist List.filter_sublist

theorem mem_reentrancies (g : Graph) (v : Str) (n : Nat) :
    (v, n) ∈ g.reentrancies ↔ 2 ≤ g.reentCount v ∧ n = g.reentCount v - 1 := by
  rw [← AList.get?_eq_some_iff_mem (reentrancies_keys_nodup g), reentrancies_get?]
  by_cases h : 2 ≤ g.reentCount v
  · simp [h, eq_comm]
  · simp [h]

theorem ior_triples (g h : Graph) :
    (g.ior h).triples = g.triples ++ h.triples.filter (fun t => t ∉ g.triples) := rfl

theorem mem_ior_triples (g h : Graph) (t : Triple) :
    t ∈ (g.ior h).triples ↔ t ∈ g.triples ∨ t ∈ h.triples := by
  rw [ior_triples]
  simp only [List.mem_append, List.mem_filter, decide_eq_true_eq]
  by_cases hg : t ∈ g.triples <;> simp [hg]

theorem ior_top (g h : Graph) : (g.ior h).top = g.top := rfl
theorem ior_metadata (g h : Graph) : (g.ior h).metadata = g.metadata := rfl

theorem or_eq_ior (g h : Graph) : g.or h = Graph.ior { g with metadata := [] } h := rfl
theorem or_triples (g h : Graph) : (g.or h).triples = (g.ior h).triples := rfl
theorem mem_or_triples (g h : Graph) (t : Triple) :
    t ∈ (g.or h).triples ↔ t ∈ g.triples ∨ t ∈ h.triples := mem_ior_triples g h t

theorem or_top (g h : Graph) : (g.or h).top = g.top := rfl
theorem or_epidata (g h : Graph) : (g.or h).epidata = (g.ior h).epidata := rfl
theorem or_metadata (g h : Graph) : (g.or h).metadata = [] := rfl

/-- one step of the marker-copy loop of `__ior__` -/
def iorStep (h : Graph) (d : Epidata) (t : Triple) : Epidata :=
  match AList.get? h.epidata t with
  | some e => d.set t e
  | none => d

theorem ior_epidata_eq (g h : Graph) :
    (g.ior h).epidata =
      AList.update ((h.triples.filter (fun t => t ∉ g.triples)).foldl (iorStep h) g.epidata)
        h.epidata := rfl

theorem get?_foldl_iorStep_of_none (h : Graph) (l : List Triple) (d : Epidata) (k : Triple)
    (hk : AList.get? h.epidata k = none) :
    AList.get? (l.foldl (iorStep h) d) k = AList.get? d k := by
  induction l generalizing d with
  | nil => rfl
  | cons t r ih =>
    simp only [List.foldl_cons, ih]
    unfold iorStep
    cases ht : AList.get? h.epidata t with
    | none => rfl
    | some e =>
      have : t ≠ k := by intro e'; rw [e', hk] at ht; cases ht
      simp [AList.get?_set, this]

theorem nodup_keys_foldl_iorStep (h : Graph) (l : List Triple) {d : Epidata}
    (hd : (AList.keys d).Nodup) : (AList.keys (l.foldl (iorStep h) d)).Nodup := by
  induction l generalizing d with
  | nil => exact hd
  | cons t r ih =>
    apply ih
    unfold iorStep
    cases AList.get? h.epidata t with
    | none => exact hd
    | some e => exact AList.nodup_keys_set hd _ _

/-- Markers after `g |= h`, for arbitrary association lists: the *last* entry of
    `h.epidata` for the triple wins, otherwise `g`'s entry is kept. -/
theorem ior_epidata_get? (g h : Graph) (t : Triple) :
    AList.get? (g.ior h).epidata t =
      (AList.get? h.epidata.reverse t).or (AList.get? g.epidata t) := by
  rw [ior_epidata_eq, AList.get?_update]
  cases hr : AList.get? h.epidata.reverse t with
  | some e => simp
  | none =>
    rw [AList.get?_reverse_eq_none_iff] at hr
    simp [get?_foldl_iorStep_of_none h _ _ t hr]

/-- Markers after `g |= h` when `h.epidata` is a proper dict (duplicate-free keys). -/
theorem ior_epidata_get?_of_nodup (g : Graph) {h : Graph} (hh : (AList.keys h.epidata).Nodup)
    (t : Triple) :
    AList.get? (g.ior h).epidata t = (AList.get? h.epidata t).or (AList.get? g.epidata t) := by
  rw [ior_epidata_get?, AList.get?_reverse hh]

theorem ior_epidata_keys_nodup {g : Graph} (hg : (AList.keys g.epidata).Nodup) (h : Graph) :
    (AList.keys (g.ior h).epidata).Nodup := by
  rw [ior_epidata_eq]
  exact AList.nodup_keys_update (nodup_keys_foldl_iorStep h _ hg) _

theorem mem_keys_ior_epidata (g h : Graph) (t : Triple) :
    t ∈ AList.keys (g.ior h).epidata ↔ t ∈ AList.keys g.epidata ∨ t ∈ AList.keys h.epidata := by
  rw [← Decidable.not_iff_not]
  simp only [not_or, ← AList.get?_eq_none_iff, ior_epidata_get?, Option.or_eq_none_iff,
    AList.get?_reverse_eq_none_iff, and_comm]

/-- the top seen through `.top` after a union -/
theorem ior_getTop (g h : Graph) :
    (g.ior h).getTop = (g.getTop).or (h.triples.head?.map (·.src)) := by
  unfold Graph.getTop
  rw [ior_top, ior_triples]
  cases g.top with
  | some t => rfl
  | none =>
    cases hg : g.triples with
    | cons a r => rfl
    | nil =>
      cases h.triples with
      | nil => rfl
      | cons b r => simp

theorem ior_triples_nodup {g h : Graph} (hg : g.triples.Nodup) (hh : h.triples.Nodup) :
    (g.ior h).triples.Nodup := by
  rw [ior_triples, List.nodup_append]
  refine ⟨hg, hh.sublist List.filter_sublist, ?_⟩
  intro a ha b hb e
  simp only [List.mem_filter, decide_eq_true_eq] at hb
  exact hb.2 (e ▸ ha)

/-- `v` occurs as the source or as the (string) target of a triple of `l` -/
def occursIn (v : Str) (l : List Triple) : Prop := ∃ t ∈ l, t.src = v ∨ t.tgt = Atom.str v

instance (v : Str) (l : List Triple) : Decidable (occursIn v l) := by
  unfold occursIn; infer_instance

theorem isub_triples (g h : Graph) :
    (g.isub h).triples = g.triples.filter (fun t => t ∉ h.triples) := rfl

theorem mem_isub_triples (g h : Graph) (t : Triple) :
    t ∈ (g.isub h).triples ↔ t ∈ g.triples ∧ t ∉ h.triples := by
  simp [isub_triples]

theorem isub_metadata (g h : Graph) : (g.isub h).metadata = g.metadata := rfl

theorem isub_epidata (g h : Graph) :
    (g.isub h).epidata = g.epidata.filter (fun p => p.1 ∉ h.triples) := rfl

theorem isub_epidata_get? (g h : Graph) (t : Triple) :
    AList.get? (g.isub h).epidata t = if t ∈ h.triples then none else AList.get? g.epidata t := by
  rw [isub_epidata]
  have := AList.get?_filter_key (fun k => decide (k ∉ h.triples)) g.epidata t
  rw [this]
  by_cases ht : t ∈ h.triples <;> simp [ht]

theorem isub_epidata_keys (g h : Graph) :
    AList.keys (g.isub h).epidata = (AList.keys g.epidata).filter (fun t => t ∉ h.triples) := by
  rw [isub_epidata]
  exact AList.keys_filter_key (fun k => decide (k ∉ h.triples)) g.epidata

theorem isub_epidata_keys_nodup {g : Graph} (hg : (AList.keys g.epidata).Nodup) (h : Graph) :
    (AList.keys (g.isub h).epidata).Nodup := by
  rw [isub_epidata_keys]; exact hg.sublist List.filter_sublist

theorem mem_possible_iff (v : Str) (l : List Triple) :
    Atom.str v ∈ l.flatMap (fun t => [Atom.str t.src, t.tgt]) ↔ occursIn v l := by
  simp only [List.mem_flatMap, List.mem_cons, List.not_mem_nil, or_false, Atom.str.injEq, occursIn]
  constructor
  · rintro ⟨t, ht, h | h⟩
    · exact ⟨t, ht, Or.inl h.symm⟩
    · exact ⟨t, ht, Or.inr h.symm⟩
  · rintro ⟨t, ht, h | h⟩
    · exact ⟨t, ht, Or.inl h.symm⟩
    · exact ⟨t, ht, Or.inr h.symm⟩

theorem isub_top (g h : Graph) :
    (g.isub h).top = g.top.filter (fun v => decide (occursIn v (g.isub h).triples)) := by
  unfold Graph.isub
  cases g.top with
  | none => rfl
  | some v =>
    simp only [Option.filter]
    by_cases hv : occursIn v (g.triples.filter (fun t => t ∉ h.triples))
    · have := (mem_possible_iff v _).2 hv
      simp only [hv, decide_true, if_true]
      rw [if_pos this]
    · have := mt (mem_possible_iff v _).1 hv
      simp only [hv, decide_false, Bool.false_eq_true, if_false]
      rw [if_neg this]

theorem isub_triples_nodup {g : Graph} (hg : g.triples.Nodup) (h : Graph) :
    (g.isub h).triples.Nodup := hg.sublist List.filter_sublist

theorem sub_eq_isub (g h : Graph) : g.sub h = Graph.isub { g with metadata := [] } h := rfl
theorem sub_triples (g h : Graph) : (g.sub h).triples = (g.isub h).triples := rfl
theorem sub_top (g h : Graph) : (g.sub h).top = (g.isub h).top := rfl
theorem sub_epidata (g h : Graph) : (g.sub h).epidata = (g.isub h).epidata := rfl
theorem sub_metadata (g h : Graph) : (g.sub h).metadata = [] := rfl

theorem mem_sub_triples (g h : Graph) (t : Triple) :
    t ∈ (g.sub h).triples ↔ t ∈ g.triples ∧ t ∉ h.triples := mem_isub_triples g h t

/-- one graph set operation with its right operand -/
inductive GOp where
  | or (h : Graph)     -- `g | h`
  | sub (h : Graph)    -- `g - h`
  | ior (h : Graph)    -- `g |= h`
  | isub (h : Graph)   -- `g -= h`

def GOp.arg : GOp → Graph | .or h | .sub h | .ior h | .isub h => h

def GOp.apply (g : Graph) : GOp → Graph
  | .or h => g.or h
  | .sub h => g.sub h
  | .ior h => g.ior h
  | .isub h => g.isub h

def applyOps (g : Graph) (ops : List GOp) : Graph := ops.foldl GOp.apply g

/-- the operation on *sets* of triples (as predicates) -/
def GOp.denote (S : Triple → Prop) : GOp → (Triple → Prop)
  | .or h | .ior h => fun t => S t ∨ t ∈ h.triples
  | .sub h | .isub h => fun t => S t ∧ t ∉ h.triples

/-- the set expression denoted by a sequence of operations -/
def denoteOps (S : Triple → Prop) (ops : List GOp) : Triple → Prop := ops.foldl GOp.denote S

/-- the operation on *lists* of triples (order-preserving) -/
def GOp.onList (l : List Triple) : GOp → List Triple
  | .or h | .ior h => l ++ h.triples.filter (fun t => t ∉ l)
  | .sub h | .isub h => l.filter (fun t => t ∉ h.triples)

theorem GOp.apply_triples (g : Graph) (op : GOp) : (op.apply g).triples = op.onList g.triples := by
  cases op <;> rfl

theorem applyOps_triples (g : Graph) (ops : List GOp) :
    (applyOps g ops).triples = ops.foldl GOp.onList g.triples := by
  induction ops generalizing g with
  | nil => rfl
  | cons op r ih =>
    simp only [applyOps, List.foldl_cons] at ih ⊢
    rw [ih, GOp.apply_triples]

theorem GOp.mem_apply (g : Graph) (op : GOp) (t : Triple) :
    t ∈ (op.apply g).triples ↔ op.denote (fun x => x ∈ g.triples) t := by
  cases op
  · exact mem_or_triples _ _ _
  · exact mem_sub_triples _ _ _
  · exact mem_ior_triples _ _ _
  · exact mem_isub_triples _ _ _

theorem GOp.denote_congr {S S' : Triple → Prop} (hS : ∀ t, S t ↔ S' t) (op : GOp) (t : Triple) :
    op.denote S t ↔ op.denote S' t := by
  cases op <;> simp only [GOp.denote, hS]

theorem mem_applyOps_aux (ops : List GOp) (g : Graph) (S : Triple → Prop)
    (hS : ∀ t, t ∈ g.triples ↔ S t) (t : Triple) :
    t ∈ (applyOps g ops).triples ↔ denoteOps S ops t := by
  induction ops generalizing g S with
  | nil => exact hS t
  | cons op r ih =>
    simp only [applyOps, denoteOps, List.foldl_cons] at ih ⊢
    apply ih
    intro x
    rw [GOp.mem_apply]
    exact GOp.denote_congr hS op x

theorem mem_applyOps (g : Graph) (ops : List GOp) (t : Triple) :
    t ∈ (applyOps g ops).triples ↔ denoteOps (fun x => x ∈ g.triples) ops t :=
  mem_applyOps_aux ops g _ (fun _ => Iff.rfl) t

theorem eqv_iff (g h : Graph) :
    g.eqv h = true ↔ g.getTop = h.getTop ∧ g.triples.length = h.triples.length ∧
      ∀ t, t ∈ g.triples ↔ t ∈ h.triples := by
  simp only [Graph.eqv, Bool.and_eq_true, decide_eq_true_eq, List.all_eq_true]
  constructor
  · rintro ⟨⟨⟨h1, h2⟩, h3⟩, h4⟩
    exact ⟨h1, h2, fun t => ⟨h3 t, h4 t⟩⟩
  · rintro ⟨h1, h2, h3⟩
    exact ⟨⟨⟨h1, h2⟩, fun t => (h3 t).1⟩, fun t => (h3 t).2⟩

theorem eqv_refl (g : Graph) : g.eqv g = true := by simp [eqv_iff]

theorem eqv_symm {g h : Graph} (e : g.eqv h = true) : h.eqv g = true := by
  rw [eqv_iff] at e ⊢
  exact ⟨e.1.symm, e.2.1.symm, fun t => (e.2.2 t).symm⟩

theorem eqv_trans {g h k : Graph} (e1 : g.eqv h = true) (e2 : h.eqv k = true) :
    g.eqv k = true := by
  rw [eqv_iff] at e1 e2 ⊢
  exact ⟨e1.1.trans e2.1, e1.2.1.trans e2.2.1, fun t => (e1.2.2 t).trans (e2.2.2 t)⟩

theorem ensureColon_eq (r : Str) : ensureColon r = if r.head? = some ':' then r else ':' :: r := by
  cases r with
  | nil => rfl
  | cons c cs =>
    simp only [ensureColon, startsWith, List.head?_cons, Option.some.injEq]
    by_cases h : c = ':'
    · subst h; simp
    · have : ¬ (':' = c) := fun e => h e.symm
      simp [h, this]

theorem startsWith_colon_iff (r : Str) : startsWith [':'] r = true ↔ r.head? = some ':' := by
  cases r with
  | nil => simp [startsWith]
  | cons c cs =>
    simp only [startsWith, List.head?_cons, Option.some.injEq]
    by_cases h : c = ':'
    · subst h; simp
    · have : ¬ (':' = c) := fun e => h e.symm
      simp [h, this]

theorem ensureColon_startsWith (r : Str) : startsWith [':'] (ensureColon r) = true := by
  rw [startsWith_colon_iff, ensureColon_eq]
  by_cases h : r.head? = some ':' <;> simp [h]

theorem ensureColon_of_startsWith {r : Str} (h : startsWith [':'] r = true) : ensureColon r = r := by
  unfold ensureColon; rw [if_pos h]

theorem ensureColon_of_not_startsWith {r : Str} (h : startsWith [':'] r = false) :
    ensureColon r = ':' :: r := by
  unfold ensureColon; rw [h]; rfl

theorem ensureColon_idem (r : Str) : ensureColon (ensureColon r) = ensureColon r :=
  ensureColon_of_startsWith (ensureColon_startsWith r)

/-- the role normalisation applied to every triple by `Graph.__init__` -/
def colonT (t : Triple) : Triple := { t with role := ensureColon t.role }

theorem colonT_idem (t : Triple) : colonT (colonT t) = colonT t := by
  simp [colonT, ensureColon_idem]

theorem mk'_triples (ts : List Triple) (top : Option Str) (e : List (Triple × List Epi))
    (m : List (Str × Str)) : (Graph.mk' ts top e m).triples = ts.map colonT := rfl

theorem mk'_top (ts : List Triple) (top : Option Str) (e : List (Triple × List Epi))
    (m : List (Str × Str)) : (Graph.mk' ts top e m).top = top := rfl

theorem mk'_epidata (ts : List Triple) (top : Option Str) (e : List (Triple × List Epi))
    (m : List (Str × Str)) : (Graph.mk' ts top e m).epidata = AList.ofList e := rfl

theorem mk'_metadata (ts : List Triple) (top : Option Str) (e : List (Triple × List Epi))
    (m : List (Str × Str)) : (Graph.mk' ts top e m).metadata = AList.ofList m := rfl

theorem mk'_idem (ts : List Triple) (top : Option Str) (e : List (Triple × List Epi))
    (m : List (Str × Str)) :
    let g := Graph.mk' ts top e m
    Graph.mk' g.triples g.top g.epidata g.metadata = g := by
  simp only [Graph.mk', AList.ofList_idem, List.map_map]
  congr 1
  apply List.map_congr_left
  intro t _
  simp [ensureColon_idem]

theorem or_self_triples (g : Graph) : (g.or g).triples = g.triples := by
  rw [or_triples, ior_triples]
  have : g.triples.filter (fun t => decide (t ∉ g.triples)) = [] := by
    rw [List.filter_eq_nil_iff]; intro a ha; simp [ha]
  rw [this, List.append_nil]

theorem or_sub_cancel_triples (g h : Graph) :
    ((g.or h).sub h).triples = g.triples.filter (fun t => t ∉ h.triples) := by
  rw [sub_triples, isub_triples, or_triples, ior_triples, List.filter_append, List.filter_filter]
  have : h.triples.filter (fun a => decide (a ∉ h.triples) && decide (a ∉ g.triples)) = [] := by
    rw [List.filter_eq_nil_iff]; intro a ha; simp [ha]
  rw [this, List.append_nil]

theorem or_assoc_triples (g h k : Graph) :
    ((g.or h).or k).triples = (g.or (h.or k)).triples := by
  simp only [or_triples, ior_triples, List.filter_append, List.filter_filter, List.append_assoc]
  congr 2
  apply List.filter_congr
  intro t _
  simp only [List.mem_append, List.mem_filter, decide_eq_true_eq, not_or, not_and, Decidable.not_not]
  by_cases hg : t ∈ g.triples <;> by_cases hh : t ∈ h.triples <;> simp [hg, hh]

theorem sub_sub_triples (g h k : Graph) :
    ((g.sub h).sub k).triples = (g.sub (h.or k)).triples := by
  simp only [sub_triples, isub_triples, or_triples, ior_triples, List.filter_filter]
  apply List.filter_congr
  intro t _
  simp only [List.mem_append, List.mem_filter, decide_eq_true_eq, not_or, not_and, Decidable.not_not]
  by_cases hh : t ∈ h.triples <;> by_cases hk : t ∈ k.triples <;> simp [hh, hk]

end Penman
