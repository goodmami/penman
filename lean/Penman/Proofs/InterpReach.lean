/-
  Penman.Proofs.InterpReach — in a graph produced by `interpret` from a
  tree whose root has a variable, every source of a triple is `Reach`-able
  from the top, provided no nested-node branch carries (after role
  processing, de-inversion and `ensureColon`) the instance role
  (`SubRolesOk`). The counterexamples at the end show the hypothesis is
  necessary.
-/
import Penman.Spec.Reach
import Penman.Proofs.Eval
import Penman.Proofs.InterpretCases
namespace Penman

/-- the role of `m.deinvert ⟨s, r, .str w⟩` -/
def deinvRole (m : Model) (r : Str) : Str :=
  if m.noop then r else if m.isRoleInverted r then m.invertRole r else r

/-- the role check for one nested-node branch -/
def subRoleOk (isAlpha : Char → Bool) (m : Model) (role : Str) : Bool :=
  match processRole isAlpha role with
  | .ok (r, _) => ensureColon (deinvRole m r) != CONCEPT_ROLE
  | .error _ => true

mutual
/-- every nested-node branch of the tree has a role that does not end up as
    the instance role in the interpreted graph -/
def SubRolesOk (isAlpha : Char → Bool) (m : Model) : Node → Bool
  | .mk _ bs => SubRolesOkB isAlpha m bs
def SubRolesOkB (isAlpha : Char → Bool) (m : Model) : Branches → Bool
  | .nil => true
  | .atom _ _ rest => SubRolesOkB isAlpha m rest
  | .sub role n rest =>
    subRoleOk isAlpha m role && SubRolesOk isAlpha m n && SubRolesOkB isAlpha m rest
end

/-! ### `deinvert` on a triple with a string target -/

theorem deinvert_role (m : Model) (s r w : Str) :
    (m.deinvert ⟨s, r, .str w⟩).role = deinvRole m r := by
  unfold Model.deinvert deinvRole Model.invert
  by_cases h1 : m.noop = true <;> by_cases h2 : m.isRoleInverted r = true <;> simp [h1, h2]

theorem deinvert_ends (m : Model) (s r w : Str) :
    ((m.deinvert ⟨s, r, .str w⟩).src = s ∧ (m.deinvert ⟨s, r, .str w⟩).tgt = .str w) ∨
    ((m.deinvert ⟨s, r, .str w⟩).src = w ∧ (m.deinvert ⟨s, r, .str w⟩).tgt = .str s) := by
  unfold Model.deinvert Model.invert
  by_cases h1 : m.noop = true <;> by_cases h2 : m.isRoleInverted r = true <;> simp [h1, h2]

/-- the triple as stored by `Graph.mk'` -/
def fixRole (t : Triple) : Triple := { t with role := ensureColon t.role }

theorem Reach.trans {g : Graph} {a b c : Str} (h1 : Reach g a b) (h2 : Reach g b c) :
    Reach g a c := by
  induction h2 with
  | refl => exact h1
  | step _ hadj ih => exact Reach.step ih hadj

/-! ### every source of an interpreted triple is a variable of the tree -/

theorem atom_triple_src {m : Model} {vars : List Str} {var r : Str} {tgt : Atom}
    (hvar : var ∈ vars) :
    (if m.isRoleInverted r && atomInVars vars tgt then m.deinvert ⟨var, r, tgt⟩
      else ⟨var, r, tgt⟩ : Triple).src ∈ vars := by
  split
  · rename_i hc
    have hc := (Bool.and_eq_true_iff.1 hc).2
    cases tgt with
    | str s =>
      rcases deinvert_ends m var r s with h | h
      · rw [h.1]; exact hvar
      · rw [h.1]; exact of_decide_eq_true hc
    | none => exact absurd hc Bool.false_ne_true
    | num _ => exact absurd hc Bool.false_ne_true
  · exact hvar

theorem interpretNode_src_vars {isAlpha : Char → Bool} {m : Model} {vars : List Str} {n : Node}
    {ts : List Triple} {eps : List (Triple × List Epi)}
    (h : interpretNode isAlpha m vars n = .ok (ts, eps)) (hv : ∀ w ∈ n.vars, w ∈ vars)
    (ih : ∀ var out, interpretBranches isAlpha m vars var n.bs = .ok out → var ∈ vars →
      ∀ t ∈ out.triples, t.src ∈ vars) : ∀ t ∈ ts, t.src ∈ vars := by
  cases n with
  | mk v bs =>
    obtain ⟨var, out, rfl, hb, hcase⟩ := Interp.interpretNode_ok h
    have hvar : var ∈ vars := hv var (Interp.mem_vars_mk var bs)
    have ih := ih var out hb hvar
    intro t ht
    rcases hcase with ⟨-, rfl, -⟩ | ⟨-, rfl, -⟩
    · exact ih t ht
    · rcases List.mem_cons.1 ht with rfl | ht
      · exact hvar
      · exact ih t ht

theorem interpretBranches_src_vars (isAlpha : Char → Bool) (m : Model) (vars : List Str) :
    ∀ (bs : Branches) (var : Str) (out : InterpOut),
      interpretBranches isAlpha m vars var bs = .ok out → var ∈ vars →
      (∀ w ∈ bs.nodes.map (·.1), w ∈ vars) → ∀ t ∈ out.triples, t.src ∈ vars := by
  refine Interp.branches_ind ?_ ?_ ?_
  · intro var out h hvar hv t ht
    cases h
    cases ht
  · intro role a rest ih var out h hvar hv t ht
    obtain ⟨r, re, tgt, te, out', -, -, hb, rfl⟩ := Interp.interpretBranches_atom_ok h
    rcases List.mem_cons.1 ht with rfl | ht
    · exact atom_triple_src hvar
    · exact ih var out' hb hvar hv t ht
  · intro role n rest ihn ih var out h hvar hv t ht
    obtain ⟨r, re, nv, nts, neps, out', -, hnv, hn, hb, rfl⟩ := Interp.interpretBranches_sub_ok h
    rw [Interp.nodes_sub_vars] at hv
    have hvn : ∀ w ∈ n.vars, w ∈ vars := fun w hw => hv w (List.mem_append_left _ hw)
    rcases List.mem_cons.1 ht with rfl | ht
    · rcases deinvert_ends m var r nv with h | h
      · rw [h.1]; exact hvar
      · rw [h.1]; exact hvn nv (Interp.var_mem_vars hnv)
    · rcases List.mem_append.1 ht with ht | ht
      · exact interpretNode_src_vars hn hvn
          (fun v o hb hv' => ihn v o hb hv' fun w hw => hvn w (Interp.mem_vars_of_bs hw)) t ht
      · exact ih var out' hb hvar (fun w hw => hv w (List.mem_append_right _ hw)) t ht

/-! ### every variable of the tree is connected to the root variable -/

theorem subRoleOk_ne {isAlpha : Char → Bool} {m : Model} {role r : Str} {re : List Epi}
    (hr : processRole isAlpha role = .ok (r, re)) (hok : subRoleOk isAlpha m role = true) :
    ensureColon (deinvRole m r) ≠ CONCEPT_ROLE := by
  simpa [subRoleOk, hr] using hok

theorem deinvRole_concept (m : Model) : deinvRole m CONCEPT_ROLE = CONCEPT_ROLE := by
  rw [deinvRole, Interp.not_inverted_concept, if_neg Bool.false_ne_true, ite_self]

theorem ensureColon_concept : ensureColon CONCEPT_ROLE = CONCEPT_ROLE := by
  rw [Interp.concept_chars]; rfl

theorem subRoleOk_ne_concept {isAlpha : Char → Bool} {m : Model} {role r : Str} {re : List Epi}
    (hr : processRole isAlpha role = .ok (r, re)) (hok : subRoleOk isAlpha m role = true) :
    r ≠ CONCEPT_ROLE := fun h =>
  subRoleOk_ne hr hok (by rw [h, deinvRole_concept, ensureColon_concept])

/-- the nested-node triple is an (undirected) edge between the two variables -/
theorem sub_adj {m : Model} {g : Graph} {var r nv : Str}
    (hne : ensureColon (deinvRole m r) ≠ CONCEPT_ROLE)
    (hmem : fixRole (m.deinvert ⟨var, r, .str nv⟩) ∈ g.triples)
    (h1 : g.IsSrc var) (h2 : g.IsSrc nv) : g.Adj var nv := by
  refine ⟨h1, h2, _, hmem, ?_, ?_⟩
  · show ensureColon (m.deinvert ⟨var, r, .str nv⟩).role ≠ CONCEPT_ROLE
    rw [deinvert_role]; exact hne
  · exact deinvert_ends m var r nv

theorem subRolesOkB_bs (isAlpha : Char → Bool) (m : Model) (n : Node) :
    SubRolesOkB isAlpha m n.bs = SubRolesOk isAlpha m n := by
  cases n; rfl

theorem interpretNode_reach {isAlpha : Char → Bool} {m : Model} {vars : List Str} {n : Node}
    {ts : List Triple} {eps : List (Triple × List Epi)} (h : interpretNode isAlpha m vars n = .ok (ts, eps))
    (ih : ∀ var out, interpretBranches isAlpha m vars var n.bs = .ok out →
      (out.hasConcept = true → ∃ t ∈ out.triples, t.src = var) ∧
      ∀ g : Graph, (∀ t ∈ out.triples, fixRole t ∈ g.triples) → g.IsSrc var →
        ∀ w ∈ n.bs.nodes.map (·.1), Reach g var w) :
    ∃ v, n.var = some v ∧ (∃ t ∈ ts, t.src = v) ∧
      ∀ g : Graph, (∀ t ∈ ts, fixRole t ∈ g.triples) → ∀ w ∈ n.vars, Reach g v w := by
  cases n with
  | mk v bs =>
    obtain ⟨var, out, rfl, hb, hcase⟩ := Interp.interpretNode_ok h
    obtain ⟨ih1, ih2⟩ := ih var out hb
    have hsub : ∀ t ∈ out.triples, t ∈ ts := by
      rcases hcase with ⟨-, rfl, -⟩ | ⟨-, rfl, -⟩
      · exact fun t ht => ht
      · exact fun t ht => List.mem_cons_of_mem _ ht
    have hsrc : ∃ t ∈ ts, t.src = var := by
      rcases hcase with ⟨hc, rfl, -⟩ | ⟨-, rfl, -⟩
      · exact ih1 hc
      · exact ⟨_, List.mem_cons_self, rfl⟩
    refine ⟨var, rfl, hsrc, fun g hg w hw => ?_⟩
    rcases List.mem_cons.1 hw with rfl | hw
    · exact Reach.refl
    · obtain ⟨t, ht, hs⟩ := hsrc
      exact ih2 g (fun t ht => hg t (hsub t ht)) ⟨fixRole t, hg t ht, hs⟩ w hw

/-- The first conjunct (a labelled branch list has a triple whose source is `var`) is carried along only to
    make the variable of a nested node a source, which the `Adj` step into that node needs. -/
theorem interpretBranches_reach (isAlpha : Char → Bool) (m : Model) (vars : List Str) :
    ∀ (bs : Branches) (var : Str) (out : InterpOut),
      interpretBranches isAlpha m vars var bs = .ok out → SubRolesOkB isAlpha m bs = true →
      (out.hasConcept = true → ∃ t ∈ out.triples, t.src = var) ∧
      ∀ g : Graph, (∀ t ∈ out.triples, fixRole t ∈ g.triples) → g.IsSrc var →
        ∀ w ∈ bs.nodes.map (·.1), Reach g var w := by
  refine Interp.branches_ind ?_ ?_ ?_
  · intro var out h hok
    cases h
    exact ⟨fun hc => (nomatch hc), fun g _ _ w hw => (nomatch hw)⟩
  · intro role a rest ih var out h hok
    obtain ⟨r, re, tgt, te, out', -, -, hb, rfl⟩ := Interp.interpretBranches_atom_ok h
    obtain ⟨ih1, ih2⟩ := ih var out' hb hok
    refine ⟨fun hc => ?_, fun g hg hsrc w hw => ?_⟩
    · rcases Bool.or_eq_true_iff.1 hc with hc | hc
      · obtain ⟨t, ht, hs⟩ := ih1 hc
        exact ⟨t, List.mem_cons_of_mem _ ht, hs⟩
      · refine ⟨_, List.mem_cons_self, ?_⟩
        rw [of_decide_eq_true hc, Interp.not_inverted_concept]
        rfl
    · exact ih2 g (fun t ht => hg t (List.mem_cons_of_mem _ ht)) hsrc w hw
  · intro role n rest ihn ih var out h hok
    obtain ⟨r, re, nv, nts, neps, out', hr, hnv, hn, hb, rfl⟩ := Interp.interpretBranches_sub_ok h
    obtain ⟨hok01, hok2⟩ := Bool.and_eq_true_iff.1 hok
    obtain ⟨hok0, hok1⟩ := Bool.and_eq_true_iff.1 hok01
    obtain ⟨nv', hnv', hnsrc, ihn⟩ := interpretNode_reach hn fun v o hb =>
      ihn v o hb ((subRolesOkB_bs isAlpha m n).trans hok1)
    obtain ⟨ih1, ih2⟩ := ih var out' hb hok2
    cases hnv.symm.trans hnv'
    refine ⟨fun hc => ?_, fun g hg hsrc w hw => ?_⟩
    · rcases Bool.or_eq_true_iff.1 hc with hc | hc
      · obtain ⟨t, ht, hs⟩ := ih1 hc
        exact ⟨t, List.mem_cons_of_mem _ (List.mem_append_right _ ht), hs⟩
      · exact absurd (of_decide_eq_true hc) (subRoleOk_ne_concept hr hok0)
    · rw [Interp.nodes_sub_vars] at hw
      rcases List.mem_append.1 hw with hw | hw
      · have hg' : ∀ t ∈ nts, fixRole t ∈ g.triples := fun t ht =>
          hg t (List.mem_cons_of_mem _ (List.mem_append_left _ ht))
        obtain ⟨t, ht, hs⟩ := hnsrc
        have hadj : g.Adj var nv :=
          sub_adj (subRoleOk_ne hr hok0) (hg _ List.mem_cons_self) hsrc ⟨fixRole t, hg' t ht, hs⟩
        exact Reach.trans (Reach.step Reach.refl hadj) (ihn g hg' w hw)
      · exact ih2 g (fun t ht => hg t (List.mem_cons_of_mem _ (List.mem_append_right _ ht))) hsrc w hw

theorem interpret_all_reach (isAlpha : Char → Bool) (m : Model) (t : Tree) (g : Graph) (top : Str)
    (h : interpret isAlpha m t = .ok g) (hv : t.node.var = some top)
    (hok : SubRolesOk isAlpha m t.node = true) :
    g.getTop = some top ∧ g.IsSrc top ∧ ∀ v, g.IsSrc v → Reach g top v := by
  obtain ⟨ts, eps, hn, rfl⟩ := Interp.interpret_ok h
  obtain ⟨v, hv', ⟨t0, ht0, hs0⟩, hreach⟩ := interpretNode_reach hn fun v o hb =>
    interpretBranches_reach isAlpha m t.node.vars t.node.bs v o hb ((subRolesOkB_bs isAlpha m t.node).trans hok)
  cases hv.symm.trans hv'
  have hmem : ∀ t' ∈ ts, fixRole t' ∈
      (Graph.mk' ts t.node.var (epimapOf eps) t.metadata).triples :=
    fun t' ht' => List.mem_map.2 ⟨t', ht', rfl⟩
  refine ⟨?_, ⟨fixRole t0, hmem t0 ht0, hs0⟩, ?_⟩
  · simp [Graph.getTop, Graph.mk', hv]
  · rintro w ⟨t', ht', rfl⟩
    obtain ⟨t1, ht1, rfl⟩ := List.mem_map.1 ht'
    exact hreach _ hmem _ (interpretNode_src_vars hn (fun _ h => h)
      (fun v o hb hv' => interpretBranches_src_vars isAlpha m t.node.vars t.node.bs v o hb hv'
        fun w hw => Interp.mem_vars_of_bs hw) t1 ht1)


/-! ### the hypothesis `SubRolesOk` is necessary: counterexamples

  In each tree below a nested-node branch ends up as an `:instance`
  triple of the graph, which is not an edge, so the nested variable `b` is
  not connected to the top `a`; `Model.errors` reports it as unreachable. -/

/-- no edge at all: nothing but the start is reachable -/
theorem Reach.eq_of_all_instance {g : Graph} (hall : ∀ t ∈ g.triples, t.role = CONCEPT_ROLE)
    {top v : Str} (h : Reach g top v) : v = top := by
  induction h with
  | refl => rfl
  | step _ hadj _ =>
    obtain ⟨_, _, t, ht, hne, _⟩ := hadj
    exact absurd (hall t ht) hne

namespace InterpReach

/-- the default model and an `isalpha` table that is never consulted here -/
def m0 : Model := {}
def noAlpha : Char → Bool := fun _ => false

attribute [eval_unfold] m0

/-- what a counterexample tree `n` (root variable `a`, nested variable `b`
    with instance triple `k`) must satisfy -/
def cexCheck (n : Node) (k : Triple) : Bool :=
  match interpret noAlpha m0 ⟨n, []⟩ with
  | .ok g =>
    n.var == some "a".toList && k.src == "b".toList && k ∈ g.triples &&
    !SubRolesOk noAlpha m0 n &&
    decide (E_UNREACH ∈ codes (m0.errors g) (some k)) &&
    g.triples.all (fun t => t.role == CONCEPT_ROLE)
  | .error _ => false

/-- a tree passing `cexCheck` violates the conclusion of `interpret_all_reach` -/
theorem cexCheck_sound {n : Node} {k : Triple} (hc : cexCheck n k = true) :
    ∃ g, interpret noAlpha m0 ⟨n, []⟩ = .ok g ∧ n.var = some "a".toList ∧
      SubRolesOk noAlpha m0 n = false ∧
      E_UNREACH ∈ codes (m0.errors g) (some k) ∧
      g.IsSrc "b".toList ∧ ¬ Reach g "a".toList "b".toList := by
  unfold cexCheck at hc
  cases hg : interpret noAlpha m0 ⟨n, []⟩ with
  | error e => simp [hg] at hc
  | ok g =>
    simp only [hg, Bool.and_eq_true, beq_iff_eq, decide_eq_true_eq, Bool.not_eq_true',
      List.all_eq_true] at hc
    obtain ⟨⟨⟨⟨⟨h1, h2⟩, h3⟩, h4⟩, h5⟩, h6⟩ := hc
    refine ⟨g, rfl, h1, h4, h5, ⟨k, h3, h2⟩, ?_⟩
    intro hr
    have := Reach.eq_of_all_instance h6 hr
    exact absurd this (by decide)

/-- the tree of `(b / x)` -/
def cexB : Node := .mk (some "b".toList) (.atom "/".toList (.str "x".toList) .nil)

attribute [eval_unfold] cexB

/-- `(a :instance (b / x))` : the nested branch carries the instance role -/
theorem cex_instance : cexCheck (.mk (some "a".toList) (.sub ":instance".toList cexB .nil))
    ⟨"b".toList, CONCEPT_ROLE, .str "x".toList⟩ = true := by decide +kernel

/-- `(a / (b / x))` as a tree: role `/` on a nested node -/
theorem cex_slash : cexCheck (.mk (some "a".toList) (.sub "/".toList cexB .nil))
    ⟨"b".toList, CONCEPT_ROLE, .str "x".toList⟩ = true := by decide +kernel

/-- `(a :instance-of (b / x))` : de-inversion gives `(b :instance a)` -/
theorem cex_instance_of : cexCheck (.mk (some "a".toList) (.sub ":instance-of".toList cexB .nil))
    ⟨"b".toList, CONCEPT_ROLE, .str "x".toList⟩ = true := by eval_decide

/-- role `instance` without colon: `Graph.mk'` turns it into `:instance` -/
theorem cex_nocolon : cexCheck (.mk (some "a".toList) (.sub "instance".toList cexB .nil))
    ⟨"b".toList, CONCEPT_ROLE, .str "x".toList⟩ = true := by decide +kernel

/-! ### non-vacuity: `(a / alpha :ARG0 (b / beta :ARG1-of (c / gamma)))` -/

def exTree : Tree :=
  ⟨.mk (some "a".toList) (.atom "/".toList (.str "alpha".toList)
      (.sub ":ARG0".toList (.mk (some "b".toList) (.atom "/".toList (.str "beta".toList)
        (.sub ":ARG1-of".toList (.mk (some "c".toList)
          (.atom "/".toList (.str "gamma".toList) .nil)) .nil))) .nil)), []⟩

attribute [eval_unfold] exTree

example : SubRolesOk noAlpha m0 exTree.node = true ∧
    exTree.node.var = some "a".toList ∧
    ((interpret noAlpha m0 exTree).toOption.map (·.triples)) =
      some [⟨"a".toList, ":instance".toList, .str "alpha".toList⟩,
            ⟨"a".toList, ":ARG0".toList, .str "b".toList⟩,
            ⟨"b".toList, ":instance".toList, .str "beta".toList⟩,
            ⟨"c".toList, ":ARG1".toList, .str "b".toList⟩,
            ⟨"c".toList, ":instance".toList, .str "gamma".toList⟩] := by eval_decide

/-- the theorem applies to `exTree` -/
example : ∃ g, interpret noAlpha m0 exTree = .ok g ∧ g.getTop = some "a".toList ∧
    g.IsSrc "a".toList ∧ ∀ v, g.IsSrc v → Reach g "a".toList v := by
  cases hg : interpret noAlpha m0 exTree with
  | error e =>
    have h : (interpret noAlpha m0 exTree).toOption.isSome = true := by eval_decide
    rw [hg] at h
    exact absurd h (by simp [Except.toOption])
  | ok g =>
    exact ⟨g, rfl, interpret_all_reach noAlpha m0 exTree g "a".toList hg rfl (by eval_decide)⟩

end InterpReach

end Penman

#print axioms Penman.interpret_all_reach
#print axioms Penman.InterpReach.cexCheck_sound
#print axioms Penman.InterpReach.cex_instance_of
