/-
  Penman.Proofs.Interpret — helper lemmas for C04/C14:
  string-level characterisations of `_process_role`/`_process_atomic`, the
  event view of Push/POP markers and the stack simulation of `node_contexts`,
  the correspondence `interpretNode` ↔ `Spec.Reading`.
-/
import Penman.Spec.Reading
import Penman.Proofs.InterpretCases
namespace Penman.Interp
open Penman.Spec.Reading

theorem takeWhile_all {α} (p : α → Bool) (l : List α) (h : ∀ x ∈ l, p x = true) : l.takeWhile p = l := by
  induction l with
  | nil => rfl
  | cons a l ih =>
    rw [List.takeWhile_cons, h a (by simp), if_pos rfl, ih (fun x hx => h x (List.mem_cons_of_mem _ hx))]

theorem dropWhile_all {α} (p : α → Bool) (l : List α) (h : ∀ x ∈ l, p x = true) : l.dropWhile p = [] := by
  induction l with
  | nil => rfl
  | cons a l ih =>
    rw [List.dropWhile_cons, h a (by simp), if_pos rfl, ih (fun x hx => h x (List.mem_cons_of_mem _ hx))]

theorem partition_tilde (s : Str) :
    partitionStr ['~'] s = (beforeTilde s, decide ('~' ∈ s), afterTilde s) := by
  induction s with
  | nil => simp [partitionStr, beforeTilde, afterTilde]
  | cons c cs ih =>
    unfold partitionStr
    by_cases hc : c = '~'
    · subst hc; simp [beforeTilde, afterTilde]
    · have : (['~'].isPrefixOf (c :: cs)) = false := by simp [List.isPrefixOf]; exact fun h => hc h.symm
      have hc' : ¬ '~' = c := fun h => hc h.symm
      simp only [this, ih]
      by_cases hm : '~' ∈ cs
      · simp [beforeTilde, afterTilde, hc, hm]
      · have h1 : List.takeWhile (fun x => !decide (x = '~')) cs = cs := by
          apply takeWhile_all; intro x hx; simp; rintro rfl; exact hm hx
        have h2 : List.dropWhile (fun x => !decide (x = '~')) cs = [] := by
          apply dropWhile_all; intro x hx; simp; rintro rfl; exact hm hx
        simp [beforeTilde, afterTilde, hc, hm, h1, h2, hc']

theorem processRole_eq (isAlpha : Char → Bool) (raw : Str) :
    processRole isAlpha raw =
      (parseAln? isAlpha (roleAlnText raw)).map fun ra =>
        (roleName raw, match ra with | none => [] | some a => [Epi.roleAln a.1 a.2]) := by
  unfold processRole roleName roleAlnText
  by_cases h : raw = ['/']
  · simp [h, parseAln?, Except.map]
  · simp only [h, if_false, partition_tilde]
    by_cases hm : '~' ∈ raw
    · simp only [hm, decide_true, if_true, parseAln?]
      cases alnFromString isAlpha (afterTilde raw) with
      | error e => rfl
      | ok v => rfl
    · have : beforeTilde raw = raw := by
        apply takeWhile_all; intro x hx; simp; rintro rfl; exact hm hx
      simp [hm, parseAln?, Except.map, this]

theorem mem_takeWhile_imp {α} {p : α → Bool} {l : List α} {x : α} (h : x ∈ l.takeWhile p) : p x = true :=
  List.all_eq_true.1 (List.all_takeWhile (l := l) (p := p)) x h

theorem rfindAux_noquote (b : Str) (hb : '"' ∉ b) (i : Nat) (acc : Option Nat) :
    rfindAux ['"'] b i acc = acc := by
  induction b generalizing i acc with
  | nil => rfl
  | cons c cs ih =>
    have hc : ¬ '"' = c := fun h => hb (by rw [h]; exact List.mem_cons_self)
    have : (['"'].isPrefixOf (c :: cs)) = false := by simp [List.isPrefixOf, hc]
    rw [rfindAux, this, ih (fun h => hb (List.mem_cons_of_mem _ h))]; rfl

theorem rfindAux_split (a b : Str) (hb : '"' ∉ b) (i : Nat) (acc : Option Nat) :
    rfindAux ['"'] (a ++ '"' :: b) i acc = some (i + a.length) := by
  induction a generalizing i acc with
  | nil =>
    have : (['"'].isPrefixOf ('"' :: b)) = true := by simp [List.isPrefixOf]
    simp only [List.nil_append, rfindAux, this, if_true, rfindAux_noquote b hb]; simp
  | cons c cs ih => simp only [List.cons_append, rfindAux, ih, List.length_cons]; congr 1; omega

theorem through_append_after (s : Str) : throughLastQuote s ++ afterLastQuoteText s = s := by
  have := congrArg List.reverse (List.takeWhile_append_dropWhile (p := (· ≠ '"')) (l := s.reverse))
  rwa [List.reverse_append, List.reverse_reverse] at this

theorem quote_split (s : Str) (h : '"' ∈ s) :
    ∃ a, throughLastQuote s = a ++ ['"'] ∧ s = a ++ '"' :: afterLastQuoteText s ∧
      '"' ∉ afterLastQuoteText s := by
  -- `s.reverse` is cut at its first `"` by `takeWhile`/`dropWhile`; the `dropWhile` part starts with it
  have hs := (through_append_after s).symm
  have hno : '"' ∉ afterLastQuoteText s := by
    intro hm
    have : '"' ∈ s.reverse.takeWhile (· ≠ '"') := by simpa [afterLastQuoteText] using hm
    have := mem_takeWhile_imp this
    simp at this
  have hne : s.reverse.dropWhile (· ≠ '"') ≠ [] := by
    intro h0
    have h1 : s.reverse.takeWhile (· ≠ '"') = s.reverse := by
      have := List.takeWhile_append_dropWhile (p := (· ≠ '"')) (l := s.reverse)
      rw [h0, List.append_nil] at this; exact this
    have : '"' ∈ s.reverse.takeWhile (· ≠ '"') := by rw [h1]; simpa using h
    have := mem_takeWhile_imp this
    simp at this
  have hhead := List.head_dropWhile_not (· ≠ '"') hne
  obtain ⟨x, xs, hx⟩ := List.exists_cons_of_ne_nil hne
  simp only [hx, List.head_cons] at hhead
  have hx' : x = '"' := by simpa using hhead
  subst hx'
  refine ⟨xs.reverse, ?_, ?_, hno⟩
  · unfold throughLastQuote; rw [hx]; simp
  · have : throughLastQuote s = xs.reverse ++ ['"'] := by unfold throughLastQuote; rw [hx]; simp
    rw [this] at hs
    simpa using hs

/-- the pivot of `_process_atomic` cuts a quoted target after its last `"` -/
theorem quote_pivot (s : Str) (h : '"' ∈ s) :
    s.take (afterLastQuote s) = throughLastQuote s ∧ s.drop (afterLastQuote s) = afterLastQuoteText s ∧
      (afterLastQuote s < s.length ↔ afterLastQuoteText s ≠ []) := by
  obtain ⟨a, h1, h2, h3⟩ := quote_split s h
  have hp : afterLastQuote s = (throughLastQuote s).length := by
    rw [h1, afterLastQuote]
    conv => lhs; rw [h2]
    rw [rfindAux_split a _ h3, List.length_append, Nat.zero_add]
    rfl
  have hs := through_append_after s
  have hl : s.length = (throughLastQuote s).length + (afterLastQuoteText s).length :=
    (congrArg List.length hs.symm).trans List.length_append
  rw [hp]
  exact ⟨(congrArg (List.take _) hs.symm).trans (List.take_left' rfl),
    (congrArg (List.drop _) hs.symm).trans (List.drop_left' rfl),
    by rw [hl, Nat.lt_add_right_iff_pos, List.length_pos_iff]⟩

def tgtEpis : Option Marker → List Epi
  | none => []
  | some a => [Epi.aln a.1 a.2]
def roleEpis : Option Marker → List Epi
  | none => []
  | some a => [Epi.roleAln a.1 a.2]

theorem processAtomic_str (isAlpha : Char → Bool) (s : Str) :
    processAtomic isAlpha (.str s) =
      (parseAln? isAlpha (splitTarget s).2).map fun ta => (Atom.str (splitTarget s).1, tgtEpis ta) := by
  unfold processAtomic splitTarget
  by_cases hm : '~' ∈ s
  · have hne : s.isEmpty = false := by cases s <;> simp_all
    have hc : s.contains '~' = true := by simpa using hm
    simp only [hne, hc, Bool.not_true, Bool.or_self, Bool.false_eq_true, if_false, hm, if_true]
    by_cases hq : s.head? = some '"'
    · obtain ⟨cs, rfl⟩ : ∃ cs, s = '"' :: cs := by
        cases s with
        | nil => cases hq
        | cons c cs => cases hq; exact ⟨cs, rfl⟩
      obtain ⟨htake, hdrop, hlt⟩ := quote_pivot _ (List.mem_cons_self (a := '"') (l := cs))
      have hsw : startsWith ['"'] ('"' :: cs) = true := rfl
      simp only [hsw, hq, if_true, htake, hdrop]
      by_cases ht : afterLastQuoteText ('"' :: cs) = []
      · rw [if_neg (fun h => hlt.1 h ht), if_pos ht]; rfl
      · rw [if_pos (hlt.2 ht), if_neg ht]
        simp only [parseAln?]
        cases alnFromString isAlpha (afterLastQuoteText ('"' :: cs)) with
        | error e => rfl
        | ok v => rfl
    · have hsw : startsWith ['"'] s = false := by
        cases s with
        | nil => simp [startsWith, List.isPrefixOf]
        | cons c cs =>
          simp at hq; simp [startsWith, List.isPrefixOf]; exact fun h => hq h.symm
      simp only [hsw, hq, Bool.false_eq_true, if_false, partition_tilde, parseAln?]
      cases alnFromString isAlpha (afterTilde s) with
      | error e => rfl
      | ok v => rfl
  · have hc : s.contains '~' = false := by simpa using hm
    simp [hm, parseAln?, Except.map, tgtEpis]

def firstPush (e : List Epi) : Option Str := e.findSome? fun | .push v => some v | _ => none
def countPop (e : List Epi) : Nat := (e.filter (·.isPop)).length

/-- All `node_contexts` reads of the epidata: per triple its first `Push` variable (`t`), then one `p`
    per `POP` marker. -/
inductive Ev where
  | t (tr : Triple) (push : Option Str)
  | p

def countT : List Ev → Nat
  | [] => 0
  | .t _ _ :: r => countT r + 1
  | .p :: r => countT r

def evOf (x : Triple × List Epi) : List Ev := .t x.1 (firstPush x.2) :: List.replicate (countPop x.2) .p
def events (l : List (Triple × List Epi)) : List Ev := l.flatMap evOf
def eventsG (g : Graph) (ts : List Triple) : List Ev :=
  ts.flatMap fun t => evOf (t, (AList.get? g.epidata t).getD [])

def eligible (vars : List Str) (t : Triple) : List Str :=
  t.src :: (if t.role ≠ CONCEPT_ROLE then (match t.tgt with | .str s => if s ∈ vars then [s] else [] | _ => []) else [])

def pushOn (push : Option Str) (st : List (Option Str)) : List (Option Str) :=
  match push with
  | some p => if p.isEmpty then st else some p :: st
  | none => st

/-- `nodeContextsLoop` on the event list (`loop_eq_run`) -/
def run (vars : List Str) : List Ev → List (Option Str) → List (Option Str)
  | [], _ => []
  | .p :: r, [] => List.replicate (countT r) none
  | .p :: r, _ :: st => run vars r st
  | .t _ _ :: r, [] => List.replicate (countT r + 1) none
  | .t _ _ :: r, none :: _ => List.replicate (countT r + 1) none
  | .t tr push :: r, some cur :: st =>
    if cur ∉ eligible vars tr then List.replicate (countT r + 1) none
    else some cur :: run vars r (pushOn push (some cur :: st))

theorem countT_append (a b : List Ev) : countT (a ++ b) = countT a + countT b := by
  induction a with
  | nil => exact (Nat.zero_add _).symm
  | cons x a ih =>
    cases x with
    | t _ _ => exact (congrArg (· + 1) ih).trans (Nat.add_right_comm ..)
    | p => exact ih

theorem countT_replicate_p (n : Nat) : countT (List.replicate n .p) = 0 := by
  induction n with
  | zero => rfl
  | succ n ih => exact ih

theorem countT_evOf (x) : countT (evOf x) = 1 :=
  congrArg (· + 1) (countT_replicate_p _)

theorem countT_flatMap {α : Type} (f : α → List Ev) (h : ∀ x, countT (f x) = 1) (l : List α) :
    countT (l.flatMap f) = l.length := by
  induction l with
  | nil => rfl
  | cons x l ih => rw [List.flatMap_cons, countT_append, h, ih, Nat.add_comm]; rfl

theorem countT_events (l) : countT (events l) = l.length :=
  countT_flatMap _ countT_evOf l

theorem countT_eventsG (g ts) : countT (eventsG g ts) = ts.length :=
  countT_flatMap _ (fun _ => countT_evOf _) ts

theorem run_pops (vars : List Str) (n : Nat) (evs : List Ev) (st : List (Option Str)) :
    run vars (List.replicate n .p ++ evs) st =
      if n > st.length then List.replicate (countT evs) none else run vars evs (st.drop n) := by
  induction n generalizing st with
  | zero => simp
  | succ n ih =>
    cases st with
    | nil => simp [List.replicate_succ, run, countT_append, countT_replicate_p]
    | cons x st => simp [List.replicate_succ, run, ih]

theorem loop_step (g : Graph) (vars : List Str) (t : Triple) (rest : List Triple) (cur : Str)
    (stack : List (Option Str)) :
    nodeContextsLoop g vars (t :: rest) (some cur :: stack) =
      if cur ∉ eligible vars t then .ok (List.replicate (rest.length + 1) none)
      else if countPop ((AList.get? g.epidata t).getD []) >
          (pushOn (firstPush ((AList.get? g.epidata t).getD [])) (some cur :: stack)).length then
        .ok (some cur :: List.replicate rest.length none)
      else (nodeContextsLoop g vars rest
          ((pushOn (firstPush ((AList.get? g.epidata t).getD [])) (some cur :: stack)).drop
            (countPop ((AList.get? g.epidata t).getD [])))).map (some cur :: ·) := rfl

theorem loop_eq_run (g : Graph) (vars : List Str) (ts : List Triple) (st : List (Option Str)) :
    nodeContextsLoop g vars ts st = .ok (run vars (eventsG g ts) st) := by
  induction ts generalizing st with
  | nil => rfl
  | cons t rest ih =>
    have hc : countT (List.replicate (countPop ((AList.get? g.epidata t).getD [])) .p ++ eventsG g rest) =
        rest.length := by
      rw [countT_append, countT_replicate_p, countT_eventsG, Nat.zero_add]
    change _ = Except.ok (run vars (.t t (firstPush ((AList.get? g.epidata t).getD [])) ::
      (List.replicate (countPop ((AList.get? g.epidata t).getD [])) .p ++ eventsG g rest)) st)
    match st with
    | [] => exact congrArg (fun n => Except.ok (List.replicate (n + 1) none)) hc.symm
    | none :: stack => exact congrArg (fun n => Except.ok (List.replicate (n + 1) none)) hc.symm
    | some cur :: stack =>
      rw [loop_step, run, hc, run_pops, ih, countT_eventsG]
      by_cases hel : cur ∈ eligible vars t
      · rw [if_neg (not_not_intro hel), if_neg (not_not_intro hel)]
        by_cases hp : countPop ((AList.get? g.epidata t).getD []) >
            (pushOn (firstPush ((AList.get? g.epidata t).getD [])) (some cur :: stack)).length
        · rw [if_pos hp, if_pos hp]
        · rw [if_neg hp, if_neg hp]; rfl
      · rw [if_pos hel, if_pos hel]

def roleProj (e : List Epi) : Option Epi := (e.filter fun x => x.mode = 1).getLast?
def tgtProj (e : List Epi) : Option Epi := (e.filter fun x => x.mode = 2).getLast?

/-- what `getAlignments` (`roleProj`, `tgtProj`) and `getPushedVariable` (`firstPush`) read off the entry
    `x` is what the relation `d` denotes -/
structure EntryOk (x : Triple × List Epi) (d : Denoted) : Prop where
  key : x.1 = d.triple
  ra : roleProj x.2 = d.roleAln.map fun a => Epi.roleAln a.1 a.2
  ta : tgtProj x.2 = d.tgtAln.map fun a => Epi.aln a.1 a.2
  push : firstPush x.2 = d.opens

theorem roleProj_pop (e : List Epi) : roleProj (e ++ [.pop]) = roleProj e := by
  unfold roleProj; rw [List.filter_append]; exact congrArg _ (List.append_nil _)

theorem tgtProj_pop (e : List Epi) : tgtProj (e ++ [.pop]) = tgtProj e := by
  unfold tgtProj; rw [List.filter_append]; exact congrArg _ (List.append_nil _)

theorem firstPush_pop (e : List Epi) : firstPush (e ++ [.pop]) = firstPush e := by
  unfold firstPush; rw [List.findSome?_append]; exact Option.or_none

theorem countPop_pop (e : List Epi) : countPop (e ++ [.pop]) = countPop e + 1 := by
  unfold countPop; rw [List.filter_append, List.length_append]; rfl

theorem EntryOk.pop {t e d} (h : EntryOk (t, e) d) : EntryOk (t, e ++ [.pop]) d :=
  ⟨h.key, (roleProj_pop e).trans h.ra, (tgtProj_pop e).trans h.ta, (firstPush_pop e).trans h.push⟩

/-- pointwise relation of two lists (core has no `Forall₂`) -/
inductive All2 {α β : Type} (R : α → β → Prop) : List α → List β → Prop where
  | nil : All2 R [] []
  | cons {a b l₁ l₂} : R a b → All2 R l₁ l₂ → All2 R (a :: l₁) (b :: l₂)

theorem All2.append {α β : Type} {R : α → β → Prop} {a₁ a₂ b₁ b₂} (h₁ : All2 R a₁ b₁) (h₂ : All2 R a₂ b₂) :
    All2 R (a₁ ++ a₂) (b₁ ++ b₂) := by
  induction h₁ with
  | nil => exact h₂
  | cons h _ ih => exact .cons h ih

theorem All2.map_eq {α β γ : Type} {R : α → β → Prop} {f : α → γ} {g : β → γ} {l₁ l₂}
    (h : All2 R l₁ l₂) (hfg : ∀ a b, R a b → f a = g b) : l₁.map f = l₂.map g := by
  induction h with
  | nil => rfl
  | cons h _ ih => simp [hfg _ _ h, ih]

theorem All2.appendPopLast {es ds} (h : All2 EntryOk es ds) :
    All2 EntryOk (appendPopLast es) ds := by
  induction h with
  | nil => exact .nil
  | @cons x d es ds hx hrest ih =>
    cases es with
    | nil => cases hrest; obtain ⟨t, e⟩ := x; exact .cons hx.pop .nil
    | cons y r => exact .cons hx ih

theorem events_appendPopLast {es : List (Triple × List Epi)} (h : es ≠ []) :
    events (appendPopLast es) = events es ++ [.p] := by
  induction es with
  | nil => exact absurd rfl h
  | cons x es ih =>
    cases es with
    | nil =>
      obtain ⟨t, e⟩ := x
      simp only [appendPopLast, events, List.flatMap_cons, List.flatMap_nil, List.append_nil, evOf,
        firstPush_pop, countPop_pop, List.replicate_succ', List.cons_append]
    | cons y r =>
      have := ih (List.cons_ne_nil _ _)
      simp only [appendPopLast, events, List.flatMap_cons] at this ⊢
      rw [this]; simp only [List.append_assoc]

/-- Run from a stack with `v` on top, the entries `es` yield the contexts `cs` and leave the stack as they
    found it: stated for every continuation `k`, so that nested nodes compose. -/
def RunInv (vars : List Str) (v : Str) (es : List (Triple × List Epi)) (cs : List (Option Str)) : Prop :=
  ∀ k st, run vars (events es ++ k) (some v :: st) = cs ++ run vars k (some v :: st)

theorem RunInv.nil (vars v) : RunInv vars v [] [] := by intro k st; simp [events]

theorem RunInv.flat {vars v tr e es cs} (hp : firstPush e = none) (hc : countPop e = 0)
    (hel : v ∈ eligible vars tr) (h : RunInv vars v es cs) :
    RunInv vars v ((tr, e) :: es) (some v :: cs) := by
  intro k st
  simp only [events, List.flatMap_cons, evOf, hp, hc, List.replicate_zero, List.cons_append,
    List.nil_append, run, hel, not_true_eq_false, if_false, pushOn]
  have := h k st
  simp only [events] at this
  rw [this]

theorem RunInv.sub {vars v nv tr e nes ncs es cs} (hp : firstPush e = some nv) (hnv : nv ≠ [])
    (hc : countPop e = 0) (hel : v ∈ eligible vars tr) (hn : RunInv vars nv nes ncs) (hne : nes ≠ [])
    (h : RunInv vars v es cs) :
    RunInv vars v ((tr, e) :: appendPopLast nes ++ es) (some v :: ncs ++ cs) := by
  intro k st
  obtain ⟨c, nv, rfl⟩ := List.exists_cons_of_ne_nil hnv
  have he : events ((tr, e) :: appendPopLast nes ++ es) ++ k =
      .t tr (some (c :: nv)) :: (events nes ++ (.p :: (events es ++ k))) := by
    rw [events, List.cons_append, List.flatMap_cons, List.flatMap_append, ← events, ← events,
      events_appendPopLast hne, evOf, hp, hc]
    simp only [List.replicate_zero, List.cons_append, List.nil_append, List.append_assoc]
  rw [he, run, if_neg (not_not_intro hel)]
  show some v :: run vars _ (some (c :: nv) :: some v :: st) = _
  rw [hn, run, h]
  simp only [List.cons_append, List.append_assoc]

theorem mapM_cons_ok {α β ε : Type} {f : α → Except ε β} {a l b bs} (h1 : f a = .ok b)
    (h2 : List.mapM f l = .ok bs) : List.mapM f (a :: l) = .ok (b :: bs) := by
  simp [List.mapM_cons, h1, h2, bind, Except.bind, pure, Except.pure]

theorem mapM_append_ok {α β ε : Type} {f : α → Except ε β} {l1 l2 b1 b2} (h1 : List.mapM f l1 = .ok b1)
    (h2 : List.mapM f l2 = .ok b2) : List.mapM f (l1 ++ l2) = .ok (b1 ++ b2) := by
  simp [List.mapM_append, h1, h2, bind, Except.bind, pure, Except.pure]

/-- what the stack simulation needs of a denoted relation -/
def GoodD (vars : List Str) (d : Denoted) : Prop :=
  d.ctx ∈ vars ∧ d.opens ≠ some [] ∧ (d.swapped = true → d.triple.role ≠ CONCEPT_ROLE)

def Good (vars : List Str) (ds : List Denoted) : Prop := ∀ d ∈ ds, GoodD vars d

theorem eligible_orient {vars : List Str} {m : Model} {sw : Bool} {v role x}
    (hv : v ∈ vars) (hr : sw = true → (orientTriple m sw ⟨v, role, .str x⟩).role ≠ CONCEPT_ROLE) :
    v ∈ eligible vars (orientTriple m sw ⟨v, role, .str x⟩) := by
  cases sw with
  | false => exact List.mem_cons_self
  | true =>
    refine List.mem_cons_of_mem _ ?_
    rw [if_pos (hr rfl)]
    show v ∈ if v ∈ vars then [v] else []
    rw [if_pos hv]
    exact List.mem_cons_self

theorem labelled_atom (r a rest) : labelled (.atom r a rest) = (decide (roleName r = CONCEPT_ROLE) || labelled rest) := by
  simp [labelled, Branches.toList]
theorem labelled_sub (r n rest) : labelled (.sub r n rest) = (decide (roleName r = CONCEPT_ROLE) || labelled rest) := by
  simp [labelled, Branches.toList]

theorem map_ok {ε α β : Type} {f : α → β} {x : Except ε α} {b : β} (h : x.map f = .ok b) :
    ∃ a, x = .ok a ∧ f a = b := by
  cases x with
  | error e => cases h
  | ok a => exact ⟨a, rfl, Except.ok.inj h⟩

theorem parseAln?_none {isAlpha : Char → Bool} {o : Option Str} (h : parseAln? isAlpha o = .ok none) : o = none := by
  cases o with
  | none => rfl
  | some x =>
    obtain ⟨_, _, h⟩ := map_ok h
    cases h

/-- where no alignment is split off, the target text is kept whole -/
theorem splitTarget_of_none {s : Str} (h : (splitTarget s).2 = none) : (splitTarget s).1 = s := by
  unfold splitTarget at h ⊢
  split
  · split
    · split
      · rfl
      · rename_i h1 h2 h3; rw [if_pos h1, if_pos h2, if_neg h3] at h; cases h
    · rename_i h1 h2; rw [if_pos h1, if_neg h2] at h; cases h
  · rfl

theorem processRole_ok {isAlpha raw role repis} (h : processRole isAlpha raw = .ok (role, repis)) :
    ∃ ra, parseAln? isAlpha (roleAlnText raw) = .ok ra ∧ role = roleName raw ∧ repis = roleEpis ra := by
  rw [processRole_eq] at h
  obtain ⟨ra, hp, h⟩ := map_ok h
  cases h
  exact ⟨ra, hp, rfl, by cases ra <;> rfl⟩

theorem atom_triple_str (m : Model) (vars : List Str) (c role s) :
    (if m.isRoleInverted role && atomInVars vars (.str s) then m.deinvert ⟨c, role, .str s⟩ else ⟨c, role, .str s⟩) =
      orientTriple m (!m.noop && m.isRoleInverted role && decide (s ∈ vars)) ⟨c, role, .str s⟩ := by
  show _ = orientTriple m (!m.noop && m.isRoleInverted role && atomInVars vars (.str s)) _
  unfold orientTriple Model.deinvert
  cases m.noop <;> cases m.isRoleInverted role <;> cases atomInVars vars (.str s) <;> rfl

theorem sub_triple (m : Model) (c role nv) :
    m.deinvert ⟨c, role, .str nv⟩ = orientTriple m (!m.noop && m.isRoleInverted role) ⟨c, role, .str nv⟩ := by
  unfold orientTriple Model.deinvert
  cases m.noop <;> cases m.isRoleInverted role <;> rfl

theorem entryOk_atom (tr : Triple) (ra ta : Option Marker) (c : Str) (sw : Bool) :
    EntryOk (tr, roleEpis ra ++ tgtEpis ta) ⟨tr, ra, ta, c, none, sw⟩ := by
  cases ra <;> cases ta <;> exact ⟨rfl, rfl, rfl, rfl⟩

theorem entryOk_sub (tr : Triple) (ra : Option Marker) (c nv : Str) (sw : Bool) :
    EntryOk (tr, roleEpis ra ++ [.push nv]) ⟨tr, ra, none, c, some nv, sw⟩ := by
  cases ra <;> exact ⟨rfl, rfl, rfl, rfl⟩

theorem countPop_atom (ra ta : Option Marker) : countPop (roleEpis ra ++ tgtEpis ta) = 0 := by
  cases ra <;> cases ta <;> rfl

theorem countPop_sub (ra : Option Marker) (nv : Str) : countPop (roleEpis ra ++ [.push nv]) = 0 := by
  cases ra <;> rfl

/-! ### `denote` on the three kinds of written relation -/

section
variable {isAlpha : Char → Bool} {m : Model} {vars : List Str} {c r : Str} {ra : Option Marker}

theorem denote_null (hra : parseAln? isAlpha (roleAlnText r) = .ok ra) :
    denote isAlpha m vars ⟨some c, r, .atom .none⟩ = .ok ⟨⟨c, roleName r, .none⟩, ra, none, c, none, false⟩ := by
  simp only [denote, hra]

theorem denote_str {s ta} (hra : parseAln? isAlpha (roleAlnText r) = .ok ra)
    (hta : parseAln? isAlpha (splitTarget s).2 = .ok ta) :
    denote isAlpha m vars ⟨some c, r, .atom (.str s)⟩ =
      .ok ⟨orientTriple m (!m.noop && m.isRoleInverted (roleName r) && decide ((splitTarget s).1 ∈ vars))
        ⟨c, roleName r, .str (splitTarget s).1⟩, ra, ta, c, none,
        !m.noop && m.isRoleInverted (roleName r) && decide ((splitTarget s).1 ∈ vars)⟩ := by
  simp only [denote, hra, hta]

theorem denote_opens {nv} (hra : parseAln? isAlpha (roleAlnText r) = .ok ra) :
    denote isAlpha m vars ⟨some c, r, .opens (some nv)⟩ =
      .ok ⟨orientTriple m (!m.noop && m.isRoleInverted (roleName r)) ⟨c, roleName r, .str nv⟩, ra, none, c,
        some nv, !m.noop && m.isRoleInverted (roleName r)⟩ := by
  simp only [denote, hra]

end

/-- the written relations `ws`, read by `denote`, are the triples `ts` with the entries `es`, and the
    stack simulation started in the node `v` assigns every one of them its writer -/
def WrittenSpec (isAlpha : Char → Bool) (m : Model) (vars : List Str) (v : Str) (ws : List Written)
    (ts : List Triple) (es : List (Triple × List Epi)) : Prop :=
  ∃ ds, ws.mapM (denote isAlpha m vars) = .ok ds ∧ ts = ds.map (·.triple) ∧ All2 EntryOk es ds ∧
    ∀ vars', Good vars' ds → RunInv vars' v es (ds.map fun d => some d.ctx)

section
variable {isAlpha : Char → Bool} {m : Model} {vars : List Str} {v : Str} {ws : List Written}
  {ts : List Triple} {es : List (Triple × List Epi)}

/-- a relation that opens no node -/
theorem WrittenSpec.flat {w d e} (hd : denote isAlpha m vars w = .ok d) (hk : EntryOk (d.triple, e) d)
    (ho : d.opens = none) (hc : countPop e = 0) (hctx : d.ctx = v)
    (hel : ∀ vars', GoodD vars' d → v ∈ eligible vars' d.triple) (h : WrittenSpec isAlpha m vars v ws ts es) :
    WrittenSpec isAlpha m vars v (w :: ws) (d.triple :: ts) ((d.triple, e) :: es) := by
  subst hctx
  obtain ⟨ds, hds, rfl, hall, hrun⟩ := h
  exact ⟨d :: ds, mapM_cons_ok hd hds, rfl, .cons hk hall, fun vars' hg =>
    RunInv.flat (hk.push.trans ho) hc (hel vars' (hg d List.mem_cons_self))
      (hrun vars' fun d' hd' => hg d' (List.mem_cons_of_mem _ hd'))⟩

/-- a relation that opens the node `nv`, followed by what that node writes -/
theorem WrittenSpec.sub {w d e nv wsn nts nes} (hd : denote isAlpha m vars w = .ok d) (hk : EntryOk (d.triple, e) d)
    (ho : d.opens = some nv) (hc : countPop e = 0) (hctx : d.ctx = v)
    (hel : ∀ vars', GoodD vars' d → v ∈ eligible vars' d.triple)
    (hn : WrittenSpec isAlpha m vars nv wsn nts nes) (hne : nes ≠ []) (h : WrittenSpec isAlpha m vars v ws ts es) :
    WrittenSpec isAlpha m vars v (w :: (wsn ++ ws)) (d.triple :: nts ++ ts)
      ((d.triple, e) :: appendPopLast nes ++ es) := by
  subst hctx
  obtain ⟨ds, hds, rfl, hall, hrun⟩ := h
  obtain ⟨nds, hnds, rfl, hnall, hnrun⟩ := hn
  refine ⟨d :: (nds ++ ds), mapM_cons_ok hd (mapM_append_ok hnds hds), ?_,
    .cons hk ((All2.appendPopLast hnall).append hall), fun vars' hg => ?_⟩
  · rw [List.map_cons, List.map_append]; rfl
  · have g := hg d List.mem_cons_self
    have := RunInv.sub (hk.push.trans ho) (fun h0 => g.2.1 (ho.trans (congrArg some h0))) hc (hel vars' g)
      (hnrun vars' fun d' hd' => hg d' (List.mem_cons_of_mem _ (List.mem_append_left _ hd'))) hne
      (hrun vars' fun d' hd' => hg d' (List.mem_cons_of_mem _ (List.mem_append_right _ hd')))
    rw [List.map_cons, List.map_append]
    exact this

end

/-- the result of a branch list in the node `v`, against what the list writes -/
def BranchesSpec (isAlpha : Char → Bool) (m : Model) (vars : List Str) (bs : Branches) : Prop :=
  ∀ v out, interpretBranches isAlpha m vars v bs = .ok out →
    out.hasConcept = labelled bs ∧ (out.hasConcept = true → out.epidata ≠ []) ∧
      WrittenSpec isAlpha m vars v (Branches.written (some v) bs) out.triples out.epidata

/-- a node without node label is read with the instance relation first -/
theorem spec_node {isAlpha m vars} {n : Node} {ts es} (h : interpretNode isAlpha m vars n = .ok (ts, es))
    (ih : BranchesSpec isAlpha m vars n.bs) :
    ∃ v, n.var = some v ∧ es ≠ [] ∧ WrittenSpec isAlpha m vars v (Node.written n) ts es := by
  cases n with
  | mk v bs =>
    obtain ⟨var, out, rfl, hb, hcase⟩ := interpretNode_ok h
    have ih : BranchesSpec isAlpha m vars bs := ih
    obtain ⟨hlab, hne, hs⟩ := ih var out hb
    rcases hcase with ⟨hc, rfl, rfl⟩ | ⟨hc, rfl, rfl⟩
    · refine ⟨var, rfl, hne hc, ?_⟩
      rw [Node.written, ← hlab, hc]
      exact hs
    · refine ⟨var, rfl, List.cons_ne_nil _ _, ?_⟩
      rw [Node.written, ← hlab, hc]
      exact hs.flat (d := ⟨⟨var, CONCEPT_ROLE, .none⟩, none, none, var, none, false⟩) (denote_null rfl)
        ⟨rfl, rfl, rfl, rfl⟩ rfl rfl rfl fun _ _ => List.mem_cons_self

theorem spec_branches (isAlpha : Char → Bool) (m : Model) (vars : List Str) :
    ∀ bs, BranchesSpec isAlpha m vars bs := by
  refine branches_ind ?_ ?_ ?_
  · intro v out h
    cases h
    exact ⟨rfl, fun h => (nomatch h), [], rfl, rfl, .nil, fun _ _ => RunInv.nil _ _⟩
  · intro r a rest ih v out h
    obtain ⟨role, repis, tgt, tepis, out', h1, h2, h3, rfl⟩ := interpretBranches_atom_ok h
    obtain ⟨hlab, -, hs⟩ := ih v out' h3
    obtain ⟨ra, hra, rfl, rfl⟩ := processRole_ok h1
    refine ⟨(labelled_atom r a rest).symm ▸ hlab ▸ Bool.or_comm .., fun _ => List.cons_ne_nil _ _, ?_⟩
    cases a with
    | num t => cases h2
    | none =>
      cases h2
      rw [show atomInVars vars Atom.none = false from rfl, Bool.and_false, if_neg Bool.false_ne_true]
      exact hs.flat (denote_null hra) (entryOk_atom _ ra none v false) rfl (countPop_atom ra none) rfl
        fun _ _ => List.mem_cons_self
    | str s =>
      rw [processAtomic_str] at h2
      obtain ⟨ta, hta, h2⟩ := map_ok h2
      cases h2
      rw [atom_triple_str]
      exact hs.flat (denote_str hra hta) (entryOk_atom _ ra ta v _) rfl (countPop_atom ra ta) rfl
        fun _ hg => eligible_orient hg.1 hg.2.2
  · intro r n rest ihn ih v out h
    obtain ⟨role, repis, nv, nts, nes, out', h1, h0, h2, h3, rfl⟩ := interpretBranches_sub_ok h
    obtain ⟨hlab, -, hs⟩ := ih v out' h3
    obtain ⟨nv', hnv', hnne, hns⟩ := spec_node h2 ihn
    cases h0.symm.trans hnv'
    obtain ⟨ra, hra, rfl, rfl⟩ := processRole_ok h1
    refine ⟨(labelled_sub r n rest).symm ▸ hlab ▸ Bool.or_comm .., fun _ => List.cons_ne_nil _ _, ?_⟩
    show WrittenSpec _ _ _ _ (⟨_, _, .opens n.var⟩ :: _) _ _
    rw [sub_triple, h0]
    exact .sub (denote_opens hra) (entryOk_sub _ ra v nv _) rfl (countPop_sub ra nv) rfl
      (fun _ hg => eligible_orient hg.1 hg.2.2) hns hnne hs

theorem node_spec (isAlpha : Char → Bool) (m : Model) (vars : List Str) :
    (n : Node) → ∀ ts es, interpretNode isAlpha m vars n = .ok (ts, es) →
      ∃ v ds, n.var = some v ∧ (Node.written n).mapM (denote isAlpha m vars) = .ok ds ∧
        ts = ds.map (·.triple) ∧ All2 EntryOk es ds ∧ es ≠ [] ∧
        (∀ vars', Good vars' ds → RunInv vars' v es (ds.map fun d => some d.ctx)) := by
  intro n ts es h
  obtain ⟨v, hv, hne, ds, h1, h2, h3, h4⟩ := spec_node h (spec_branches isAlpha m vars n.bs)
  exact ⟨v, ds, hv, h1, h2, h3, hne, h4⟩

theorem branches_spec (isAlpha : Char → Bool) (m : Model) (vars : List Str) :
    (bs : Branches) → ∀ v out, interpretBranches isAlpha m vars v bs = .ok out →
      ∃ ds, (Branches.written (some v) bs).mapM (denote isAlpha m vars) = .ok ds ∧
        out.triples = ds.map (·.triple) ∧ out.hasConcept = labelled bs ∧ All2 EntryOk out.epidata ds ∧
        (out.hasConcept = true → out.epidata ≠ []) ∧
        (∀ vars', Good vars' ds → RunInv vars' v out.epidata (ds.map fun d => some d.ctx)) := by
  intro bs v out h
  obtain ⟨hl, hne, ds, h1, h2, h3, h4⟩ := spec_branches isAlpha m vars bs v out h
  exact ⟨ds, h1, h2, hl, h3, hne, h4⟩

end Penman.Interp
