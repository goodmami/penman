/-
  Penman.Proofs.InterpretCases — what every proof about `interpret` starts from:
  induction over branch lists, the variables of a tree by constructor, and what a
  successful run of `interpretNode`, `interpretBranches`, `interpret` consists of.
-/
import Penman.Layout
namespace Penman.Interp

/-- `CONCEPT_ROLE` and `ofStr` spelled out: evaluating `"…".toList` runs the UTF-8 decoder on the
    literal, so a proof that computes with one of them rewrites it to its characters first -/
theorem concept_chars : CONCEPT_ROLE = [':', 'i', 'n', 's', 't', 'a', 'n', 'c', 'e'] := by
  unfold CONCEPT_ROLE
  simp -index only [String.toList_ofList]

theorem of_chars : ofStr = ['-', 'o', 'f'] := by
  unfold ofStr
  simp -index only [String.toList_ofList]

theorem not_inverted_concept (m : Model) : m.isRoleInverted CONCEPT_ROLE = false := by
  rw [Model.isRoleInverted, concept_chars, of_chars]; exact Bool.and_false _

/-- induction over a branch list; for a nested node the hypothesis is about its branch list -/
theorem branches_ind {Q : Branches → Prop} (nil : Q .nil)
    (atom : ∀ r a rest, Q rest → Q (.atom r a rest))
    (sub : ∀ r (n : Node) rest, Q n.bs → Q rest → Q (.sub r n rest)) : ∀ bs, Q bs :=
  fun bs => Branches.rec (motive_1 := fun n => Q n.bs) (fun _ _ ih => ih) nil atom sub bs

theorem mem_vars_mk (v : Str) (bs : Branches) : v ∈ (Node.mk (some v) bs).vars :=
  List.mem_cons_self

theorem mem_vars_of_bs {n : Node} {w : Str} (h : w ∈ n.bs.nodes.map (·.1)) : w ∈ n.vars := by
  cases n with
  | mk v bs =>
    cases v with
    | none => exact h
    | some x => exact List.mem_cons_of_mem _ h

theorem var_mem_vars {n : Node} {nv : Str} (h : n.var = some nv) : nv ∈ n.vars := by
  cases n with
  | mk v bs => cases h; exact mem_vars_mk nv bs

theorem nodes_sub_vars (r : Str) (n : Node) (rest : Branches) :
    (Branches.sub r n rest).nodes.map (·.1) = n.vars ++ rest.nodes.map (·.1) :=
  List.map_append

theorem bind_ok {ε α β : Type} {x : Except ε α} {f : α → Except ε β} {b : β}
    (h : x >>= f = .ok b) : ∃ a, x = .ok a ∧ f a = .ok b := by
  cases x with
  | error e => cases h
  | ok a => exact ⟨a, rfl, h⟩

theorem interpretBranches_atom_ok {isAlpha m vars v r a rest out}
    (h : interpretBranches isAlpha m vars v (.atom r a rest) = .ok out) :
    ∃ role repis tgt tepis out', processRole isAlpha r = .ok (role, repis) ∧
      processAtomic isAlpha a = .ok (tgt, tepis) ∧
      interpretBranches isAlpha m vars v rest = .ok out' ∧
      out = ⟨out'.hasConcept || decide (role = CONCEPT_ROLE),
        (if m.isRoleInverted role && atomInVars vars tgt then m.deinvert ⟨v, role, tgt⟩ else ⟨v, role, tgt⟩) :: out'.triples,
        ((if m.isRoleInverted role && atomInVars vars tgt then m.deinvert ⟨v, role, tgt⟩ else ⟨v, role, tgt⟩), repis ++ tepis) :: out'.epidata⟩ := by
  obtain ⟨⟨role, repis⟩, h1, h⟩ := bind_ok (x := processRole isAlpha r) h
  obtain ⟨⟨tgt, tepis⟩, h2, h⟩ := bind_ok (x := processAtomic isAlpha a) h
  obtain ⟨out', h3, h⟩ := bind_ok (x := interpretBranches isAlpha m vars v rest) h
  exact ⟨role, repis, tgt, tepis, out', h1, h2, h3, (Except.ok.inj h).symm⟩

theorem interpretBranches_sub_ok {isAlpha m vars v r n rest out}
    (h : interpretBranches isAlpha m vars v (.sub r n rest) = .ok out) :
    ∃ role repis nv nts nes out', processRole isAlpha r = .ok (role, repis) ∧
      n.var = some nv ∧ interpretNode isAlpha m vars n = .ok (nts, nes) ∧
      interpretBranches isAlpha m vars v rest = .ok out' ∧
      out = ⟨out'.hasConcept || decide (role = CONCEPT_ROLE),
        m.deinvert ⟨v, role, .str nv⟩ :: nts ++ out'.triples,
        (m.deinvert ⟨v, role, .str nv⟩, repis ++ [.push nv]) :: appendPopLast nes ++ out'.epidata⟩ := by
  obtain ⟨⟨role, repis⟩, h1, h⟩ := bind_ok (x := processRole isAlpha r) h
  cases h0 : n.var with
  | none => rw [h0] at h; cases h
  | some nv =>
    rw [h0] at h
    obtain ⟨⟨nts, nes⟩, h2, h⟩ := bind_ok (x := interpretNode isAlpha m vars n) h
    obtain ⟨out', h3, h⟩ := bind_ok (x := interpretBranches isAlpha m vars v rest) h
    exact ⟨role, repis, nv, nts, nes, out', h1, rfl, h2, h3, (Except.ok.inj h).symm⟩

theorem interpretNode_ok {isAlpha m vars v bs ts es}
    (h : interpretNode isAlpha m vars (.mk v bs) = .ok (ts, es)) :
    ∃ var out, v = some var ∧ interpretBranches isAlpha m vars var bs = .ok out ∧
      ((out.hasConcept = true ∧ ts = out.triples ∧ es = out.epidata) ∨
       (out.hasConcept = false ∧ ts = ⟨var, CONCEPT_ROLE, .none⟩ :: out.triples ∧
          es = (⟨var, CONCEPT_ROLE, .none⟩, []) :: out.epidata)) := by
  cases v with
  | none => cases h
  | some var =>
    obtain ⟨out, h1, h⟩ := bind_ok (x := interpretBranches isAlpha m vars var bs) h
    refine ⟨var, out, rfl, h1, ?_⟩
    cases hc : out.hasConcept with
    | true => rw [hc] at h; cases h; exact .inl ⟨rfl, rfl, rfl⟩
    | false => rw [hc] at h; cases h; exact .inr ⟨rfl, rfl, rfl⟩

theorem interpret_ok {isAlpha m t g} (h : interpret isAlpha m t = .ok g) :
    ∃ ts es, interpretNode isAlpha m t.node.vars t.node = .ok (ts, es) ∧
      g = Graph.mk' ts t.node.var (epimapOf es) t.metadata := by
  obtain ⟨⟨ts, es⟩, hn, h⟩ := bind_ok h
  exact ⟨ts, es, hn, (Except.ok.inj h).symm⟩

end Penman.Interp
