/-
  Penman.Proofs.InterpretGraph — graph-level helper lemmas for C04/C14:
  `epimapOf` = first occurrence, `All2` and `mapM`, structural facts about
  `Node.written` / `Branches.written`, the shape of a denoted relation, `~`-freeness.
-/
import Penman.Proofs.Interpret
import Penman.Proofs.AssocList
namespace Penman.Interp
open Penman.Spec.Reading

theorem ofList_of_nodup {α β : Type} [DecidableEq α] (l : List (α × β)) (h : (l.map (·.1)).Nodup) :
    AList.ofList l = l :=
  C02.ofList_nodup l h

theorem get?_none_of_not_mem {α β : Type} [DecidableEq α] (l : List (α × β)) {k : α}
    (h : k ∉ l.map (·.1)) : AList.get? l k = none := by
  induction l with
  | nil => rfl
  | cons x l ih =>
    obtain ⟨k', v'⟩ := x
    rw [C02.get?_cons, if_neg fun (e : k' = k) => h (e ▸ List.mem_cons_self)]
    exact ih fun hm => h (List.mem_cons_of_mem _ hm)

/-! ### `epimapOf` keeps the first entry per triple -/

/-- `epimapOf_eq_firstOcc` with the set of triples already seen as a parameter, for the induction -/
theorem filter_epimapOf (seen : List Triple) (l : List (Triple × List Epi)) :
    (epimapOf l).filter (fun x => decide (x.1 ∉ seen)) = firstOccAux (·.1) seen l := by
  induction l generalizing seen with
  | nil => rfl
  | cons x l ih =>
    obtain ⟨t, e⟩ := x
    simp only [epimapOf, firstOccAux, List.filter_cons]
    by_cases hs : t ∈ seen
    · simp only [hs, not_true_eq_false, decide_false, Bool.false_eq_true, if_false, if_true, List.filter_filter]
      rw [← ih seen]
      apply List.filter_congr
      intro y _
      by_cases hy : y.1 ∈ seen
      · simp [hy]
      · have : y.1 ≠ t := by rintro rfl; exact hy hs
        simp [hy, this]
    · simp only [hs, not_false_eq_true, decide_true, if_true, if_false, List.filter_filter]
      rw [← ih (t :: seen)]
      congr 1
      apply List.filter_congr
      intro y _
      by_cases hy : y.1 = t <;> simp [hy, hs]

theorem epimapOf_eq_firstOcc (l : List (Triple × List Epi)) : epimapOf l = firstOccBy (·.1) l := by
  have := filter_epimapOf [] l
  rw [firstOccBy, ← this]; simp only [List.not_mem_nil, not_false_eq_true, decide_true]
  exact (List.filter_eq_self.2 (fun _ _ => rfl)).symm

theorem firstOccAux_map {α β κ : Type} [DecidableEq κ] (f : α → β) (key : β → κ) (seen : List κ) (l : List α) :
    firstOccAux key seen (l.map f) = (firstOccAux (fun a => key (f a)) seen l).map f := by
  induction l generalizing seen with
  | nil => rfl
  | cons x l ih =>
    simp only [List.map_cons, firstOccAux]
    by_cases h : key (f x) ∈ seen <;> simp [h, ih]

theorem firstOccAux_keys_nodup {α κ : Type} [DecidableEq κ] (key : α → κ) (seen : List κ) (l : List α) :
    ((firstOccAux key seen l).map key).Nodup ∧ ∀ x ∈ firstOccAux key seen l, key x ∉ seen := by
  induction l generalizing seen with
  | nil => simp [firstOccAux]
  | cons x l ih =>
    simp only [firstOccAux]
    by_cases h : key x ∈ seen
    · simp only [h, if_true]; exact ih seen
    · simp only [h, if_false, List.map_cons, List.nodup_cons, List.mem_cons, forall_eq_or_imp]
      obtain ⟨h1, h2⟩ := ih (key x :: seen)
      refine ⟨⟨?_, h1⟩, not_false, fun y hy hm => h2 y hy (List.mem_cons_of_mem _ hm)⟩
      intro hm
      obtain ⟨y, hy, hk⟩ := List.mem_map.1 hm
      exact h2 y hy (by simp [hk])

theorem firstOccAux_sublist {α κ : Type} [DecidableEq κ] (key : α → κ) (seen : List κ) (l : List α) :
    (firstOccAux key seen l).Sublist l := by
  induction l generalizing seen with
  | nil => exact .slnil
  | cons x l ih =>
    rw [firstOccAux]
    split
    · exact (ih _).cons _
    · exact (ih _).cons_cons _

theorem firstOccAux_of_nodup {α κ : Type} [DecidableEq κ] (key : α → κ) (seen : List κ) (l : List α)
    (h : (l.map key).Nodup) (hs : ∀ x ∈ l, key x ∉ seen) : firstOccAux key seen l = l := by
  induction l generalizing seen with
  | nil => rfl
  | cons x l ih =>
    simp only [List.map_cons, List.nodup_cons] at h
    simp only [firstOccAux, hs x List.mem_cons_self, if_false]
    rw [ih (key x :: seen) h.2]
    intro y hy hm
    rcases List.mem_cons.1 hm with he | hm
    · exact h.1 (he ▸ List.mem_map.2 ⟨y, hy, rfl⟩)
    · exact hs y (List.mem_cons_of_mem _ hy) hm


/-- distinct triples: `epimapOf` drops nothing -/
theorem epimapOf_of_nodup (l : List (Triple × List Epi)) (h : (l.map (·.1)).Nodup) : epimapOf l = l := by
  rw [epimapOf_eq_firstOcc]
  exact firstOccAux_of_nodup _ [] l h fun _ _ => List.not_mem_nil

/-! ### `All2` utilities, `mapM` -/

theorem All2.mem_left {α β : Type} {R : α → β → Prop} {l₁ l₂} (h : All2 R l₁ l₂) {a} (ha : a ∈ l₁) :
    ∃ b ∈ l₂, R a b := by
  induction h with
  | nil => cases ha
  | cons hr _ ih =>
    rcases List.mem_cons.1 ha with rfl | ha
    · exact ⟨_, List.mem_cons_self, hr⟩
    · obtain ⟨b, hb, hr⟩ := ih ha; exact ⟨b, List.mem_cons_of_mem _ hb, hr⟩

theorem All2.mem_pair {α β : Type} {R : α → β → Prop} {l₁ l₂} (h : All2 R l₁ l₂) {b} (hb : b ∈ l₂) :
    ∃ a, (a, b) ∈ l₁.zip l₂ ∧ R a b := by
  induction h with
  | nil => cases hb
  | cons hr _ ih =>
    rcases List.mem_cons.1 hb with rfl | hb
    · exact ⟨_, by simp, hr⟩
    · obtain ⟨a, ha, hr⟩ := ih hb; exact ⟨a, by simp [ha], hr⟩

theorem All2.mem_right {α β : Type} {R : α → β → Prop} {l₁ l₂} (h : All2 R l₁ l₂) {b} (hb : b ∈ l₂) :
    ∃ a ∈ l₁, R a b :=
  let ⟨a, hz, hr⟩ := h.mem_pair hb
  ⟨a, (List.of_mem_zip hz).1, hr⟩

theorem mapM_cons_inv {α β ε : Type} {f : α → Except ε β} {a : α} {l : List α} {bs : List β}
    (h : List.mapM f (a :: l) = .ok bs) : ∃ b bs', f a = .ok b ∧ List.mapM f l = .ok bs' ∧ bs = b :: bs' := by
  rw [List.mapM_cons] at h
  obtain ⟨b, hb, h⟩ := bind_ok h
  obtain ⟨bs', hl, h⟩ := bind_ok h
  exact ⟨b, bs', hb, hl, (Except.ok.inj h).symm⟩

theorem mapM_append_inv {α β ε : Type} {f : α → Except ε β} {l₁ l₂ : List α} {bs : List β}
    (h : List.mapM f (l₁ ++ l₂) = .ok bs) :
    ∃ b₁ b₂, List.mapM f l₁ = .ok b₁ ∧ List.mapM f l₂ = .ok b₂ ∧ bs = b₁ ++ b₂ := by
  rw [List.mapM_append] at h
  obtain ⟨b₁, h1, h⟩ := bind_ok h
  obtain ⟨b₂, h2, h⟩ := bind_ok h
  exact ⟨b₁, b₂, h1, h2, (Except.ok.inj h).symm⟩

theorem mapM_ok_all2 {α β ε : Type} {f : α → Except ε β} {l : List α} {bs : List β}
    (h : l.mapM f = .ok bs) : All2 (fun a b => f a = .ok b) l bs := by
  induction l generalizing bs with
  | nil => cases h; exact .nil
  | cons a l ih =>
    obtain ⟨b, bs', hb, hl, rfl⟩ := mapM_cons_inv h
    exact .cons hb (ih hl)

/-! ### structural facts about `written` -/

theorem vars_mk (v : Option Str) (bs : Branches) :
    (Node.mk v bs).vars = v.toList ++ bs.nodes.map (·.1) := by
  cases v <;> rfl

/-- writers and opened nodes of the relations `ws` are among `vs` -/
def VarsIn (ws : List Written) (vs : List Str) : Prop :=
  ∀ w ∈ ws, (∀ c, w.ctx = some c → c ∈ vs) ∧ (∀ nv, w.tgt = .opens (some nv) → nv ∈ vs)

theorem VarsIn.mono {ws vs vs'} (h : VarsIn ws vs) (hs : ∀ x ∈ vs, x ∈ vs') : VarsIn ws vs' :=
  fun w hw => ⟨fun c hc => hs c ((h w hw).1 c hc), fun nv hn => hs nv ((h w hw).2 nv hn)⟩

theorem VarsIn.append {ws₁ ws₂ vs} (h₁ : VarsIn ws₁ vs) (h₂ : VarsIn ws₂ vs) : VarsIn (ws₁ ++ ws₂) vs :=
  fun w hw => (List.mem_append.1 hw).elim (h₁ w) (h₂ w)

theorem VarsIn.cons {ctx r tgt ws vs} (hc : ∀ c, ctx = some c → c ∈ vs)
    (ho : ∀ nv, tgt = WTarget.opens (some nv) → nv ∈ vs) (h : VarsIn ws vs) :
    VarsIn (⟨ctx, r, tgt⟩ :: ws) vs :=
  fun w hw => (List.mem_cons.1 hw).elim (fun e => e ▸ ⟨hc, ho⟩) (h w)

theorem mem_toList_append {c : Str} {ctx : Option Str} (l : List Str) (h : ctx = some c) :
    c ∈ ctx.toList ++ l :=
  h ▸ List.mem_cons_self

theorem varsIn_node (n : Node)
    (ih : ∀ ctx, VarsIn (Branches.written ctx n.bs) (ctx.toList ++ n.bs.nodes.map (·.1))) :
    VarsIn (Node.written n) n.vars := by
  cases n with
  | mk v bs =>
    rw [vars_mk, Node.written]
    refine .append ?_ (ih v)
    split
    · exact fun w hw => nomatch hw
    · exact .cons (fun c => mem_toList_append _) (fun nv h => nomatch h) fun w hw => nomatch hw

theorem varsIn_branches : ∀ bs ctx,
    VarsIn (Branches.written ctx bs) (ctx.toList ++ bs.nodes.map (·.1)) := by
  refine branches_ind ?_ ?_ ?_
  · exact fun ctx w hw => nomatch hw
  · exact fun r a rest ih ctx => .cons (fun c => mem_toList_append _) (fun nv h => nomatch h) (ih ctx)
  · intro r n rest ihn ih ctx
    rw [nodes_sub_vars]
    refine .cons (fun c => mem_toList_append _) (fun nv h => ?_) (.append ?_ ?_)
    · exact List.mem_append_right _ (List.mem_append_left _ (var_mem_vars (WTarget.opens.inj h)))
    · exact (varsIn_node n ihn).mono fun x hx => List.mem_append_right _ (List.mem_append_left _ hx)
    · exact (ih ctx).mono fun x hx => (List.mem_append.1 hx).elim (List.mem_append_left _)
        fun hx => List.mem_append_right _ (List.mem_append_right _ hx)

theorem written_node_vars (n : Node) : ∀ w ∈ Node.written n,
    (∀ c, w.ctx = some c → c ∈ n.vars) ∧ (∀ nv, w.tgt = .opens (some nv) → nv ∈ n.vars) :=
  varsIn_node n (varsIn_branches n.bs)

/-- some relation of `ws` is the instance relation written by the node `v` -/
def HasInstance (ws : List Written) (v : Str) : Prop :=
  ∃ w ∈ ws, w.ctx = some v ∧ roleName w.role = CONCEPT_ROLE

theorem HasInstance.mono {ws ws' v} (h : HasInstance ws v) (hs : ∀ w ∈ ws, w ∈ ws') : HasInstance ws' v :=
  let ⟨w, hw, h⟩ := h
  ⟨w, hs w hw, h⟩

/-- a labelled branch list holds the instance relation of its node -/
theorem hasInstance_of_labelled (ctx : Str) : (bs : Branches) → labelled bs = true →
    HasInstance (Branches.written (some ctx) bs) ctx
  | .nil => fun h => nomatch h
  | .atom r a rest => fun h =>
    (Bool.or_eq_true_iff.1 ((labelled_atom r a rest).symm.trans h)).elim
      (fun hr => ⟨_, List.mem_cons_self, rfl, of_decide_eq_true hr⟩)
      (fun hl => (hasInstance_of_labelled ctx rest hl).mono fun _ => List.mem_cons_of_mem _)
  | .sub r n rest => fun h =>
    (Bool.or_eq_true_iff.1 ((labelled_sub r n rest).symm.trans h)).elim
      (fun hr => ⟨_, List.mem_cons_self, rfl, of_decide_eq_true hr⟩)
      (fun hl => (hasInstance_of_labelled ctx rest hl).mono fun _ hw =>
        List.mem_cons_of_mem _ (List.mem_append_right _ hw))

/-- every node writes (or is read as having) an instance relation -/
theorem hasInstance_node (n : Node)
    (ih : ∀ ctx, ∀ v ∈ n.bs.nodes.map (·.1), HasInstance (Branches.written ctx n.bs) v) :
    ∀ v ∈ n.vars, HasInstance (Node.written n) v := by
  cases n with
  | mk x bs =>
    intro v hv
    rw [vars_mk] at hv
    rcases List.mem_append.1 hv with hv | hv
    · cases x with
      | none => cases hv
      | some x =>
        cases List.mem_singleton.1 hv
        rw [Node.written]
        split
        · rename_i hl
          exact hasInstance_of_labelled v bs hl
        · exact ⟨_, List.mem_cons_self, rfl, if_pos rfl⟩
    · exact (ih x v hv).mono fun _ => List.mem_append_right _

theorem hasInstance_branches : ∀ bs ctx, ∀ v ∈ bs.nodes.map (·.1),
    HasInstance (Branches.written ctx bs) v := by
  refine branches_ind ?_ ?_ ?_
  · exact fun ctx v hv => nomatch hv
  · exact fun r a rest ih ctx v hv => (ih ctx v hv).mono fun _ => List.mem_cons_of_mem _
  · intro r n rest ihn ih ctx v hv
    rw [nodes_sub_vars] at hv
    rcases List.mem_append.1 hv with hv | hv
    · exact (hasInstance_node n ihn v hv).mono fun _ hw =>
        List.mem_cons_of_mem _ (List.mem_append_left _ hw)
    · exact (ih ctx v hv).mono fun _ hw => List.mem_cons_of_mem _ (List.mem_append_right _ hw)

theorem written_instance_node (n : Node) : ∀ v ∈ n.vars,
    ∃ w ∈ Node.written n, w.ctx = some v ∧ roleName w.role = CONCEPT_ROLE :=
  hasInstance_node n (hasInstance_branches n.bs)

theorem written_instance_branches (ctx : Option Str) : (bs : Branches) → ∀ v ∈ bs.nodes.map (·.1),
      ∃ w ∈ Branches.written ctx bs, w.ctx = some v ∧ roleName w.role = CONCEPT_ROLE :=
  fun bs => hasInstance_branches bs ctx


/-! ### the shape of a denoted relation -/

inductive Shape (isAlpha : Char → Bool) (m : Model) (vars : List Str) (w : Written) (d : Denoted) : Prop where
  | opens (nv : Str) (h1 : w.tgt = .opens (some nv)) (h2 : d.opens = some nv)
      (h3 : d.swapped = (!m.noop && m.isRoleInverted (roleName w.role)))
      (h4 : d.triple = orientTriple m d.swapped ⟨d.ctx, roleName w.role, .str nv⟩) (h5 : d.tgtAln = none)
  | null (h1 : w.tgt = .atom .none) (h2 : d.opens = none) (h3 : d.swapped = false)
      (h4 : d.triple = ⟨d.ctx, roleName w.role, .none⟩) (h5 : d.tgtAln = none)
  | str (raw : Str) (h1 : w.tgt = .atom (.str raw)) (h2 : d.opens = none)
      (h3 : d.swapped = (!m.noop && m.isRoleInverted (roleName w.role) && decide ((splitTarget raw).1 ∈ vars)))
      (h4 : d.triple = orientTriple m d.swapped ⟨d.ctx, roleName w.role, .str (splitTarget raw).1⟩)
      (h5 : parseAln? isAlpha (splitTarget raw).2 = .ok d.tgtAln)

theorem denote_shape {isAlpha m vars w d} (h : denote isAlpha m vars w = .ok d) :
    w.ctx = some d.ctx ∧ parseAln? isAlpha (roleAlnText w.role) = .ok d.roleAln ∧
      Shape isAlpha m vars w d := by
  obtain ⟨ctx, role, tgt⟩ := w
  unfold denote at h
  cases ctx with
  | none => simp at h
  | some c =>
    simp only at h
    cases hra : parseAln? isAlpha (roleAlnText role) with
    | error e => simp [hra] at h
    | ok ra =>
      simp only [hra] at h
      cases tgt with
      | opens v =>
        cases v with
        | none => simp at h
        | some nv =>
          simp only [Except.ok.injEq] at h; subst h
          exact ⟨rfl, rfl, .opens nv rfl rfl rfl rfl rfl⟩
      | atom a =>
        cases a with
        | none => simp only [Except.ok.injEq] at h; subst h; exact ⟨rfl, rfl, .null rfl rfl rfl rfl rfl⟩
        | num t => simp at h
        | str s =>
          simp only at h
          cases hta : parseAln? isAlpha (splitTarget s).2 with
          | error e => simp [hta] at h
          | ok ta =>
            simp only [hta, Except.ok.injEq] at h; subst h
            exact ⟨rfl, rfl, .str s rfl rfl rfl rfl hta⟩

/-! ### no `~` leaks into a triple -/

theorem tilde_not_mem_beforeTilde (s : Str) : '~' ∉ beforeTilde s :=
  fun h => absurd (mem_takeWhile_imp h) (by simp)

theorem tilde_not_mem_roleName (raw : Str) : '~' ∉ roleName raw := by
  unfold roleName
  split
  · rw [concept_chars]; decide
  · exact tilde_not_mem_beforeTilde raw

theorem tilde_splitTarget (s : Str) (h : '~' ∈ (splitTarget s).1) : (splitTarget s).1.head? = some '"' := by
  unfold splitTarget at h ⊢
  by_cases hm : '~' ∈ s
  · simp only [hm, if_true] at h ⊢
    by_cases hq : s.head? = some '"'
    · simp only [hq, if_true] at h ⊢
      by_cases ht : afterLastQuoteText s = []
      · simp only [ht, if_true]; exact hq
      · simp only [ht, if_false]
        have hmem : '"' ∈ s := by
          cases s with
          | nil => simp at hq
          | cons c cs => simp at hq; subst hq; simp
        obtain ⟨a, h1, h2, -⟩ := quote_split s hmem
        rw [h1]
        cases a with
        | nil => rfl
        | cons x a => rw [h2] at hq; exact hq
    · simp only [hq, if_false] at h
      exact absurd h (tilde_not_mem_beforeTilde s)
  · simp only [hm, if_false] at h

theorem tilde_not_mem_invertRole (m : Model) (r : Str) (h : '~' ∉ r) : '~' ∉ m.invertRole r := by
  unfold Model.invertRole
  split
  · exact fun hm => h (List.mem_of_mem_take hm)
  · rw [of_chars]
    exact fun hm => (List.mem_append.1 hm).elim h (by decide)

theorem tilde_not_mem_ensureColon (r : Str) (h : '~' ∉ r) : '~' ∉ ensureColon r := by
  unfold ensureColon
  split
  · exact h
  · exact fun hm => (List.mem_cons.1 hm).elim (by decide) h
end Penman.Interp
