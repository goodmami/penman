/-
  Penman.Proofs.LayoutBranch — C02, decode side: what `WfLayout` gives per branch,
  and a closed form (`spNode`) of what `interpretNode` returns.
-/
import Penman.Spec.WfLayout
import Penman.Proofs.LayoutStep
import Penman.Proofs.Interpret
namespace Penman
namespace C02

variable (isAlpha : Char → Bool) (m : Model)

theorem processRole_epis {role c : Str} {es : List Epi} (h : processRole isAlpha role = .ok (c, es)) :
    es = [] ∨ ∃ p i, es = [.roleAln p i] := by
  obtain ⟨ra, -, -, rfl⟩ := Interp.processRole_ok h
  cases ra with
  | none => exact .inl rfl
  | some a => exact .inr ⟨a.1, a.2, rfl⟩

theorem processAtomic_epis {a t : Atom} {es : List Epi} (h : processAtomic isAlpha a = .ok (t, es)) :
    (es = [] ∧ t = a) ∨ ∃ p i c, es = [.aln p i] ∧ t = .str c := by
  cases a with
  | none => cases h; exact .inl ⟨rfl, rfl⟩
  | num _ => cases h
  | str s =>
    rw [Interp.processAtomic_str] at h
    obtain ⟨ta, hta, h⟩ := Interp.map_ok h
    cases h
    cases ta with
    | some x => exact .inr ⟨x.1, x.2, _, rfl, rfl⟩
    | none => exact .inl ⟨rfl, congrArg Atom.str (Interp.splitTarget_of_none (Interp.parseAln?_none hta))⟩

structure RoleFacts (role : Str) : Prop where
  proc : processRole isAlpha role = .ok (roleCore isAlpha role, roleEpis isAlpha role)
  colon : startsWith [':'] (roleCore isAlpha role) = true
  notInst : roleCore isAlpha role ≠ CONCEPT_ROLE
  invNotInst : m.invertRole (roleCore isAlpha role) ≠ CONCEPT_ROLE
  canon : m.isRoleInverted (roleCore isAlpha role) = true →
    m.invertRole (m.invertRole (roleCore isAlpha role)) = roleCore isAlpha role
  text : roleCore isAlpha role ++ episText (roleEpis isAlpha role) = role
  mode : ∀ e ∈ roleEpis isAlpha role, e.mode = 1

theorem roleFacts {role : Str} (h : roleOk isAlpha m role = true) : RoleFacts isAlpha m role := by
  unfold roleOk at h
  cases hp : processRole isAlpha role with
  | error e => simp [hp] at h
  | ok r =>
    obtain ⟨c, es⟩ := r
    have hc : roleCore isAlpha role = c := by simp [roleCore, hp]
    have he : roleEpis isAlpha role = es := by simp [roleEpis, hp]
    simp only [hp, Bool.and_eq_true, decide_eq_true_eq, Bool.or_eq_true, Bool.not_eq_true'] at h
    obtain ⟨⟨⟨⟨h1, h2⟩, h3⟩, h4⟩, h5⟩ := h
    have h4 : m.isRoleInverted c = true → m.invertRole (m.invertRole c) = c := by
      intro hi; rcases h4 with h4 | h4
      · rw [hi] at h4; cases h4
      · exact h4
    refine ⟨by rw [hc, he]; exact hp, by rw [hc]; exact h1, by rw [hc]; exact h2, by rw [hc]; exact h3,
      by rw [hc]; exact h4, by rw [hc, he]; exact h5, ?_⟩
    rw [he]
    rcases processRole_epis isAlpha hp with rfl | ⟨p, i, rfl⟩
    · exact fun _ h => nomatch h
    · exact fun e h => List.eq_of_mem_singleton h ▸ rfl

theorem slash_proc : processRole isAlpha ['/'] = .ok (CONCEPT_ROLE, []) := by
  simp [processRole]

theorem slash_core : roleCore isAlpha ['/'] = CONCEPT_ROLE := by simp [roleCore, slash_proc]
theorem slash_epis : roleEpis isAlpha ['/'] = [] := by simp [roleEpis, slash_proc]

theorem roleOk_ne_slash {role : Str} (h : roleOk isAlpha m role = true) : role ≠ ['/'] := by
  rintro rfl
  exact (roleFacts isAlpha m h).notInst (slash_core isAlpha)

structure AtomFacts (a : Atom) : Prop where
  proc : processAtomic isAlpha a = .ok (atomCore isAlpha a, atomEpis isAlpha a)
  core : atomCore isAlpha a = .none ∨ ∃ c, atomCore isAlpha a = .str c ∧ c ≠ []
  text : (atomEpis isAlpha a = [] ∧ atomCore isAlpha a = a) ∨
    ∃ p i c, atomEpis isAlpha a = [.aln p i] ∧ atomCore isAlpha a = .str c ∧ a = .str (c ++ alnToString p i)

theorem atomFacts {a : Atom} (h : atomOk isAlpha a = true) : AtomFacts isAlpha a := by
  unfold atomOk at h
  cases hp : processAtomic isAlpha a with
  | error e => simp [hp] at h
  | ok r =>
    obtain ⟨t, es⟩ := r
    have hc : atomCore isAlpha a = t := by simp [atomCore, hp]
    have he : atomEpis isAlpha a = es := by simp [atomEpis, hp]
    simp only [hp, Bool.and_eq_true] at h
    obtain ⟨h1, h2⟩ := h
    refine ⟨by rw [hc, he]; exact hp, ?_, ?_⟩
    · rw [hc]
      cases t with
      | none => exact Or.inl rfl
      | str c => refine Or.inr ⟨c, rfl, ?_⟩; rintro rfl; simp at h1
      | num c => simp at h1
    · rw [hc, he]
      rcases processAtomic_epis isAlpha hp with ⟨rfl, rfl⟩ | ⟨p, i, c, rfl, rfl⟩
      · exact Or.inl ⟨rfl, rfl⟩
      · refine Or.inr ⟨p, i, c, rfl, rfl, ?_⟩
        simp only [decide_eq_true_eq] at h2
        simpa [episText, Epi.toStr, atomStr] using h2

theorem AtomFacts.mode {isAlpha : Char → Bool} {a : Atom} (h : AtomFacts isAlpha a) : ∀ e ∈ atomEpis isAlpha a, e.mode = 2 := by
  rcases h.text with ⟨h, _⟩ | ⟨p, i, c, h, _⟩
  · rw [h]; exact fun _ h => nomatch h
  · rw [h]; exact fun e h => List.eq_of_mem_singleton h ▸ rfl

/-- what `wfNodeB` asks of an atomic branch's role: the concept slot `/` (which it admits in first
    position only), or `roleOk` and no inverted self-loop -/
def RoleSlot (var : Str) (role : Str) (a : Atom) : Prop :=
  role = ['/'] ∨ (roleOk isAlpha m role = true ∧
    ¬ (deinverts m (roleCore isAlpha role) = true ∧ atomCore isAlpha a = .str var))

def NoSlash : Branches → Prop
  | .nil => True
  | .atom role _ rest => role ≠ ['/'] ∧ NoSlash rest
  | .sub role _ rest => role ≠ ['/'] ∧ NoSlash rest

def Branches.tl : Branches → Branches
  | .nil => .nil
  | .atom _ _ rest => rest
  | .sub _ _ rest => rest

mutual
/-- the local (per-node, per-branch) content of `wfNodeB`, in uniform shape -/
def LNode : Node → Prop
  | .mk v bs => ∃ var, v = some var ∧ LB var bs ∧ NoSlash (Branches.tl bs)
def LB (var : Str) : Branches → Prop
  | .nil => True
  | .atom role a rest => RoleSlot isAlpha m var role a ∧ atomOk isAlpha a = true ∧ LB var rest
  | .sub role n rest => roleOk isAlpha m role = true ∧ LNode n ∧ LB var rest
end

mutual
theorem wfNode_L : ∀ (n : Node), wfNodeB isAlpha m n = true → LNode isAlpha m n
  | .mk v bs => by
    intro h
    cases v with
    | none => simp [wfNodeB] at h
    | some var =>
      cases bs with
      | nil => exact ⟨var, rfl, by simp [LB], by simp [Branches.tl, NoSlash]⟩
      | atom role a rest =>
        by_cases hr : role = ['/']
        · simp only [wfNodeB, hr, if_true, Bool.and_eq_true] at h
          obtain ⟨hb, hns⟩ := wfBranches_L var rest h.2
          exact ⟨var, rfl, ⟨Or.inl hr, h.1, hb⟩, hns⟩
        · simp only [wfNodeB, hr, if_false] at h
          obtain ⟨hb, hns⟩ := wfBranches_L var (.atom role a rest) h
          exact ⟨var, rfl, hb, hns.2⟩
      | sub role n rest =>
        simp only [wfNodeB] at h
        obtain ⟨hb, hns⟩ := wfBranches_L var (.sub role n rest) h
        exact ⟨var, rfl, hb, hns.2⟩
theorem wfBranches_L (var : Str) : ∀ (bs : Branches), wfBranchesB isAlpha m var bs = true →
    LB isAlpha m var bs ∧ NoSlash bs
  | .nil => by intro _; simp [LB, NoSlash]
  | .atom role a rest => by
    intro h
    simp only [wfBranchesB, Bool.and_eq_true, Bool.not_eq_true', Bool.and_eq_false_iff,
      decide_eq_false_iff_not] at h
    obtain ⟨⟨⟨h1, h2⟩, h3⟩, h4⟩ := h
    obtain ⟨hb, hns⟩ := wfBranches_L var rest h4
    refine ⟨⟨Or.inr ⟨h1, ?_⟩, h2, hb⟩, roleOk_ne_slash isAlpha m h1, hns⟩
    rintro ⟨hd, ha⟩
    rcases h3 with h3 | h3
    · simp [hd] at h3
    · exact h3 ha
  | .sub role n rest => by
    intro h
    simp only [wfBranchesB, Bool.and_eq_true] at h
    obtain ⟨⟨h1, h2⟩, h3⟩ := h
    obtain ⟨hb, hns⟩ := wfBranches_L var rest h3
    exact ⟨⟨h1, wfNode_L n h2, hb⟩, roleOk_ne_slash isAlpha m h1, hns⟩
end

theorem LNode_var {n : Node} (h : LNode isAlpha m n) : n.var = some (n.var.getD []) := by
  obtain ⟨v, bs⟩ := n
  obtain ⟨_, rfl, _, _⟩ := h
  rfl

/-! ### closed form of `interpretNode` -/

/-- the triple an atomic branch denotes -/
def brTriple (vars : List Str) (var core : Str) (tgt : Atom) : Triple :=
  if deinverts m core && atomInVars vars tgt then m.invert ⟨var, core, tgt⟩ else ⟨var, core, tgt⟩

/-- the triple a branch to a nested node denotes -/
def subTriple (var core nv : Str) : Triple :=
  if deinverts m core then ⟨nv, m.invertRole core, .str var⟩ else ⟨var, core, .str nv⟩

theorem brTriple_eq (vars : List Str) (var core : Str) (tgt : Atom) :
    (if m.isRoleInverted core && atomInVars vars tgt then m.deinvert ⟨var, core, tgt⟩ else ⟨var, core, tgt⟩) =
      brTriple m vars var core tgt := by
  unfold brTriple Model.deinvert deinverts
  cases m.noop <;> cases m.isRoleInverted core <;> cases atomInVars vars tgt <;> rfl

theorem subTriple_eq (var core nv : Str) : m.deinvert ⟨var, core, .str nv⟩ = subTriple m var core nv := by
  unfold subTriple Model.deinvert deinverts
  cases m.noop <;> cases m.isRoleInverted core <;> rfl

/-- the `has_concept` flag of `_interpret_node`: some branch reads as `:instance` -/
def hasConceptB : Branches → Bool
  | .nil => false
  | .atom role _ rest => hasConceptB rest || decide (roleCore isAlpha role = CONCEPT_ROLE)
  | .sub role _ rest => hasConceptB rest || decide (roleCore isAlpha role = CONCEPT_ROLE)

/-- the null-concept entry `_interpret_node` puts first when no branch is a concept (fix F1) -/
def instEntry (var : Str) (bs : Branches) : List (Triple × List Epi) :=
  if hasConceptB isAlpha bs then [] else [(⟨var, CONCEPT_ROLE, .none⟩, [])]

mutual
/-- the `epidata` list `_interpret_node` returns for a node (no closing POP) -/
def spNode (vars : List Str) : Node → List (Triple × List Epi)
  | .mk v bs => instEntry isAlpha (v.getD []) bs ++ spBranches vars (v.getD []) bs
def spBranches (vars : List Str) (var : Str) : Branches → List (Triple × List Epi)
  | .nil => []
  | .atom role a rest =>
    (brTriple m vars var (roleCore isAlpha role) (atomCore isAlpha a), roleEpis isAlpha role ++ atomEpis isAlpha a)
      :: spBranches vars var rest
  | .sub role n rest =>
    (subTriple m var (roleCore isAlpha role) (n.var.getD []), roleEpis isAlpha role ++ [.push (n.var.getD [])])
      :: (appendPopLast (spNode vars n) ++ spBranches vars var rest)
end

theorem spNode_ne_nil (vars : List Str) (n : Node) : spNode isAlpha m vars n ≠ [] := by
  obtain ⟨v, bs⟩ := n
  cases bs with
  | nil => simp [spNode, instEntry, hasConceptB]
  | atom role a rest => simp [spNode, spBranches]
  | sub role n rest => simp [spNode, spBranches]

theorem roleCore_proc {role : Str} {x : Str × List Epi} (h : processRole isAlpha role = .ok x) :
    x = (roleCore isAlpha role, roleEpis isAlpha role) := by
  simp [roleCore, roleEpis, h]

theorem slot_mode {var role : Str} {a : Atom} (h : RoleSlot isAlpha m var role a) :
    ∀ e ∈ roleEpis isAlpha role, e.mode = 1 := by
  rcases h with rfl | ⟨h, _⟩
  · rw [slash_epis]; exact fun _ h => nomatch h
  · exact (roleFacts isAlpha m h).mode

theorem slot_proc {var role : Str} {a : Atom} (h : RoleSlot isAlpha m var role a) :
    processRole isAlpha role = .ok (roleCore isAlpha role, roleEpis isAlpha role) := by
  rcases h with rfl | ⟨h, _⟩
  · rw [slash_proc, slash_core, slash_epis]
  · exact (roleFacts isAlpha m h).proc

mutual
theorem interp_node (vars : List Str) : ∀ (n : Node), LNode isAlpha m n →
    interpretNode isAlpha m vars n = .ok ((spNode isAlpha m vars n).map (·.1), spNode isAlpha m vars n)
  | .mk v bs => by
    intro h
    obtain ⟨var, rfl, hb, _⟩ := h
    have := interp_branches vars var bs hb
    simp only [interpretNode, this, bind, Except.bind, spNode, Option.getD_some, instEntry]
    cases hasConceptB isAlpha bs <;> rfl
theorem interp_branches (vars : List Str) (var : Str) : ∀ (bs : Branches), LB isAlpha m var bs →
    interpretBranches isAlpha m vars var bs =
      .ok ⟨hasConceptB isAlpha bs, (spBranches isAlpha m vars var bs).map (·.1), spBranches isAlpha m vars var bs⟩
  | .nil => fun _ => rfl
  | .atom role a rest => by
    intro h
    obtain ⟨hs, ha, hb⟩ := h
    rw [interpretBranches, slot_proc isAlpha m hs]
    dsimp only [bind, Except.bind]
    rw [(atomFacts isAlpha ha).proc]
    dsimp only
    rw [interp_branches vars var rest hb, brTriple_eq]
    rfl
  | .sub role n rest => by
    intro h
    obtain ⟨hr, hn, hb⟩ := h
    rw [interpretBranches, (roleFacts isAlpha m hr).proc]
    dsimp only [bind, Except.bind]
    rw [LNode_var isAlpha m hn]
    dsimp only
    rw [interp_node vars n hn]
    dsimp only
    rw [interp_branches vars var rest hb]
    simp only [spBranches, hasConceptB, List.map_cons, List.map_append, appendPopLast_map_fst, subTriple_eq]
    rfl
end

end C02
end Penman
