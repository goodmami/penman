/-
  Penman.Proofs.LayoutBuild — C02: `buildNode` on the store `storeN` reproduces the
  tree (alignment markers are re-appended to the role and target texts), with
  the fuel `configure` provides.
-/
import Penman.Proofs.LayoutGraph
namespace Penman
namespace C02

variable (isAlpha : Char → Bool) (m : Model)

/-! ### re-appending markers -/

theorem applyEpis_role (R rest : List Epi) (hR : ∀ e ∈ R, e.mode = 1) (r : Str) (t : Option Str) :
    applyEpis r t (R ++ rest) = applyEpis (r ++ episText R) t rest := by
  induction R generalizing r with
  | nil => simp [episText]
  | cons e R ih =>
    have he := hR e (by simp)
    simp only [List.cons_append, applyEpis, he, if_true]
    rw [ih (fun x hx => hR x (List.mem_cons_of_mem _ hx))]
    simp [episText]

theorem applyEpis_tgt (T rest : List Epi) (hT : ∀ e ∈ T, e.mode = 2) (r : Str) (t : Str) :
    applyEpis r (some t) (T ++ rest) = applyEpis r (some (t ++ episText T)) rest := by
  induction T generalizing t with
  | nil => simp [episText]
  | cons e T ih =>
    have he := hT e (by simp)
    simp only [List.cons_append, applyEpis, he]
    rw [ih (fun x hx => hT x (List.mem_cons_of_mem _ hx))]
    simp [episText]

theorem build_atom_edge (cells : AList Str (List Edge)) (F : Nat) (r0 : Str) (R : List Epi) (a : Atom)
    (es : List Edge) (rest' : Branches) (hR : ∀ e ∈ R, e.mode = 1) (ha : AtomFacts isAlpha a)
    (hes : buildBranches cells F es = .ok rest') :
    buildBranches cells F (⟨r0, .atom (atomCore isAlpha a), R ++ atomEpis isAlpha a⟩ :: es) =
      .ok (.atom (r0 ++ episText R) a rest') := by
  have h1 := applyEpis_role R (atomEpis isAlpha a) hR r0 (some (atomStr (atomCore isAlpha a)))
  have h2 := applyEpis_tgt (atomEpis isAlpha a) [] ha.mode (r0 ++ episText R)
    (atomStr (atomCore isAlpha a))
  simp only [List.append_nil] at h2
  rw [h2] at h1
  have hany : (R ++ atomEpis isAlpha a).any (·.mode = 2) = (atomEpis isAlpha a).any (·.mode = 2) := by
    rw [List.any_append]
    have : R.any (·.mode = 2) = false := by
      rw [List.any_eq_false]; intro x hx; simp [hR x hx]
    simp [this]
  rw [buildBranches]
  simp only [hes, bind, Except.bind, h1, applyEpis, hany, pure, Except.pure, Option.getD_some]
  congr 2
  rcases ha.text with ⟨h, hc⟩ | ⟨p, i, c, h, hc, hat⟩
  · simp [h, hc]
  · rw [h, hc, hat]
    simp [Epi.mode, episText, Epi.toStr, atomStr]

theorem build_sub_edge (cells : AList Str (List Edge)) (f : Nat) (r0 : Str) (R : List Epi) (w : Str)
    (es : List Edge) (rest' : Branches) (n' : Node) (hR : ∀ e ∈ R, e.mode = 1)
    (hes : buildBranches cells (f+1) es = .ok rest') (hn : buildNode cells f w = .ok n') :
    buildBranches cells (f+1) (⟨r0, .node w, R⟩ :: es) = .ok (.sub (r0 ++ episText R) n' rest') := by
  have h1 := applyEpis_role R [] hR r0 none
  simp only [List.append_nil, applyEpis] at h1
  rw [buildBranches]
  simp only [hes, hn, bind, Except.bind, h1, pure, Except.pure]

mutual
/-- the fuel `buildNode` needs: two per level of nesting (`buildNode` calls `buildBranches` calls `buildNode`) -/
def needN : Node → Nat
  | .mk _ bs => needB bs + 1
def needB : Branches → Nat
  | .nil => 0
  | .atom _ _ rest => needB rest
  | .sub _ n rest => max (needN n + 1) (needB rest)
end

theorem needN_eq (n : Node) : needN n = needB n.bs + 1 := by
  cases n; rfl

theorem need_all : ∀ (bs : Branches) (var : Str), LB isAlpha m var bs → needB bs ≤ 2 * (nvB bs).length := by
  refine Interp.branches_ind ?_ ?_ ?_
  · intro _ _; exact Nat.zero_le _
  · intro role a rest ih var h
    exact ih var h.2.2
  · intro role n rest ihn ih var h
    have h1 := ihn _ (LNode_bs isAlpha m h.2.1)
    have h2 := ih var h.2.2
    simp only [needB, needN_eq, nvB_sub, LNode_vars isAlpha m h.2.1, List.length_append, List.length_cons]
    omega

theorem need_branches (var : Str) : ∀ (bs : Branches), LB isAlpha m var bs → needB bs ≤ 2 * (nvB bs).length :=
  fun bs => need_all isAlpha m bs var

theorem need_node (n : Node) (h : LNode isAlpha m n) : needN n + 1 ≤ 2 * n.vars.length := by
  have := need_all isAlpha m n.bs _ (LNode_bs isAlpha m h)
  rw [needN_eq, LNode_vars isAlpha m h, List.length_cons]
  omega

theorem missing_iff {a : Atom} (ha : AtomFacts isAlpha a) : (atomCore isAlpha a).isMissing = true ↔ a = .none := by
  rcases ha.core with hc | ⟨c, hc, hne⟩
  · rw [hc]
    rcases ha.text with ⟨_, h⟩ | ⟨p, i, c, _, h, _⟩
    · rw [← h, hc]; simp [Atom.isMissing]
    · rw [hc] at h; cases h
  · rw [hc]
    have : c.isEmpty = false := by cases c <;> simp_all
    rcases ha.text with ⟨_, h⟩ | ⟨p, i, c', _, _, h⟩
    · rw [← h, hc]; simp [Atom.isMissing, this]
    · rw [h]; simp [Atom.isMissing, this]

/-- a node is rebuilt if its branch list is -/
theorem build_node_of (n : Node) (h : LNode isAlpha m n)
    (ih : ∀ (cells : AList Str (List Edge)) (F : Nat),
      (∀ p ∈ storeB isAlpha n.bs, AList.get? cells p.1 = some p.2) → needB n.bs ≤ F →
      buildBranches cells F (edgesB isAlpha n.bs) = .ok (dropNullBranches n.bs))
    (cells : AList Str (List Edge)) (F : Nat)
    (hc : ∀ p ∈ storeN isAlpha n, AList.get? cells p.1 = some p.2) (hF : needN n ≤ F) :
    buildNode cells F (n.var.getD []) = .ok (dropNullConcept n) := by
  obtain ⟨v, bs⟩ := n
  obtain ⟨var, rfl, -, -⟩ := h
  simp only [needN] at hF
  obtain ⟨f, rfl⟩ : ∃ f, F = f + 1 := ⟨F - 1, by omega⟩
  have h0 := hc (var, edgesB isAlpha bs) List.mem_cons_self
  simp only [Node.bs] at ih
  have hb' := ih cells f (fun p hp => hc p (List.mem_cons_of_mem _ hp)) (by omega)
  simp only [Node.var, Option.getD_some, buildNode, h0, hb', bind, Except.bind, pure, Except.pure,
    dropNullConcept]

/-- Each edge gives its branch back: `rf.text` / `AtomFacts.text` say that re-appending the markers to the
    cores restores the written texts (`build_atom_edge`, `build_sub_edge`); a concept edge exists exactly when
    the concept is not `None` (`missing_iff`), which is where `dropNullBranches` comes from. -/
theorem build_branches : ∀ (bs : Branches) (var : Str), LB isAlpha m var bs →
    ∀ (cells : AList Str (List Edge)) (F : Nat),
    (∀ p ∈ storeB isAlpha bs, AList.get? cells p.1 = some p.2) → needB bs ≤ F →
    buildBranches cells F (edgesB isAlpha bs) = .ok (dropNullBranches bs) := by
  refine Interp.branches_ind ?_ ?_ ?_
  · intro _ _ cells F _ _; simp [edgesB, buildBranches, dropNullBranches]
  · intro role a rest ih var h cells F hc hF
    obtain ⟨hs, ha, hb⟩ := h
    have af := atomFacts isAlpha ha
    simp only [needB] at hF
    simp only [storeB] at hc
    have ih := ih var hb cells F hc hF
    simp only [edgesB, branchEdges, dropNullBranches]
    by_cases hr : role = ['/']
    · subst hr
      simp only [if_true, true_and, slash_epis]
      cases hm : (atomCore isAlpha a).isMissing with
      | true =>
        have : a = .none := (missing_iff isAlpha af).1 hm
        simp only [if_true, List.nil_append, this, ih]
      | false =>
        have hne : a ≠ .none := by
          intro e; have := (missing_iff isAlpha af).2 e; rw [hm] at this; cases this
        simp only [Bool.false_eq_true, if_false, hne, List.cons_append, List.nil_append]
        have := build_atom_edge isAlpha cells F ['/'] [] a _ _ (by simp) af ih
        simpa [episText] using this
    · have rf := roleFacts isAlpha m (hs.resolve_left hr).1
      simp only [hr, if_false, false_and, List.cons_append, List.nil_append]
      have := build_atom_edge isAlpha cells F (roleCore isAlpha role) (roleEpis isAlpha role) a _ _
        rf.mode af ih
      rw [rf.text] at this
      exact this
  · intro role n rest ihn ih var h cells F hc hF
    obtain ⟨hr, hn, hb⟩ := h
    have rf := roleFacts isAlpha m hr
    simp only [needB] at hF
    obtain ⟨f, rfl⟩ : ∃ f, F = f + 1 := ⟨F - 1, by omega⟩
    simp only [storeB, List.mem_append] at hc
    have ih := ih var hb cells (f+1) (fun p hp => hc p (Or.inr hp)) (by omega)
    have ihn := build_node_of isAlpha m n hn (ihn _ (LNode_bs isAlpha m hn)) cells f
      (fun p hp => hc p (Or.inl hp)) (by omega)
    simp only [edgesB, dropNullBranches]
    have := build_sub_edge cells f (roleCore isAlpha role) (roleEpis isAlpha role) (n.var.getD []) _ _ _
      rf.mode ih ihn
    rw [rf.text] at this
    exact this

theorem build_node (n : Node) (h : LNode isAlpha m n) :
    ∀ (cells : AList Str (List Edge)) (F : Nat),
    (∀ p ∈ storeN isAlpha n, AList.get? cells p.1 = some p.2) → needN n ≤ F →
    buildNode cells F (n.var.getD []) = .ok (dropNullConcept n) :=
  build_node_of isAlpha m n h (build_branches isAlpha m n.bs _ (LNode_bs isAlpha m h))

end C02
end Penman
