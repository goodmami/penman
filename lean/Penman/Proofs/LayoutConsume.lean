/-
  Penman.Proofs.LayoutConsume — C02, the key lemma: `configureNode` started on the
  data of a well-formed branch list followed by `rest`, with no nested variable
  established yet, consumes exactly that data; a nested call returns at its own
  POP; and the store it leaves is the old one with the branches appended to the
  cell of the node as edges (`edgesB`) and one new cell per nested node, in
  depth-first order (`storeB`).
-/
import Penman.Proofs.LayoutData
import Penman.Proofs.AssocList
namespace Penman
namespace C02

variable (isAlpha : Char → Bool) (m : Model)

def branchEdges (role : Str) (a : Atom) : List Edge :=
  if role = ['/'] then
    (if (atomCore isAlpha a).isMissing then []
     else [⟨['/'], .atom (atomCore isAlpha a), roleEpis isAlpha role ++ atomEpis isAlpha a⟩])
  else [⟨roleCore isAlpha role, .atom (atomCore isAlpha a), roleEpis isAlpha role ++ atomEpis isAlpha a⟩]

/-- the edges of a node's cell -/
def edgesB : Branches → List Edge
  | .nil => []
  | .atom role a rest => branchEdges isAlpha role a ++ edgesB rest
  | .sub role n rest => ⟨roleCore isAlpha role, .node (n.var.getD []), roleEpis isAlpha role⟩ :: edgesB rest

mutual
/-- the cells `configure` makes of a node: its own, then those of the nested nodes, depth first -/
def storeN : Node → AList Str (List Edge)
  | .mk v bs => (v.getD [], edgesB isAlpha bs) :: storeB bs
def storeB : Branches → AList Str (List Edge)
  | .nil => []
  | .atom _ _ rest => storeB rest
  | .sub _ n rest => storeN n ++ storeB rest
end

mutual
theorem keys_storeN : ∀ (n : Node), LNode isAlpha m n → AList.keys (storeN isAlpha n) = n.vars
  | .mk v bs => by
    intro h
    obtain ⟨var, rfl, hb, _⟩ := h
    simp only [storeN, AList.keys, List.map_cons, Option.getD_some, vars_mk, List.cons.injEq, true_and]
    exact keys_storeB var bs hb
theorem keys_storeB (var : Str) : ∀ (bs : Branches), LB isAlpha m var bs → AList.keys (storeB isAlpha bs) = nvB bs
  | .nil => by intro _; rfl
  | .atom role a rest => by
    intro h; simp only [storeB, nvB_atom]; exact keys_storeB var rest h.2.2
  | .sub role n rest => by
    intro h
    have h1 := keys_storeN n h.2.1
    have h2 := keys_storeB var rest h.2.2
    simp only [AList.keys] at h1 h2
    simp only [storeB, nvB_sub, AList.keys, List.map_append, h1, h2]
end

/-! ### stores: established variables have a cell -/

/-- `v` is established: its `nodemap` entry is its own node -/
def Own (st : St) (v : Str) : Prop := AList.get? st.nm v = some NM.own

def St.Ok (st : St) : Prop := ∀ x, Own st x → x ∈ AList.keys st.cells

theorem cell_eq (st : St) (v : Str) (hv : v ∈ AList.keys st.cells) : AList.get? st.cells v = some (st.cell v) := by
  unfold St.cell
  cases h : AList.get? st.cells v with
  | none =>
    obtain ⟨p, hp, rfl⟩ := List.mem_map.1 hv
    have := List.find?_eq_none.1 (Option.map_eq_none_iff.1 h) p hp
    simp at this
  | some es => rfl

theorem own_noteSite (st : St) (var : Str) (t : Atom) (x : Str) : Own (st.noteSite var t) x ↔ Own st x := by
  unfold St.noteSite
  cases t with
  | none => exact Iff.rfl
  | num s => exact Iff.rfl
  | str v =>
    simp only
    split
    · rename_i h
      unfold Own
      simp only
      by_cases hx : x = v
      · subst hx; rw [get?_set_same, h]; simp
      · rw [get?_set_other _ _ _ _ hx]
    · exact Iff.rfl

theorem cell_newCell (st : St) (v : Str) : (st.newCell v).cell v = [] := by
  unfold St.cell St.newCell
  rw [get?_set_same]
  rfl

theorem cells_newCell (st : St) {v : Str} (hv : v ∉ AList.keys st.cells) :
    (st.newCell v).cells = st.cells ++ [(v, [])] := set_new _ _ _ hv

theorem keys_newCell (st : St) {v : Str} (hv : v ∉ AList.keys st.cells) :
    AList.keys (st.newCell v).cells = AList.keys st.cells ++ [v] := by
  rw [cells_newCell st hv]; exact List.map_append

theorem ok_newCell {st : St} (h : St.Ok st) {v : Str} (hv : v ∉ AList.keys st.cells) : St.Ok (st.newCell v) := by
  intro x hx
  rw [keys_newCell st hv, List.mem_append, List.mem_singleton]
  by_cases hxv : x = v
  · exact Or.inr hxv
  · refine Or.inl (h x ?_)
    unfold Own St.newCell at hx
    rwa [get?_set_other _ _ _ _ hxv] at hx

/-- a variable without a cell is not established, so a `Push` for it opens its node -/
theorem pushVar_fresh {st : St} (h : St.Ok st) {v : Str} (hv : v ∉ AList.keys st.cells) :
    pushVar st true (.str v) = some v := by
  have : ¬ Own st v := fun ho => hv (h v ho)
  unfold Own at this
  simp [pushVar, St.established, this, tgtStr?]

/-- `st'` is `st` with the edges `es` appended to the cell of `var` and the cells `new` added at the end -/
structure Ext (var : Str) (es : List Edge) (new : AList Str (List Edge)) (st st' : St) : Prop where
  ok : St.Ok st'
  cells : st'.cells = st.cells.set var (st.cell var ++ es) ++ new

namespace Ext
variable {var : Str} {es es₁ es₂ : List Edge} {new new₁ new₂ : AList Str (List Edge)} {st st₁ st₂ : St}

theorem nil (hk : var ∈ AList.keys st.cells) (ho : St.Ok st) : Ext var [] [] st st :=
  ⟨ho, by rw [List.append_nil, List.append_nil, set_self _ _ _ (cell_eq st var hk)]⟩

theorem keys (hk : var ∈ AList.keys st.cells) (h : Ext var es new st st₁) :
    AList.keys st₁.cells = AList.keys st.cells ++ AList.keys new := by
  rw [h.cells]
  unfold AList.keys
  rw [List.map_append]
  exact congrArg (· ++ _) (keys_set_mem _ _ _ hk)

theorem keys_nil (hk : var ∈ AList.keys st.cells) (h : Ext var es [] st st₁) :
    AList.keys st₁.cells = AList.keys st.cells := by
  rw [h.keys hk]; exact List.append_nil _

theorem mem (hk : var ∈ AList.keys st.cells) (h : Ext var es new st st₁) : var ∈ AList.keys st₁.cells := by
  rw [h.keys hk]; exact List.mem_append_left _ hk

theorem trans (hk : var ∈ AList.keys st.cells) (h₁ : Ext var es₁ new₁ st st₁) (h₂ : Ext var es₂ new₂ st₁ st₂) :
    Ext var (es₁ ++ es₂) (new₁ ++ new₂) st st₂ := by
  have hk' : var ∈ AList.keys (st.cells.set var (st.cell var ++ es₁)) := mem_keys_set _ _ _ _ hk
  have hc : st₁.cell var = st.cell var ++ es₁ := by
    unfold St.cell
    rw [h₁.cells, get?_append_left _ _ _ hk', get?_set_same]
    rfl
  refine ⟨h₂.ok, ?_⟩
  rw [h₂.cells, hc, h₁.cells, set_append_left _ _ _ _ hk', set_set, List.append_assoc, List.append_assoc]

/-- an atomic branch: `noteSite` touches no cell and establishes nothing -/
theorem atom (ho : St.Ok st) (a : Atom) (e : Edge) : Ext var [e] [] st ((st.noteSite var a).addBack var e) := by
  refine ⟨fun x hx => mem_keys_set _ _ _ _ ?_, ?_⟩
  · rw [Cfg.cells_noteSite]; exact ho x ((own_noteSite st var a x).1 hx)
  · show AList.set (st.noteSite var a).cells var ((st.noteSite var a).cell var ++ [e]) = _
    unfold St.cell
    rw [Cfg.cells_noteSite, List.append_nil]

/-- the concept, put in front of a cell that is still empty -/
theorem front (ho : St.Ok st) (hc : st.cell var = []) (e : Edge) : Ext var [e] [] st (st.addFront var e) := by
  refine ⟨fun x hx => mem_keys_set _ _ _ _ (ho x hx), ?_⟩
  show AList.set st.cells var (e :: st.cell var) = _
  rw [hc, List.append_nil]
  rfl

/-- a branch to a nested node `nv`, whose cell is new -/
theorem sub {nv : Str} (hk : var ∈ AList.keys st.cells) (hnv : nv ∉ AList.keys st.cells)
    (h : Ext nv es new (st.newCell nv) st₁) (e : Edge) :
    Ext var [e] ((nv, es) :: new) st (st₁.addBack var e) := by
  have c1 : st₁.cells = st.cells ++ (nv, es) :: new := by
    rw [h.cells, cell_newCell, cells_newCell st hnv, set_append_right _ _ _ _ hnv]
    simp [AList.set]
  have c2 : st₁.cell var = st.cell var := by
    unfold St.cell
    rw [c1, get?_append_left _ _ _ hk]
  refine ⟨fun x hx => mem_keys_set _ _ _ _ (h.ok x hx), ?_⟩
  show AList.set st₁.cells var (st₁.cell var ++ [e]) = _
  rw [c2, c1, set_append_left _ _ _ _ hk]

end Ext

theorem deinverts_inst : deinverts m CONCEPT_ROLE = false := by
  rw [deinverts, Interp.not_inverted_concept]; exact Bool.and_false _

/-- the concept branch: put in front of the still empty cell, or skipped when the concept is missing -/
theorem cnf_slash (vars : List Str) (var : Str) (a : Atom) (data : List Datum) (st : St) (s : Bool)
    (ho : St.Ok st) (hc : st.cell var = []) (hk : var ∈ AList.keys st.cells) :
    ∃ st', cnf m var (.t (brTriple m vars var (roleCore isAlpha ['/']) (atomCore isAlpha a)) false
          (roleEpis isAlpha ['/'] ++ atomEpis isAlpha a) :: data) st s = cnf m var data st' s ∧
      Ext var (branchEdges isAlpha ['/'] a) [] st st' := by
  have hor : orient m var ⟨var, CONCEPT_ROLE, atomCore isAlpha a⟩ false s =
      some (CONCEPT_ROLE, atomCore isAlpha a, false, s) := by simp [orient]
  simp only [slash_core, brTriple, deinverts_inst, Bool.false_and, Bool.false_eq_true, if_false, branchEdges,
    if_true]
  cases hm : (atomCore isAlpha a).isMissing with
  | true => exact ⟨st, cnf_skip m var _ _ _ _ st s hor hm, Ext.nil hk ho⟩
  | false => exact ⟨_, cnf_concept m var _ _ _ _ st s hor hm, Ext.front ho hc _⟩

/-- an atomic branch with a role other than `/` is appended to the cell of `var`, whichever way
    `interpret` oriented its triple -/
theorem cnf_atom_branch (vars : List Str) (var role : Str) (a : Atom) (hr : roleOk isAlpha m role = true)
    (hself : ¬ (deinverts m (roleCore isAlpha role) = true ∧ atomCore isAlpha a = .str var))
    (data : List Datum) (st : St) (s : Bool) :
    ∃ s1, cnf m var
        (.t (brTriple m vars var (roleCore isAlpha role) (atomCore isAlpha a)) false
          (roleEpis isAlpha role ++ atomEpis isAlpha a) :: data) st s =
      cnf m var data
        ((st.noteSite var (atomCore isAlpha a)).addBack var
            ⟨roleCore isAlpha role, .atom (atomCore isAlpha a), roleEpis isAlpha role ++ atomEpis isAlpha a⟩) s1 := by
  have rf := roleFacts isAlpha m hr
  by_cases hd : (deinverts m (roleCore isAlpha role) && atomInVars vars (atomCore isAlpha a)) = true
  · -- an inverted re-entrancy, deinverted by `interpret`: "unexpected inversion"
    simp only [Bool.and_eq_true] at hd
    obtain ⟨hd1, hd2⟩ := hd
    cases hc : atomCore isAlpha a with
    | none => simp [hc, atomInVars] at hd2
    | num t => simp [hc, atomInVars] at hd2
    | str w =>
      have hw : w ≠ var := by
        rintro rfl; exact hself ⟨hd1, hc⟩
      have hin : atomInVars vars (Atom.str w) = true := hc ▸ hd2
      simp only [brTriple, hd1, hin, Bool.and_self, if_true, Model.invert]
      have hor : orient m var ⟨w, m.invertRole (roleCore isAlpha role), .str var⟩ false s =
          some (roleCore isAlpha role, .str w, false, true) := by
        have hcan := rf.canon (by unfold deinverts at hd1; simp at hd1; exact hd1.2)
        simp [orient, hw, rf.invNotInst, Model.invert, hcan]
      exact ⟨true, cnf_atom m var _ _ _ _ st s hor rf.notInst (by simp [pushVar])⟩
  · have hd' : (deinverts m (roleCore isAlpha role) && atomInVars vars (atomCore isAlpha a)) = false := by
      simpa using hd
    simp only [brTriple, hd', Bool.false_eq_true, if_false]
    have hor : orient m var ⟨var, roleCore isAlpha role, atomCore isAlpha a⟩ false s =
        some (roleCore isAlpha role, atomCore isAlpha a, false, s) := by simp [orient]
    exact ⟨s, cnf_atom m var _ _ _ _ st s hor rf.notInst (by simp [pushVar])⟩

theorem storeN_eq (n : Node) : storeN isAlpha n = (n.var.getD [], edgesB isAlpha n.bs) :: storeB isAlpha n.bs := by
  cases n; rfl

theorem hasConceptB_slash (a : Atom) (bs : Branches) : hasConceptB isAlpha (.atom ['/'] a bs) = true := by
  simp [hasConceptB, slash_core]

theorem hasConceptB_noSlash {var : Str} : ∀ {bs : Branches}, LB isAlpha m var bs → NoSlash bs →
    hasConceptB isAlpha bs = false
  | .nil, _, _ => rfl
  | .atom role a rest, h, hns => by
    have rf := roleFacts isAlpha m (h.1.resolve_left hns.1).1
    simp [hasConceptB, rf.notInst, hasConceptB_noSlash h.2.2 hns.2]
  | .sub role n rest, h, hns => by
    have rf := roleFacts isAlpha m h.1
    simp [hasConceptB, rf.notInst, hasConceptB_noSlash h.2.2 hns.2]

mutual
theorem cn_node (vars : List Str) : ∀ (n : Node), LNode isAlpha m n →
    ∀ (st : St) (s : Bool) (rest : List Datum), St.Ok st → n.var.getD [] ∈ AList.keys st.cells →
    st.cell (n.var.getD []) = [] → (AList.keys st.cells ++ nvB n.bs).Nodup →
    ∃ st' s', cnf m (n.var.getD []) (dNode isAlpha m vars n ++ rest) st s = cnf m (n.var.getD []) rest st' s' ∧
      Ext (n.var.getD []) (edgesB isAlpha n.bs) (storeB isAlpha n.bs) st st'
  | .mk v bs => by
    intro h st s rest hok hk hc hnd
    obtain ⟨var, rfl, hb, hns⟩ := h
    simp only [Node.var, Option.getD_some, Node.bs, dNode] at hk hc hnd ⊢
    -- without a concept branch the data starts with the null concept, which is skipped
    have key : NoSlash bs → ∃ st' s', cnf m var (instDatum isAlpha var bs ++ dBranches isAlpha m vars var bs ++ rest)
        st s = cnf m var rest st' s' ∧ Ext var (edgesB isAlpha bs) (storeB isAlpha bs) st st' := by
      intro hns'
      obtain ⟨st', s', e, x⟩ := cn_branches vars var bs hb hns' st s rest hok hk hnd
      refine ⟨st', s', ?_, x⟩
      have hor : orient m var ⟨var, CONCEPT_ROLE, .none⟩ false s = some (CONCEPT_ROLE, .none, false, s) := by
        simp [orient]
      simp only [instDatum, hasConceptB_noSlash isAlpha m hb hns', Bool.false_eq_true, if_false,
        List.cons_append, List.nil_append]
      rw [cnf_skip m var _ _ _ _ st s hor rfl, e]
    cases bs with
    | nil => exact key trivial
    | sub role n bs' => exact key ⟨roleOk_ne_slash isAlpha m hb.1, hns⟩
    | atom role a bs' =>
      by_cases hr : role = ['/']
      · subst hr
        obtain ⟨st1, e1, x1⟩ :=
          cnf_slash isAlpha m vars var a (dBranches isAlpha m vars var bs' ++ rest) st s hok hc hk
        obtain ⟨st', s', e, x⟩ := cn_branches vars var bs' hb.2.2 hns st1 s rest x1.ok (x1.mem hk)
          (by rw [x1.keys_nil hk]; exact hnd)
        refine ⟨st', s', ?_, x1.trans hk x⟩
        simp only [instDatum, hasConceptB_slash, if_true, List.nil_append, dBranches, List.cons_append]
        rw [e1, e]
      · exact key ⟨hr, hns⟩
theorem cn_branches (vars : List Str) (var : Str) : ∀ (bs : Branches), LB isAlpha m var bs → NoSlash bs →
    ∀ (st : St) (s : Bool) (rest : List Datum), St.Ok st → var ∈ AList.keys st.cells →
    (AList.keys st.cells ++ nvB bs).Nodup →
    ∃ st' s', cnf m var (dBranches isAlpha m vars var bs ++ rest) st s = cnf m var rest st' s' ∧
      Ext var (edgesB isAlpha bs) (storeB isAlpha bs) st st'
  | .nil => fun _ _ st s _ hok hk _ => ⟨st, s, rfl, Ext.nil hk hok⟩
  | .atom role a bs => by
    intro h hns st s rest hok hk hnd
    obtain ⟨hs, _, hb⟩ := h
    obtain ⟨hr, hself⟩ := hs.resolve_left hns.1
    obtain ⟨s1, e1⟩ :=
      cnf_atom_branch isAlpha m vars var role a hr hself (dBranches isAlpha m vars var bs ++ rest) st s
    have x1 := Ext.atom (var := var) hok (atomCore isAlpha a)
      ⟨roleCore isAlpha role, .atom (atomCore isAlpha a), roleEpis isAlpha role ++ atomEpis isAlpha a⟩
    obtain ⟨st', s', e, x⟩ := cn_branches vars var bs hb hns.2 _ s1 rest x1.ok (x1.mem hk)
      (by rw [x1.keys_nil hk]; exact hnd)
    refine ⟨st', s', ?_, ?_⟩
    · simp only [dBranches, List.cons_append]
      rw [e1, e]
    · simp only [edgesB, branchEdges, hns.1, if_false, storeB]
      exact x1.trans hk x
  | .sub role n bs => by
    intro h hns st s rest hok hk hnd
    obtain ⟨hr, hn, hb⟩ := h
    have rf := roleFacts isAlpha m hr
    rw [nvB_sub, LNode_vars isAlpha m hn] at hnd
    obtain ⟨hnv, hnd1, hnd2⟩ := nodup_sub hnd
    have hor : orient m var ⟨var, roleCore isAlpha role, .str (n.var.getD [])⟩ true s =
        some (roleCore isAlpha role, .str (n.var.getD []), true, s) := by simp [orient]
    -- the nested call returns at its POP
    have c1 := keys_newCell st hnv
    obtain ⟨st2, s2, e2, x2⟩ := cn_node vars n hn (st.newCell (n.var.getD [])) false
      (.pop :: (dBranches isAlpha m vars var bs ++ rest)) (ok_newCell hok hnv)
      (by rw [c1]; exact List.mem_append_right _ (List.mem_singleton_self _))
      (cell_newCell st _)
      (by rw [c1]; exact hnd1)
    have x3 := Ext.sub hk hnv x2 ⟨roleCore isAlpha role, .node (n.var.getD []), roleEpis isAlpha role⟩
    -- the remaining branches
    obtain ⟨st', s', e, x⟩ := cn_branches vars var bs hb hns.2 _ (s && s2) rest x3.ok (x3.mem hk)
      (by rw [x3.keys hk]
          show (_ ++ n.var.getD [] :: AList.keys (storeB isAlpha n.bs) ++ _).Nodup
          rw [keys_storeB isAlpha m _ n.bs (LNode_bs isAlpha m hn)]
          exact hnd2)
    refine ⟨st', s', ?_, ?_⟩
    · simp only [dBranches, List.cons_append, List.append_assoc]
      rw [cnf_node m var _ _ _ _ st s hor rf.notInst (pushVar_fresh hok hnv), e2, cnf_pop]
      exact e
    · simp only [edgesB, storeB, storeN_eq]
      exact x3.trans hk x
end

end C02
end Penman
