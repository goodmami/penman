/-
  Penman.Proofs.LayoutData — C02: the datum list `dNode` that `preconfigure`
  makes of an interpreted well-formed tree (Push becomes a flag on the datum,
  every nested node is followed by exactly one POP).
-/
import Penman.Proofs.LayoutBranch
namespace Penman
namespace C02

variable (isAlpha : Char → Bool) (m : Model)

/-! ### the marker scan -/

/-- alignment markers (mode 1 or 2) are passed through in order -/
theorem preconfEpis_aln (m : Model) (orig : Triple) (A rest : List Epi) (hA : ∀ e ∈ A, e.mode ≠ 0)
    (tr : Triple) (push : Bool) (acc : List Epi) (pops : Nat) (pushed : List Str) :
    preconfEpis m orig (A ++ rest) tr push acc pops pushed =
      preconfEpis m orig rest tr push (A.reverse ++ acc) pops pushed := by
  induction A generalizing acc with
  | nil => rfl
  | cons e A ih =>
    have he := hA e List.mem_cons_self
    have ih := ih (fun x hx => hA x (List.mem_cons_of_mem _ hx)) (e :: acc)
    rw [List.reverse_cons, List.append_assoc]
    cases e with
    | push v => exact absurd rfl he
    | pop => exact absurd rfl he
    | roleAln p i => exact ih
    | aln p i => exact ih

/-- one more `POP` at the end of the marker list is one more pop -/
theorem preconfEpis_snoc_pop (m : Model) (orig : Triple) (es : List Epi)
    (tr : Triple) (push : Bool) (acc : List Epi) (pops : Nat) (pushed : List Str) :
    preconfEpis m orig (es ++ [.pop]) tr push acc pops pushed =
      (preconfEpis m orig es tr push acc pops pushed).map fun r => (r.1, r.2.1, r.2.2.1, r.2.2.2.1 + 1, r.2.2.2.2) := by
  induction es generalizing tr push acc pops pushed with
  | nil => rfl
  | cons e es ih =>
    cases e with
    | pop => exact ih ..
    | roleAln p i => exact ih ..
    | aln p i => exact ih ..
    | push v =>
      rw [List.cons_append, preconfEpis, preconfEpis]
      simp only [ih, apply_ite (Except.map _)]
      cases tr.tgt <;> rfl

/-! ### `preconfigure` as a walk over the (triple, markers) pairs -/

/-- `_preconfigure` succeeds on the pairs `L` (reading the markers from the pairs themselves) from the pushed
    set `p`, giving the data `d` and the pushed set `q` -/
inductive PreData (m : Model) : List (Triple × List Epi) → List Str → List Datum → List Str → Prop
  | nil (p : List Str) : PreData m [] p [] p
  | cons {tr es rest p tr' push epis pops p' more q} :
    preconfEpis m tr es tr false [] 0 p = .ok (tr', push, epis, pops, p') → PreData m rest p' more q →
    PreData m ((tr, es) :: rest) p (Datum.t tr' push epis :: List.replicate pops Datum.pop ++ more) q

namespace PreData
variable {m}

theorem preconfigure {E : Epidata} {L : List (Triple × List Epi)} {p q : List Str} {d : List Datum}
    (h : PreData m L p d q) (hL : ∀ x ∈ L, AList.get? E x.1 = some x.2) :
    preconfigure m E (L.map (·.1)) p = .ok d := by
  induction h with
  | nil => rfl
  | cons hp _ ih =>
    have := hL _ (List.mem_cons_self ..)
    simp only at this
    simp only [List.map_cons, Penman.preconfigure, this, Option.getD_some, hp,
      ih fun x hx => hL x (List.mem_cons_of_mem _ hx), bind, Except.bind]
    rfl

theorem append {L₁ L₂ : List (Triple × List Epi)} {p p₁ p₂ : List Str} {d₁ d₂ : List Datum}
    (h₁ : PreData m L₁ p d₁ p₁) (h₂ : PreData m L₂ p₁ d₂ p₂) : PreData m (L₁ ++ L₂) p (d₁ ++ d₂) p₂ := by
  induction h₁ with
  | nil => exact h₂
  | cons hp _ ih => simpa using cons hp (ih h₂)

/-- the POP that closes a nested node comes after all its data -/
theorem pop {L : List (Triple × List Epi)} {p q : List Str} {d : List Datum}
    (h : PreData m L p d q) (hne : L ≠ []) : PreData m (appendPopLast L) p (d ++ [.pop]) q := by
  induction h with
  | nil => exact absurd rfl hne
  | @cons tr es rest p _ _ _ pops _ _ _ hp hrest ih =>
    cases hrest with
    | nil =>
      have hp' := preconfEpis_snoc_pop m tr es tr false [] 0 p
      rw [hp] at hp'
      simpa [appendPopLast, List.replicate_succ'] using cons hp' (nil _)
    | cons hp' hrest' => simpa [appendPopLast] using cons hp (ih (List.cons_ne_nil _ _))

end PreData

/-- variables of the nodes nested in a branch list, depth first -/
def nvB (bs : Branches) : List Str := bs.nodes.map (·.1)

@[simp] theorem nvB_nil : nvB .nil = [] := rfl
@[simp] theorem nvB_atom (r : Str) (a : Atom) (rest : Branches) : nvB (.atom r a rest) = nvB rest := by
  simp [nvB, Branches.nodes]
@[simp] theorem nvB_sub (r : Str) (n : Node) (rest : Branches) : nvB (.sub r n rest) = n.vars ++ nvB rest := by
  simp [nvB, Branches.nodes, Node.vars]
@[simp] theorem vars_mk (x : Str) (bs : Branches) : (Node.mk (some x) bs).vars = x :: nvB bs := by
  simp [nvB, Node.nodes, Node.vars]

/-- what `preconfigure` makes of `instEntry` -/
def instDatum (var : Str) (bs : Branches) : List Datum :=
  if hasConceptB isAlpha bs then [] else [.t ⟨var, CONCEPT_ROLE, .none⟩ false []]

mutual
/-- data of the contents of a node (no closing POP) -/
def dNode (vars : List Str) : Node → List Datum
  | .mk v bs => instDatum isAlpha (v.getD []) bs ++ dBranches vars (v.getD []) bs
def dBranches (vars : List Str) (var : Str) : Branches → List Datum
  | .nil => []
  | .atom role a rest =>
    .t (brTriple m vars var (roleCore isAlpha role) (atomCore isAlpha a)) false
        (roleEpis isAlpha role ++ atomEpis isAlpha a) :: dBranches vars var rest
  | .sub role n rest =>
    .t ⟨var, roleCore isAlpha role, .str (n.var.getD [])⟩ true (roleEpis isAlpha role)
      :: (dNode vars n ++ .pop :: dBranches vars var rest)
end

theorem pre_single_aln (tr : Triple) (A : List Epi) (hA : ∀ e ∈ A, e.mode ≠ 0) (pushed : List Str) :
    PreData m [(tr, A)] pushed [.t tr false A] pushed := by
  have := preconfEpis_aln m tr A [] hA tr false [] 0 pushed
  rw [List.append_nil, List.append_nil, preconfEpis, List.reverse_reverse] at this
  exact .cons this (.nil _)

theorem pre_single_push (var core nv : Str) (R : List Epi) (hR : ∀ e ∈ R, e.mode ≠ 0)
    (pushed : List Str) (hnv : nv ∉ pushed) (hne : nv ≠ var) (h1 : core ≠ CONCEPT_ROLE)
    (h2 : m.invertRole core ≠ CONCEPT_ROLE)
    (h3 : m.isRoleInverted core = true → m.invertRole (m.invertRole core) = core) :
    PreData m [(subTriple m var core nv, R ++ [.push nv])] pushed [.t ⟨var, core, .str nv⟩ true R]
      (nv :: pushed) := by
  refine .cons (pops := 0) ?_ (.nil _)
  have := preconfEpis_aln m (subTriple m var core nv) R [.push nv] hR (subTriple m var core nv) false [] 0 pushed
  simp only [List.append_nil] at this
  rw [this]
  unfold subTriple
  by_cases hd : deinverts m core = true
  · have h3' := h3 (by unfold deinverts at hd; simp at hd; exact hd.2)
    simp [hd, preconfEpis, hnv, h2, Model.invert, h3']
  · have hd' : deinverts m core = false := by simpa using hd
    simp [hd', preconfEpis, hnv, h1, hne]

/-! ### `preconfigure` of an interpreted tree -/

theorem LNode_bs {n : Node} (h : LNode isAlpha m n) : LB isAlpha m (n.var.getD []) n.bs := by
  obtain ⟨v, bs⟩ := n
  obtain ⟨_, rfl, hb, _⟩ := h
  exact hb

theorem LNode_vars {n : Node} (h : LNode isAlpha m n) : n.vars = n.var.getD [] :: nvB n.bs := by
  obtain ⟨v, bs⟩ := n
  obtain ⟨_, rfl, _, _⟩ := h
  exact vars_mk _ _

theorem LNode_nodup {n : Node} (h : LNode isAlpha m n) (hnd : n.vars.Nodup) :
    ([n.var.getD []] ++ nvB n.bs).Nodup := by
  rw [LNode_vars isAlpha m h] at hnd
  exact hnd

/-- the variables of a nested node and of the branches after it are fresh one after the other -/
theorem nodup_sub {K L₁ L₂ : List Str} {a : Str} (h : (K ++ ((a :: L₁) ++ L₂)).Nodup) :
    a ∉ K ∧ ((K ++ [a]) ++ L₁).Nodup ∧ ((K ++ a :: L₁) ++ L₂).Nodup := by
  have h2 : ((K ++ a :: L₁) ++ L₂).Nodup := by rwa [List.append_assoc]
  have h1 := (List.nodup_append.1 h2).1
  refine ⟨fun ha => (List.nodup_append.1 h1).2.2 a ha a (List.mem_cons_self ..) rfl, ?_, h2⟩
  rwa [List.append_assoc]

/- `K` lists the variables met so far; `pushed` stays inside it, so the variable of every nested node is
   still unpushed when its `Push` marker is scanned. -/
mutual
theorem pre_node (vars : List Str) : ∀ (n : Node), LNode isAlpha m n →
    ∀ K pushed : List Str, n.var.getD [] ∈ K → (K ++ nvB n.bs).Nodup → (∀ x ∈ pushed, x ∈ K) →
    ∃ p', PreData m (spNode isAlpha m vars n) pushed (dNode isAlpha m vars n) p' ∧
      ∀ x ∈ p', x ∈ K ++ nvB n.bs
  | .mk v bs => by
    intro h K pushed hk hnd hp
    obtain ⟨var, rfl, hb, _⟩ := h
    obtain ⟨p', h1, h2⟩ := pre_branches vars var bs hb K pushed hk hnd hp
    refine ⟨p', ?_, h2⟩
    simp only [spNode, dNode, Option.getD_some]
    refine PreData.append (p₁ := pushed) ?_ h1
    unfold instEntry instDatum
    cases hasConceptB isAlpha bs
    · exact .cons (pops := 0) (p' := pushed) rfl (.nil _)
    · exact .nil _
theorem pre_branches (vars : List Str) (var : Str) : ∀ (bs : Branches), LB isAlpha m var bs →
    ∀ K pushed : List Str, var ∈ K → (K ++ nvB bs).Nodup → (∀ x ∈ pushed, x ∈ K) →
    ∃ p', PreData m (spBranches isAlpha m vars var bs) pushed (dBranches isAlpha m vars var bs) p' ∧
      ∀ x ∈ p', x ∈ K ++ nvB bs
  | .nil => fun _ K pushed _ _ hp => ⟨pushed, .nil _, fun x hx => List.mem_append_left _ (hp x hx)⟩
  | .atom role a rest => by
    intro h K pushed hk hnd hp
    obtain ⟨hs, ha, hb⟩ := h
    obtain ⟨p', h1, h2⟩ := pre_branches vars var rest hb K pushed hk hnd hp
    refine ⟨p', ?_, h2⟩
    have hA : ∀ e ∈ roleEpis isAlpha role ++ atomEpis isAlpha a, e.mode ≠ 0 := by
      intro e he
      rcases List.mem_append.1 he with he | he
      · rw [slot_mode isAlpha m hs e he]; decide
      · rw [(atomFacts isAlpha ha).mode e he]; decide
    exact (pre_single_aln m _ _ hA pushed).append h1
  | .sub role n rest => by
    intro h K pushed hk hnd hp
    obtain ⟨hr, hn, hb⟩ := h
    have rf := roleFacts isAlpha m hr
    rw [nvB_sub, LNode_vars isAlpha m hn] at hnd ⊢
    obtain ⟨hnv, hnd1, hnd2⟩ := nodup_sub hnd
    have e1 := pre_single_push m var (roleCore isAlpha role) (n.var.getD []) (roleEpis isAlpha role)
      (fun e he => by rw [rf.mode e he]; decide) pushed (fun h => hnv (hp _ h)) (fun e => hnv (e ▸ hk))
      rf.notInst rf.invNotInst rf.canon
    obtain ⟨p1, e2, m2⟩ := pre_node vars n hn (K ++ [n.var.getD []]) (n.var.getD [] :: pushed)
      (List.mem_append_right _ (List.mem_singleton_self _)) hnd1 (by
        intro x hx
        rcases List.mem_cons.1 hx with rfl | hx
        · exact List.mem_append_right _ (List.mem_singleton_self _)
        · exact List.mem_append_left _ (hp x hx))
    obtain ⟨p2, e3, m3⟩ := pre_branches vars var rest hb (K ++ n.var.getD [] :: nvB n.bs) p1
      (List.mem_append_left _ hk) hnd2 (by
        intro x hx
        have := m2 x hx
        rwa [List.append_assoc] at this)
    refine ⟨p2, ?_, ?_⟩
    · simp only [spBranches, dBranches]
      have := e1.append ((e2.pop (spNode_ne_nil isAlpha m vars n)).append e3)
      rwa [List.append_assoc] at this
    · intro x hx
      have := m3 x hx
      rwa [List.append_assoc] at this
end

end C02
end Penman
