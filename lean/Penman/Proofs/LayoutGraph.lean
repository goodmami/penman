/-
  Penman.Proofs.LayoutGraph — C02: the graph `interpret` makes of a well-formed tree.
  Every denoted role starts with `:`, so `Graph.mk'` leaves the triples as they
  are, and the triples are distinct, so no marker list is dropped or reordered.
-/
import Penman.Proofs.LayoutConsume
import Penman.Proofs.Role
import Penman.Proofs.InterpretGraph
namespace Penman
namespace C02

variable (isAlpha : Char → Bool) (m : Model)

/-! ### every denoted role starts with a colon -/

theorem startsWith_colon_iff (r : Str) : startsWith [':'] r = true ↔ ∃ r', r = ':' :: r' := by
  cases r with
  | nil => simp [startsWith]
  | cons c r => simp [startsWith, List.isPrefixOf]; exact eq_comm

theorem invertRole_colon {r : Str} (h : startsWith [':'] r = true) : startsWith [':'] (m.invertRole r) = true := by
  obtain ⟨r', rfl⟩ := (startsWith_colon_iff r).1 h
  unfold Model.invertRole
  split
  · rename_i hc
    simp only [Bool.and_eq_true] at hc
    obtain ⟨b, hb⟩ := Role.endsWith_iff.1 hc.2
    rw [hb, Role.dropEnd_of]
    cases b with
    | nil => simp [ofStr] at hb
    | cons c b =>
      simp only [List.cons_append, List.cons.injEq] at hb
      rw [← hb.1]; simp [startsWith, List.isPrefixOf]
  · simp [startsWith, List.isPrefixOf]

theorem inst_colon : startsWith [':'] CONCEPT_ROLE = true := by rw [Interp.concept_chars]; rfl

mutual
theorem colon_node (vars : List Str) : ∀ (n : Node), LNode isAlpha m n →
    ∀ t ∈ (spNode isAlpha m vars n).map (·.1), startsWith [':'] t.role = true
  | .mk v bs => by
    intro h t ht
    obtain ⟨var, rfl, hb, _⟩ := h
    simp only [spNode, Option.getD_some, List.map_append, List.mem_append] at ht
    rcases ht with ht | ht
    · unfold instEntry at ht
      split at ht
      · simp at ht
      · simp at ht; subst ht; exact inst_colon
    · exact colon_branches vars var bs hb t ht
theorem colon_branches (vars : List Str) (var : Str) : ∀ (bs : Branches), LB isAlpha m var bs →
    ∀ t ∈ (spBranches isAlpha m vars var bs).map (·.1), startsWith [':'] t.role = true
  | .nil => by intro _ t ht; simp [spBranches] at ht
  | .atom role a rest => by
    intro h t ht
    obtain ⟨hs, ha, hb⟩ := h
    simp only [spBranches, List.map_cons, List.mem_cons] at ht
    rcases ht with rfl | ht
    · have hc : startsWith [':'] (roleCore isAlpha role) = true := by
        rcases hs with rfl | ⟨hr, _⟩
        · rw [slash_core]; exact inst_colon
        · exact (roleFacts isAlpha m hr).colon
      unfold brTriple
      split
      · unfold Model.invert
        split <;> exact invertRole_colon m hc
      · exact hc
    · exact colon_branches vars var rest hb t ht
  | .sub role n rest => by
    intro h t ht
    obtain ⟨hr, hn, hb⟩ := h
    have rf := roleFacts isAlpha m hr
    simp only [spBranches, List.map_cons, List.map_append, appendPopLast_map_fst, List.mem_cons,
      List.mem_append] at ht
    rcases ht with rfl | ht | ht
    · unfold subTriple
      split
      · exact invertRole_colon m rf.colon
      · exact rf.colon
    · exact colon_node vars n hn t ht
    · exact colon_branches vars var rest hb t ht
end

theorem interpret_wf (t : Tree) (hL : LNode isAlpha m t.node) (hdist : distinctTriplesB isAlpha m t.node = true) :
    ((spNode isAlpha m t.node.vars t.node).map (·.1)).Nodup ∧
    interpret isAlpha m t = .ok ⟨(spNode isAlpha m t.node.vars t.node).map (·.1), t.node.var,
      spNode isAlpha m t.node.vars t.node, AList.ofList t.metadata⟩ := by
  have hint := interp_node isAlpha m t.node.vars t.node hL
  have hc := colon_node isAlpha m t.node.vars t.node hL
  unfold distinctTriplesB at hdist
  rw [hint] at hdist
  generalize spNode isAlpha m t.node.vars t.node = E at hint hc hdist
  have hTn : (E.map (·.1)).Nodup := by simpa using hdist
  have hcolon : (E.map (·.1)).map (fun t => { t with role := ensureColon t.role }) = E.map (·.1) := by
    conv => rhs; rw [← List.map_id (E.map (·.1))]
    apply List.map_congr_left
    intro tr htr
    simp [ensureColon, hc tr htr]
  refine ⟨hTn, ?_⟩
  simp only [interpret, hint, bind, Except.bind, pure, Except.pure, Graph.mk', hcolon,
    Interp.epimapOf_of_nodup E hTn, ofList_nodup E hTn]

end C02
end Penman
