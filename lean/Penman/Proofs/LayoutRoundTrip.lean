/-
  Penman.Proofs.LayoutRoundTrip — C02: assembly. `interpret` of a well-formed tree is
  the graph of `spNode`; `configure` of that graph preconfigures to `dNode`,
  runs one `configureNode` call that consumes everything, skips the `while`
  loop, and builds `dropNullConcept` of the tree.
-/
import Penman.Proofs.LayoutBuild
namespace Penman
namespace C02

variable (isAlpha : Char → Bool) (m : Model)

theorem unset_not_own (vs : List Str) (x : Str) : AList.get? (vs.map (·, NM.unset)) x ≠ some NM.own := by
  induction vs with
  | nil => simp [AList.get?]
  | cons v vs ih =>
    simp only [List.map_cons, get?_cons]
    split
    · simp
    · exact ih

theorem top_mem_variables (g : Graph) (top : Str) (h : g.top = some top) : top ∈ g.variables := by
  unfold Graph.variables
  simp only [h]
  split
  · assumption
  · simp

/-- the one `configureNode` call of `configure`, from the initial store -/
theorem top_call (n : Node) (hL : LNode isAlpha m n) (hnd : n.vars.Nodup) (top : Str)
    (hvar : n.var = some top) (vars vs : List Str) :
    ∃ s' st1, configureNode m ((dNode isAlpha m vars n).length + 1) top (dNode isAlpha m vars n)
        ⟨[(top, [])], AList.set (vs.map (fun v => (v, NM.unset))) top NM.own⟩ false = ([], st1, s') ∧
      st1.cells = storeN isAlpha n := by
  have htop : n.var.getD [] = top := by rw [hvar]; rfl
  generalize hst : (⟨[(top, [])], AList.set (vs.map (fun v => (v, NM.unset))) top NM.own⟩ : St) = st0
  have hc0 : st0.cells = [(top, [])] := by rw [← hst]
  have hn0 : st0.nm = AList.set (vs.map (fun v => (v, NM.unset))) top NM.own := by rw [← hst]
  have hok : St.Ok st0 := by
    intro x ho
    by_cases hxt : x = top
    · rw [hc0, hxt]; exact List.mem_singleton_self _
    · unfold Own at ho
      rw [hn0, get?_set_other _ _ _ _ hxt] at ho
      exact absurd ho (unset_not_own _ _)
  have hcell : st0.cell top = [] := by simp [St.cell, hc0, AList.get?]
  obtain ⟨st1, s', e, x⟩ := cn_node isAlpha m vars n hL st0 false [] hok
    (by rw [htop, hc0]; exact List.mem_singleton_self _) (by rw [htop]; exact hcell)
    (by rw [hc0, ← htop]; exact LNode_nodup isAlpha m hL hnd)
  rw [htop] at e x
  rw [List.append_nil] at e
  refine ⟨s', st1, e, ?_⟩
  rw [x.cells, hcell, hc0, storeN_eq, htop]
  simp [AList.set]

theorem layout_main (t : Tree) (ht : WfLayout isAlpha m t.node) :
    ∃ g, interpret isAlpha m t = .ok g ∧
      configure m g none = .ok ⟨dropNullConcept t.node, AList.ofList t.metadata⟩ := by
  obtain ⟨hwf, hnd, hdist⟩ := ht
  have hL := wfNode_L isAlpha m t.node hwf
  obtain ⟨top, htop⟩ : ∃ top, t.node.var.getD [] = top := ⟨_, rfl⟩
  have hvar : t.node.var = some top := htop ▸ LNode_var isAlpha m hL
  obtain ⟨hTn, hg⟩ := interpret_wf isAlpha m t hL hdist
  refine ⟨_, hg, ?_⟩
  -- the datum list
  obtain ⟨p', hpre, _⟩ := pre_node isAlpha m t.node.vars t.node hL [t.node.var.getD []] []
    (List.mem_singleton_self _) (LNode_nodup isAlpha m hL hnd) (fun _ h => nomatch h)
  have hne := spNode_ne_nil isAlpha m t.node.vars t.node
  generalize spNode isAlpha m t.node.vars t.node = E at hTn hpre hne
  have hdata := hpre.preconfigure (E := E) fun p hp => get?_of_mem_nodup hTn hp
  -- the store
  have hkeys := keys_storeN isAlpha m t.node hL
  have hlen : (storeN isAlpha t.node).length = t.node.vars.length := by
    rw [← hkeys]; simp [AList.keys]
  have hbuild := build_node isAlpha m t.node hL (storeN isAlpha t.node) (2 * (storeN isAlpha t.node).length + 2)
    (fun p hp => get?_of_mem_nodup (by rw [hkeys]; exact hnd) (by obtain ⟨a, b⟩ := p; exact hp))
    (by have := need_node isAlpha m t.node hL; rw [hlen]; omega)
  rw [hvar] at hbuild
  simp only [Option.getD_some] at hbuild
  -- run `configure`
  have htr : (E.map (·.1)).isEmpty = false := by
    cases E with
    | nil => exact absurd rfl hne
    | cons _ _ => rfl
  have hmem : top ∈ (Graph.mk (E.map (·.1)) (some top) E (AList.ofList t.metadata)).variables :=
    top_mem_variables _ top rfl
  unfold configure
  simp only [hvar, htr, Bool.false_eq_true, if_false, Graph.getTop, hmem, not_true_eq_false, hdata, bind,
    Except.bind]
  generalize Graph.variables _ = vs
  obtain ⟨s', st1, hcn, hstore⟩ := top_call isAlpha m t.node hL hnd top hvar t.node.vars vs
  rw [hcn]
  simp only [stripPops, configureLoop, List.isEmpty_nil, if_true]
  rw [hstore, hbuild]
  rfl

end C02
end Penman
