/-
  Penman.Proofs.LayoutStep — `configureNode` freed of its fuel (`Cfg.cn_fuel`): `cnf`, with one
  equation per kind of datum; `appendPopLast` keeps the triples.
-/
import Penman.Proofs.ConfigureRun
namespace Penman
namespace C02

def cnf (m : Model) (var : Str) (data : List Datum) (st : St) (s : Bool) : List Datum × St × Bool :=
  configureNode m (data.length + 1) var data st s

theorem cnf_pop (m : Model) (var : Str) (data : List Datum) (st : St) (s : Bool) :
    cnf m var (.pop :: data) st s = (data, st, s) := rfl

theorem cnf_skip (m : Model) (var : Str) (tr : Triple) (push : Bool) (epis : List Epi) (data : List Datum)
    (st : St) (s : Bool) {tgt : Atom} {p s1 : Bool}
    (ho : orient m var tr push s = some (CONCEPT_ROLE, tgt, p, s1)) (hm : tgt.isMissing = true) :
    cnf m var (.t tr push epis :: data) st s = cnf m var data st s1 := by
  simp [cnf, configureNode, ho, hm]

theorem cnf_concept (m : Model) (var : Str) (tr : Triple) (push : Bool) (epis : List Epi) (data : List Datum)
    (st : St) (s : Bool) {tgt : Atom} {p s1 : Bool}
    (ho : orient m var tr push s = some (CONCEPT_ROLE, tgt, p, s1)) (hm : tgt.isMissing = false) :
    cnf m var (.t tr push epis :: data) st s =
      cnf m var data (st.addFront var ⟨['/'], .atom tgt, epis⟩) s1 := by
  simp [cnf, configureNode, ho, hm]

theorem cnf_atom (m : Model) (var : Str) (tr : Triple) (push : Bool) (epis : List Epi) (data : List Datum)
    (st : St) (s : Bool) {role : Str} {tgt : Atom} {p s1 : Bool}
    (ho : orient m var tr push s = some (role, tgt, p, s1)) (hr : role ≠ CONCEPT_ROLE)
    (hp : pushVar st p tgt = none) :
    cnf m var (.t tr push epis :: data) st s =
      cnf m var data ((st.noteSite var tgt).addBack var ⟨role, .atom tgt, epis⟩) s1 := by
  simp [cnf, configureNode, ho, hr, hp]

/-- a datum that opens the node `v`: the nested call runs first, the caller goes on with what it left -/
theorem cnf_node (m : Model) (var : Str) (tr : Triple) (push : Bool) (epis : List Epi) (data : List Datum)
    (st : St) (s : Bool) {role : Str} {tgt : Atom} {p s1 : Bool} {v : Str}
    (ho : orient m var tr push s = some (role, tgt, p, s1)) (hr : role ≠ CONCEPT_ROLE)
    (hp : pushVar st p tgt = some v) :
    cnf m var (.t tr push epis :: data) st s =
      cnf m var (cnf m v data (st.newCell v) false).1
        ((cnf m v data (st.newCell v) false).2.1.addBack var ⟨role, .node v, epis⟩)
        (s1 && (cnf m v data (st.newCell v) false).2.2) := by
  have hl := Cfg.cn_length_le m (data.length + 1) v data (st.newCell v) false
  simp only [cnf, List.length_cons, configureNode, ho, hr, hp, if_false]
  exact Cfg.cn_fuel m _ _ _ _ _ _ (by omega) (by omega)

theorem appendPopLast_map_fst (L : List (Triple × List Epi)) :
    (appendPopLast L).map (·.1) = L.map (·.1) := by
  induction L with
  | nil => rfl
  | cons q L ih =>
    obtain ⟨tr, es⟩ := q
    cases L with
    | nil => rfl
    | cons q2 L2 => simp only [appendPopLast, List.map_cons, List.cons.injEq, true_and]; exact ih

theorem appendPopLast_ne_nil {L : List (Triple × List Epi)} (h : L ≠ []) : appendPopLast L ≠ [] := by
  intro e
  have := congrArg (List.map (·.1)) e
  rw [appendPopLast_map_fst] at this
  simp at this
  exact h this

end C02
end Penman
