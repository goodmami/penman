/-
  Penman.Proofs.LexStr — position-free view of `lexStr`: the (type, text) sequence `lexC` of a
  string, with rewriting lemmas `lexC (m ++ rest) = (ty, m) :: lexC rest` derived from the
  separator lemmas of `LexLemmas`, a line feed lemma and a COMMENT-line lemma.
  Parsing (`TreeToks` / `ConjToks`) looks only at token types and texts, so line numbers and offsets
  are projected away here.  Namespace `FL`: from `FormatLex`, the file these lemmas serve.
-/
import Penman.Proofs.LexLemmas

namespace Penman.FL
open Penman.Spec Penman.Lex

def core (t : Tok) : TokTy × Str := (t.ty, t.text)

@[simp] theorem core_mk (ty : TokTy) (s : Str) (n off : Nat) : core ⟨ty, s, n, off⟩ = (ty, s) := rfl

theorem lexAux_core (cfg : LexCfg) (order : List TokTy) (n n' : Nat) :
    ∀ (f off off' : Nat) (s : Str),
      (lexAux cfg order n f off s).map core = (lexAux cfg order n' f off' s).map core := by
  intro f
  induction f with
  | zero => intro off off' s; rfl
  | succ f ih =>
    intro off off' s
    cases s with
    | nil => rfl
    | cons c cs =>
      simp only [lexAux]
      split
      · split
        · exact ih _ _ _
        · simp only [List.map_cons, core_mk, List.cons.injEq, true_and]; exact ih _ _ _
      · exact ih _ _ _

/-- the (type, text) sequence of one line -/
def lineC (cfg : LexCfg) (order : List TokTy) (l : Str) : List (TokTy × Str) :=
  (lexLine cfg order 0 l).map core

theorem lexAux_lineC (cfg : LexCfg) (order : List TokTy) (n f off : Nat) (s : Str) (hf : s.length < f) :
    (lexAux cfg order n f off s).map core = lineC cfg order s := by
  rw [lineC, lexLine, lexAux_fuel cfg order n f (s.length + 1) off s hf (by omega)]
  exact lexAux_core cfg order n 0 _ _ _ _

theorem lexLinesFrom_core (cfg : LexCfg) (order : List TokTy) :
    ∀ (ls : List Str) (n : Nat), (lexLinesFrom cfg order n ls).map core = (ls.map (lineC cfg order)).flatten := by
  intro ls
  induction ls with
  | nil => intro n; rfl
  | cons l ls ih =>
    intro n
    simp only [lexLinesFrom, List.map_append, List.map_cons, List.flatten_cons, ih]
    congr 1
    exact lexAux_lineC cfg order n _ 0 l (by omega)

/-- the (type, text) sequence of `lex(s)` -/
def lexC (cfg : LexCfg) (order : List TokTy) (s : Str) : List (TokTy × Str) :=
  (lexStr cfg order s).map core

theorem lexC_eq (cfg : LexCfg) (order : List TokTy) (s : Str) :
    lexC cfg order s = ((splitLines s).map (lineC cfg order)).flatten :=
  lexLinesFrom_core cfg order _ 1

theorem lineC_nil (cfg : LexCfg) (order : List TokTy) : lineC cfg order [] = [] := rfl

theorem splitLines_head {rest l : Str} {ls : List Str} (h : splitLines rest = l :: ls) :
    ∀ c, l.head? = some c → rest.head? = some c := by
  intro c hc
  rw [splitLines.eq_def] at h
  split at h
  · simp at h; rw [h.1] at hc; simp at hc
  · simp at h; rw [h.1] at hc; simp at hc
  · simp at h; rw [h.1] at hc; simp at hc
  · simp at h; rw [h.1] at hc; simp at hc
  · split at h
    · simp at h; rw [← h.1] at hc; simpa using hc
    · simp at h; rw [← h.1] at hc; simpa using hc

/-- a step valid on every line is valid on the string, as long as the consumed prefix `m`
    has no line break.  The continuation line `l` starts like `rest` (or is empty). -/
theorem lexC_step {cfg : LexCfg} {order : List TokTy} {m rest : Str} {pre : List (TokTy × Str)}
    (hm : NoBreak m)
    (H : ∀ l : Str, (∀ c, l.head? = some c → rest.head? = some c) →
      lineC cfg order (m ++ l) = pre ++ lineC cfg order l) :
    lexC cfg order (m ++ rest) = pre ++ lexC cfg order rest := by
  rw [lexC_eq, lexC_eq]
  cases h : splitLines rest with
  | nil => exact absurd h (splitLines_ne_nil rest)
  | cons l ls =>
    rw [splitLines_append hm h]
    simp only [List.map_cons, List.flatten_cons]
    rw [H l (splitLines_head h), List.append_assoc]

theorem lexC_newline (cfg : LexCfg) (order : List TokTy) (rest : Str) :
    lexC cfg order ('\n' :: rest) = lexC cfg order rest := by
  rw [lexC_eq, lexC_eq]
  simp [splitLines, lineC_nil]

theorem noBreak_append {a b : Str} (ha : NoBreak a) (hb : NoBreak b) : NoBreak (a ++ b) :=
  ⟨by simp [ha.1, hb.1], by simp [ha.2, hb.2]⟩

theorem noBreak_singleton {c : Char} (h1 : c ≠ '\n') (h2 : c ≠ '\r') : NoBreak [c] :=
  ⟨by simp [h1.symm], by simp [h2.symm]⟩

variable {cfg : LexCfg}

/-- one token at the head of the string, when the alternation picks it on every continuation
    line that starts like `rest` -/
theorem lexC_token {order : List TokTy} {ty : TokTy} {m rest : Str} (hm : NoBreak m)
    (H : ∀ l : Str, (∀ c, l.head? = some c → rest.head? = some c) →
      firstMatch cfg order (m ++ l) = some (ty, m)) :
    lexC cfg order (m ++ rest) = (ty, m) :: lexC cfg order rest := by
  refine lexC_step (pre := [(ty, m)]) hm fun l hl => ?_
  rw [lineC, lexLine, lexAux_step (H l hl) (Nat.lt_succ_self _)]
  simp only [List.map_cons, core_mk, List.singleton_append, List.cons.injEq, true_and]
  exact lexAux_lineC cfg order 0 _ _ l (by omega)

theorem lexC_symbol (hwf : CfgWfP cfg) {order : List TokTy} (ho : orderWf order = true)
    (hT : TokTy.SYMBOL ∈ order) {s rest : Str} (hs : IsSymbol cfg s) (hnb : NoBreak s)
    (hhash : s.head? ≠ some '#') (hrest : ∀ c, rest.head? = some c → c ∈ cfg.symExcl) :
    lexC cfg order (s ++ rest) = (.SYMBOL, s) :: lexC cfg order rest :=
  lexC_token hnb fun _ hl => firstMatch_symbol hwf ho hT hs hhash fun c hc => hrest c (hl c hc)

theorem lexC_role (hwf : CfgWfP cfg) {order : List TokTy} (ho : orderWf order = true)
    (hT : TokTy.ROLE ∈ order) {s rest : Str} (hs : IsRole cfg s) (hnb : NoBreak s)
    (hrest : ∀ c, rest.head? = some c → c ∈ cfg.roleExcl) :
    lexC cfg order (s ++ rest) = (.ROLE, s) :: lexC cfg order rest :=
  lexC_token hnb fun _ hl => firstMatch_role hwf ho hT hs fun c hc => hrest c (hl c hc)

theorem lexC_string (hwf : CfgWfP cfg) {order : List TokTy} (ho : orderWf order = true)
    (hT : TokTy.STRING ∈ order) {s : Str} (rest : Str) (hs : IsString cfg s) (hnb : NoBreak s) :
    lexC cfg order (s ++ rest) = (.STRING, s) :: lexC cfg order rest :=
  lexC_token hnb fun l _ => firstMatch_string hwf ho hT l hs

theorem lexC_alignment (hwf : CfgWfP cfg) {order : List TokTy} (ho : orderWf order = true)
    (hT : TokTy.ALIGNMENT ∈ order) {s rest : Str} (hs : IsAlignment cfg s) (hnb : NoBreak s)
    (hrest : AlnEnd cfg rest) :
    lexC cfg order (s ++ rest) = (.ALIGNMENT, s) :: lexC cfg order rest :=
  lexC_token hnb fun _ hl => firstMatch_alignment hwf ho hT hs fun c hc => hrest c (hl c hc)

theorem lexC_delim (hwf : CfgWfP cfg) {order : List TokTy} (ho : orderWf order = true)
    {ty : TokTy} {c : Char} (hc : (ty, c) ∈ [(TokTy.LPAREN, '('), (TokTy.RPAREN, ')'), (TokTy.SLASH, '/')])
    (hT : ty ∈ order) (rest : Str) :
    lexC cfg order (c :: rest) = (ty, [c]) :: lexC cfg order rest := by
  have hnb : NoBreak [c] := by
    simp only [List.mem_cons, Prod.mk.injEq, List.not_mem_nil, or_false] at hc
    rcases hc with ⟨-, rfl⟩ | ⟨-, rfl⟩ | ⟨-, rfl⟩ <;> exact ⟨by decide, by decide⟩
  exact lexC_token hnb fun l _ => firstMatch_delim hwf ho hc hT l

theorem lexC_blank (hwf : CfgWfP cfg) {order : List TokTy} {c : Char} (hc : c ∈ cfg.blank)
    (h1 : c ≠ '\n') (h2 : c ≠ '\r') (rest : Str) :
    lexC cfg order (c :: rest) = lexC cfg order rest := by
  refine lexC_step (m := [c]) (pre := []) (noBreak_singleton h1 h2) fun l _ => ?_
  rw [lineC, lexLine, List.singleton_append, lexAux_none (firstMatch_blank hwf hc l)]
  exact lexAux_lineC cfg order 0 _ _ l (by simp)

theorem lexC_blanks (hwf : CfgWfP cfg) {order : List TokTy} {c : Char} (hc : c ∈ cfg.blank)
    (h1 : c ≠ '\n') (h2 : c ≠ '\r') (k : Nat) (rest : Str) :
    lexC cfg order (List.replicate k c ++ rest) = lexC cfg order rest := by
  induction k with
  | zero => rfl
  | succ k ih => rw [List.replicate_succ, List.cons_append, lexC_blank hwf hc h1 h2, ih]

/-- a COMMENT line: `#` up to the end of the line, when COMMENT is the first alternative -/
theorem lexC_comment_line {order : List TokTy} {tl : List TokTy} (ho : order = .COMMENT :: tl)
    (body : Str) (hb : NoBreak body) :
    lineC cfg order ('#' :: body) = [(.COMMENT, '#' :: body)] := by
  have hsp : spanP (· != '\n') body = (body, []) := by
    have := spanP_eq (· != '\n') body [] (by
      intro x hx; simp only [bne_iff_ne, ne_eq]; rintro rfl; exact hb.1 hx) (by simp)
    simpa using this
  have hfm : firstMatch cfg order (('#' :: body) ++ []) = some (.COMMENT, '#' :: body) := by
    subst ho
    simp [firstMatch, scanTy, scanComment, hsp]
  have := lexAux_step (cfg := cfg) (n := 0) (f := ('#' :: body).length + 1) (off := 0) hfm (by simp)
  simp only [List.append_nil] at this
  rw [lineC, lexLine, this, lexAux_nil]
  rfl

end Penman.FL
