/-
  Penman.Proofs.NormalFormCli — the command loop (`processLoop`, `processInput`, `mainRun`) on
  streams of graphs that each parse completely; the text the command prints (`streamOut`);
  the formatted text of a grammar-valid tree parses completely back to the tree; and, for any
  option set, `stream_fixed`: a stream whose graphs are each printed as a grammar-valid tree that
  the command prints unchanged is reproduced byte for byte (with `GraphRun` in namespace `C20gen`, where
  the Props files of the graph half use it; the first part is in `NF`, the namespace of the normal-form clause).
-/
import Penman.Props.C01
import Penman.Proofs.Framing
import Penman.Proofs.DumpsLoads
import Penman.Main
import Penman.Spec.NormalForm
namespace Penman.NF
open Penman.Framing

theorem streamOut_nil (first : Bool) : streamOut first [] = [] := rfl

theorem streamOut_cons (first : Bool) (s : Str) (ss : List Str) :
    streamOut first (s :: ss) = (if first then [] else ['\n']) ++ s ++ ['\n'] ++ streamOut false ss := rfl

/-- the separator in the shape `'\n' :: replicate k '\n'` of `lexJoin_sim`, with `k = 1` -/
theorem streamOut_join : ∀ (ss : List Str), ss ≠ [] →
    streamOut true ss = joinStr ('\n' :: List.replicate 1 '\n') ss ++ ['\n']
  | [], h => absurd rfl h
  | [s], _ => by simp [streamOut_cons, streamOut_nil, joinStr]
  | s :: t :: r, _ => by
    have ih := streamOut_join (t :: r) (by simp)
    have e : streamOut false (t :: r) = '\n' :: streamOut true (t :: r) := by simp [streamOut_cons]
    rw [streamOut_cons, e, ih]
    simp [joinStr]

theorem LSim.split {isSpace : Char → Bool} : ∀ {a b ts' : List Tok}, LSim isSpace [] (a ++ b) ts' →
    ∃ b', LSim isSpace b' a ts' ∧ LSim isSpace [] b b'
  | [], b, ts', h => ⟨ts', .nil, h⟩
  | t :: a, b, ts', h => by
    obtain ⟨t', ts'', rfl, ht, hs⟩ := LSim.cons_inv h
    obtain ⟨b', h1, h2⟩ := LSim.split hs
    exact ⟨b', .cons ht h1, h2⟩

theorem processLoop_stream (u : UTables) (m : Model) (o : Opts) (c : PCtx) :
    ∀ (gs : List (List Tok × Tree × Str × Nat)),
    (∀ p ∈ gs, ∃ c0, parseTree c0 u.isSpace p.1 = .ok (p.2.1, [])) →
    (∀ p ∈ gs, processTree u m o p.2.1 = .ok (p.2.2.1, p.2.2.2)) →
    ∀ (toks' : List Tok), LSim u.isSpace [] (gs.map (·.1)).flatten toks' →
    ∀ (f : Nat) (first : Bool) (out : Str) (code : Nat), toks'.length < f →
    processLoop u m o c f toks' first out code =
      (out ++ streamOut first (gs.map (·.2.2.1)), .ok (gs.foldl (fun a p => a ||| p.2.2.2) code)) := by
  intro gs
  induction gs with
  | nil =>
    intro _ _ toks' hs f first out code hf
    obtain ⟨g, rfl⟩ : ∃ g, f = g + 1 := ⟨f - 1, by omega⟩
    simp only [List.map_nil, List.flatten_nil] at hs
    rw [hs.nil_inv]
    simp [processLoop, streamOut_nil]
  | cons p gs ih =>
    intro hp hr toks' hs f first out code hf
    obtain ⟨g, rfl⟩ : ∃ g, f = g + 1 := ⟨f - 1, by omega⟩
    obtain ⟨c0, hp0⟩ := hp p (by simp)
    simp only [List.map_cons, List.flatten_cons] at hs
    -- the tokens of the first graph are a prefix up to positions, so `parseTree` reads the same tree
    -- from them and leaves a rest similar to the tokens of the other graphs
    obtain ⟨b', h1, h2⟩ := LSim.split hs
    obtain ⟨r', hpt, hr', _⟩ := parseTree_sim (c' := c) hp0 h1
    rw [hr'.nil_inv] at hpt
    obtain ⟨t, ts0, hts, hty⟩ := parseTree_ok_head hpt
    obtain ⟨t1, ts1, hts1, _⟩ := parseTree_ok_head hp0
    have hlen : b'.length < g := by
      have := h1.length
      rw [hts1] at this
      simp only [List.length_cons] at this
      omega
    subst hts
    have hpr := hr p (by simp)
    simp only [processLoop, hty, ↓reduceIte, hpt, hpr]
    rw [ih (fun q hq => hp q (by simp [hq])) (fun q hq => hr q (by simp [hq])) b' h2 g false _ _ hlen]
    cases first <;> simp [streamOut_cons]

theorem processInput_stream (cfg : LexCfg) (hc : SepChar cfg '\n') (u : UTables) (m : Model) (o : Opts)
    (input : Str) (gs : List (List Tok × Tree × Str × Nat))
    (hp : ∀ p ∈ gs, ∃ c0, parseTree c0 u.isSpace p.1 = .ok (p.2.1, []))
    (hr : ∀ p ∈ gs, processTree u m o p.2.1 = .ok (p.2.2.1, p.2.2.2))
    (hs : LSim u.isSpace [] (gs.map (·.1)).flatten (lexStr cfg cfg.penmanOrder input)) :
    processInput cfg u m o input =
      (streamOut true (gs.map (·.2.2.1)), .ok (gs.foldl (fun a p => a ||| p.2.2.2) 0)) := by
  unfold processInput
  rw [lexLines_fileLines cfg _ hc]
  simp only
  rw [processLoop_stream u m o _ gs hp hr _ hs _ true [] 0 (by omega)]
  simp

/-- one graph in, one graph out -/
theorem processInput_single (cfg : LexCfg) (hc : SepChar cfg '\n') (u : UTables) (m : Model) (o : Opts)
    (input : Str) (T : Tree) (s : Str) (code : Nat)
    (hp : parseTree ⟨eofPos (lexStr cfg cfg.penmanOrder input)⟩ u.isSpace
      (lexStr cfg cfg.penmanOrder input) = .ok (T, []))
    (hr : processTree u m o T = .ok (s, code)) :
    processInput cfg u m o input = (s ++ ['\n'], .ok code) := by
  have := processInput_stream cfg hc u m o input [(lexStr cfg cfg.penmanOrder input, T, s, code)]
    (by intro p hp'; simp only [List.mem_singleton] at hp'; subst hp'; exact ⟨_, hp⟩)
    (by intro p hp'; simp only [List.mem_singleton] at hp'; subst hp'; exact hr)
    (by simpa using LSim.refl_nil u.isSpace _)
  simpa [streamOut_cons, streamOut_nil] using this

theorem mainRun_inputs (cfg : LexCfg) (u : UTables) (m : Model) (o : Opts) :
    ∀ (ins : List (Str × Str × Nat)), (∀ p ∈ ins, processInput cfg u m o p.1 = (p.2.1, .ok p.2.2)) →
    ∀ (out : Str) (code : Nat),
    mainRun cfg u m o (ins.map (·.1)) out code =
      (out ++ (ins.map (·.2.1)).flatten, .ok (ins.foldl (fun a p => a ||| p.2.2) code))
  | [], _, out, code => by simp [mainRun]
  | p :: ins, h, out, code => by
    have hp := h p (by simp)
    simp only [List.map_cons, mainRun, hp]
    rw [mainRun_inputs cfg u m o ins (fun q hq => h q (by simp [hq]))]
    simp

theorem format_noCR (T : Tree) (i : Indent) (c : Bool) : (format T i c).getLast? ≠ some '\r' :=
  C09g.getLast_ne_cr (C09g.format_getLast T i c)

/-- a final line feed adds no token -/
theorem lexStr_append_lf (cfg : LexCfg) (order : List TokTy) (s : Str) (h : s.getLast? ≠ some '\r') :
    lexStr cfg order (s ++ ['\n']) = lexStr cfg order s := by
  unfold lexStr lexLines
  rw [splitLines_append_lf_nil s h, lexLinesFrom_append, lexLinesFrom_nil_line, List.append_nil]

/-- the tokens of the formatted text of a grammar-valid tree parse completely, back to the tree
    (any error context) -/
theorem parseTree_format {cfg : LexCfg} (hw : Spec.FmtCfgWf cfg = true) (isSpace : Char → Bool)
    (t : Node) (md : AList Str Str) (ht : Spec.WfTreeText cfg t) (hmd : Spec.WfMeta isSpace md)
    (i : Indent) (c : Bool) (ctx : PCtx) :
    parseTree ctx isSpace (lexStr cfg cfg.penmanOrder (format ⟨t, md⟩ i c)) = .ok (⟨t, md⟩, []) := by
  obtain ⟨cs, ts, e, h1, h2, h3⟩ := C01.format_lex hw t md ht (C01.wfMeta_noBreak hmd) i c
  obtain ⟨k, hk, rfl, rfl⟩ := h3
  obtain ⟨m0, ms, e0, hm⟩ := k.head [] hk
  have hm' : m0.ty ≠ .COMMENT := by simp [hm]
  rw [List.append_nil] at e0
  rw [e, e0]
  simp only [parseTree, parseComments_eq]
  rw [(leadingComments_append cs m0 ms h1 hm').2, metaOf_append isSpace cs m0 ms h1 hm']
  simp only [reduceCtorEq, if_false, bind, Except.bind]
  have hn := parseNode_cst_top ctx k [] hk
  rw [List.append_nil, e0] at hn
  rw [hn]
  have hmd' := (C01.wfMeta_iff isSpace md).1 hmd
  rw [C07.metadata_fmtLines isSpace md cs h2 hmd'.1 (fun kv hkv => by
    obtain ⟨a, b, c', d, e', -, -⟩ := hmd'.2 kv hkv
    rw [FL.hasColons_eq] at c' d
    exact ⟨(FL.entry_ok_iff kv.1 kv.2).2 ⟨a, b, c', d⟩, e'⟩)]
  rfl

end Penman.NF

namespace Penman.C20gen
open Penman.NF Penman.Framing

/-- data of one graph of a stream: its text, the parsed tree, the printed tree -/
structure GraphRun where
  s : Str
  T : Tree
  R : Tree

/-- what both passes need to know about one graph of the stream -/
def GraphRun.Ok (cfg : LexCfg) (u : UTables) (m : Model) (o : Opts) (g : GraphRun) : Prop :=
  (∃ c0, parseTree c0 u.isSpace (lexStr cfg cfg.penmanOrder g.s) = .ok (g.T, [])) ∧
  processTree u m o g.T = .ok (format g.R o.indent o.compact, 0) ∧
  Spec.WfTreeText cfg g.R.node ∧ Spec.WfMeta u.isSpace g.R.metadata ∧
  processTree u m o g.R = .ok (format g.R o.indent o.compact, 0)

theorem foldl_or_zero {α : Type} (f : α → Nat) : ∀ l : List α, (∀ p ∈ l, f p = 0) →
    l.foldl (fun a p => a ||| f p) 0 = 0
  | [], _ => rfl
  | p :: l, h => by
    rw [List.foldl_cons, h p List.mem_cons_self]
    exact foldl_or_zero f l fun q hq => h q (List.mem_cons_of_mem _ hq)

/-- **streams, both passes, any option set**: if every graph of the input is printed as a
    grammar-valid tree that the command prints unchanged, the whole output is reproduced byte for byte -/
theorem stream_fixed {cfg : LexCfg} (hw : Spec.FmtCfgWf cfg = true) (hsep : SepChar cfg '\n')
    (u : UTables) (m : Model) (o : Opts) (x : Str) (gs : List GraphRun) (hg : ∀ g ∈ gs, g.Ok cfg u m o)
    (hx : LSim u.isSpace [] (gs.map fun g => lexStr cfg cfg.penmanOrder g.s).flatten
      (lexStr cfg cfg.penmanOrder x)) :
    let out1 := streamOut true (gs.map fun g => format g.R o.indent o.compact)
    processInput cfg u m o x = (out1, .ok 0) ∧ processInput cfg u m o out1 = (out1, .ok 0) := by
  intro out1
  -- one pass over an input `y` whose graphs have the texts `src g` and the trees `tree g`
  have pass : ∀ (y : Str) (src : GraphRun → Str) (tree : GraphRun → Tree),
      (∀ g ∈ gs, ∃ c0, parseTree c0 u.isSpace (lexStr cfg cfg.penmanOrder (src g)) = .ok (tree g, [])) →
      (∀ g ∈ gs, processTree u m o (tree g) = .ok (format g.R o.indent o.compact, 0)) →
      LSim u.isSpace [] (gs.map fun g => lexStr cfg cfg.penmanOrder (src g)).flatten
        (lexStr cfg cfg.penmanOrder y) →
      processInput cfg u m o y = (out1, .ok 0) := by
    intro y src tree hp hr hs
    have := processInput_stream cfg hsep u m o y
      (gs.map fun g => (lexStr cfg cfg.penmanOrder (src g), tree g, format g.R o.indent o.compact, 0))
      (by
        intro p hp'; simp only [List.mem_map] at hp'
        obtain ⟨g, hgm, rfl⟩ := hp'; exact hp g hgm)
      (by
        intro p hp'; simp only [List.mem_map] at hp'
        obtain ⟨g, hgm, rfl⟩ := hp'; exact hr g hgm)
      (by simpa [List.map_map, Function.comp_def] using hs)
    rw [this, foldl_or_zero _ _ (by intro p hp'; simp only [List.mem_map] at hp'; obtain ⟨g, _, rfl⟩ := hp'; rfl)]
    simp [out1, List.map_map, Function.comp_def]
  refine ⟨pass x (·.s) (·.T) (fun g hgm => (hg g hgm).1) (fun g hgm => (hg g hgm).2.1) hx,
    pass out1 (fun g => format g.R o.indent o.compact) (·.R)
      (fun g hgm => ⟨⟨(0, 0)⟩, parseTree_format hw u.isSpace g.R.node g.R.metadata (hg g hgm).2.2.1
        (hg g hgm).2.2.2.1 o.indent o.compact _⟩)
      (fun g hgm => (hg g hgm).2.2.2.2) ?_⟩
  by_cases hnil : gs = []
  · subst hnil
    simp [out1, streamOut_nil, lexStr, lexLines, splitLines, lexLinesFrom, lexLine_nil]; exact .nil
  · have hss : (gs.map fun g => format g.R o.indent o.compact) ≠ [] := by simpa using hnil
    have hsim := lexJoin_sim u.isSpace cfg cfg.penmanOrder 1 ['\n'] (Or.inr rfl)
      (gs.map fun g => format g.R o.indent o.compact)
      (by
        intro s hs; simp only [List.mem_map] at hs
        obtain ⟨g, _, rfl⟩ := hs; exact format_noCR _ _ _) 1
    rw [← streamOut_join _ hss] at hsim
    simpa [List.map_map, Function.comp_def, lexStr, lexLines, out1] using hsim.symm_nil

theorem single_fixed {cfg : LexCfg} (hw : Spec.FmtCfgWf cfg = true) (hsep : SepChar cfg '\n')
    (u : UTables) (m : Model) (o : Opts) (x : Str) (T R : Tree)
    (hp : parseTree ⟨eofPos (lexStr cfg cfg.penmanOrder x)⟩ u.isSpace (lexStr cfg cfg.penmanOrder x)
      = .ok (T, []))
    (h : processTree u m o T = .ok (format R o.indent o.compact, 0) ∧
      Spec.WfTreeText cfg R.node ∧ Spec.WfMeta u.isSpace R.metadata ∧
      processTree u m o R = .ok (format R o.indent o.compact, 0)) :
    let out1 := format R o.indent o.compact ++ ['\n']
    processInput cfg u m o x = (out1, .ok 0) ∧ processInput cfg u m o out1 = (out1, .ok 0) := by
  have := stream_fixed hw hsep u m o x [⟨x, T, R⟩]
    (by intro g hgm; simp only [List.mem_singleton] at hgm; subst hgm; exact ⟨⟨_, hp⟩, h⟩)
    (by simpa using LSim.refl_nil u.isSpace _)
  simpa [streamOut_cons, streamOut_nil] using this

end Penman.C20gen
