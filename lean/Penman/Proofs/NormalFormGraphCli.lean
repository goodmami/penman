/-
  Penman.Proofs.NormalFormGraphCli — one graph through `processTree` with the graph stages switched
  on (first and second pass).
-/
import Penman.Proofs.NormalFormGraphLayout
import Penman.Proofs.NormalFormGraphStages
import Penman.Proofs.NormalFormMain

namespace Penman
namespace C20gen
open Penman.NF Penman.Cfg Penman.C03Text

mutual
theorem writtenForm_id : (n : Node) → (∀ x ∈ n.edgeTriples, notNum x.tgt = true) → writtenForm n = n
  | .mk v bs, h => by
    simp only [writtenForm]
    rw [writtenBs_id (v.getD []) bs (by simpa [Node.edgeTriples] using h)]
theorem writtenBs_id (v : Str) : (bs : Branches) → (∀ x ∈ Branches.edgeTriples v bs, notNum x.tgt = true) →
    writtenBs bs = bs
  | .nil, _ => rfl
  | .atom r a rest, h => by
    simp only [Branches.edgeTriples, List.mem_cons, forall_eq_or_imp] at h
    have ha : writtenAtom a = a := by
      cases a with
      | none => rfl
      | str s => rfl
      | num s => simp [notNum] at h
    simp only [writtenBs, ha, writtenBs_id v rest h.2]
  | .sub r n rest, h => by
    simp only [Branches.edgeTriples, List.mem_cons, List.mem_append, forall_eq_or_imp] at h
    simp only [writtenBs, writtenForm_id n (fun x hx => h.2 x (Or.inl hx)),
      writtenBs_id v rest (fun x hx => h.2 x (Or.inr hx))]
end

/-- the configured tree of a graph without numbers has no numbers -/
theorem configure_noNum {m : Model} {g : Graph} {top : Option Str} {T : Tree} (hw : ModelWf m) (hg : WfGraph m g)
    (hpv : Cfg.PushVars g) (hnum : NoNum g) (h : configure m g top = .ok T) : writtenForm T.node = T.node := by
  obtain ⟨t, st, l, _, _, E⟩ := encoded_of_ok hw hg hpv h
  have hr2 : ∀ x ∈ g.triples, RoleOK2 m x := fun x hx => roleOK2_of_colon m x (hg.roles x hx).1
  have htt := storeOf_tree_triples hr2 hg.noAlign E.store E.build
  apply writtenForm_id
  intro x hx
  obtain ⟨t0, ht0, hv⟩ := E.version x (E.perm.symm.subset (htt.subset hx))
  rcases hv with rfl | ⟨rfl, _, _⟩
  · exact hnum _ ht0
  · rw [invert_tgt]; rfl

/-- **the tree printed for a well-formed first-pass graph** (`configure`, then `--rearrange`): nothing
    for `dropNullConcept` to drop, in the domain of C02, grammar-valid, fixed by the rearrangement -/
theorem printed_tree {cfg : LexCfg} (u : UTables) {m : Model} (re : Option (List KeyFn × Bool))
    (hw : ModelWf m) (hnoop : m.noop = false) {g1 : Graph} {T1 : Tree} (hcf : configure m g1 none = .ok T1)
    (hg : WfGraph m g1) (hL : LayoutOK m g1) (htx : GraphTextOK cfg u.isSpace m g1) (hpv : Cfg.PushVars g1)
    (hnum : NoNum g1) :
    nfTree m re T1 = rearrangeOpt m re T1 ∧ WfLayout u.isAlpha m (nfTree m re T1).node ∧
    Spec.WfTreeText cfg (nfTree m re T1).node ∧ Spec.WfMeta u.isSpace (nfTree m re T1).metadata ∧
    rearrangeOpt m re (nfTree m re T1) = nfTree m re T1 := by
  have hwf := configure_noNum hw hg hpv hnum hcf
  obtain ⟨hl, hnn, _⟩ := configured_wfLayout u.isAlpha hw hnoop hg hL hpv hcf
  obtain ⟨ht1, ht2⟩ := configured_tree_wf (cfg := cfg) hw hg htx hpv hcf
  rw [hwf] at hl hnn ht1
  have hR : nfTree m re T1 = rearrangeOpt m re T1 := by
    unfold nfTree
    rw [C02P.dropNull_id _ hnn]
  exact ⟨hR, nfTree_wfLayout u m re T1 hl, nfTree_wfText m re cfg T1 ht1, by rw [nfTree_metadata]; exact ht2,
    by rw [hR]; exact rearrangeOpt_idem m re T1⟩

/-- **one graph, both passes.**  Let the first pass decode (and transform) the input tree `T` to the
    graph `g1` and encode it to `T1`; let `R` be the printed tree (`T1` rearranged).  If `g1` is
    well formed (for layout and text, no numbers), `R` is a fixed point of the canonicalisation step and
    the graph decoded from `R` is a fixed point of the selected stages, then both passes print
    `format R`, and `R` is grammar-valid. -/
theorem tree_normal_form_stages {cfg : LexCfg} (u : UTables) (m : Model) (canon : Bool)
    (re : Option (List KeyFn × Bool)) (rE dE rA : Bool) (i : Indent) (c : Bool)
    (hw : ModelWf m) (hnoop : m.noop = false) (T : Tree) (g1 : Graph) (T1 : Tree)
    (hin : processIn u m (stageOpts canon re rE dE rA i c) T = .ok g1)
    (hcf : configure m g1 none = .ok T1)
    (hg : WfGraph m g1) (hL : LayoutOK m g1) (htx : GraphTextOK cfg u.isSpace m g1) (hpv : Cfg.PushVars g1)
    (hnum : NoNum g1)
    (hcanon : canonStep m canon (nfTree m re T1) = .ok (nfTree m re T1))
    (hfix : StagesFixed u.isAlpha m (stageOpts canon re rE dE rA i c) (nfTree m re T1)) :
    processTree u m (stageOpts canon re rE dE rA i c) T = .ok (format (nfTree m re T1) i c, 0) ∧
    Spec.WfTreeText cfg (nfTree m re T1).node ∧
    Spec.WfMeta u.isSpace (nfTree m re T1).metadata ∧
    processTree u m (stageOpts canon re rE dE rA i c) (nfTree m re T1) = .ok (format (nfTree m re T1) i c, 0) := by
  obtain ⟨hR, hlR, htR, hmR, hid⟩ := printed_tree (cfg := cfg) u re hw hnoop hcf hg hL htx hpv hnum
  have ho := stageOpts_plain canon re rE dE rA i c
  exact ⟨processTree_of_in ho hin hcf (congrArg Except.ok hR.symm), htR, hmR,
    processTree_fixed ho hlR (nfTree_noNull m re T1) (metaDict_of_wfMeta hmR) hcanon hfix
      (congrArg Except.ok hid)⟩

end C20gen
end Penman
