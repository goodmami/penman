/-
  Penman.Proofs.NormalFormGraphDecoded — the graphs `interpret` returns are in DECODED NORMAL FORM:
  on a tree that is well formed for layout (`wfNodeB`, Spec/WfLayout.lean), under a model that deinverts,
  no triple of the result has an inverted role together with a variable as target (such a relation is
  deinverted by `interpret`).
-/
import Penman.Props.C03
import Penman.Proofs.InterpretGraph
import Penman.Proofs.LayoutBranch
import Penman.Proofs.NormalFormTree
namespace Penman
namespace C20gen
open Penman.Cfg

variable (isAlpha : Char → Bool) (m : Model)

/-- decoded normal form of one triple w.r.t. the variables `vars` -/
def NormT (vars : List Str) (t : Triple) : Prop :=
  t.role.head? = some ':' ∧ ¬ (m.isRoleInverted t.role = true ∧ atomInVars vars t.tgt = true)

theorem dropEnd_length (n : Nat) (s : Str) : (dropEnd n s).length = s.length - n := by
  unfold dropEnd; simp [List.length_take]

theorem inverted_length {r : Str} (h : m.isRoleInverted r = true) : 3 ≤ r.length := by
  unfold Model.isRoleInverted at h
  simp only [Bool.and_eq_true] at h
  have := List.IsSuffix.length_le (List.isSuffixOf_iff_suffix.1 h.2)
  simpa [ofStr] using this

theorem invertRole_of_inverted {r : Str} (h : m.isRoleInverted r = true) : m.invertRole r = dropEnd 3 r := by
  unfold Model.isRoleInverted at h
  unfold Model.invertRole
  simp only [Bool.and_eq_true] at h
  simp [h.1, h.2]

/-- what `roleOk` says about the core of a role: colon, and if it is inverted its inversion is not
    (inverting twice gives it back, and each inversion of an inverted role takes three characters off) -/
theorem roleOk_core {role core : Str} {es : List Epi} (h : roleOk isAlpha m role = true)
    (hp : processRole isAlpha role = .ok (core, es)) :
    core.head? = some ':' ∧
    (m.isRoleInverted core = true → m.isRoleInverted (m.invertRole core) = false) := by
  have hf := C02.roleFacts isAlpha m h
  have hc : roleCore isAlpha role = core := by simp [roleCore, hp]
  have h1 := hf.colon
  have h2 := hf.canon
  rw [hc] at h1 h2
  refine ⟨?_, fun hinv => ?_⟩
  · cases core with
    | nil => cases h1
    | cons c cs =>
      simp only [startsWith, List.isPrefixOf, Bool.and_true, beq_iff_eq] at h1
      simp [← h1]
  cases hi2 : m.isRoleInverted (m.invertRole core) with
  | false => rfl
  | true =>
    have l1 := inverted_length m hinv
    have := congrArg List.length (h2 hinv)
    rw [invertRole_of_inverted m hi2, dropEnd_length, invertRole_of_inverted m hinv, dropEnd_length] at this
    omega

theorem normT_concept (vars : List Str) (v : Str) (a : Atom) : NormT m vars ⟨v, CONCEPT_ROLE, a⟩ :=
  ⟨rfl, fun h => by rw [Interp.not_inverted_concept] at h; cases h.1⟩

/-- a relation that `interpret` deinverts -/
theorem normT_deinvert (hnoop : m.noop = false) (vars : List Str) (v core : Str) (tgt : Atom)
    (hc : core.head? = some ':') (hi : m.isRoleInverted core = true)
    (hinv : m.isRoleInverted (m.invertRole core) = false) : NormT m vars (m.deinvert ⟨v, core, tgt⟩) := by
  have hd : m.deinvert ⟨v, core, tgt⟩ = m.invert ⟨v, core, tgt⟩ := by
    simp [Model.deinvert, hnoop, hi]
  rw [hd]
  refine ⟨by rw [invert_role]; exact head_invertRole m _ hc, ?_⟩
  rintro ⟨h, _⟩
  rw [invert_role, hinv] at h; cases h

/-- the triple of an atomic branch -/
theorem normT_atom (hnoop : m.noop = false) (vars : List Str) (v core : Str) (tgt : Atom)
    (hc : core.head? = some ':')
    (hinv : m.isRoleInverted core = true → m.isRoleInverted (m.invertRole core) = false) :
    NormT m vars (if m.isRoleInverted core && atomInVars vars tgt then m.deinvert ⟨v, core, tgt⟩ else ⟨v, core, tgt⟩) := by
  split
  · rename_i hcond
    rw [Bool.and_eq_true] at hcond
    exact normT_deinvert m hnoop vars v core tgt hc hcond.1 (hinv hcond.1)
  · rename_i hcond
    exact ⟨hc, fun h => hcond (by simp [h.1, h.2])⟩

/-- the triple of a branch to a nested node -/
theorem normT_sub (hnoop : m.noop = false) (vars : List Str) (v core nv : Str)
    (hc : core.head? = some ':')
    (hinv : m.isRoleInverted core = true → m.isRoleInverted (m.invertRole core) = false) :
    NormT m vars (m.deinvert ⟨v, core, .str nv⟩) := by
  cases hi : m.isRoleInverted core with
  | true => exact normT_deinvert m hnoop vars v core _ hc hi (hinv hi)
  | false =>
    have hd : m.deinvert ⟨v, core, .str nv⟩ = ⟨v, core, .str nv⟩ := by
      simp [Model.deinvert, hi]
    rw [hd]
    exact ⟨hc, fun h => by rw [show m.isRoleInverted core = true from h.1] at hi; cases hi⟩

mutual
theorem normal_node (hnoop : m.noop = false) (vars : List Str) : ∀ (n : Node), wfNodeB isAlpha m n = true →
    ∀ ts es, interpretNode isAlpha m vars n = .ok (ts, es) → ∀ t ∈ ts, NormT m vars t
  | .mk v bs => by
    intro hwf ts es h t ht
    obtain ⟨var, out, rfl, hb, hcase⟩ := Interp.interpretNode_ok h
    have hout : ∀ t ∈ out.triples, NormT m vars t := by
      cases bs with
      | nil =>
        simp only [interpretBranches, Except.ok.injEq] at hb
        subst hb; intro t ht; simp at ht
      | atom role a rest =>
        rw [NF.wfNodeB_atom] at hwf
        by_cases hs : role = ['/']
        · subst hs
          rw [if_pos rfl, Bool.and_eq_true] at hwf
          obtain ⟨r', repis, tgt, tepis, out', h1, h2, h3, rfl⟩ := Interp.interpretBranches_atom_ok hb
          rw [C02.slash_proc] at h1
          cases h1
          intro t ht
          rcases List.mem_cons.1 ht with rfl | ht
          · rw [Interp.not_inverted_concept, Bool.false_and, if_neg Bool.false_ne_true]
            exact normT_concept m vars var tgt
          · exact normal_branches hnoop vars var rest hwf.2 out' h3 t ht
        · rw [if_neg hs] at hwf
          exact normal_branches hnoop vars var _ hwf out hb
      | sub role n rest => exact normal_branches hnoop vars var _ hwf out hb
    rcases hcase with ⟨_, rfl, _⟩ | ⟨_, rfl, _⟩
    · exact hout t ht
    · simp only [List.mem_cons] at ht
      rcases ht with rfl | ht
      · exact normT_concept m vars var .none
      · exact hout t ht
theorem normal_branches (hnoop : m.noop = false) (vars : List Str) (var : Str) : ∀ (bs : Branches),
    wfBranchesB isAlpha m var bs = true →
    ∀ out, interpretBranches isAlpha m vars var bs = .ok out → ∀ t ∈ out.triples, NormT m vars t
  | .nil => by
    intro _ out h t ht
    simp only [interpretBranches, Except.ok.injEq] at h
    subst h; simp at ht
  | .atom role a rest => by
    intro hwf out h t ht
    rw [NF.wfBranchesB_atom] at hwf
    simp only [Bool.and_eq_true] at hwf
    obtain ⟨⟨⟨hro, _⟩, _⟩, hrest⟩ := hwf
    obtain ⟨r', repis, tgt, tepis, out', h1, h2, h3, rfl⟩ := Interp.interpretBranches_atom_ok h
    obtain ⟨c1, c3⟩ := roleOk_core isAlpha m hro h1
    simp only [List.mem_cons] at ht
    rcases ht with rfl | ht
    · exact normT_atom m hnoop vars var r' tgt c1 c3
    · exact normal_branches hnoop vars var rest hrest out' h3 t ht
  | .sub role n rest => by
    intro hwf out h t ht
    rw [NF.wfBranchesB_sub] at hwf
    simp only [Bool.and_eq_true] at hwf
    obtain ⟨⟨hro, hn⟩, hrest⟩ := hwf
    obtain ⟨r', repis, nv, nts, nes, out', h1, h0, h2, h3, rfl⟩ := Interp.interpretBranches_sub_ok h
    obtain ⟨c1, c3⟩ := roleOk_core isAlpha m hro h1
    simp only [List.cons_append, List.mem_cons, List.mem_append] at ht
    rcases ht with rfl | ht | ht
    · exact normT_sub m hnoop vars var r' nv c1 c3
    · exact normal_node hnoop vars n hn nts nes h2 t ht
    · exact normal_branches hnoop vars var rest hrest out' h3 t ht
end

/-- **decoded graphs are in decoded normal form**: no triple of `interpret t` has an inverted role
    together with a variable of the tree as target -/
theorem interpret_normal (hnoop : m.noop = false) {t : Tree} {g : Graph} (hwf : wfNodeB isAlpha m t.node = true)
    (h : interpret isAlpha m t = .ok g) :
    ∀ x ∈ g.triples, ¬ (m.isRoleInverted x.role = true ∧ atomInVars t.node.vars x.tgt = true) := by
  unfold interpret at h
  cases hi : interpretNode isAlpha m t.node.vars t.node with
  | error e => simp [hi, bind, Except.bind] at h
  | ok r =>
    obtain ⟨ts, es⟩ := r
    simp only [hi, bind, Except.bind, pure, Except.pure, Except.ok.injEq] at h
    subst h
    intro x hx
    simp only [Graph.mk', List.mem_map] at hx
    obtain ⟨y, hy, rfl⟩ := hx
    obtain ⟨n1, n2⟩ := normal_node isAlpha m hnoop t.node.vars t.node hwf ts es hi y hy
    simp only [ensureColon_of_head n1]
    exact n2

end C20gen
end Penman
