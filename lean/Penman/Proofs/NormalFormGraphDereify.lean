/-
  Penman.Proofs.NormalFormGraphDereify — `dereify_edges` is idempotent on graphs (for every model with a
  well-formed reification table): after one pass the dereification agenda is empty.
  A collapse replaces a node by a relation whose role is REIFIABLE; source and target roles of a
  reification are never reifiable (`ReifWf`), so the new relation cannot be one of the two relations of a
  collapsible node, and the nodes it touches keep a relation that is not part of a reification pattern.
  Also: an empty agenda does not depend on the order of the triples nor on the markers (`noCollapsible_perm`).
-/
import Penman.Proofs.Transform
namespace Penman
namespace C20gen

theorem derefLookup_same {m : Model} (hm : ReifWf m) (s : Str) : ∀ ds : List Reif, (∀ rf ∈ ds, rf ∈ m.reifs) →
    derefLookup s s ds = none
  | [], _ => rfl
  | rf :: rest, h => by
    have hne : rf.source ≠ rf.target := (hm.1 rf (h rf (by simp))).2.2.2.2.1
    simp only [derefLookup]
    rw [if_neg (fun hc => hne (hc.1.trans hc.2.symm)), if_neg (fun hc => hne (hc.2.trans hc.1.symm))]
    exact derefLookup_same hm s rest (fun r hr => h r (by simp [hr]))

theorem dereify_swap {m : Model} (hm : ReifWf m) (i0 a b : Triple) :
    m.dereify i0 b a = m.dereify i0 a b := by
  have hloop : ∀ ds : List Reif, (∀ rf ∈ ds, rf ∈ m.reifs) →
      dereifyLoop b.role a.role b.tgt a.tgt ds = dereifyLoop a.role b.role a.tgt b.tgt ds := by
    intro ds hsub
    rw [dereifyLoop_eq, dereifyLoop_eq]
    by_cases hr : a.role = b.role
    · rw [hr, derefLookup_same hm b.role _ hsub]; rfl
    · rw [derefLookup_swap hr]
      cases derefLookup a.role b.role ds with
      | none => rfl
      | some p => obtain ⟨f, r⟩ := p; cases f <;> rfl
  have hcond : (i0.src = b.src ∧ b.src = a.src) = (i0.src = a.src ∧ a.src = b.src) := by
    apply propext
    constructor
    · rintro ⟨h1, h2⟩; exact ⟨h1.trans h2, h2.symm⟩
    · rintro ⟨h1, h2⟩; exact ⟨h1.trans h2, h2.symm⟩
  unfold Model.dereify
  simp only [hcond, hloop _ (fun rf h => (List.mem_filter.1 h).1)]

theorem derefLookup_roles {s t : Str} {ds : List Reif} {p : Bool × Str} (h : derefLookup s t ds = some p) :
    ∃ rf ∈ ds, (rf.source = s ∧ rf.target = t) ∨ (rf.target = s ∧ rf.source = t) := by
  induction ds with
  | nil => simp [derefLookup] at h
  | cons rf r ih =>
    simp only [derefLookup] at h
    split at h
    · rename_i hc; exact ⟨rf, by simp, Or.inl hc⟩
    · split at h
      · rename_i hc; exact ⟨rf, by simp, Or.inr hc⟩
      · obtain ⟨rf', h1, h2⟩ := ih h
        exact ⟨rf', by simp [h1], h2⟩

/-- the two relations of a node that `Model.dereify` accepts have roles that are not reifiable -/
theorem dereify_ok_not_reifiable {m : Model} (hm : ReifWf m) {i0 a b : Triple} {r : Atom × Str × Atom}
    (h : m.dereify i0 a b = .ok r) : m.isReifiable a.role = false ∧ m.isReifiable b.role = false := by
  unfold Model.dereify at h
  split at h
  · simp at h
  · split at h
    · simp at h
    · simp only at h
      split at h
      · simp at h
      · rw [dereifyLoop_eq] at h
        cases hd : derefLookup a.role b.role (m.reifs.filter (·.concept = i0.tgt)) with
        | none => rw [hd] at h; simp at h
        | some p =>
          obtain ⟨rf, hrf, hr⟩ := derefLookup_roles hd
          have hok := hm.1 rf (List.mem_filter.1 hrf).1
          rcases hr with ⟨h1, h2⟩ | ⟨h1, h2⟩
          · rw [← h1, ← h2]; exact ⟨hok.2.2.2.2.2.1, hok.2.2.2.2.2.2.1⟩
          · rw [← h1, ← h2]; exact ⟨hok.2.2.2.2.2.2.1, hok.2.2.2.2.2.1⟩

/-- the node `x` with node label `i0` is collapsed by `dereify_edges` -/
def Collapsible (m : Model) (g : Graph) (x : Str) (i0 : Triple) : Prop :=
  ∃ a b, otherOf g.triples x = [a, b] ∧ Atom.str x ∉ (agendaScan g).1 ∧ m.isDereifiable i0.tgt = true ∧
    ∃ s role tgt, m.dereify i0 a b = .ok (.str s, role, tgt) ∧ s ∈ g.variables

/-- `entryRes` as a decision about `Collapsible`: which of the two relations it hands to `Model.dereify`
    first (the one carrying the pushed variable) does not matter, by `dereify_swap` -/
theorem entryRes_skip_or {m : Model} (hm : ReifWf m) {g : Graph} {x : Str} {i0 : Triple} :
    (entryRes m g x i0 ≠ .skip → (∃ e, entryRes m g x i0 = .err e) ∨ Collapsible m g x i0) ∧
    (Collapsible m g x i0 → ∃ ag, entryRes m g x i0 = .add ag) := by
  by_cases hex : ∃ a b, otherOf g.triples x = [a, b]
  case neg =>
    have h1 : entryRes m g x i0 = .skip := by
      unfold entryRes
      split
      · rename_i a b hl; exact absurd ⟨a, b, hl⟩ hex
      · rfl
    exact ⟨fun hne => absurd h1 hne, fun ⟨a, b, hl, _⟩ => absurd ⟨a, b, hl⟩ hex⟩
  case pos =>
    obtain ⟨a, b, hl⟩ := hex
    have hsame : m.dereify i0 (if getPushedVariable g b = some x then b else a)
        (if getPushedVariable g b = some x then a else b) = m.dereify i0 a b := by
      by_cases hp : getPushedVariable g b = some x
      · simp only [hp, if_true]; exact dereify_swap hm i0 a b
      · simp only [hp, if_false]
    have hE : entryRes m g x i0 =
        if Atom.str x ∉ (agendaScan g).1 ∧ m.isDereifiable i0.tgt = true then
          match m.dereify i0 a b with
          | .error .model => .skip
          | .error e => .err e
          | .ok (.str s, role, tgt) =>
            if s ∈ g.variables then
              .add ⟨x, (if getPushedVariable g b = some x then b else a), ⟨s, role, tgt⟩,
                agendaEpis g i0 (if getPushedVariable g b = some x then a else b)⟩
            else .skip
          | .ok _ => .skip
        else .skip := by
      unfold entryRes
      rw [hl]
      simp only [hsame]
      rfl
    rw [hE]
    by_cases hc : Atom.str x ∉ (agendaScan g).1 ∧ m.isDereifiable i0.tgt = true
    · rw [if_pos hc]
      constructor
      · intro hne
        cases hd : m.dereify i0 a b with
        | error e =>
          rw [hd] at hne
          cases e with
          | model => exact absurd rfl hne
          | _ => left; exact ⟨_, rfl⟩
        | ok r =>
          rw [hd] at hne
          obtain ⟨src, role, tgt⟩ := r
          cases src with
          | str s =>
            by_cases hs : s ∈ g.variables
            · right; exact ⟨a, b, hl, hc.1, hc.2, s, role, tgt, hd, hs⟩
            · simp only [hs, if_false] at hne; exact absurd rfl hne
          | none => exact absurd rfl hne
          | num n => exact absurd rfl hne
      · rintro ⟨a', b', hab', _, _, s, role, tgt, hd, hs⟩
        rw [hl] at hab'
        simp only [List.cons.injEq, and_true] at hab'
        obtain ⟨rfl, rfl⟩ := hab'
        rw [hd]
        simp only [hs, if_true]
        exact ⟨_, rfl⟩
    · rw [if_neg hc]
      constructor
      · intro hne; exact absurd rfl hne
      · rintro ⟨a', b', _, h1, h2, _⟩
        exact absurd ⟨h1, h2⟩ hc

/-- the agenda is empty if no node is collapsible -/
theorem noCollapsible_of {m : Model} (hm : ReifWf m) {g : Graph}
    (h : ∀ x i0, (x, i0) ∈ (agendaScan g).2.1 → ¬ Collapsible m g x i0) : NoCollapsible m g := by
  unfold NoCollapsible
  rw [dereifyAgenda_nil_iff]
  intro p hp
  obtain ⟨_, hi0r, hi0s⟩ := instOf_getLast (agendaScan_inst_mem hp)
  apply Classical.byContradiction
  intro hne
  rcases (entryRes_skip_or hm).1 hne with ⟨e, he⟩ | hcoll
  · exact entryRes_no_err ⟨hi0r, hi0s⟩ he
  · exact h p.1 p.2 hp hcoll

section Pass
variable {m : Model} {g g1 : Graph}

theorem isReifiable_of_mem {rf : Reif} (h : rf ∈ m.reifs) : m.isReifiable rf.role = true := by
  simp only [Model.isReifiable, List.any_eq_true, decide_eq_true_eq]
  exact ⟨rf, h, rfl⟩

/-- every role of the pass already has its colon: the result is the pass itself -/
theorem pass_triples (hg : RolesColon g) (hm : ReifWf m) (h : dereifyEdges m g = .ok g1) :
    g1.triples = g.triples.flatMap (derOut (collapseOf m g)) := by
  rw [(dereifyEdges_ok h).1]
  refine (List.map_congr_left (g := id) fun t ht => ?_).trans (List.map_id _)
  rw [List.mem_flatMap] at ht
  obtain ⟨t', ht', hmem⟩ := ht
  have hcolon : startsWith [':'] t.role = true := by
    unfold derOut at hmem
    cases hc : collapseOf m g t'.src with
    | none =>
      rw [hc] at hmem
      simp only [List.mem_singleton] at hmem
      rw [hmem]; exact hg t' ht'
    | some ag =>
      rw [hc] at hmem
      simp only at hmem
      split at hmem
      · simp only [List.mem_singleton] at hmem
        obtain ⟨_, _, _, ⟨rf, hrf, hrole⟩, _⟩ := collapseOf_some hc
        rw [hmem, ← hrole]; exact (hm.1 rf hrf).2.2.2.2.2.2.2
      · simp at hmem
  simp [ensureColon_of_colon hcolon]

/-- every triple of the result is an old triple of a node that is not collapsed, or the dereified triple
    of a collapsed node (its role is reifiable, its source a variable of `g`) -/
theorem mem_pass (hg : RolesColon g) (hm : ReifWf m) (h : dereifyEdges m g = .ok g1) {t1 : Triple}
    (h1 : t1 ∈ g1.triples) :
    (t1 ∈ g.triples ∧ collapseOf m g t1.src = none) ∨
    (∃ y ag, collapseOf m g y = some ag ∧ t1 = ag.dereified ∧ m.isReifiable t1.role = true ∧
      t1.src ∈ g.variables) := by
  rw [pass_triples hg hm h, List.mem_flatMap] at h1
  obtain ⟨t, htg, h0⟩ := h1
  unfold derOut at h0
  cases hcol : collapseOf m g t.src with
  | none =>
    rw [hcol] at h0
    simp only [List.mem_singleton] at h0
    subst h0
    exact Or.inl ⟨htg, hcol⟩
  | some ag =>
    rw [hcol] at h0
    simp only at h0
    split at h0
    · simp only [List.mem_singleton] at h0
      subst h0
      obtain ⟨_, _, _, ⟨rf, hrf, hrole⟩, hsrc⟩ := collapseOf_some hcol
      exact Or.inr ⟨t.src, ag, hcol, rfl, by rw [← hrole]; exact isReifiable_of_mem hrf, hsrc⟩
    · simp at h0

/-- an old triple of a node that is not collapsed is kept -/
theorem kept_pass (hg : RolesColon g) (hm : ReifWf m) (h : dereifyEdges m g = .ok g1) {t : Triple}
    (ht : t ∈ g.triples) (hc : collapseOf m g t.src = none) : t ∈ g1.triples := by
  rw [pass_triples hg hm h, List.mem_flatMap]
  exact ⟨t, ht, by simp [derOut, hc]⟩

/-- the dereified triple of a collapsed node is in the result -/
theorem new_pass (hg : RolesColon g) (hm : ReifWf m) (h : dereifyEdges m g = .ok g1) {y : Str} {ag : Agenda}
    (hc : collapseOf m g y = some ag) : ag.dereified ∈ g1.triples := by
  have hf := mem_otherOf (collapseOf_some hc).2.1
  rw [pass_triples hg hm h, List.mem_flatMap]
  exact ⟨ag.first, hf.1, by simp [derOut, hf.2.2, hc]⟩

/-- filtering the result by "source `x`" when `x` is not collapsed and no dereified triple has source `x`:
    the old triples of `x`, in order -/
theorem filter_pass (look : Str → Option Agenda) (x : Str) (P : Triple → Bool) (hx : look x = none) :
    ∀ (l : List Triple), (∀ t ∈ l, ∀ ag, look t.src = some ag → t = ag.first → ag.dereified.src ≠ x) →
      (l.flatMap (derOut look)).filter (fun t => P t && decide (t.src = x)) =
        l.filter (fun t => P t && decide (t.src = x))
  | [], _ => rfl
  | t :: l, h => by
    have ih := filter_pass look x P hx l (fun t' ht' => h t' (List.mem_cons_of_mem _ ht'))
    simp only [List.flatMap_cons, List.filter_append, ih]
    congr 1
    unfold derOut
    cases hl : look t.src with
    | none =>
      simp only []
      by_cases hp : (P t && decide (t.src = x)) = true <;> simp [hp]
    | some ag =>
      have htx : t.src ≠ x := by intro e; rw [e, hx] at hl; cases hl
      simp only
      split
      · rename_i hf
        have := h t List.mem_cons_self ag hl hf
        simp [this, htx]
      · simp [htx]

end Pass

/-- **`dereify_edges` is idempotent on graphs**: after one pass no node is collapsible. -/
theorem dereify_idempotent {m : Model} {g g1 : Graph} (hm : ReifWf m) (hg : RolesColon g)
    (h : dereifyEdges m g = .ok g1) : NoCollapsible m g1 := by
  apply noCollapsible_of hm
  intro x i0 hp ⟨a, b, hl, hfix, hder, s, role, tgt, hd, hs⟩
  obtain ⟨hi0m, hi0r, hi0s⟩ := instOf_getLast (agendaScan_inst_mem hp)
  -- `x` was not collapsed in `g`: its node label survives
  obtain ⟨hi0g, hxnone⟩ : i0 ∈ g.triples ∧ collapseOf m g x = none := by
    rcases mem_pass hg hm h hi0m with ⟨hc, hn⟩ | ⟨y, ag, _, _, hre, _⟩
    · exact ⟨hc, by rw [← show i0.src = x from hi0s]; exact hn⟩
    · rw [hi0r, hm.2] at hre; cases hre
  -- the two relations are old ones
  obtain ⟨hra, hrb⟩ := dereify_ok_not_reifiable hm hd
  have hab_mem : ∀ t ∈ otherOf g1.triples x, m.isReifiable t.role = false := by
    intro t ht; rw [hl] at ht
    simp only [List.mem_cons, List.mem_nil_iff, or_false] at ht
    rcases ht with rfl | rfl
    · exact hra
    · exact hrb
  -- no dereified triple has source `x`
  have hnew : ∀ t ∈ g.triples, ∀ ag, collapseOf m g t.src = some ag → t = ag.first → ag.dereified.src ≠ x := by
    intro t _ ag hc _ hsrc
    have hmem := new_pass hg hm h hc
    obtain ⟨_, _, _, ⟨rf, hrf, hrole⟩, _⟩ := collapseOf_some hc
    have hre : m.isReifiable ag.dereified.role = true := by rw [← hrole]; exact isReifiable_of_mem hrf
    have hnc : ag.dereified.role ≠ CONCEPT_ROLE := by
      intro e; rw [e, hm.2] at hre; cases hre
    have : ag.dereified ∈ otherOf g1.triples x := by
      simp only [otherOf, List.mem_filter, decide_eq_true_eq]
      exact ⟨hmem, hnc, hsrc⟩
    rw [hab_mem _ this] at hre; cases hre
  -- the relations and labels of `x` are those of `g`
  have hfilter : ∀ (P : Triple → Bool),
      g1.triples.filter (fun t => P t && decide (t.src = x)) =
        g.triples.filter (fun t => P t && decide (t.src = x)) := by
    intro P
    rw [pass_triples hg hm h]
    exact filter_pass (collapseOf m g) x P hxnone g.triples hnew
  have hother : otherOf g1.triples x = otherOf g.triples x := by
    have := hfilter (fun t => decide (t.role ≠ CONCEPT_ROLE))
    simpa [otherOf, Bool.decide_and] using this
  have hinst : instOf g1.triples x = instOf g.triples x := by
    have := hfilter (fun t => decide (t.role = CONCEPT_ROLE))
    simpa [instOf, Bool.decide_and] using this
  -- `x` is not referenced in `g` either
  have htop : topAtom g1 = topAtom g := by unfold topAtom; rw [dereifyEdges_getTop h]
  have hfix' : Atom.str x ∉ (agendaScan g).1 := by
    intro hin
    rw [agendaScan_fixed] at hin
    apply hfix
    rw [agendaScan_fixed]
    rcases hin with htp | ⟨t, ht, hr, htg⟩
    · left; rw [htop]; exact htp
    · cases hc : collapseOf m g t.src with
      | none => right; exact ⟨t, kept_pass hg hm h ht hc, hr, htg⟩
      | some ag =>
        exfalso
        obtain ⟨_, _, ⟨a', b', hl', hab'⟩, ⟨rf, hrf, hrole⟩, _⟩ := collapseOf_some hc
        have hre : m.isReifiable ag.dereified.role = true := by rw [← hrole]; exact isReifiable_of_mem hrf
        have hnc : ag.dereified.role ≠ CONCEPT_ROLE := by
          intro e; rw [e, hm.2] at hre; cases hre
        have htm : t ∈ otherOf g.triples t.src := by
          simp only [otherOf, List.mem_filter, decide_eq_true_eq]; exact ⟨ht, hr, trivial⟩
        rw [hl'] at htm
        simp only [List.mem_cons, List.mem_nil_iff, or_false] at htm
        have hcase : Atom.str ag.dereified.src = Atom.str x ∨ ag.dereified.tgt = Atom.str x := by
          rcases htm with rfl | rfl <;> rcases hab' with ⟨h1, h2⟩ | ⟨h1, h2⟩
          · left; rw [h1, htg]
          · right; rw [h2, htg]
          · right; rw [h2, htg]
          · left; rw [h1, htg]
        rcases hcase with h1 | h1
        · have hsx : ag.dereified.src = x := by injection h1
          have hf := (collapseOf_some hc).2.1
          exact hnew ag.first (mem_otherOf hf).1 ag (by rw [(mem_otherOf hf).2.2]; exact hc) rfl hsx
        · apply hfix
          rw [agendaScan_fixed]
          right; exact ⟨ag.dereified, new_pass hg hm h hc, hnc, h1⟩
  -- the source of the dereified triple is a variable of `g`
  have hsg : s ∈ g.variables := by
    rw [mem_variables] at hs ⊢
    rcases hs with ⟨t, ht, hts⟩ | htp
    · rcases mem_pass hg hm h ht with ⟨ht', _⟩ | ⟨_, _, _, _, _, hv⟩
      · exact Or.inl ⟨t, ht', hts⟩
      · rw [hts] at hv; exact (mem_variables g s).1 hv
    · have : g1.getTop = some s := by unfold Graph.getTop; rw [htp]
      rw [dereifyEdges_getTop h] at this
      exact (mem_variables g s).1 (getTop_mem_variables this)
  -- so `x` was collapsible in `g`: contradiction
  have hcg : Collapsible m g x i0 :=
    ⟨a, b, by rw [← hother]; exact hl, hfix', hder, s, role, tgt, hd, hsg⟩
  obtain ⟨ag, hag⟩ := (entryRes_skip_or hm).2 hcg
  have hlast : (instOf g.triples x).getLast? = some i0 := by
    rw [← hinst]; exact agendaScan_inst_mem hp
  have : collapseOf m g x = some ag := by
    unfold collapseOf; rw [hlast]; simp [hag]
  rw [hxnone] at this; cases this

theorem perm_pair {α : Type} {l : List α} {a b : α} (h : l.Perm [a, b]) : l = [a, b] ∨ l = [b, a] := by
  have hlen := h.length_eq
  match l, hlen with
  | [c, d], _ =>
    have hc : c ∈ [a, b] := h.subset (by simp)
    have hd : d ∈ [a, b] := h.subset (by simp)
    have ha : a ∈ [c, d] := h.symm.subset (by simp)
    have hb : b ∈ [c, d] := h.symm.subset (by simp)
    simp only [List.mem_cons, List.mem_nil_iff, or_false] at hc hd ha hb
    rcases hc with rfl | rfl
    · rcases hd with rfl | rfl
      · rcases hb with rfl | rfl <;> exact Or.inl rfl
      · exact Or.inl rfl
    · rcases hd with rfl | rfl
      · exact Or.inr rfl
      · rcases ha with rfl | rfl <;> exact Or.inl rfl

/-- **`NoCollapsible` is invariant under reordering the triples and replacing the markers**, for graphs in
    which no variable has two node labels. -/
theorem noCollapsible_perm {m : Model} (hm : ReifWf m) {g g' : Graph} (hp : g'.triples.Perm g.triples)
    (htop : g'.getTop = g.getTop)
    (hone : ((g.triples.filter (fun t => t.role = CONCEPT_ROLE)).map (·.src)).Nodup)
    (h : NoCollapsible m g) : NoCollapsible m g' := by
  apply noCollapsible_of hm
  intro x i0 hp' ⟨a, b, hl, hfix, hder, s, role, tgt, hd, hs⟩
  obtain ⟨hi0m, hi0r, hi0s⟩ := instOf_getLast (agendaScan_inst_mem hp')
  unfold NoCollapsible at h
  rw [dereifyAgenda_nil_iff] at h
  -- the relations of `x` in `g`
  have hoth : (otherOf g.triples x).Perm [a, b] := by
    rw [← hl]; exact (hp.filter _).symm
  -- `x` is not referenced in `g`
  have hfix' : Atom.str x ∉ (agendaScan g).1 := by
    intro hin
    apply hfix
    rw [agendaScan_fixed] at hin ⊢
    rcases hin with htp | ⟨t, ht, hr, htg⟩
    · left; unfold topAtom at htp ⊢; rw [htop]; exact htp
    · right; exact ⟨t, hp.symm.subset ht, hr, htg⟩
  have hsg : s ∈ g.variables := by
    rw [mem_variables] at hs
    rcases hs with ⟨t, ht, hts⟩ | htp
    · rw [← hts]; exact src_mem_variables (hp.subset ht)
    · have : g'.getTop = some s := by unfold Graph.getTop; rw [htp]
      rw [htop] at this
      exact getTop_mem_variables this
  -- the node label of `x` in `g`
  have hinst : instOf g.triples x = [i0] := by
    have hperm : (instOf g.triples x).Perm (instOf g'.triples x) := (hp.filter _).symm
    have hmem : i0 ∈ instOf g.triples x := by
      apply hperm.symm.subset
      simp only [instOf, List.mem_filter, decide_eq_true_eq]
      exact ⟨hi0m, hi0r, hi0s⟩
    have hnd : ((instOf g.triples x).map (·.src)).Nodup := by
      have hsub : (instOf g.triples x).Sublist (g.triples.filter (fun t => t.role = CONCEPT_ROLE)) := by
        unfold instOf
        have : g.triples.filter (fun t => decide (t.role = CONCEPT_ROLE ∧ t.src = x)) =
            (g.triples.filter (fun t => t.role = CONCEPT_ROLE)).filter (fun t => decide (t.src = x)) := by
          rw [List.filter_filter]
          apply List.filter_congr
          intro t _
          simp [Bool.decide_and, Bool.and_comm]
        rw [this]; exact List.filter_sublist
      exact List.Nodup.sublist (hsub.map _) hone
    match hio : instOf g.triples x, hmem, hnd with
    | [c], hmem, _ =>
      simp only [List.mem_singleton] at hmem; rw [hmem]
    | c :: d :: r, _, hnd =>
      exfalso
      have hc : c ∈ instOf g.triples x := by rw [hio]; simp
      have hdm : d ∈ instOf g.triples x := by rw [hio]; simp
      simp only [instOf, List.mem_filter, decide_eq_true_eq] at hc hdm
      simp only [List.map_cons, List.nodup_cons, List.mem_cons, not_or] at hnd
      exact hnd.1.1 (hc.2.2.trans hdm.2.2.symm)
  have hcg : Collapsible m g x i0 := by
    rcases perm_pair hoth with h1 | h1
    · exact ⟨a, b, h1, hfix', hder, s, role, tgt, hd, hsg⟩
    · exact ⟨b, a, h1, hfix', hder, s, role, tgt,
        by rw [dereify_swap hm i0 a b]; exact hd, hsg⟩
  obtain ⟨ag, hag⟩ := (entryRes_skip_or hm).2 hcg
  have hmemp : (x, i0) ∈ (agendaScan g).2.1 := by
    apply AList.mem_of_get?
    rw [agendaScan_inst, hinst]; rfl
  have := h (x, i0) hmemp
  simp only at this
  rw [this] at hag; cases hag

end C20gen
end Penman
