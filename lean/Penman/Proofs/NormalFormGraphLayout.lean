/-
  Penman.Proofs.NormalFormGraphLayout — KEY LEMMA of the graph half of the normal-form clause:
  everything `configure` prints is again in the domain of C02.  Texts without alignment are read back as
  themselves by `_process_role` / `_process_atomic`; every edge of the final store is layout-valid
  (`EdgeLay`), `/` at most in first position (`cells_lay`), so `buildNode` yields a tree whose written form
  satisfies `wfNodeB` (Spec/WfLayout.lean) and has no empty concept slot (`build_lay`); the denoted triples
  are pairwise distinct (`decode_written`) and variables are defined once: `configured_wfLayout`; with C02:
  `configured_fixed_point`.  `Cfg` is the namespace of the `configure` development (Spec/Configure.lean).
-/
import Penman.Proofs.NormalFormGraphLoop
import Penman.Proofs.EncodeDecode
import Penman.Proofs.Interpret
import Penman.Props.C02
import Penman.Proofs.NormalFormLayout

namespace Penman
namespace Cfg
open Penman.C20gen Penman.C03Text Penman.Spec.Reading

variable (isAlpha : Char → Bool)

theorem processRole_plain {r : Str} (hr : r ≠ ['/']) (ht : '~' ∉ r) : processRole isAlpha r = .ok (r, []) := by
  rw [Interp.processRole_eq, roleAlnText_plain ht, roleName_plain ht]
  simp [parseAln?, Except.map, slashRole, hr]

theorem processAtomic_plain {s : Str} (h : TextOK s) : processAtomic isAlpha (.str s) = .ok (.str s, []) := by
  rw [Interp.processAtomic_str, splitTarget_ok h]
  simp [parseAln?, Except.map, Interp.tgtEpis]

theorem ne_slash_of_colon {r : Str} (hc : r.head? = some ':') : r ≠ ['/'] := by
  intro h; rw [h] at hc; simp at hc

theorem startsWith_colon {r : Str} (hc : r.head? = some ':') : startsWith [':'] r = true := by
  cases r with
  | nil => simp at hc
  | cons c cs => simp at hc; subst hc; simp [startsWith, List.isPrefixOf]

/-- a role as the graphs of C03 carry it (colon, no `~`, inversion-canonical, neither it nor its
    inversion is `:instance`) is a layout-valid role text -/
theorem roleOk_of_good {m : Model} (hw : ModelWf m) {r : Str} (hc : r.head? = some ':') (ht : '~' ∉ r)
    (hcan : m.canonInversion r = some r) (h1 : r ≠ CONCEPT_ROLE) (h2 : m.invertRole r ≠ CONCEPT_ROLE) :
    roleOk isAlpha m r = true ∧ roleCore isAlpha r = r := by
  have hp := processRole_plain isAlpha (ne_slash_of_colon hc) ht
  refine ⟨?_, by simp [roleCore, hp]⟩
  unfold roleOk
  rw [hp]
  simp [startsWith_colon hc, h1, h2, (C13.inv_involutive hw hcan).1, episText]

theorem atomOk_none : atomOk isAlpha .none = true ∧ atomCore isAlpha .none = .none := by
  simp [atomOk, atomCore, processAtomic]

theorem atomOk_str {s : Str} (h : TextOK s) (hne : s ≠ []) :
    atomOk isAlpha (.str s) = true ∧ atomCore isAlpha (.str s) = .str s := by
  have hp := processAtomic_plain isAlpha h
  refine ⟨?_, by simp [atomCore, hp]⟩
  unfold atomOk
  rw [hp]
  cases s with
  | nil => exact absurd rfl hne
  | cons c cs => simp

/-- a target of a well-formed graph, in written form, is a layout-valid atom read back as itself -/
theorem atomOk_written {a : Atom} (h1 : TgtOK a) (h2 : a ≠ .str []) (h3 : NumTextOK a) :
    atomOk isAlpha (writtenAtom a) = true ∧ atomCore isAlpha (writtenAtom a) = writtenAtom a := by
  cases a with
  | none => exact atomOk_none isAlpha
  | str s => exact atomOk_str isAlpha h1 (fun h => h2 (by rw [h]))
  | num s => exact atomOk_str isAlpha (Or.inl h3.2) h3.1

variable (m : Model)

/-- an edge of the cell of `v` that is layout-valid -/
def EdgeLay (v : Str) (e : Edge) : Prop :=
  e.epis = [] ∧
  (e.role = ['/'] → ∃ a, e.tgt = .atom a ∧ atomOk isAlpha (writtenAtom a) = true ∧ writtenAtom a ≠ .none) ∧
  (e.role ≠ ['/'] → roleOk isAlpha m e.role = true ∧ roleCore isAlpha e.role = e.role ∧
    ∀ a, e.tgt = .atom a → atomOk isAlpha (writtenAtom a) = true ∧
      atomCore isAlpha (writtenAtom a) = writtenAtom a ∧
      (writtenAtom a = .str v → m.isRoleInverted e.role = false))

structure CellLay (v : Str) (es : List Edge) : Prop where
  tail : ∀ e r, es = e :: r → ∀ x ∈ r, x.role ≠ ['/']
  edge : ∀ e ∈ es, EdgeLay isAlpha m v e

theorem branches_lay (C : Cells) (f : Nat) (v : Str)
    (hP : ∀ f' w n, f = f' + 1 → buildNode C f' w = .ok n →
      Penman.wfNodeB isAlpha m (writtenForm n) = true ∧ noNullN (writtenForm n) = true) :
    ∀ (es : List Edge) (bs : Branches), (∀ e ∈ es, EdgeLay isAlpha m v e ∧ e.role ≠ ['/']) →
      buildBranches C f es = .ok bs →
      wfBranchesB isAlpha m v (writtenBs bs) = true ∧ noNullB (writtenBs bs) = true := by
  intro es
  induction es with
  | nil =>
    intro bs _ h
    simp only [buildBranches, Except.ok.injEq] at h; subst h
    exact ⟨rfl, rfl⟩
  | cons e es ih =>
    intro bs hes h
    simp only [buildBranches] at h
    cases hrest : buildBranches C f es with
    | error x => rw [hrest] at h; simp [bind, Except.bind] at h
    | ok rest =>
      rw [hrest] at h
      simp only [bind, Except.bind] at h
      obtain ⟨i1, i2⟩ := ih rest (fun e' he' => hes e' (List.mem_cons_of_mem _ he')) hrest
      obtain ⟨⟨hep, _, hE⟩, hns⟩ := hes e List.mem_cons_self
      obtain ⟨hr, hcore, ha⟩ := hE hns
      cases htg : e.tgt with
      | atom a =>
        rw [htg] at h
        simp only [pure, Except.pure, Except.ok.injEq] at h
        subst h
        obtain ⟨a1, a2, a3⟩ := ha a htg
        have hloop : (deinverts m e.role && decide (writtenAtom a = Atom.str v)) = false := by
          by_cases hv : writtenAtom a = .str v
          · simp [deinverts, a3 hv]
          · simp [hv]
        simp [hep, applyEpis, writtenBs, NF.wfBranchesB_atom, NF.noNullB_atom, hr, hcore, a1, a2, hloop, i1, i2, hns]
      | node w =>
        rw [htg] at h
        cases f with
        | zero => simp at h
        | succ f1 =>
          simp only [] at h
          cases hnode : buildNode C f1 w with
          | error x => rw [hnode] at h; simp at h
          | ok n =>
            rw [hnode] at h
            simp only [pure, Except.pure, Except.ok.injEq] at h
            subst h
            obtain ⟨p1, p2⟩ := hP f1 w n rfl hnode
            simp [hep, applyEpis, writtenBs, NF.wfBranchesB_sub, NF.noNullB_sub, hr, p1, p2, i1, i2]

/-- **store → layout-valid tree without empty concept slot** -/
theorem build_lay (C : Cells) (hC : ∀ p ∈ C, CellLay isAlpha m p.1 p.2) : ∀ (f : Nat) (v : Str) (n : Node),
    buildNode C f v = .ok n →
    Penman.wfNodeB isAlpha m (writtenForm n) = true ∧ noNullN (writtenForm n) = true := by
  intro f
  induction f using Nat.strongRecOn with
  | _ f ih =>
    intro v n h
    cases f with
    | zero => simp [buildNode] at h
    | succ f0 =>
      simp only [buildNode] at h
      cases hb : buildBranches C f0 ((AList.get? C v).getD []) with
      | error e => rw [hb] at h; simp [bind, Except.bind] at h
      | ok bs =>
        rw [hb] at h
        simp only [bind, Except.bind, pure, Except.pure, Except.ok.injEq] at h
        subst h
        have hcell : CellLay isAlpha m v (cellOf C v) := by
          rcases cellOf_cases C v with h1 | h1
          · rw [h1]; exact ⟨fun e r h => (by cases h), fun e he => absurd he (by simp)⟩
          · exact hC _ h1
        have hQ := branches_lay isAlpha m C f0 v (fun f' w n' e hb' => ih f' (by omega) w n' hb')
        change buildBranches C f0 (cellOf C v) = .ok bs at hb
        cases hes : cellOf C v with
        | nil =>
          rw [hes] at hb; simp only [buildBranches, Except.ok.injEq] at hb; subst hb
          simp [writtenForm, writtenBs, NF.wfNodeB_nil, NF.noNullN_mk, NF.noNullB_nil]
        | cons e r =>
          rw [hes] at hb hcell
          have htail := hcell.tail e r rfl
          by_cases hs : e.role = ['/']
          · obtain ⟨hep, hS, _⟩ := hcell.edge e List.mem_cons_self
            obtain ⟨a, hta, hab, hnn⟩ := hS hs
            simp only [buildBranches] at hb
            cases hrest : buildBranches C f0 r with
            | error x => rw [hrest] at hb; simp [bind, Except.bind] at hb
            | ok rest =>
              rw [hrest] at hb
              simp only [bind, Except.bind, hta, pure, Except.pure, Except.ok.injEq] at hb
              subst hb
              obtain ⟨i1, i2⟩ := hQ r rest
                (fun x hx => ⟨hcell.edge x (List.mem_cons_of_mem _ hx), htail x hx⟩) hrest
              simp [hep, applyEpis, hs, writtenForm, writtenBs, NF.wfNodeB_atom, NF.noNullN_mk, NF.noNullB_atom, hab, hnn, i1, i2]
          · obtain ⟨i1, i2⟩ := hQ (e :: r) bs (fun x hx => ⟨hcell.edge x hx, by
              rcases List.mem_cons.1 hx with rfl | hx
              · exact hs
              · exact htail x hx⟩) hb
            exact ⟨by simpa [writtenForm] using NF.wfNodeB_of_branches isAlpha m v _ i1,
              by simpa [writtenForm, NF.noNullN_mk] using i2⟩

/-- **every cell of the store of an encoded graph is layout-valid** -/
theorem cells_lay {m : Model} {g : Graph} {t : Str} {T : Tree} {st : St} {l : List Triple}
    (hw : ModelWf m) (hg : WfGraph m g) (hL : LayoutOK m g) (E : Encoded m g t T st l) :
    ∀ p ∈ st.cells, CellLay isAlpha m p.1 p.2 := by
  have hr2 : ∀ x ∈ g.triples, RoleOK2 m x := fun x hx => roleOK2_of_colon m x (hg.roles x hx).1
  have hsq := storeOf_sq hr2 E.store
  have hsl := storeOf_sl hL.selfLoop E.store
  -- an edge of the store denotes a graph triple or its inversion (`E.version`); role and target of
  -- that triple are good by `WfGraph` and `LayoutOK`, and inverting swaps in the source, a variable
  have hedge : ∀ p ∈ st.cells, ∀ e ∈ p.2, EdgeLay isAlpha m p.1 e := by
    intro p hp e he
    have hx : Cfg.denote p.1 e ∈ placed st.cells := by
      simp only [placed, List.mem_flatMap, List.mem_map]; exact ⟨p, hp, e, he, rfl⟩
    have hxl := E.perm.symm.subset hx
    obtain ⟨t0, ht0, hv⟩ := E.version _ hxl
    have hgood := goodT_of_version hw hg ht0 hv
    obtain ⟨hnc, hep⟩ := E.plain p hp e he
    refine ⟨hep, ?_, ?_⟩
    · intro hs
      obtain ⟨a, ha⟩ := slashOK_mem (hsq p hp) he hs
      refine ⟨a, ha, ?_⟩
      have hden : Cfg.denote p.1 e = ⟨p.1, CONCEPT_ROLE, a⟩ := by simp [Cfg.denote, hs, ha]
      have hx0 : Cfg.denote p.1 e = t0 := by
        rcases hv with hv | ⟨hv, _, hr0⟩
        · exact hv
        · exfalso
          have : (m.invert t0).role = CONCEPT_ROLE := by rw [← hv, hden]
          rw [invert_role] at this
          exact (hg.noInstOf t0 ht0 hr0).1 this
      have hta : t0.tgt = a := by rw [← hx0, hden]
      have hmiss : a.isMissing = false := by
        cases hm : a.isMissing with
        | false => rfl
        | true => exact absurd ⟨by rw [hden], by rw [hden]; exact hm⟩ (E.notNull _ hxl)
      have hne : a ≠ .str [] := by intro h; rw [h] at hmiss; simp [Atom.isMissing] at hmiss
      have hnn : a ≠ .none := by intro h; rw [h] at hmiss; simp [Atom.isMissing] at hmiss
      refine ⟨(atomOk_written isAlpha (by rw [← hta]; exact hg.tgts t0 ht0) hne
        (by rw [← hta]; exact hL.numOK t0 ht0)).1, ?_⟩
      cases a with
      | none => exact absurd rfl hnn
      | str s => simp [writtenAtom]
      | num s => simp [writtenAtom]
    · intro hs
      have hrole : (Cfg.denote p.1 e).role = e.role := by simp [Cfg.denote, hs]
      have hinv : m.invertRole e.role ≠ CONCEPT_ROLE := by
        rcases hv with hv | ⟨hv, _, hr0⟩
        · have e1 : t0.role = e.role := by rw [← hv, hrole]
          rw [← e1]; exact (hg.noInstOf t0 ht0 (by rw [e1]; exact hnc)).1
        · have e1 : m.invertRole t0.role = e.role := by rw [← invert_role, ← hv, hrole]
          rw [← e1]; exact (hg.noInstOf t0 ht0 hr0).2
      obtain ⟨r1, r2⟩ := roleOk_of_good isAlpha hw (by rw [← hrole]; exact hgood.colon)
        (by rw [← hrole]; exact hgood.roleTilde) (by rw [← hrole]; exact hgood.canon) hnc hinv
      refine ⟨r1, r2, ?_⟩
      intro a ha
      have htg : (Cfg.denote p.1 e).tgt = a := by simp [Cfg.denote, ha]
      have hok : TgtOK a ∧ a ≠ .str [] ∧ NumTextOK a := by
        rcases hv with hv | ⟨hv, _, _⟩
        · have : t0.tgt = a := by rw [← hv, htg]
          rw [← this]; exact ⟨hg.tgts t0 ht0, hL.tgtNonEmpty t0 ht0, hL.numOK t0 ht0⟩
        · have : a = .str t0.src := by rw [← htg, hv, invert_tgt]
          rw [this]
          refine ⟨Or.inl (hg.srcs t0 ht0), ?_, trivial⟩
          intro h; injection h with h; exact hL.srcNonEmpty t0 ht0 h
      obtain ⟨a1, a2⟩ := atomOk_written isAlpha hok.1 hok.2.1 hok.2.2
      exact ⟨a1, a2, fun hself => hsl p hp e he a ha hself⟩
  intro p hp
  refine ⟨?_, hedge p hp⟩
  intro e r hes
  exact Al.slash_only_first ((wfGraph_iff m g).1 hg).1 hL.oneLabel (E.toAl hr2) hp hes

end Cfg

namespace C20gen
open Penman.Cfg Penman.C03Text

theorem nodup_of_map {α β : Type} (f : α → β) {l : List α} (h : (l.map f).Nodup) : l.Nodup := by
  unfold List.Nodup at h ⊢
  rw [List.pairwise_map] at h
  exact h.imp (fun hab e => hab (by rw [e]))

/-- `LayoutOK.numOK` in the form `decode_written` takes it -/
theorem numOK_tilde {m : Model} {g : Graph} (hL : LayoutOK m g) :
    ∀ x ∈ g.triples, ∀ s, x.tgt = .num s → '~' ∉ s := by
  intro x hx s hs
  have := hL.numOK x hx
  rw [hs] at this
  exact this.2

/-- **KEY LEMMA.**  Whatever `configure` prints for a well-formed graph (any top, any layout markers)
    is again in the domain of C02: the written form of the configured tree (numbers as their text — the
    tree the parser gives back) is `WfLayout`, has no empty concept slot, and carries the graph's
    metadata. -/
theorem configured_wfLayout (isAlpha : Char → Bool) {m : Model} {g : Graph} {top : Option Str} {T : Tree}
    (hw : ModelWf m) (hnoop : m.noop = false) (hg : WfGraph m g) (hL : LayoutOK m g) (hpv : Cfg.PushVars g)
    (h : configure m g top = .ok T) :
    WfLayout isAlpha m (writtenForm T.node) ∧ noNullN (writtenForm T.node) = true ∧
    T.metadata = g.metadata := by
  obtain ⟨t, st, l, _, _, E⟩ := encoded_of_ok hw hg hpv h
  have hr2 : ∀ x ∈ g.triples, RoleOK2 m x := fun x hx => roleOK2_of_colon m x (hg.roles x hx).1
  obtain ⟨_, hvars, _, hnd, _⟩ := storeOf_tree hr2 E.store E.build
  obtain ⟨b1, b2⟩ := build_lay isAlpha m st.cells (cells_lay isAlpha hw hg hL E) _ t T.node E.build
  obtain ⟨g', hg', _, _, hperm, _, _⟩ := decode_written isAlpha hw hnoop hg (numOK_tilde hL) E
  refine ⟨⟨b1, ?_, ?_⟩, b2, E.metaEq⟩
  · rw [writtenForm_vars]; exact (hvars.nodup_iff).2 hnd
  · -- the denoted triples are pairwise distinct
    have hnd' : g'.triples.Nodup := by
      have : (g'.triples.map (deinvert1 m g)).Nodup := (hperm.nodup_iff).2 hL.distinct
      exact nodup_of_map _ this
    unfold distinctTriplesB
    unfold interpret at hg'
    cases hi : interpretNode isAlpha m (writtenForm T.node).vars (writtenForm T.node) with
    | error e => simp [hi, bind, Except.bind] at hg'
    | ok r =>
      obtain ⟨ts, ep⟩ := r
      simp only [hi, bind, Except.bind, pure, Except.pure, Except.ok.injEq] at hg'
      subst hg'
      simp only [Graph.mk'] at hnd'
      simpa using nodup_of_map _ hnd'

/-- **COROLLARY (tree level).**  The tree `configure` prints is a fixed point of decode-then-encode:
    interpreting its written form `W` (what parsing the text returns) and configuring the result from
    its own top gives `W` again. -/
theorem configured_fixed_point (isAlpha : Char → Bool) {m : Model} {g : Graph} {top : Option Str} {T : Tree}
    (hw : ModelWf m) (hnoop : m.noop = false) (hg : WfGraph m g) (hL : LayoutOK m g) (hpv : Cfg.PushVars g)
    (hmd : MetaDict g.metadata) (h : configure m g top = .ok T) :
    ∃ g', interpret isAlpha m ⟨writtenForm T.node, T.metadata⟩ = .ok g' ∧
      configure m g' none = .ok ⟨writtenForm T.node, T.metadata⟩ := by
  obtain ⟨hl, hnn, hme⟩ := configured_wfLayout isAlpha hw hnoop hg hL hpv h
  obtain ⟨g', h1, h2⟩ := C02P.C02_layout isAlpha m ⟨writtenForm T.node, T.metadata⟩ hl (by rw [hme]; exact hmd)
  refine ⟨g', h1, ?_⟩
  rw [h2, C02P.dropNull_id _ hnn]

end C20gen
end Penman
