/-
  Penman.Proofs.NormalFormGraphLoop — an invariant of the cell store of `configure`:
  an atomic edge of the cell of `v` whose target is `v` itself (a self-loop `(v :R v)`) is written
  with a role that is not inverted, provided the self-loop triples of the graph have non-inverted
  roles and carry no `Push(source)` marker (`storeOf_sl`).  `preconfigure` inverts a triple only for a
  `Push(source)` marker it really carries (`preconfigure_origin`); `configureNode` / `findNext` /
  `configureLoop` never create a self-loop edge from a triple that is not one (`sl_cn`, `sl_loop`).
-/
import Penman.Proofs.ConfiguredTreeWf
import Penman.Proofs.InterpretGraph
import Penman.Spec.NormalFormGraph

namespace Penman
namespace Cfg
open Penman.C20gen Penman.C03Text

/-- the datum triple `tr` made from the graph triple `orig` with marker list `all` -/
def Origin (m : Model) (orig : Triple) (all : List Epi) (tr : Triple) : Prop :=
  tr = orig ∨ (Epi.push orig.src ∈ all ∧ (∃ b, orig.tgt = .str b) ∧ orig.role ≠ CONCEPT_ROLE ∧ tr = m.invert orig)

theorem preconfEpis_origin (m : Model) (orig : Triple) (all : List Epi) : ∀ es tr push epis pops pushed r,
    (∀ e ∈ es, e ∈ all) → (tr = orig ∨ (orig.src ∈ pushed ∧ Origin m orig all tr)) →
    preconfEpis m orig es tr push epis pops pushed = .ok r → Origin m orig all r.1 := by
  intro es tr push epis pops pushed
  fun_induction preconfEpis m orig es tr push epis pops pushed <;> intro r hall hinv h
  · simp only [Except.ok.injEq] at h; subst h
    rcases hinv with rfl | ⟨_, h⟩
    · exact Or.inl rfl
    · exact h
  · rename_i ih; exact ih r (fun e he => hall e (List.mem_cons_of_mem _ he)) hinv h
  · rename_i ih; exact ih r (fun e he => hall e (List.mem_cons_of_mem _ he)) hinv h
  · rename_i rest tr push epis pops pushed s htg hnp hcond ih
    apply ih r (fun e he => hall e (List.mem_cons_of_mem _ he)) _ h
    right
    have htr : tr = orig := by
      rcases hinv with h | ⟨h, _⟩
      · exact h
      · exact absurd h hnp
    subst htr
    refine ⟨by simp, Or.inr ⟨?_, ⟨s, htg⟩, ?_, rfl⟩⟩
    · exact hall _ List.mem_cons_self
    · intro hc; exact hcond (Or.inr hc)
  · simp at h
  · rename_i ih
    apply ih r (fun e he => hall e (List.mem_cons_of_mem _ he)) _ h
    rcases hinv with h | ⟨h1, h2⟩
    · exact Or.inl h
    · exact Or.inr ⟨List.mem_cons_of_mem _ h1, h2⟩
  · rename_i ih; exact ih r (fun e he => hall e (List.mem_cons_of_mem _ he)) hinv h
  · rename_i ih; exact ih r (fun e he => hall e (List.mem_cons_of_mem _ he)) hinv h

/-- every triple datum comes from a graph triple, inverted only for a `Push(source)` it carries -/
theorem preconfigure_origin (m : Model) (ep : Epidata) : ∀ ts pushed data,
    preconfigure m ep ts pushed = .ok data →
    ∀ tr p es, Datum.t tr p es ∈ data → ∃ orig ∈ ts, Origin m orig ((AList.get? ep orig).getD []) tr := by
  intro ts
  induction ts with
  | nil => intro pushed data h tr p es hm; simp [preconfigure] at h; subst h; simp at hm
  | cons t ts ih =>
    intro pushed data h tr p es hm
    simp only [preconfigure] at h
    cases h1 : preconfEpis m t ((AList.get? ep t).getD []) t false [] 0 pushed with
    | error e1 => rw [h1] at h; simp [bind, Except.bind] at h
    | ok r =>
      obtain ⟨tr', push, epis, pops, pushed'⟩ := r
      rw [h1] at h
      simp only [bind, Except.bind] at h
      cases h2 : preconfigure m ep ts pushed' with
      | error e2 => rw [h2] at h; simp at h
      | ok more =>
        rw [h2] at h
        simp only [pure, Except.pure, Except.ok.injEq] at h
        subst h
        rcases List.mem_cons.1 hm with hm | hm
        · cases hm
          exact ⟨t, List.mem_cons_self,
            preconfEpis_origin m t _ _ _ _ _ _ _ _ (fun _ he => he) (Or.inl rfl) h1⟩
        rcases List.mem_append.1 hm with hm | hm
        · have := (List.mem_replicate.1 hm).2; cases this
        · obtain ⟨o, ho, hO⟩ := ih _ _ h2 tr p es hm
          exact ⟨o, List.mem_cons_of_mem _ ho, hO⟩

/-- a self-loop datum has a role that is not inverted -/
def LoopData (m : Model) (l : List Datum) : Prop :=
  ∀ tr p es, Datum.t tr p es ∈ l → writtenAtom tr.tgt = .str tr.src → m.isRoleInverted tr.role = false

/-- a self-loop edge (atomic target = the variable of its own cell) has a role that is not inverted -/
def SLes (m : Model) (v : Str) (es : List Edge) : Prop :=
  ∀ e ∈ es, ∀ a, e.tgt = .atom a → writtenAtom a = .str v → m.isRoleInverted e.role = false

def SL (m : Model) (c : Cells) : Prop := ∀ p ∈ c, SLes m p.1 p.2

theorem slash_not_inverted (m : Model) : m.isRoleInverted ['/'] = false := by
  unfold Model.isRoleInverted
  have : endsWith ofStr ['/'] = false := by decide
  simp [this]

theorem sl_set {m : Model} {c : Cells} {k : Str} {es : List Edge} (h : SL m c) (hes : SLes m k es) :
    SL m (AList.set c k es) := by
  intro p hp
  rcases mem_set hp with h1 | h1
  · exact h p h1
  · subst h1; exact hes

theorem sl_cell {m : Model} {st : St} (h : SL m st.cells) (v : Str) : SLes m v (st.cell v) := by
  rcases cell_cases st v with h1 | h1
  · rw [h1]; intro e he; simp at he
  · exact h _ h1

theorem sl_addBack {m : Model} {st : St} {var : Str} {e : Edge} (h : SL m st.cells)
    (he : ∀ a, e.tgt = .atom a → writtenAtom a = .str var → m.isRoleInverted e.role = false) :
    SL m (st.addBack var e).cells := by
  apply sl_set h
  intro x hx
  rcases List.mem_append.1 hx with hx | hx
  · exact sl_cell h var x hx
  · simp only [List.mem_singleton] at hx; subst hx; exact he

theorem sl_addFront {m : Model} {st : St} {var : Str} {a : Atom} {epis : List Epi} (h : SL m st.cells) :
    SL m (st.addFront var ⟨['/'], .atom a, epis⟩).cells := by
  apply sl_set h
  intro x hx
  rcases List.mem_cons.1 hx with hx | hx
  · subst hx; intro _ _ _; exact slash_not_inverted m
  · exact sl_cell h var x hx

theorem sl_getOrEstablish {m : Model} {st : St} {v : Str} (h : SL m st.cells) : SL m (getOrEstablish st v).2.cells := by
  unfold getOrEstablish
  split
  · exact h
  · rename_i u _
    simp only []
    apply sl_set
    · apply sl_set h
      intro x hx a hxt hxa
      rcases establishIn_mem hx with hx' | hx'
      · exact sl_cell h u x hx' a hxt hxa
      · rw [hx'] at hxt; cases hxt
    · intro e he; simp at he
  · exact h

/-- one attempt of `findNext` to resume at the variable `v` -/
theorem sl_try {m : Model} {st : St} (c : Bool) (v : Str) (h : SL m st.cells) :
    SL m (if c then getOrEstablish st v else (false, st)).2.cells := by
  split
  · exact sl_getOrEstablish h
  · exact h

theorem sl_findNext {m : Model} : ∀ data rev st, SL m st.cells → SL m (findNext data rev st).2.2.2.cells := by
  intro data rev st
  fun_induction findNext data rev st <;> intro h
  · exact h
  · exact h
  · rename_i ih; exact ih h
  · exact sl_try _ _ h
  · exact sl_try _ _ (sl_try _ _ h)
  · rename_i ih; exact ih (sl_try _ _ (sl_try _ _ h))
  · rename_i ih; exact ih (sl_try _ _ h)

/-- the orientation step never makes a self-loop out of a triple that is not one -/
theorem orient_loop {m : Model} {var : Str} {tr : Triple} {push s : Bool} {role : Str} {target : Atom}
    {push' s' : Bool} (h : orient m var tr push s = some (role, target, push', s'))
    (ht : writtenAtom target = .str var) : role = tr.role ∧ writtenAtom tr.tgt = .str tr.src := by
  unfold orient at h
  split at h
  · rename_i h1
    simp only [Option.some.injEq, Prod.mk.injEq] at h
    obtain ⟨rfl, rfl, _, _⟩ := h
    exact ⟨rfl, by rw [ht, h1]⟩
  · rename_i hne
    split at h
    · rename_i h2
      simp only [Option.some.injEq, Prod.mk.injEq] at h
      obtain ⟨_, h3, _, _⟩ := h
      exfalso
      rw [invert_tgt] at h3
      rw [← h3] at ht
      simp only [writtenAtom, Atom.str.injEq] at ht
      exact hne ht
    · simp at h

/-- `configureNode` puts into the cell of `var` only what `orient` returns; by `orient_loop` that is a
    self-loop only if the triple was one, and then `LoopData` gives the role -/
theorem sl_cn (m : Model) : ∀ f var data st s, SL m st.cells → LoopData m data →
    SL m (configureNode m f var data st s).2.1.cells := by
  intro f
  induction f with
  | zero => intro var data st s h _; exact h
  | succ f ih =>
    intro var data st s h hd
    cases data with
    | nil => exact h
    | cons d data =>
      cases d with
      | pop => exact h
      | t tr push epis =>
        have hd' : LoopData m data := fun tr p es hm => hd tr p es (List.mem_cons_of_mem _ hm)
        have hrt := hd tr push epis List.mem_cons_self
        simp only [configureNode]
        split
        · exact h
        · rename_i role target push' s' hor
          split
          · split
            · exact ih _ _ _ _ h hd'
            · exact ih _ _ _ _ (sl_addFront h) hd'
          · split
            · rename_i v hp
              have h1 : SL m (st.newCell v).cells := sl_set h (fun e he => by simp at he)
              have h2 := ih v data (st.newCell v) false h1 hd'
              have hd2 : LoopData m (configureNode m f v data (st.newCell v) false).1 :=
                fun tr p es hm => hd' tr p es ((cn_suffix m f v data (st.newCell v) false).subset hm)
              exact ih _ _ _ _ (sl_addBack h2 (fun a he => by cases he)) hd2
            · have h1 : SL m (st.noteSite var target).cells := by rw [cells_noteSite]; exact h
              refine ih _ _ _ _ (sl_addBack h1 ?_) hd'
              intro a he ha
              simp only [ETgt.atom.injEq] at he
              subst he
              obtain ⟨e1, e2⟩ := orient_loop hor ha
              rw [e1]; exact hrt e2

theorem sl_round {m : Model} {a b} (h : Round m a b) (hp : SL m a.2.2.cells)
    (hd : LoopData m a.1) (hs : LoopData m a.2.1) : SL m b.2.2.cells ∧ LoopData m b.1 ∧ LoopData m b.2.1 := by
  cases h with
  | @skip data skipped st sk v st1 tr push epis rest hfn ho =>
    obtain ⟨hcat, _⟩ := findNext_some _ _ _ hfn
    simp only [List.reverse_nil, List.nil_append] at hcat
    have := sl_findNext data [] st hp
    rw [hfn] at this
    refine ⟨this, ?_, ?_⟩
    · intro tr' p es hm
      apply hd tr' p es; rw [← hcat]
      exact List.mem_append_right _ (List.mem_cons_of_mem _ ((stripPops_suffix rest).subset hm))
    · intro tr' p es hm
      simp only [List.mem_append, List.mem_singleton] at hm
      rcases hm with (hm | hm) | hm
      · apply hd tr' p es; rw [← hcat]; exact List.mem_append_left _ hm
      · exact hs tr' p es hm
      · apply hd tr' p es; rw [← hcat, hm]; simp
  | @prog data skipped st sk v st1 tr push epis rest hfn ho =>
    obtain ⟨hcat, _⟩ := findNext_some _ _ _ hfn
    simp only [List.reverse_nil, List.nil_append] at hcat
    have h1 := sl_findNext data [] st hp
    rw [hfn] at h1
    have hd1 : LoopData m (.t tr push epis :: rest) := by
      intro tr' p es hm; apply hd tr' p es; rw [← hcat]; exact List.mem_append_right _ hm
    refine ⟨sl_cn m _ v _ st1 false h1 hd1, ?_, fun _ _ _ hm => by simp at hm⟩
    intro tr' p es hm
    have := (stripPops_suffix _).subset hm
    simp only [List.mem_append] at this
    rcases this with h | h | h
    · exact hd1 tr' p es ((cn_suffix _ _ _ _ _ _).subset h)
    · apply hd tr' p es; rw [← hcat]; exact List.mem_append_left _ h
    · exact hs tr' p es h

theorem sl_loop (m : Model) : ∀ fuel data skipped st st', SL m st.cells → LoopData m data → LoopData m skipped →
    configureLoop m fuel data skipped st = .ok st' → SL m st'.cells := by
  intro fuel
  induction fuel with
  | zero => intro data skipped st st' _ _ _ h; simp [configureLoop] at h
  | succ fuel ih =>
    intro data skipped st st' hp hd hs h
    cases data with
    | nil =>
      simp only [configureLoop] at h
      split at h
      · simp only [Except.ok.injEq] at h; subst h; exact hp
      · simp at h
    | cons d data =>
      rcases loop_cases m d data skipped st with ⟨_, e⟩ | ⟨nx, hround, e⟩
      · rw [e] at h; simp at h
      · rw [e] at h
        obtain ⟨p1, d1, s1⟩ := sl_round hround hp hd hs
        exact ih _ _ _ _ p1 d1 s1 h

/-- in the final store, no self-loop edge has an inverted role -/
theorem storeOf_sl {m : Model} {g : Graph} {top : Str} {st : St}
    (hloop : ∀ t ∈ g.triples, t.role ≠ CONCEPT_ROLE → writtenAtom t.tgt = .str t.src →
      m.isRoleInverted t.role = false ∧ hasPush t.src ((AList.get? g.epidata t).getD []) = false)
    (h : storeOf m g top = .ok st) : SL m st.cells := by
  unfold storeOf at h
  cases hp : preconfigure m g.epidata g.triples [] with
  | error e1 => rw [hp] at h; simp [Except.bind] at h
  | ok data =>
    rw [hp] at h
    simp only [Except.bind] at h
    have horg := preconfigure_origin m _ _ _ _ hp
    have hd : LoopData m data := by
      intro tr p es hm hself
      obtain ⟨orig, ho, hO⟩ := horg tr p es hm
      rcases hO with rfl | ⟨hpush, ⟨b, hb⟩, hr, rfl⟩
      · by_cases hc : tr.role = CONCEPT_ROLE
        · rw [hc]; exact Interp.not_inverted_concept m
        · exact (hloop tr ho hc hself).1
      · exfalso
        rw [invert_tgt, invert_src m orig b hb] at hself
        have hbs : orig.src = b := by simpa [writtenAtom] using hself
        have := (hloop orig ho hr (by rw [hb, hbs]; rfl)).2
        simp only [hasPush, List.contains_eq_mem, decide_eq_false_iff_not] at this
        exact this hpush
    have h0 : SL m (st0 g top).cells := by
      intro p hp; simp [st0] at hp; subst hp; intro e he; simp at he
    have h1 := sl_cn m (data.length + 1) top data (st0 g top) false h0 hd
    have hd1 : LoopData m (stripPops (configureNode m (data.length + 1) top data (st0 g top) false).1) :=
      fun tr p es hm => hd tr p es ((cn_suffix _ _ _ _ _ _).subset ((stripPops_suffix _).subset hm))
    exact sl_loop m _ _ _ _ _ h1 hd1 (fun _ _ _ hm => by simp at hm) h

end Cfg
end Penman
