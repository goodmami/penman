/-
  Penman.Proofs.NormalFormGraphReset — `reset_variables` is idempotent on trees whose variables are
  defined once: relabelling the relabelled tree changes nothing.  The new names depend only on the
  concept prefixes in depth-first order and on the template, and the relabelling touches neither
  (C10: `reset_shape`, `varmap_injective`).
-/
import Penman.Props.C10
namespace Penman
namespace RV

theorem renBranches_prefix (isAlpha : Char → Bool) (lower : Char → Str) (vm : AList Str Str) :
    ∀ bs : Branches, defaultPrefix isAlpha lower (renBranches vm bs).concept =
      defaultPrefix isAlpha lower bs.concept
  | .nil => rfl
  | .atom r a rest => by
    by_cases hr : r = ['/']
    · subst hr; simp [renBranches, Branches.concept, renAtom_concept]
    · simp only [renBranches, Branches.concept, hr, if_false]
      exact renBranches_prefix isAlpha lower vm rest
  | .sub r n rest => by
    by_cases hr : r = ['/']
    · subst hr; simp [renBranches, Branches.concept, defaultPrefix]
    · simp only [renBranches, Branches.concept, hr, if_false]
      exact renBranches_prefix isAlpha lower vm rest

/-- one node of the relabelled tree -/
def renNodeEntry (vm : AList Str Str) (p : Str × Branches) : Str × Branches := (renVar vm p.1, renBranches vm p.2)

mutual
theorem renNode_nodes (vm : AList Str Str) : ∀ n : Node, (renNode vm n).nodes = n.nodes.map (renNodeEntry vm)
  | .mk v bs => by
    have ih := renBranches_nodes vm bs
    cases v <;> simp [renNode, Node.nodes, ih, renNodeEntry]
theorem renBranches_nodes (vm : AList Str Str) : ∀ bs : Branches,
    (renBranches vm bs).nodes = bs.nodes.map (renNodeEntry vm)
  | .nil => rfl
  | .atom _ _ rest => by simpa [renBranches, Branches.nodes] using renBranches_nodes vm rest
  | .sub _ n rest => by
    simp [renBranches, Branches.nodes, renNode_nodes vm n, renBranches_nodes vm rest]
end

theorem get?_append_new (d e : AList Str Str) (k v : Str) (hk : k ∉ AList.keys d) :
    AList.get? (d ++ (k, v) :: e) k = some v := by
  induction d with
  | nil => simp [AList.get?]
  | cons p d ih =>
    simp only [AList.keys, List.map_cons, List.mem_cons, not_or] at hk
    have : ¬ p.1 = k := fun h => hk.1 h.symm
    simp only [List.cons_append, AList.get?, List.find?_cons, this, decide_false] at ih ⊢
    exact ih hk.2

theorem keys_append (d e : AList Str Str) : AList.keys (d ++ e) = AList.keys d ++ AList.keys e := by
  simp [AList.keys]

theorem avals_append (d e : AList Str Str) : avals (d ++ e) = avals d ++ avals e := by
  simp [avals]

/-- the diagonal map on the new names -/
def diag (vm : AList Str Str) : AList Str Str := vm.map fun e => (e.2, e.2)

theorem diag_append (d e : AList Str Str) : diag (d ++ e) = diag d ++ diag e := by simp [diag]

theorem keys_diag (vm : AList Str Str) : AList.keys (diag vm) = avals vm := by
  simp [diag, AList.keys, avals]

theorem get?_diag {vm : AList Str Str} {x y : Str} (h : AList.get? (diag vm) x = some y) : y = x := by
  have := mem_of_get? h
  simp only [diag, List.mem_map] at this
  obtain ⟨e, _, he⟩ := this
  injection he with h1 h2
  rw [← h1, ← h2]

/-- `buildVarmap` on the relabelled nodes, from a map `vm0'` whose keys are the new names in `vm0`: the
    prefixes and the list of used names are those of the first run, so the same names are picked again and
    `vm0'` grows by the diagonal of what the first run added to `vm0` -/
theorem buildVarmap_renamed {isAlpha : Char → Bool} {lower : Char → Str} {fmt : Fmt} (vmF : AList Str Str)
    (hvals : (avals vmF).Nodup) :
    ∀ (L : List (Str × Branches)) (vm0 : AList Str Str) (used0 : List Str) (vm0' : AList Str Str),
      buildVarmap isAlpha lower fmt L vm0 used0 = some vmF →
      (L.map (·.1)).Nodup → (∀ v ∈ L.map (·.1), v ∉ AList.keys vm0) →
      AList.keys vm0' = avals vm0 →
      ∃ E, vmF = vm0 ++ E ∧
        buildVarmap isAlpha lower fmt (L.map (renNodeEntry vmF)) vm0' used0 = some (vm0' ++ diag E) := by
  intro L
  induction L with
  | nil =>
    intro vm0 used0 vm0' h _ _ _
    simp only [buildVarmap, Option.some.injEq] at h
    exact ⟨[], by simp [h], by simp [buildVarmap, diag]⟩
  | cons p rest ih =>
    obtain ⟨v, bs⟩ := p
    intro vm0 used0 vm0' h hnd hfresh hkeys
    have hv : v ∉ AList.keys vm0 := hfresh v (by simp)
    have hc : AList.contains vm0 v = false := Bool.eq_false_iff.2 fun h => hv (contains_iff_mem_keys.1 h)
    simp only [buildVarmap, hc, Bool.false_eq_true, if_false] at h
    cases hpick : pickVar fmt (defaultPrefix isAlpha lower bs.concept) used0
        (if fmt.progressive = true then used0.length + 1 else 1) 0 with
    | none => rw [hpick] at h; cases h
    | some nv =>
      rw [hpick] at h
      simp only at h
      simp only [List.map_cons, List.nodup_cons] at hnd
      obtain ⟨E2, hE, hB⟩ := ih (vm0 ++ [(v, nv)]) (nv :: used0) (vm0' ++ [(nv, nv)]) h hnd.2
        (by
          intro w hw
          rw [keys_append]
          simp only [AList.keys, List.map_cons, List.map_nil, List.mem_append, List.mem_singleton, not_or]
          refine ⟨hfresh w (by simp [hw]), ?_⟩
          rintro rfl; exact hnd.1 hw)
        (by rw [keys_append, avals_append, hkeys]; rfl)
      refine ⟨(v, nv) :: E2, by rw [hE]; simp, ?_⟩
      have hF : vmF = vm0 ++ (v, nv) :: E2 := by rw [hE]; simp
      have hren : renVar vmF v = nv := by
        simp [renVar, hF, get?_append_new vm0 E2 v nv hv]
      have hc' : AList.contains vm0' nv = false := by
        cases hcc : AList.contains vm0' nv with
        | false => rfl
        | true =>
          exfalso
          have h1 : nv ∈ avals vm0 := by rw [← hkeys]; exact contains_iff_mem_keys.1 hcc
          rw [hF, avals_append] at hvals
          have := (List.nodup_append.1 hvals).2.2 nv h1 nv (by simp [avals])
          exact this rfl
      simp only [List.map_cons, renNodeEntry, hren, buildVarmap, hc', Bool.false_eq_true, if_false,
        renBranches_prefix, hpick]
      rw [hB]
      simp [diag]

theorem renVar_diag (vm : AList Str Str) (x : Str) : renVar (diag vm) x = x := by
  unfold renVar
  cases h : AList.get? (diag vm) x with
  | none => rfl
  | some y => simp [get?_diag h]

theorem renAtom_diag (vm : AList Str Str) (r : Str) (a : Atom) : renAtom (diag vm) r a = a := by
  cases a with
  | none => rfl
  | num t => rfl
  | str s =>
    by_cases hr : r = ['/']
    · subst hr; exact renAtom_concept _ _
    · cases h : AList.get? (diag vm) (alnStem s) with
      | none => exact renAtom_other h
      | some nv =>
        rw [renAtom_ref hr h, get?_diag h]
        congr 1
        exact (partition_tilde_spec s).1.symm

mutual
theorem renNode_diag (vm : AList Str Str) : ∀ n : Node, renNode (diag vm) n = n
  | .mk v bs => by
    cases v <;> simp [renNode, renBranches_diag vm bs, renVar_diag]
theorem renBranches_diag (vm : AList Str Str) : ∀ bs : Branches, renBranches (diag vm) bs = bs
  | .nil => rfl
  | .atom r a rest => by simp [renBranches, renAtom_diag, renBranches_diag vm rest]
  | .sub r n rest => by simp [renBranches, renNode_diag vm n, renBranches_diag vm rest]
end

mutual
theorem nodeAllVars_ren (vm : AList Str Str) : ∀ n : Node, nodeAllVars (renNode vm n) = nodeAllVars n
  | .mk v bs => by cases v <;> simp [renNode, nodeAllVars, branchesAllVars_ren vm bs]
theorem branchesAllVars_ren (vm : AList Str Str) : ∀ bs : Branches,
    branchesAllVars (renBranches vm bs) = branchesAllVars bs
  | .nil => rfl
  | .atom _ _ rest => by simpa [renBranches, branchesAllVars] using branchesAllVars_ren vm rest
  | .sub _ n rest => by
    simp [renBranches, branchesAllVars, nodeAllVars_ren vm n, branchesAllVars_ren vm rest]
end

/-- **`reset_variables` is idempotent** on a tree whose variables are defined once: relabelling the
    relabelled tree (same template) returns it unchanged. -/
theorem reset_idem (isAlpha : Char → Bool) (lower : Char → Str) (fmt : Fmt) (n n' : Node)
    (hnd : n.vars.Nodup) (h : n.resetVariables isAlpha lower fmt = .ok n') :
    n'.resetVariables isAlpha lower fmt = .ok n' := by
  obtain ⟨vm, hvm, rfl, hall, hvars, hget⟩ := reset_shape isAlpha lower fmt n _ h
  obtain ⟨_, _, hkeys, hvals, _, _⟩ := varmap_injective isAlpha lower fmt n vm hvm
  obtain ⟨E, hE, hB⟩ := buildVarmap_renamed (isAlpha := isAlpha) (lower := lower) (fmt := fmt) vm hvals
    n.nodes [] [] [] hvm hnd (by intro v _; simp [AList.keys]) rfl
  simp only [List.nil_append] at hE hB
  subst hE
  simp only [Node.resetVariables, renNode_nodes, hB]
  rw [node_mapVars_eq]
  have hmp : nodeMappable (diag vm) (renNode vm n) = true := by
    rw [nodeMappable_iff]
    refine ⟨?_, ?_⟩
    · rw [nodeAllVars_ren]; exact hall
    · intro v hv
      rw [hvars] at hv
      obtain ⟨w, hw, rfl⟩ := List.mem_map.1 hv
      obtain ⟨nv, hnv, hr⟩ := hget w hw
      rw [hr, keys_diag]
      exact List.mem_map.2 ⟨(w, nv), mem_of_get? hnv, rfl⟩
  simp [hmp, renNode_diag]

end RV
end Penman
