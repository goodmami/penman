/-
  Penman.Proofs.NormalFormGraphStages — the graph stages of the command are the identity on a
  graph on which they have nothing to do (`StagesIdle`), and the graphs `interpret` returns are of the
  shape `Graph.__init__` produces (`PyGraph`).
-/
import Penman.Spec.NormalFormGraph
import Penman.Proofs.Decoded
import Penman.Main

namespace Penman
namespace C20gen
open Penman.Cfg

theorem ensureColon_id {r : Str} (h : startsWith [':'] r = true) : ensureColon r = r := by
  simp [ensureColon, h]

theorem startsWith_ensureColon (r : Str) : startsWith [':'] (ensureColon r) = true := by
  unfold ensureColon
  split
  · assumption
  · simp [startsWith, List.isPrefixOf]

theorem getTop_of_top {g : Graph} {v : Str} (h : g.top = some v) : g.getTop = some v := by
  simp [Graph.getTop, h]

theorem mk'_self {g : Graph} (h : PyGraph g) : Graph.mk' g.triples g.getTop g.epidata g.metadata = g := by
  have h1 : g.triples.map (fun t => ({ t with role := ensureColon t.role } : Triple)) = g.triples :=
    (List.map_congr_left (g := id) fun t ht => by rw [ensureColon_id (h.colon t ht)]; rfl).trans
      (List.map_id _)
  have h2 : AList.ofList g.epidata = g.epidata := Interp.ofList_of_nodup _ h.epiKeys
  have h3 : AList.ofList g.metadata = g.metadata := Interp.ofList_of_nodup _ h.metaKeys
  cases g with
  | mk ts top ep md =>
    simp only [Graph.mk'] at h1 h2 h3 ⊢
    have h4 := h.top
    simp only at h4
    rw [h1, h2, h3, ← h4]

/-- every graph `interpret` returns for a tree with dictionary metadata is a `PyGraph`, with the
    metadata of the tree -/
theorem interpret_pyGraph {isAlpha : Char → Bool} {m : Model} {t : Tree} {g : Graph}
    (h : interpret isAlpha m t = .ok g) (hmd : MetaDict t.metadata) : PyGraph g ∧ g.metadata = t.metadata := by
  obtain ⟨v, ds, es, D⟩ := Interp.decoded h
  have hm : g.metadata = t.metadata := by rw [D.md]; exact Interp.ofList_of_nodup _ hmd
  refine ⟨⟨?_, ?_, ?_, ?_⟩, hm⟩
  · intro x hx
    rw [D.triples] at hx
    obtain ⟨d, _, rfl⟩ := List.mem_map.1 hx
    exact startsWith_ensureColon _
  · rw [getTop_of_top D.top, D.top]
  · rw [D.epi, Interp.epimapOf_eq_firstOcc]
    exact (Interp.firstOccAux_keys_nodup (·.1) [] es).1
  · rw [hm]; exact hmd

/-- the body of the loop of `reify_edges` (verbatim) -/
def rStep (m : Model) (g : Graph) (st : RState) (t : Triple) : Except PyErr RState :=
    if m.isReifiable t.role then do
      let (inT, nodeT, outT) ← m.reify t st.vars
      let inv ← appearsInverted g t
      let (inT, outT) := if inv then (outT, inT) else (inT, outT)
      let var := nodeT.src
      let ep := st.epidata.set inT [.push var]
      let old := (AList.get? ep t).getD []
      let ep := ep.erase t
      let (nodeEpis, outEpis) := edgeMarkers old
      let ep := (ep.set nodeT nodeEpis).set outT outEpis
      pure { vars := var :: st.vars, epidata := ep, triples := outT :: nodeT :: inT :: st.triples }
    else pure { st with triples := t :: st.triples }

theorem reifyEdges_unfold (m : Model) (g : Graph) :
    reifyEdges m g = (do
      let st ← g.triples.foldlM (rStep m g) { vars := g.variables, epidata := g.epidata, triples := [] }
      pure (Graph.mk' st.triples.reverse g.getTop st.epidata g.metadata)) := rfl

theorem rStep_fold (m : Model) (g : Graph) : ∀ (l : List Triple) (st : RState),
    (∀ t ∈ l, m.isReifiable t.role = false) →
    l.foldlM (rStep m g) st = .ok { st with triples := l.reverse ++ st.triples }
  | [], st, _ => by simp [pure, Except.pure]
  | t :: l, st, h => by
    have ht : rStep m g st t = .ok { st with triples := t :: st.triples } := by
      unfold rStep; simp [h t List.mem_cons_self, pure, Except.pure]
    simp only [List.foldlM, bind, Except.bind, ht]
    rw [rStep_fold m g l _ (fun x hx => h x (List.mem_cons_of_mem _ hx))]
    simp

theorem reifyEdges_idle {m : Model} {g : Graph} (hp : PyGraph g) (h : NoReifiable m g) :
    reifyEdges m g = .ok g := by
  rw [reifyEdges_unfold, rStep_fold m g g.triples _ h]
  simp only [bind, Except.bind, pure, Except.pure, List.append_nil, List.reverse_reverse]
  rw [mk'_self hp]

/-- the body of the loop of `dereify_edges` (verbatim) -/
def dStep (agenda : List Agenda) (acc : List Triple × Epidata) (t : Triple) : List Triple × Epidata :=
    let (ts, ep) := acc
    match agenda.find? (·.var = t.src) with
    | some ag =>
      let (ts, ep) := if t = ag.first then (ag.dereified :: ts, ep.set ag.dereified ag.epidata) else (ts, ep)
      (ts, ep.erase t)
    | none => (t :: ts, ep)

theorem dereifyEdges_unfold (m : Model) (g : Graph) :
    dereifyEdges m g = (do
      let agenda ← dereifyAgenda m g
      let r := g.triples.foldl (dStep agenda) ([], g.epidata)
      pure (Graph.mk' r.1.reverse g.getTop r.2 g.metadata)) := rfl

theorem dStep_fold : ∀ (l : List Triple) (acc : List Triple × Epidata),
    l.foldl (dStep []) acc = (l.reverse ++ acc.1, acc.2)
  | [], acc => by simp
  | t :: l, acc => by
    have ht : dStep [] acc t = (t :: acc.1, acc.2) := by
      obtain ⟨ts, ep⟩ := acc; simp [dStep]
    simp only [List.foldl_cons, ht]
    rw [dStep_fold l]; simp

theorem dereifyEdges_idle {m : Model} {g : Graph} (hp : PyGraph g) (h : NoCollapsible m g) :
    dereifyEdges m g = .ok g := by
  have h' : dereifyAgenda m g = .ok [] := h
  rw [dereifyEdges_unfold, h']
  simp only [bind, Except.bind, pure, Except.pure, dStep_fold, List.append_nil, List.reverse_reverse]
  rw [mk'_self hp]

/-- the body of the loop of `reify_attributes` (verbatim) -/
def aStep (acc : List Str × Nat × Epidata × List Triple) (t : Triple) :
    List Str × Nat × Epidata × List Triple :=
    let (vars, i, ep, ts) := acc
    if t.role ≠ CONCEPT_ROLE ∧ !atomInVars vars t.tgt then
      let (var, i') := if ['_'] ∈ vars then attrVarLoop vars (vars.length + 1) i else (['_'], i)
      let roleT : Triple := ⟨t.src, t.role, .str var⟩
      let nodeT : Triple := ⟨var, CONCEPT_ROLE, t.tgt⟩
      let old := (AList.get? ep t).getD []
      let ep := ep.erase t
      let (roleEpis, nodeEpis) := attrMarkers old
      let ep := (ep.set roleT (roleEpis ++ [.push var])).set nodeT (nodeEpis ++ [.pop])
      (var :: vars, i', ep, nodeT :: roleT :: ts)
    else (vars, i, ep, t :: ts)

theorem reifyAttributes_unfold (g : Graph) :
    reifyAttributes g =
      Graph.mk' (g.triples.foldl aStep (g.variables, 2, g.epidata, [])).2.2.2.reverse g.getTop
        (g.triples.foldl aStep (g.variables, 2, g.epidata, [])).2.2.1 g.metadata := rfl

theorem aStep_fold (vars : List Str) : ∀ (l : List Triple) (i : Nat) (ep : Epidata) (ts : List Triple),
    (∀ t ∈ l, t.role = CONCEPT_ROLE ∨ atomInVars vars t.tgt = true) →
    l.foldl aStep (vars, i, ep, ts) = (vars, i, ep, l.reverse ++ ts)
  | [], i, ep, ts, _ => by simp
  | t :: l, i, ep, ts, h => by
    have ht : aStep (vars, i, ep, ts) t = (vars, i, ep, t :: ts) := by
      have : ¬ (t.role ≠ CONCEPT_ROLE ∧ (!atomInVars vars t.tgt) = true) := by
        rcases h t List.mem_cons_self with h1 | h1
        · exact fun hc => hc.1 h1
        · simp [h1]
      simp only [aStep, this, if_false]
    simp only [List.foldl_cons, ht]
    rw [aStep_fold vars l _ _ _ (fun x hx => h x (List.mem_cons_of_mem _ hx))]
    simp

theorem reifyAttributes_idle {g : Graph} (hp : PyGraph g) (h : NoAttributes g) : reifyAttributes g = g := by
  rw [reifyAttributes_unfold, aStep_fold g.variables g.triples _ _ _ h]
  simp only [List.append_nil, List.reverse_reverse]
  exact mk'_self hp

/-- the graph stages of `_process_in`, in order -/
def stages (m : Model) (o : Opts) (g : Graph) : Except PyErr Graph := do
  let g ← if o.reifyEdges then reifyEdges m g else pure g
  let g ← if o.dereifyEdges then dereifyEdges m g else pure g
  let g := if o.reifyAttributes then reifyAttributes g else g
  pure g

theorem stages_eq (m : Model) (o : Opts) (g : Graph) :
    stages m o g = ((if o.reifyEdges then reifyEdges m g else pure g) >>= fun ga =>
      (if o.dereifyEdges then dereifyEdges m ga else pure ga) >>= fun gb =>
      pure (if o.reifyAttributes then reifyAttributes gb else gb)) := by
  unfold stages
  cases o.reifyEdges <;> cases o.dereifyEdges <;> rfl

theorem stages_ok {m : Model} {o : Opts} {g g1 : Graph} (h : stages m o g = .ok g1) :
    ∃ ga gb, (if o.reifyEdges then reifyEdges m g else pure g) = .ok ga ∧
      (if o.dereifyEdges then dereifyEdges m ga else pure ga) = .ok gb ∧
      g1 = if o.reifyAttributes then reifyAttributes gb else gb := by
  rw [stages_eq] at h
  cases h1 : (if o.reifyEdges then reifyEdges m g else pure g) with
  | error x => rw [h1] at h; cases h
  | ok ga =>
    rw [h1] at h
    replace h : ((if o.dereifyEdges then dereifyEdges m ga else pure ga) >>= fun gb =>
      pure (if o.reifyAttributes then reifyAttributes gb else gb)) = Except.ok g1 := h
    cases h2 : (if o.dereifyEdges then dereifyEdges m ga else pure ga) with
    | error x => rw [h2] at h; cases h
    | ok gb => rw [h2] at h; cases h; exact ⟨ga, gb, rfl, h2, rfl⟩

/-- **the selected stages are the identity on a graph on which they have nothing to do** -/
theorem stages_idle {m : Model} {o : Opts} {g : Graph} (hp : PyGraph g) (h : StagesIdle m o g) :
    stages m o g = .ok g := by
  have e1 : (if o.reifyEdges then reifyEdges m g else pure g) = .ok g := by
    split
    · exact reifyEdges_idle hp (h.reify ‹_›)
    · rfl
  have e2 : (if o.dereifyEdges then dereifyEdges m g else pure g) = .ok g := by
    split
    · exact dereifyEdges_idle hp (h.dereify ‹_›)
    · rfl
  have e3 : (if o.reifyAttributes then reifyAttributes g else g) = g := by
    split
    · exact reifyAttributes_idle hp (h.attrs ‹_›)
    · rfl
  rw [stages_eq, e1]
  show ((if o.dereifyEdges then dereifyEdges m g else pure g) >>= _) = _
  rw [e2]
  show Except.ok (if o.reifyAttributes then reifyAttributes g else g) = _
  rw [e3]

end C20gen
end Penman
