/-
  Penman.Proofs.NormalFormGraphVars — the command with `--make-variables FMT`: both passes on one
  tree, under hypotheses on the printed (relabelled) tree; the relabelling step of the second pass is
  the identity by `RV.reset_idem`.
-/
import Penman.Proofs.NormalFormGraphCli
import Penman.Proofs.NormalFormGraphReset

namespace Penman
namespace C20gen
open Penman.NF

/-- **`--make-variables`, one graph, both passes** (partial: the hypotheses on the relabelled tree are
    assumed, not derived from the first pass).  The first pass decodes/transforms `T` to `g1`, encodes it to
    `T1`, rearranges, and relabels to `N'`; the printed tree is `R' = ⟨N', metadata⟩`.  If `R'` is `WfLayout`,
    without empty concept slot, grammar-valid, and a fixed point of the canonicalisation, stage and
    rearrangement steps, then the second pass prints the same text: the relabelling step is the identity
    because `reset_variables` is idempotent (`RV.reset_idem`). -/
theorem tree_normal_form_vars {cfg : LexCfg} (u : UTables) (m : Model) (canon : Bool)
    (re : Option (List KeyFn × Bool)) (rE dE rA : Bool) (fmt : Fmt) (i : Indent) (c : Bool)
    (T : Tree) (g1 : Graph) (T1 : Tree) (N' : Node)
    (hin : processIn u m (varOpts canon re rE dE rA fmt i c) T = .ok g1)
    (hcf : configure m g1 none = .ok T1)
    (hnd : (rearrangeOpt m re T1).node.vars.Nodup)
    (hrv : (rearrangeOpt m re T1).node.resetVariables u.isAlpha u.lower fmt = .ok N')
    (hl : WfLayout u.isAlpha m N') (hnn : noNullN N' = true)
    (hwt : Spec.WfTreeText cfg N') (hwm : Spec.WfMeta u.isSpace T1.metadata)
    (hcanon : canonStep m canon ⟨N', T1.metadata⟩ = .ok ⟨N', T1.metadata⟩)
    (hfix : StagesFixed u.isAlpha m (varOpts canon re rE dE rA fmt i c) ⟨N', T1.metadata⟩)
    (hre : rearrangeOpt m re ⟨N', T1.metadata⟩ = ⟨N', T1.metadata⟩) :
    processTree u m (varOpts canon re rE dE rA fmt i c) T = .ok (format ⟨N', T1.metadata⟩ i c, 0) ∧
    Spec.WfTreeText cfg N' ∧ Spec.WfMeta u.isSpace T1.metadata ∧
    processTree u m (varOpts canon re rE dE rA fmt i c) ⟨N', T1.metadata⟩ =
      .ok (format ⟨N', T1.metadata⟩ i c, 0) := by
  have ho := varOpts_plain canon re rE dE rA fmt i c
  exact ⟨processTree_of_in ho hin hcf (finish_vars rfl hrv), hwt, hwm,
    processTree_fixed ho hl hnn (metaDict_of_wfMeta hwm) hcanon hfix
      (finish_vars (T := ⟨N', T1.metadata⟩) rfl
        (hre.symm ▸ RV.reset_idem u.isAlpha u.lower fmt _ _ hnd hrv))⟩

end C20gen
end Penman
