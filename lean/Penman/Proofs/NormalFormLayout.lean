/-
  Penman.Proofs.NormalFormLayout — `WfLayout` (the hypothesis of C02) is preserved by
  `dropNullConcept` and by `rearrangeNode`, and an empty concept slot is invisible to
  `interpret`: `(a / …)` with a missing concept and `(a …)` denote the same graph.
-/
import Penman.Proofs.NormalFormTree
import Penman.Proofs.LayoutBranch
namespace Penman.NF
open Penman.RA

variable (isAlpha : Char → Bool) (m : Model)

/-- the condition `wfBranchesB` puts on one branch of the node `var` -/
def layEdge (var : Str) : Branch → Bool
  | (r, .atom a) => roleOk isAlpha m r && atomOk isAlpha a
      && !(deinverts m (roleCore isAlpha r) && decide (atomCore isAlpha a = .str var))
  | (r, .node n) => roleOk isAlpha m r && wfNodeB isAlpha m n

theorem wfBranchesB_iff (var : Str) : ∀ bs : Branches,
    wfBranchesB isAlpha m var bs = true ↔ ∀ b ∈ bs.toList, layEdge isAlpha m var b = true
  | .nil => ⟨fun _ _ hb => (nomatch hb), fun _ => rfl⟩
  | .atom r a rest => by
    show _ ↔ ∀ b ∈ (r, Tgt.atom a) :: rest.toList, _
    simp only [wfBranchesB_atom, List.forall_mem_cons, layEdge, wfBranchesB_iff var rest, Bool.and_eq_true]
  | .sub r n rest => by
    show _ ↔ ∀ b ∈ (r, Tgt.node n) :: rest.toList, _
    simp only [wfBranchesB_sub, List.forall_mem_cons, layEdge, wfBranchesB_iff var rest, Bool.and_eq_true]

theorem layEdge_role {var : Str} {b : Branch} (h : layEdge isAlpha m var b = true) :
    roleOk isAlpha m b.1 = true := by
  obtain ⟨r, t⟩ := b
  cases t <;> simp only [layEdge, Bool.and_eq_true] at h
  · exact h.1.1
  · exact h.1

/-- a branch list whose branches are all fine (so: without `/`) is the branch list of a fine node -/
theorem wfNodeB_of_branches (var : Str) (x : Branches) (h : wfBranchesB isAlpha m var x = true) :
    wfNodeB isAlpha m (.mk (some var) x) = true := by
  cases x with
  | nil => rfl
  | atom role a rest =>
    have hr : role ≠ ['/'] := C02.roleOk_ne_slash isAlpha m
      (layEdge_role isAlpha m ((wfBranchesB_iff isAlpha m var _).1 h (role, .atom a) List.mem_cons_self))
    rw [wfNodeB_atom, if_neg hr]; exact h
  | sub role n rest => exact h

theorem wfNodeB_edges (var : Str) (bs : Branches) (h : wfNodeB isAlpha m (.mk (some var) bs) = true) :
    ∀ b ∈ bs.sortedPart.toList, layEdge isAlpha m var b = true := by
  cases bs with
  | nil => intro b hb; cases hb
  | atom role a rest =>
    rw [wfNodeB_atom] at h
    by_cases hr : role = ['/']
    · rw [if_pos hr, Bool.and_eq_true] at h
      simp only [Branches.sortedPart, hr, if_true]
      exact (wfBranchesB_iff isAlpha m var rest).1 h.2
    · rw [if_neg hr] at h
      simp only [Branches.sortedPart, hr, if_false]
      exact (wfBranchesB_iff isAlpha m var _).1 h
  | sub role n rest =>
    exact fun b hb => (wfBranchesB_iff isAlpha m var _).1 h b (mem_of_mem_sortedPart hb)

theorem layout_stable : RearrStable (fun n => wfNodeB isAlpha m n = true)
    (fun v b => ∃ var, v = some var ∧ layEdge isAlpha m var b = true) where
  decomp := fun v bs hp b hb => by
    cases v with
    | none => cases hp
    | some var => exact ⟨var, rfl, wfNodeB_edges isAlpha m var bs hp b hb⟩
  rebuild := fun v bs x hp _ hx => by
    cases v with
    | none => cases hp
    | some var =>
      have hx' : wfBranchesB isAlpha m var x = true := by
        rw [wfBranchesB_iff]
        intro b hb
        obtain ⟨var', e, h⟩ := hx b hb
        cases e; exact h
      rcases leading_append_cases bs x with e | ⟨a, rest, rfl, e⟩ | ⟨n, rest, rfl, e⟩ <;> rw [e]
      · exact wfNodeB_of_branches isAlpha m var x hx'
      · rw [wfNodeB_atom, if_pos rfl, Bool.and_eq_true] at hp ⊢
        exact ⟨hp.1, hx'⟩
      · rw [wfNodeB_sub, wfBranchesB_sub, Bool.and_eq_true, Bool.and_eq_true] at hp
        exact absurd rfl (C02.roleOk_ne_slash isAlpha m hp.1.1)
  sub := fun v r n h => by
    obtain ⟨var, _, h⟩ := h
    simp only [layEdge, Bool.and_eq_true] at h
    exact h.2
  resub := fun v r n n' h h' => by
    obtain ⟨var, e, h⟩ := h
    simp only [layEdge, Bool.and_eq_true] at h
    exact ⟨var, e, by simp only [layEdge, Bool.and_eq_true]; exact ⟨h.1, h'⟩⟩

theorem wfNodeB_rearrange (mm : Model) (vars : List Str) (key : Option (List KeyFn)) (n : Node)
    (h : wfNodeB isAlpha m n = true) : wfNodeB isAlpha m (rearrangeNode mm vars key n) = true :=
  rearrangeNode_stable (layout_stable isAlpha m) mm vars key n h

mutual
theorem wfNodeB_dropNull : ∀ n : Node, wfNodeB isAlpha m n = true → wfNodeB isAlpha m (dropNullConcept n) = true
  | .mk none bs, h => by cases h
  | .mk (some var) .nil, _ => rfl
  | .mk (some var) (.atom role a rest), h => by
    rw [wfNodeB_atom] at h
    rw [dropNullConcept_mk]
    by_cases hr : role = ['/']
    · rw [if_pos hr, Bool.and_eq_true] at h
      have ih := wfBranchesB_dropNull var rest h.2
      rw [dropNullBranches_atom]
      split
      · exact wfNodeB_of_branches isAlpha m var _ ih
      · rw [wfNodeB_atom, if_pos hr, Bool.and_eq_true]
        exact ⟨h.1, ih⟩
    · rw [if_neg hr] at h
      exact wfNodeB_of_branches isAlpha m var _ (wfBranchesB_dropNull var (.atom role a rest) h)
  | .mk (some var) (.sub role n rest), h =>
    wfNodeB_of_branches isAlpha m var _ (wfBranchesB_dropNull var (.sub role n rest) h)
theorem wfBranchesB_dropNull (var : Str) : ∀ bs : Branches, wfBranchesB isAlpha m var bs = true →
    wfBranchesB isAlpha m var (dropNullBranches bs) = true
  | .nil, _ => rfl
  | .atom role a rest, h => by
    rw [wfBranchesB_atom, Bool.and_eq_true] at h
    have ih := wfBranchesB_dropNull var rest h.2
    rw [dropNullBranches_atom]
    split
    · exact ih
    · rw [wfBranchesB_atom, Bool.and_eq_true]; exact ⟨h.1, ih⟩
  | .sub role n rest, h => by
    rw [wfBranchesB_sub, Bool.and_eq_true, Bool.and_eq_true] at h
    rw [dropNullBranches_sub, wfBranchesB_sub, Bool.and_eq_true, Bool.and_eq_true]
    exact ⟨⟨h.1.1, wfNodeB_dropNull n h.1.2⟩, wfBranchesB_dropNull var rest h.2⟩
end

/-- a branch that is fine for layout does not set the concept flag: its role core is not `:instance` -/
theorem branchOut_hasConcept (vs : List Str) (var : Str) (b : Branch) (o : InterpOut)
    (hb : layEdge isAlpha m var b = true) (h : branchOut isAlpha m vs var b = .ok o) : o.hasConcept = false := by
  have hf := C02.roleFacts isAlpha m (layEdge_role isAlpha m hb)
  obtain ⟨r, t⟩ := b
  cases t with
  | atom a =>
    simp only [branchOut, hf.proc] at h
    cases hq : processAtomic isAlpha a with
    | error e => simp [hq, bind, Except.bind] at h
    | ok q =>
      simp only [hq, bind, Except.bind, pure, Except.pure, Except.ok.injEq] at h
      subst h; simp [hf.notInst]
  | node n =>
    simp only [branchOut, hf.proc] at h
    cases hv : n.var with
    | none => simp [hv, bind, Except.bind, throw, throwThe, MonadExceptOf.throw] at h
    | some nv =>
      cases hq : interpretNode isAlpha m vs n with
      | error e => simp [hv, hq, bind, Except.bind] at h
      | ok q =>
        simp only [hv, hq, bind, Except.bind, pure, Except.pure, Except.ok.injEq] at h
        subst h; simp [hf.notInst]

theorem interpList_hasConcept (vs : List Str) (var : Str) : ∀ (l : List Branch) (out : InterpOut),
    (∀ b ∈ l, layEdge isAlpha m var b = true) → interpList isAlpha m vs var l = .ok out →
    out.hasConcept = false
  | [], out, _, h => by cases h; rfl
  | b :: l, out, hw, h => by
    obtain ⟨ob, out', h1, h2, rfl⟩ := interpList_cons_ok.1 h
    have e1 := branchOut_hasConcept isAlpha m vs var b ob (hw b List.mem_cons_self) h1
    have e2 := interpList_hasConcept vs var l out' (fun b hb => hw b (List.mem_cons_of_mem _ hb)) h2
    simp [InterpOut.combine, e1, e2]

theorem hasConcept_false (vs : List Str) (var : Str) (bs : Branches) (out : InterpOut)
    (hw : wfBranchesB isAlpha m var bs = true) (h : interpretBranches isAlpha m vs var bs = .ok out) :
    out.hasConcept = false :=
  interpList_hasConcept isAlpha m vs var bs.toList out ((wfBranchesB_iff isAlpha m var bs).1 hw)
    (by rw [interpList, Branches.ofList_toList]; exact h)

/-- with the concept slot empty, `_interpret_node` adds the very triple `(var :instance None)`
    the slot would have produced -/
theorem interpretNode_null (vs : List Str) (var : Str) (rest : Branches)
    (hw : wfBranchesB isAlpha m var rest = true) :
    interpretNode isAlpha m vs (.mk (some var) (.atom ['/'] .none rest)) =
      interpretNode isAlpha m vs (.mk (some var) rest) := by
  simp only [interpretNode, interpretBranches, processRole, processAtomic, if_true, atomInVars]
  cases hr : interpretBranches isAlpha m vs var rest with
  | error e => rfl
  | ok out =>
    have := hasConcept_false isAlpha m vs var rest out hw hr
    simp [bind, Except.bind, pure, Except.pure, this]

theorem interpretNode_congr_branches (vs : List Str) (var : Str) {bs bs' : Branches}
    (h : interpretBranches isAlpha m vs var bs' = interpretBranches isAlpha m vs var bs) :
    interpretNode isAlpha m vs (.mk (some var) bs') = interpretNode isAlpha m vs (.mk (some var) bs) := by
  simp only [interpretNode, h]

mutual
theorem interpretNode_dropNull (vs : List Str) : ∀ n : Node, wfNodeB isAlpha m n = true →
    interpretNode isAlpha m vs (dropNullConcept n) = interpretNode isAlpha m vs n
  | .mk none bs, h => by cases h
  | .mk (some var) .nil, _ => rfl
  | .mk (some var) (.atom role a rest), h => by
    rw [wfNodeB_atom] at h
    rw [dropNullConcept_mk]
    by_cases hr : role = ['/']
    · subst hr
      rw [if_pos rfl, Bool.and_eq_true] at h
      have ih := interpretBranches_dropNull vs var rest h.2
      rw [dropNullBranches_atom]
      split
      · rename_i hc
        rw [hc.2, interpretNode_null isAlpha m vs var rest h.2]
        exact interpretNode_congr_branches isAlpha m vs var ih
      · apply interpretNode_congr_branches
        rw [interpretBranches_atom, interpretBranches_atom, ih]
    · rw [if_neg hr] at h
      exact interpretNode_congr_branches isAlpha m vs var (interpretBranches_dropNull vs var _ h)
  | .mk (some var) (.sub role n rest), h =>
    interpretNode_congr_branches isAlpha m vs var (interpretBranches_dropNull vs var _ h)
theorem interpretBranches_dropNull (vs : List Str) (var : Str) : ∀ bs : Branches,
    wfBranchesB isAlpha m var bs = true →
    interpretBranches isAlpha m vs var (dropNullBranches bs) = interpretBranches isAlpha m vs var bs
  | .nil, _ => rfl
  | .atom role a rest, h => by
    rw [wfBranchesB_atom] at h
    simp only [Bool.and_eq_true] at h
    rw [dropNullBranches_atom, if_neg fun hc => C02.roleOk_ne_slash isAlpha m h.1.1.1 hc.1,
      interpretBranches_atom, interpretBranches_atom, interpretBranches_dropNull vs var rest h.2]
  | .sub role n rest, h => by
    rw [wfBranchesB_sub] at h
    simp only [Bool.and_eq_true] at h
    rw [dropNullBranches_sub, interpretBranches_sub, interpretBranches_sub,
      interpretBranches_dropNull vs var rest h.2]
    simp only [branchOut, dropNull_var, interpretNode_dropNull vs n h.1.2]
end

/-- **an empty concept slot is invisible to `interpret`**: on a tree that satisfies the per-node
    conditions of `WfLayout`, `(a / …)` with missing concept and `(a …)` give the same result
    (same graph: triples, top, epidata, metadata; or the same error) -/
theorem interpret_dropNull (n : Node) (md : AList Str Str) (h : wfNodeB isAlpha m n = true) :
    interpret isAlpha m ⟨dropNullConcept n, md⟩ = interpret isAlpha m ⟨n, md⟩ := by
  simp only [interpret, dropNull_vars, dropNull_var, interpretNode_dropNull isAlpha m _ n h]

theorem wfLayout_dropNull (n : Node) (h : WfLayout isAlpha m n) : WfLayout isAlpha m (dropNullConcept n) := by
  obtain ⟨h1, h2, h3⟩ := h
  refine ⟨wfNodeB_dropNull isAlpha m n h1, by rwa [dropNull_vars], ?_⟩
  simp only [distinctTriplesB, dropNull_vars, interpretNode_dropNull isAlpha m _ n h1] at h3 ⊢
  exact h3

theorem wfLayout_rearrange (mm : Model) (vars : List Str) (key : Option (List KeyFn)) (n : Node)
    (h : WfLayout isAlpha m n) : WfLayout isAlpha m (rearrangeNode mm vars key n) := by
  obtain ⟨h1, h2, h3⟩ := h
  have hp := rearrangeNode_vars_perm mm vars key n
  refine ⟨wfNodeB_rearrange isAlpha m mm vars key n h1, hp.nodup_iff.2 h2, ?_⟩
  simp only [distinctTriplesB] at h3 ⊢
  cases hi : interpretNode isAlpha m n.vars n with
  | error e => simp [hi] at h3
  | ok p =>
    obtain ⟨ts, es⟩ := p
    simp only [hi, decide_eq_true_eq] at h3
    obtain ⟨ts', es', h4, hts, _⟩ := NodePerm.interp isAlpha m n.vars n (rearrangeNode_perm mm vars key n) ts es hi
    rw [interpretNode_congr isAlpha m (fun x => hp.mem_iff) _, h4]
    simp only [decide_eq_true_eq]
    exact hts.nodup_iff.2 h3

end Penman.NF
