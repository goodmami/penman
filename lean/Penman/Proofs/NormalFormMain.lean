/-
  Penman.Proofs.NormalFormMain — composition of C01, C02, C05a, C13 and the stream lemmas of
  Proofs/NormalFormCli.lean for the normal-form clause of C20, option sets `nfOpts`: one graph through
  `processTree` (first and second pass), then streams of graphs through `processInput`.
-/
import Penman.Proofs.NormalFormLayout
import Penman.Proofs.NormalFormText
import Penman.Proofs.NormalFormCli
import Penman.Proofs.NormalFormPass
import Penman.Props.C05a
import Penman.Props.C13
namespace Penman.NF
open Penman.Framing

theorem nfTree_metadata (m : Model) (re : Option (List KeyFn × Bool)) (t : Tree) :
    (nfTree m re t).metadata = t.metadata := rearrangeOpt_metadata m re _

theorem rearrangeOpt_idem (m : Model) (re : Option (List KeyFn × Bool)) (t : Tree) :
    rearrangeOpt m re (rearrangeOpt m re t) = rearrangeOpt m re t := by
  unfold rearrangeOpt
  split
  · exact rearrange_idem m _ _ t
  · rfl

theorem canonStep_false (m : Model) (t : Tree) : canonStep m false t = .ok t := rfl

theorem canonStep_meta {m : Model} {canon : Bool} {t t' : Tree} (h : canonStep m canon t = .ok t') :
    t'.metadata = t.metadata := by
  cases canon with
  | false => cases h; rfl
  | true => exact (C13.canonicalizeRoles_shape h).1

/-- the command on one tree: canonicalise (if asked), and print the normal-form tree of the
    result; status 0 -/
theorem processTree_nf (u : UTables) (m : Model) (canon : Bool) (re : Option (List KeyFn × Bool))
    (i : Indent) (c : Bool) (T T' : Tree) (hc : canonStep m canon T = .ok T')
    (hl : WfLayout u.isAlpha m T'.node) (hmd : MetaDict T'.metadata) :
    processTree u m (nfOpts canon re i c) T = .ok (format (nfTree m re T') i c, 0) := by
  obtain ⟨g, h1, h2⟩ := C02P.C02_layout u.isAlpha m T' hl hmd
  exact C20gen.processTree_of_in (C20gen.stageOpts_plain canon re false false false i c)
    (C20gen.processIn_steps rfl hc h1 rfl) h2 rfl

section Fixed
variable (u : UTables) (m : Model) (canon : Bool) (re : Option (List KeyFn × Bool))

/-- what `dropNullConcept` establishes and `rearrangeNode` keeps holds of the printed tree -/
theorem nfTree_keeps {Q P : Node → Prop} (hd : ∀ n, Q n → P (dropNullConcept n))
    (hr : ∀ vars key n, P n → P (rearrangeNode m vars key n)) (T' : Tree) (h : Q T'.node) :
    P (nfTree m re T').node := by
  unfold nfTree rearrangeOpt
  split
  · exact hr _ _ _ (hd _ h)
  · exact hd _ h

theorem nfTree_wfLayout (T' : Tree) (hl : WfLayout u.isAlpha m T'.node) :
    WfLayout u.isAlpha m (nfTree m re T').node :=
  nfTree_keeps m re (wfLayout_dropNull u.isAlpha m) (wfLayout_rearrange u.isAlpha m m) T' hl

theorem nfTree_noNull (T' : Tree) : noNullN (nfTree m re T').node = true :=
  nfTree_keeps m re (Q := fun _ => True) (fun n _ => noNull_dropNull n) (noNull_rearrange m) T' trivial

theorem nfTree_wfText (cfg : LexCfg) (T' : Tree) (hw : Spec.WfTreeText cfg T'.node) :
    Spec.WfTreeText cfg (nfTree m re T').node :=
  nfTree_keeps m re (wfTreeText_dropNull cfg) (wfTreeText_rearrange cfg m) T' hw

/-- every role of the printed tree is a fixed point of `canonicalize_role`: canonicalising it
    again changes nothing -/
theorem nfTree_canon (hm : canon = true → ModelWf m) (T T' : Tree) (hc : canonStep m canon T = .ok T') :
    canonStep m canon (nfTree m re T') = .ok (nfTree m re T') := by
  cases canon with
  | false => rfl
  | true =>
    have hw := hm rfl
    obtain ⟨n', hn, rfl⟩ := C13.canonicalizeRoles_ok.1 hc
    have h0 : allRolesN (fun r => RoleRewritten m r r) n' :=
      (allRolesN_sameShape _ n').2 (Role.sameShape_idem_node hw.2.1 hw.2.2 T.node n' (Role.canonNode_shape m _ _ hn))
    have h2 := nfTree_keeps m re (allRolesN_dropNull _)
      (fun vars key n => rearrangeNode_stable (allRoles_stable _) m vars key n) { T with node := n' } h0
    exact C13.canonicalizeRoles_ok.2 ⟨_, Role.canonNode_fixed m _ ((allRolesN_sameShape _ _).1 h2), rfl⟩

theorem canonStep_wfText (cfg : LexCfg) (hm : canon = true → ModelWf m ∧ NormRolesText cfg m = true)
    (T T' : Tree) (hc : canonStep m canon T = .ok T') (hw : Spec.WfTreeText cfg T.node) :
    Spec.WfTreeText cfg T'.node := by
  cases canon with
  | false => cases hc; exact hw
  | true =>
    obtain ⟨hwf, hn⟩ := hm rfl
    obtain ⟨n', hn', rfl⟩ := C13.canonicalizeRoles_ok.1 hc
    exact wfTreeText_canon hn hwf.2.1 hn' hw

end Fixed

/-- everything the second pass needs, for one input tree `T` that the parser produced
    (grammar-valid, `WfMeta`) and whose canonicalised form `T'` is `WfLayout`:
    with `R := nfTree m re T'` (the tree printed by the first pass)
    * the first pass prints `format R`,
    * `R` is grammar-valid with the metadata of `T` (so its text parses back to `R`),
    * the second pass on `R` prints `format R` again. -/
theorem tree_normal_form {cfg : LexCfg} (u : UTables) (m : Model) (canon : Bool)
    (re : Option (List KeyFn × Bool)) (i : Indent) (c : Bool)
    (hm : canon = true → ModelWf m ∧ NormRolesText cfg m = true)
    (T T' : Tree) (hwt : Spec.WfTreeText cfg T.node) (hwm : Spec.WfMeta u.isSpace T.metadata)
    (hc : canonStep m canon T = .ok T') (hl : WfLayout u.isAlpha m T'.node) :
    processTree u m (nfOpts canon re i c) T = .ok (format (nfTree m re T') i c, 0) ∧
    Spec.WfTreeText cfg (nfTree m re T').node ∧
    Spec.WfMeta u.isSpace (nfTree m re T').metadata ∧
    processTree u m (nfOpts canon re i c) (nfTree m re T') = .ok (format (nfTree m re T') i c, 0) := by
  have hR : Spec.WfMeta u.isSpace (nfTree m re T').metadata := by
    rw [nfTree_metadata, canonStep_meta hc]; exact hwm
  have hmd' : MetaDict T'.metadata := by rw [canonStep_meta hc]; exact metaDict_of_wfMeta hwm
  exact ⟨processTree_nf u m canon re i c T T' hc hl hmd',
    nfTree_wfText m re cfg T' (canonStep_wfText m canon cfg hm T T' hc hwt), hR,
    C20gen.processTree_fixed (C20gen.stageOpts_plain canon re false false false i c)
      (nfTree_wfLayout u m re T' hl) (nfTree_noNull m re T') (metaDict_of_wfMeta hR)
      (nfTree_canon m canon re (fun h => (hm h).1) T T' hc)
      -- no graph stage is switched on
      (fun _ _ => .mk (fun h => nomatch h) (fun h => nomatch h) (fun h => nomatch h))
      (congrArg Except.ok (rearrangeOpt_idem m re _))⟩

/-- data of one graph of a stream: its text `s`, the parsed tree `T`, its canonicalised form `T'` -/
structure GraphIn where
  s : Str
  T : Tree
  T' : Tree

/-- the hypotheses on one graph of the stream -/
def GraphIn.Ok (cfg : LexCfg) (u : UTables) (m : Model) (canon : Bool) (g : GraphIn) : Prop :=
  (∃ c0, parseTree c0 u.isSpace (lexStr cfg cfg.penmanOrder g.s) = .ok (g.T, [])) ∧
  canonStep m canon g.T = .ok g.T' ∧ WfLayout u.isAlpha m g.T'.node

theorem parse_of_parseTree {cfg : LexCfg} {isSpace : Char → Bool} {s : Str} {T : Tree}
    (h : ∃ c0, parseTree c0 isSpace (lexStr cfg cfg.penmanOrder s) = .ok (T, [])) :
    C01.parse cfg isSpace s = .ok T := by
  obtain ⟨c0, h⟩ := h
  obtain ⟨r', h', hr, _⟩ := parseTree_sim (c' := ⟨eofPos (lexStr cfg cfg.penmanOrder s)⟩) h
    (LSim.refl_nil isSpace _)
  rw [hr.nil_inv] at h'
  simp [C01.parse, parseToks, h', Except.map]

/-- **streams, both passes.** An input whose token stream is — up to line numbers and
    offsets — the concatenation of the token streams of texts `gₖ.s` that each parse completely:
    the command prints `streamOut true [format Rₖ]`, and printing is idempotent. -/
theorem stream_normal_form {cfg : LexCfg} (hw : Spec.FmtCfgWf cfg = true) (hsep : SepChar cfg '\n')
    (u : UTables) (m : Model) (canon : Bool) (re : Option (List KeyFn × Bool)) (i : Indent) (c : Bool)
    (hm : canon = true → ModelWf m ∧ NormRolesText cfg m = true)
    (x : Str) (gs : List GraphIn) (hg : ∀ g ∈ gs, g.Ok cfg u m canon)
    (hx : LSim u.isSpace [] (gs.map fun g => lexStr cfg cfg.penmanOrder g.s).flatten
      (lexStr cfg cfg.penmanOrder x)) :
    let out1 := streamOut true (gs.map fun g => format (nfTree m re g.T') i c)
    processInput cfg u m (nfOpts canon re i c) x = (out1, .ok 0) ∧
    processInput cfg u m (nfOpts canon re i c) out1 = (out1, .ok 0) := by
  have := C20gen.stream_fixed hw hsep u m (nfOpts canon re i c) x
    (gs.map fun g => ⟨g.s, g.T, nfTree m re g.T'⟩)
    (by
      intro r hr; simp only [List.mem_map] at hr
      obtain ⟨g, hgm, rfl⟩ := hr
      have hwf := C01.parse_wf hw u.isSpace g.s g.T (parse_of_parseTree (hg g hgm).1)
      exact ⟨(hg g hgm).1,
        tree_normal_form (cfg := cfg) u m canon re i c hm g.T g.T' hwf.1 hwf.2 (hg g hgm).2.1 (hg g hgm).2.2⟩)
    (by simpa [List.map_map, Function.comp_def] using hx)
  simpa [List.map_map, Function.comp_def, nfOpts] using this

end Penman.NF
