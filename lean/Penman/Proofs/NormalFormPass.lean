/-
  Penman.Proofs.NormalFormPass — one tree through the command, for every option set without `--check`,
  `--triples`, `--reconfigure`, `--indicate-branches` (`Plain`): what the first pass prints, from its
  steps; and the second pass: a tree in the domain of C02 that every selected step fixes is printed
  as it is.
-/
import Penman.Proofs.NormalFormGraphStages
import Penman.Props.C02

namespace Penman
namespace NF

theorem rearrangeOpt_metadata (m : Model) (re : Option (List KeyFn × Bool)) (t : Tree) :
    (rearrangeOpt m re t).metadata = t.metadata := by
  unfold rearrangeOpt
  split <;> rfl

theorem metaDict_of_wfMeta {isSpace : Char → Bool} {md : AList Str Str} (h : Spec.WfMeta isSpace md) :
    MetaDict md := h.1

end NF

namespace C20gen
open Penman.NF

/-- the option sets under which `processTree` is `_process_in`, `configure`, `--rearrange`,
    `--make-variables`, `format`, with status 0 -/
structure Plain (o : Opts) : Prop where
  check : o.check = false
  triples : o.triples = false
  reconfigure : o.reconfigure = none
  branches : o.indicateBranches = false

theorem stageOpts_plain (canon : Bool) (re : Option (List KeyFn × Bool)) (rE dE rA : Bool) (i : Indent)
    (c : Bool) : Plain (stageOpts canon re rE dE rA i c) := ⟨rfl, rfl, rfl, rfl⟩

theorem varOpts_plain (canon : Bool) (re : Option (List KeyFn × Bool)) (rE dE rA : Bool) (fmt : Fmt)
    (i : Indent) (c : Bool) : Plain (varOpts canon re rE dE rA fmt i c) := ⟨rfl, rfl, rfl, rfl⟩

/-- what `_process_out` does after `configure`: `--rearrange`, then `--make-variables` -/
def finish (u : UTables) (m : Model) (o : Opts) (T : Tree) : Except PyErr Tree :=
  match o.makeVariables with
  | some fmt => do
    let n ← (rearrangeOpt m o.rearrange T).node.resetVariables u.isAlpha u.lower fmt
    pure { rearrangeOpt m o.rearrange T with node := n }
  | none => pure (rearrangeOpt m o.rearrange T)

variable {u : UTables} {m : Model} {o : Opts}

theorem finish_vars {fmt : Fmt} (ho : o.makeVariables = some fmt) {T : Tree} {N : Node}
    (h : (rearrangeOpt m o.rearrange T).node.resetVariables u.isAlpha u.lower fmt = .ok N) :
    finish u m o T = .ok ⟨N, T.metadata⟩ := by
  simp only [finish, ho, h, rearrangeOpt_metadata]
  rfl

/-- `_process_in` = canonicalise, interpret, graph stages -/
theorem processIn_eq (hb : o.indicateBranches = false) (t : Tree) :
    processIn u m o t =
      (canonStep m o.canonicalizeRoles t >>= fun t' => interpret u.isAlpha m t' >>= stages m o) := by
  obtain ⟨_, _, _, _, _, _, _, canon, rE, dE, rA, ib⟩ := o
  cases hb
  cases canon <;> cases rE <;> cases dE <;> rfl

theorem processIn_steps (hb : o.indicateBranches = false) {t t' : Tree} {g g2 : Graph}
    (hc : canonStep m o.canonicalizeRoles t = .ok t') (hi : interpret u.isAlpha m t' = .ok g)
    (hs : stages m o g = .ok g2) : processIn u m o t = .ok g2 := by
  rw [processIn_eq hb, hc]
  show interpret u.isAlpha m t' >>= stages m o = _
  rw [hi]
  exact hs

/-- `_process_out` = configure, then `finish` -/
theorem processOut_finish (ho : o.reconfigure = none) {g : Graph} {T : Tree}
    (h : configure m g none = .ok T) : processOut u m o g = finish u m o T := by
  simp only [processOut, ho, h]
  rfl

theorem processTree_of_in (ho : Plain o) {T T1 R : Tree} {g : Graph} (hin : processIn u m o T = .ok g)
    (hcf : configure m g none = .ok T1) (hf : finish u m o T1 = .ok R) :
    processTree u m o T = .ok (format R o.indent o.compact, 0) := by
  simp only [processTree, hin, ho.check, ho.triples, Bool.false_eq_true, if_false, bind, Except.bind,
    processOut_finish ho.reconfigure hcf, hf]
  rfl

/-- **the second pass.**  A tree `R` in the domain of C02 without empty concept slot, which the
    canonicalisation step, the selected graph stages (on the graph decoded from `R`) and the rearrangement
    and relabelling steps leave as it is, is printed as it is: decoding and encoding give `R` back (C02),
    the stages are idle on a graph shaped as `interpret` leaves it. -/
theorem processTree_fixed (ho : Plain o) {R : Tree} (hl : WfLayout u.isAlpha m R.node)
    (hnn : noNullN R.node = true) (hmd : MetaDict R.metadata)
    (hc : canonStep m o.canonicalizeRoles R = .ok R) (hfix : StagesFixed u.isAlpha m o R)
    (hf : finish u m o R = .ok R) : processTree u m o R = .ok (format R o.indent o.compact, 0) := by
  obtain ⟨g, h1, h2⟩ := C02P.C02_layout u.isAlpha m R hl hmd
  rw [C02P.dropNull_id _ hnn] at h2
  exact processTree_of_in ho
    (processIn_steps ho.branches hc h1 (stages_idle (interpret_pyGraph h1 hmd).1 (hfix g h1))) h2 hf

end C20gen
end Penman
