/-
  Penman.Proofs.NormalFormText — `WfTreeText` (the hypothesis of C01's round trip) is preserved
  by `dropNullConcept`, by `rearrangeNode` and — for models whose normalisation values are ROLE
  texts (`NormRolesText`) — by `canonNode`.
-/
import Penman.Proofs.NormalFormTree
import Penman.Proofs.TextWfLemmas
import Penman.Proofs.Role
import Penman.Proofs.ConfigureStore
import Penman.Spec.NormalForm
namespace Penman.NF

variable (cfg : LexCfg)

def textEdge : Branch → Bool
  | (r, .atom a) => Spec.roleTextB cfg r && Spec.atomB cfg a
  | (r, .node n) => Spec.roleTextB cfg r && Spec.wfNodeB cfg n

theorem wfEdgesB_iff : ∀ bs : Branches,
    Spec.wfEdgesB cfg bs = true ↔ ∀ b ∈ bs.toList, textEdge cfg b = true
  | .nil => by simp [Spec.wfEdgesB, Branches.toList]
  | .atom r a rest => by
    simp only [Spec.wfEdgesB, Branches.toList, List.mem_cons, forall_eq_or_imp, textEdge,
      wfEdgesB_iff rest, Bool.and_eq_true]
  | .sub r n rest => by
    simp only [Spec.wfEdgesB, Branches.toList, List.mem_cons, forall_eq_or_imp, textEdge,
      wfEdgesB_iff rest, Bool.and_eq_true]

theorem wfNodeB_none (bs : Branches) : Spec.wfNodeB cfg (.mk none bs) = true ↔ bs = .nil := by
  cases bs <;> simp [Spec.wfNodeB]

theorem wfNodeB_some (v : Str) (bs : Branches) :
    Spec.wfNodeB cfg (.mk (some v) bs) = (Spec.symbolB cfg v && Spec.wfTopB cfg bs) := by
  simp [Spec.wfNodeB]

theorem wfTopB_atom (r : Str) (a : Atom) (rest : Branches) :
    Spec.wfTopB cfg (.atom r a rest) =
      ((if r = ['/'] then Spec.atomB cfg a else Spec.roleTextB cfg r && Spec.atomB cfg a)
        && Spec.wfEdgesB cfg rest) := by
  simp [Spec.wfTopB]

theorem wfTopB_sub (r : Str) (n : Node) (rest : Branches) :
    Spec.wfTopB cfg (.sub r n rest) =
      (Spec.roleTextB cfg r && Spec.wfNodeB cfg n && Spec.wfEdgesB cfg rest) := by
  simp [Spec.wfTopB]

theorem wfTopB_edges (bs : Branches) (h : Spec.wfTopB cfg bs = true) :
    ∀ b ∈ bs.sortedPart.toList, textEdge cfg b = true := by
  cases bs with
  | nil => simp [Branches.sortedPart, Branches.toList]
  | atom r a rest =>
    rw [wfTopB_atom, Bool.and_eq_true] at h
    by_cases hr : r = ['/']
    · simp only [Branches.sortedPart, hr, if_true]
      exact (wfEdgesB_iff cfg rest).1 h.2
    · simp only [hr, if_false, Bool.and_eq_true] at h
      simp only [Branches.sortedPart, hr, if_false, Branches.toList, List.mem_cons, forall_eq_or_imp,
        textEdge, Bool.and_eq_true]
      exact ⟨h.1, (wfEdgesB_iff cfg rest).1 h.2⟩
  | sub r n rest =>
    rw [wfTopB_sub, Bool.and_eq_true, Bool.and_eq_true] at h
    intro b hb
    have hb' := mem_of_mem_sortedPart hb
    simp only [Branches.toList, List.mem_cons] at hb'
    rcases hb' with rfl | hb'
    · simp only [textEdge, Bool.and_eq_true]; exact h.1
    · exact (wfEdgesB_iff cfg rest).1 h.2 b hb'

theorem text_stable : RearrStable (fun n => Spec.wfNodeB cfg n = true)
    (fun _ b => textEdge cfg b = true) where
  decomp := fun v bs hp b hb => by
    cases v with
    | none =>
      rw [(wfNodeB_none cfg bs).1 hp] at hb
      simp [Branches.sortedPart, Branches.toList] at hb
    | some var =>
      rw [wfNodeB_some, Bool.and_eq_true] at hp
      exact wfTopB_edges cfg bs hp.2 b hb
  rebuild := fun v bs x hp hlen hx => by
    have hx' : Spec.wfEdgesB cfg x = true := (wfEdgesB_iff cfg x).2 hx
    cases v with
    | none =>
      have hb := (wfNodeB_none cfg bs).1 hp
      subst hb
      have : x = .nil := toList_eq_nil (List.eq_nil_of_length_eq_zero (by simpa [Branches.sortedPart, Branches.toList] using hlen))
      subst this
      simp [Branches.leading, Branches.append, Spec.wfNodeB]
    | some var =>
      rw [wfNodeB_some, Bool.and_eq_true] at hp ⊢
      refine ⟨hp.1, ?_⟩
      have hp2 := hp.2
      rcases leading_append_cases bs x with e | ⟨a, rest, rfl, e⟩ | ⟨n, rest, rfl, e⟩ <;> rw [e]
      · exact FL.wfTop_of_edges x hx'
      · rw [wfTopB_atom, Bool.and_eq_true] at hp2 ⊢
        exact ⟨hp2.1, hx'⟩
      · rw [wfTopB_sub, Bool.and_eq_true] at hp2 ⊢
        exact ⟨hp2.1, hx'⟩
  sub := fun v r n h => by
    simp only [textEdge, Bool.and_eq_true] at h; exact h.2
  resub := fun v r n n' h h' => by
    simp only [textEdge, Bool.and_eq_true] at h ⊢; exact ⟨h.1, h'⟩

theorem wfTreeText_rearrange (m : Model) (vars : List Str) (key : Option (List KeyFn)) (n : Node)
    (h : Spec.WfTreeText cfg n) : Spec.WfTreeText cfg (rearrangeNode m vars key n) :=
  rearrangeNode_stable (text_stable cfg) m vars key n h

mutual
theorem wfTreeText_dropNull : ∀ n : Node, Spec.wfNodeB cfg n = true →
    Spec.wfNodeB cfg (dropNullConcept n) = true
  | .mk none bs, h => by
    rw [(wfNodeB_none cfg bs).1 h]; rfl
  | .mk (some v) .nil, h => h
  | .mk (some v) (.atom r a rest), h => by
    rw [wfNodeB_some, Bool.and_eq_true, wfTopB_atom, Bool.and_eq_true] at h
    have ih := wfEdgesB_dropNull rest h.2.2
    rw [dropNullConcept_mk, dropNullBranches_atom, wfNodeB_some, Bool.and_eq_true]
    refine ⟨h.1, ?_⟩
    split
    · exact FL.wfTop_of_edges _ ih
    · rw [wfTopB_atom, Bool.and_eq_true]; exact ⟨h.2.1, ih⟩
  | .mk (some v) (.sub r n rest), h => by
    rw [wfNodeB_some, Bool.and_eq_true, wfTopB_sub, Bool.and_eq_true, Bool.and_eq_true] at h
    rw [dropNullConcept_mk, dropNullBranches_sub, wfNodeB_some, Bool.and_eq_true, wfTopB_sub, Bool.and_eq_true,
      Bool.and_eq_true]
    exact ⟨h.1, ⟨h.2.1.1, wfTreeText_dropNull n h.2.1.2⟩, wfEdgesB_dropNull rest h.2.2⟩
theorem wfEdgesB_dropNull : ∀ bs : Branches, Spec.wfEdgesB cfg bs = true →
    Spec.wfEdgesB cfg (dropNullBranches bs) = true
  | .nil, _ => rfl
  | .atom r a rest, h => by
    simp only [Spec.wfEdgesB, Bool.and_eq_true] at h
    have ih := wfEdgesB_dropNull rest h.2
    rw [dropNullBranches_atom]
    split
    · exact ih
    · simp only [Spec.wfEdgesB, Bool.and_eq_true]; exact ⟨h.1, ih⟩
  | .sub r n rest, h => by
    simp only [Spec.wfEdgesB, Bool.and_eq_true] at h
    simp only [dropNullBranches_sub, Spec.wfEdgesB, Bool.and_eq_true]
    exact ⟨⟨h.1.1, wfTreeText_dropNull n h.1.2⟩, wfEdgesB_dropNull rest h.2⟩
end

theorem roleB_iff' (s : Str) : Spec.roleB cfg s = true ↔
    ∃ b, s = ':' :: b ∧ ∀ c ∈ b, c ∉ cfg.roleExcl ∧ c ≠ '\n' ∧ c ≠ '\r' := by
  rw [FL.roleB_iff]
  constructor
  · rintro ⟨⟨b, rfl, hb⟩, hn⟩
    rw [FL.noBreak_cons (by decide) (by decide)] at hn
    exact ⟨b, rfl, fun c hc => ⟨hb c hc, fun e => hn.1 (e ▸ hc), fun e => hn.2 (e ▸ hc)⟩⟩
  · rintro ⟨b, rfl, hb⟩
    exact ⟨⟨b, rfl, fun c hc => (hb c hc).1⟩, (FL.noBreak_cons (by decide) (by decide)).2
      ⟨fun h => (hb _ h).2.1 rfl, fun h => (hb _ h).2.2 rfl⟩⟩

variable {cfg} {m : Model}

theorem nrt_tilde (h : NormRolesText cfg m = true) : '~' ∈ cfg.roleExcl := by
  simp only [NormRolesText, Bool.and_eq_true, List.contains_eq_mem, decide_eq_true_eq] at h
  exact h.1.1

theorem nrt_of (h : NormRolesText cfg m = true) : ∀ c ∈ ofStr, c ∉ cfg.roleExcl := by
  simp only [NormRolesText, Bool.and_eq_true, List.all_eq_true, Bool.not_eq_true',
    List.contains_eq_mem, decide_eq_false_iff_not] at h
  exact h.1.2

theorem nrt_norm (h : NormRolesText cfg m = true) {k v : Str} (hg : AList.get? m.norm k = some v) :
    Spec.roleB cfg v = true := by
  simp only [NormRolesText, Bool.and_eq_true, List.all_eq_true] at h
  exact h.2 _ (Cfg.mem_of_get? hg)

theorem roleB_noTilde (h : NormRolesText cfg m = true) {s : Str} (hs : Spec.roleB cfg s = true) : '~' ∉ s := by
  obtain ⟨b, rfl, hb⟩ := (roleB_iff' cfg s).1 hs
  intro hm
  simp only [List.mem_cons] at hm
  rcases hm with e | hm
  · cases e
  · exact (hb _ hm).1 (nrt_tilde h)

theorem roleB_append_of (h : NormRolesText cfg m = true) {s : Str} (hs : Spec.roleB cfg s = true) :
    Spec.roleB cfg (s ++ ofStr) = true := by
  obtain ⟨b, rfl, hb⟩ := (roleB_iff' cfg _).1 hs
  refine (roleB_iff' cfg _).2 ⟨b ++ ofStr, rfl, ?_⟩
  intro c hc
  rcases List.mem_append.1 hc with hc | hc
  · exact hb c hc
  · refine ⟨nrt_of h c hc, ?_, ?_⟩ <;> (intro e; subst e; simp [ofStr] at hc)

theorem roleB_of_append_of {s : Str} (hs : Spec.roleB cfg (s ++ ofStr) = true) :
    Spec.roleB cfg s = true := by
  obtain ⟨b, hb1, hb⟩ := (roleB_iff' cfg _).1 hs
  cases s with
  | nil => simp [ofStr] at hb1
  | cons x s' =>
    simp only [List.cons_append, List.cons.injEq] at hb1
    obtain ⟨rfl, rfl⟩ := hb1
    exact (roleB_iff' cfg _).2 ⟨s', rfl, fun c hc => hb c (List.mem_append_left _ hc)⟩

theorem roleB_invInv (h : NormRolesText cfg m = true) (x : Str) (hx : Spec.roleB cfg x = true) :
    Spec.roleB cfg (m.invertRole (m.invertRole x)) = true := by
  rcases Role.invInv_cases m x with ⟨hfix, _⟩ | ⟨b, hb, _, _, hdown⟩ | ⟨_, _, hup⟩
  · rw [hfix]; exact hx
  · rw [hdown]; rw [hb] at hx
    exact roleB_of_append_of (roleB_of_append_of hx)
  · rw [hup]; exact roleB_append_of h (roleB_append_of h hx)

/-- canonicalising a ROLE text gives a ROLE text -/
theorem roleB_canonRole (h : NormRolesText cfg m = true) {s c : Str} (hs : Spec.roleB cfg s = true)
    (hc : m.canonRole s = some c) : Spec.roleB cfg c = true := by
  obtain ⟨r1, h1, rfl⟩ := Role.canonRole_iff.1 hc
  have hcol : s.head? = some ':' := by
    obtain ⟨b, rfl, _⟩ := (roleB_iff' cfg s).1 hs
    rfl
  rw [Role.addColon_of_ok (Or.inr hcol)] at h1
  have hr1 : Spec.roleB cfg r1 = true :=
    Role.canonInversion_inv (fun x => Spec.roleB cfg x = true) (roleB_invInv h) hs h1
  cases hg : AList.get? m.norm r1 with
  | none => simpa using hr1
  | some v => simpa using nrt_norm h hg

theorem alignment_head {a : Str} (ha : Spec.alignmentB cfg a = true) : ∃ rest, a = '~' :: rest := by
  simp only [Spec.alignmentB, Bool.and_eq_true, beq_iff_eq] at ha
  cases a with
  | nil => simp [scanAlignment] at ha
  | cons x rest =>
    by_cases hx : x = '~'
    · exact ⟨rest, by rw [hx]⟩
    · have hn : scanAlignment cfg (x :: rest) = none := by
        unfold scanAlignment; split
        · rename_i heq; simp only [List.cons.injEq] at heq; exact absurd heq.1 hx
        · rfl
      rw [hn] at ha
      cases ha.1

/-- a role text (ROLE + optional ALIGNMENT) stays one under `canonicalize_roles` -/
theorem roleText_rewritten (h : NormRolesText cfg m = true) {r r' : Str}
    (hr : Spec.roleTextB cfg r = true) (hrw : RoleRewritten m r r') : Spec.roleTextB cfg r' = true := by
  obtain ⟨mm, a, rfl, hmm, ha⟩ := (FL.alignedB_iff _ _).1 hr
  have ha' : a = [] ∨ ∃ rest, a = '~' :: rest := ha.imp id alignment_head
  obtain ⟨h1, h2⟩ := Role.partition_rebuild (roleB_noTilde h hmm) ha'
  obtain ⟨c, hc, rfl⟩ := hrw
  rw [h1] at hc; rw [h2]
  exact (FL.alignedB_iff _ _).2 ⟨c, a, rfl, roleB_canonRole h hmm hc, ha⟩

/-- the concept role `/` stays `/` or becomes a role text -/
theorem slash_rewritten (h : NormRolesText cfg m = true) (hs : m.slashOk = true) {r' : Str}
    (hrw : RoleRewritten m ['/'] r') : r' = ['/'] ∨ Spec.roleTextB cfg r' = true := by
  obtain ⟨c, hc, rfl⟩ := hrw
  have hp : rolePart ['/'] = ['/'] ∧ alnPart ['/'] = [] := by decide
  rw [hp.1] at hc; rw [hp.2, List.append_nil]
  obtain ⟨r1, h1, rfl⟩ := Role.canonRole_iff.1 hc
  rw [Role.addColon_of_ok (Or.inl rfl), Role.canonInversion_slash hs] at h1
  cases h1
  cases hg : AList.get? m.norm ['/'] with
  | none => left; rfl
  | some v =>
    right
    exact (FL.alignedB_iff _ _).2 ⟨v, [], by simp, nrt_norm h hg, Or.inl rfl⟩

mutual
theorem wfTreeText_sameShape (h : NormRolesText cfg m = true) (hs : m.slashOk = true) :
    ∀ n n' : Node, Node.sameShape (RoleRewritten m) n n' → Spec.wfNodeB cfg n = true →
    Spec.wfNodeB cfg n' = true
  | .mk none bs, .mk v' bs', hsh, hw => by
    obtain ⟨rfl, hb⟩ := hsh
    rw [(wfNodeB_none cfg bs).1 hw] at hb
    cases bs' with
    | nil => simp [Spec.wfNodeB]
    | atom _ _ _ => exact hb.elim
    | sub _ _ _ => exact hb.elim
  | .mk (some v) .nil, .mk v' bs', hsh, hw => by
    obtain ⟨rfl, hb⟩ := hsh
    cases bs' with
    | nil => exact hw
    | atom _ _ _ => exact hb.elim
    | sub _ _ _ => exact hb.elim
  | .mk (some v) (.atom r a rest), .mk v' bs', hsh, hw => by
    obtain ⟨rfl, hb⟩ := hsh
    cases bs' with
    | nil => exact hb.elim
    | sub _ _ _ => exact hb.elim
    | atom r' a' rest' =>
      obtain ⟨hr, rfl, hrest⟩ := hb
      rw [wfNodeB_some, Bool.and_eq_true, wfTopB_atom, Bool.and_eq_true] at hw
      rw [wfNodeB_some, Bool.and_eq_true, wfTopB_atom, Bool.and_eq_true]
      refine ⟨hw.1, ?_, wfEdgesB_sameShape h hs rest rest' hrest hw.2.2⟩
      by_cases hsl : r = ['/']
      · subst hsl
        simp only [if_true] at hw
        rcases slash_rewritten h hs hr with rfl | h'
        · simpa using hw.2.1
        · split
          · exact hw.2.1
          · simp [h', hw.2.1]
      · simp only [hsl, if_false, Bool.and_eq_true] at hw
        have h' := roleText_rewritten h hw.2.1.1 hr
        split
        · exact hw.2.1.2
        · simp [h', hw.2.1.2]
  | .mk (some v) (.sub r n rest), .mk v' bs', hsh, hw => by
    obtain ⟨rfl, hb⟩ := hsh
    cases bs' with
    | nil => exact hb.elim
    | atom _ _ _ => exact hb.elim
    | sub r' n' rest' =>
      obtain ⟨hr, hn, hrest⟩ := hb
      rw [wfNodeB_some, Bool.and_eq_true, wfTopB_sub, Bool.and_eq_true, Bool.and_eq_true] at hw
      rw [wfNodeB_some, Bool.and_eq_true, wfTopB_sub, Bool.and_eq_true, Bool.and_eq_true]
      exact ⟨hw.1, ⟨roleText_rewritten h hw.2.1.1 hr, wfTreeText_sameShape h hs n n' hn hw.2.1.2⟩,
        wfEdgesB_sameShape h hs rest rest' hrest hw.2.2⟩
theorem wfEdgesB_sameShape (h : NormRolesText cfg m = true) (hs : m.slashOk = true) :
    ∀ bs bs' : Branches, Branches.sameShape (RoleRewritten m) bs bs' → Spec.wfEdgesB cfg bs = true →
    Spec.wfEdgesB cfg bs' = true
  | .nil, .nil, _, _ => rfl
  | .atom r a rest, .atom r' a' rest', hsh, hw => by
    obtain ⟨hr, rfl, hrest⟩ := hsh
    simp only [Spec.wfEdgesB, Bool.and_eq_true] at hw ⊢
    exact ⟨⟨roleText_rewritten h hw.1.1 hr, hw.1.2⟩, wfEdgesB_sameShape h hs rest rest' hrest hw.2⟩
  | .sub r n rest, .sub r' n' rest', hsh, hw => by
    obtain ⟨hr, hn, hrest⟩ := hsh
    simp only [Spec.wfEdgesB, Bool.and_eq_true] at hw ⊢
    exact ⟨⟨roleText_rewritten h hw.1.1 hr, wfTreeText_sameShape h hs n n' hn hw.1.2⟩,
      wfEdgesB_sameShape h hs rest rest' hrest hw.2⟩
  | .nil, .atom .., hsh, _ | .nil, .sub .., hsh, _ | .atom .., .nil, hsh, _ | .atom .., .sub .., hsh, _
  | .sub .., .nil, hsh, _ | .sub .., .atom .., hsh, _ => hsh.elim
end

/-- `canonicalize_roles` keeps a grammar-valid tree grammar-valid -/
theorem wfTreeText_canon (h : NormRolesText cfg m = true) (hs : m.slashOk = true) {n n' : Node}
    (hc : canonNode m n = .ok n') (hw : Spec.WfTreeText cfg n) : Spec.WfTreeText cfg n' :=
  wfTreeText_sameShape h hs n n' (Role.canonNode_shape m n n' hc) hw

end Penman.NF
