/-
  Penman.Proofs.NormalFormTree — tree-level machinery for the "normal form" clause of C20:
  the equations of the recursive definitions of Spec/WfLayout.lean as rewrite rules,
  a generic preservation principle for `rearrangeNode` (`RearrStable`), the predicate
  "every role of the tree satisfies `p`" (`allRolesN`), and basic facts about
  `dropNullConcept` (variables, no empty concept slot left).
  Namespace `NF`: the normal-form clause of C20; `RA` is the namespace of Proofs/Rearrange*.lean.
-/
import Penman.Proofs.RearrangeInterp
import Penman.Spec.WfLayout
import Penman.Spec.Role
namespace Penman.NF
open Penman.RA

theorem toList_eq_nil : ∀ {bs : Branches}, bs.toList = [] → bs = .nil
  | .nil, _ => rfl
  | .atom .., h => by simp [Branches.toList] at h
  | .sub .., h => by simp [Branches.toList] at h

theorem mem_of_mem_sortedPart {bs : Branches} {b : Branch} (h : b ∈ bs.sortedPart.toList) : b ∈ bs.toList :=
  (Branches.sortedPart_sublist bs).subset h

theorem mem_of_mem_leading {bs : Branches} {b : Branch} (h : b ∈ bs.leading.toList) : b ∈ bs.toList := by
  rw [← Branches.leading_append_sortedPart bs, Branches.toList_append]; exact List.mem_append_left _ h

/-- replacing the part `rearrange` sorts: a leading `/` branch stays in front, or there is none -/
theorem leading_append_cases (bs x : Branches) :
    bs.leading.append x = x ∨
    (∃ a rest, bs = .atom ['/'] a rest ∧ bs.leading.append x = .atom ['/'] a x) ∨
    (∃ n rest, bs = .sub ['/'] n rest ∧ bs.leading.append x = .sub ['/'] n x) := by
  cases bs with
  | nil => exact Or.inl rfl
  | atom r a rest =>
    by_cases hr : r = ['/']
    · subst hr; exact Or.inr (Or.inl ⟨a, rest, rfl, rfl⟩)
    · left; simp [Branches.leading, hr, Branches.append]
  | sub r n rest =>
    by_cases hr : r = ['/']
    · subst hr; exact Or.inr (Or.inr ⟨n, rest, rfl, rfl⟩)
    · left; simp [Branches.leading, hr, Branches.append]

theorem dropNullConcept_mk (v : Option Str) (bs : Branches) :
    dropNullConcept (.mk v bs) = .mk v (dropNullBranches bs) := rfl

theorem dropNullBranches_atom (r : Str) (a : Atom) (rest : Branches) :
    dropNullBranches (.atom r a rest) =
      if r = ['/'] ∧ a = .none then dropNullBranches rest else .atom r a (dropNullBranches rest) := rfl

theorem dropNullBranches_sub (r : Str) (n : Node) (rest : Branches) :
    dropNullBranches (.sub r n rest) = .sub r (dropNullConcept n) (dropNullBranches rest) := rfl

theorem noNullN_mk (v : Option Str) (bs : Branches) : noNullN (.mk v bs) = noNullB bs := rfl

theorem noNullB_nil : noNullB .nil = true := rfl

theorem noNullB_atom (r : Str) (a : Atom) (rest : Branches) :
    noNullB (.atom r a rest) = (!(decide (r = ['/'] ∧ a = .none)) && noNullB rest) := rfl

theorem noNullB_sub (r : Str) (n : Node) (rest : Branches) :
    noNullB (.sub r n rest) = (noNullN n && noNullB rest) := rfl

section
variable (isAlpha : Char → Bool) (m : Model)

theorem wfNodeB_nil (var : Str) : wfNodeB isAlpha m (.mk (some var) .nil) = true := rfl

theorem wfBranchesB_nil (var : Str) : wfBranchesB isAlpha m var .nil = true := rfl

theorem wfNodeB_atom (var r : Str) (a : Atom) (rest : Branches) :
    wfNodeB isAlpha m (.mk (some var) (.atom r a rest)) =
      if r = ['/'] then atomOk isAlpha a && wfBranchesB isAlpha m var rest
      else wfBranchesB isAlpha m var (.atom r a rest) := rfl

theorem wfNodeB_sub (var r : Str) (n : Node) (rest : Branches) :
    wfNodeB isAlpha m (.mk (some var) (.sub r n rest)) = wfBranchesB isAlpha m var (.sub r n rest) := rfl

theorem wfBranchesB_atom (var r : Str) (a : Atom) (rest : Branches) :
    wfBranchesB isAlpha m var (.atom r a rest) =
      (roleOk isAlpha m r && atomOk isAlpha a
        && !(deinverts m (roleCore isAlpha r) && decide (atomCore isAlpha a = .str var))
        && wfBranchesB isAlpha m var rest) := rfl

theorem wfBranchesB_sub (var r : Str) (n : Node) (rest : Branches) :
    wfBranchesB isAlpha m var (.sub r n rest) =
      (roleOk isAlpha m r && wfNodeB isAlpha m n && wfBranchesB isAlpha m var rest) := rfl

end

/-- `P` (on nodes) with edge predicate `E` (relative to the variable of the node) is stable
    under `_rearrange`: `P` of a node gives `E` of every branch that is sorted, `P` is rebuilt from
    the leading `/` branch and any list of as many `E`-branches, and `E` of a node-branch is
    `P` of the nested node plus something that does not depend on that node. -/
structure RearrStable (P : Node → Prop) (E : Option Str → Branch → Prop) : Prop where
  decomp : ∀ v bs, P (.mk v bs) → ∀ b ∈ bs.sortedPart.toList, E v b
  rebuild : ∀ v bs x, P (.mk v bs) → x.toList.length = bs.sortedPart.toList.length →
    (∀ b ∈ x.toList, E v b) → P (.mk v (bs.leading.append x))
  sub : ∀ v r n, E v (r, .node n) → P n
  resub : ∀ v r n n', E v (r, .node n) → P n' → E v (r, .node n')

section
variable {P : Node → Prop} {E : Option Str → Branch → Prop}

mutual
theorem rearrangeNode_stable (h : RearrStable P E) (m : Model) (vars : List Str)
    (key : Option (List KeyFn)) : ∀ n : Node, P n → P (rearrangeNode m vars key n)
  | .mk v bs, hp => by
    rw [rearrangeNode_eq, rearrangeKids_eq_map]
    refine h.rebuild v bs _ hp ?_ ?_
    · rw [Branches.toList_ofList, (sortBranches_perm m vars key _).length_eq, List.length_map]
    · intro b hb
      rw [Branches.toList_ofList] at hb
      have hb' := (sortBranches_perm m vars key _).mem_iff.1 hb
      obtain ⟨b0, hb0, rfl⟩ := List.mem_map.1 hb'
      exact rearrangeBranch_stable h m vars key v bs b0 (mem_of_mem_sortedPart hb0) (h.decomp v bs hp b0 hb0)
theorem rearrangeBranch_stable (h : RearrStable P E) (m : Model) (vars : List Str)
    (key : Option (List KeyFn)) (v : Option Str) : ∀ (bs : Branches) (b : Branch), b ∈ bs.toList → E v b →
    E v (rearrangeBranch m vars key b)
  | .nil, b, hb, _ => by simp [Branches.toList] at hb
  | .atom r a rest, b, hb, he => by
    simp only [Branches.toList, List.mem_cons] at hb
    rcases hb with rfl | hb
    · exact he
    · exact rearrangeBranch_stable h m vars key v rest b hb he
  | .sub r n rest, b, hb, he => by
    simp only [Branches.toList, List.mem_cons] at hb
    rcases hb with rfl | hb
    · exact h.resub v r n _ he (rearrangeNode_stable h m vars key n (h.sub v r n he))
    · exact rearrangeBranch_stable h m vars key v rest b hb he
end
end

mutual
def allRolesN (p : Str → Prop) : Node → Prop
  | .mk _ bs => allRolesB p bs
def allRolesB (p : Str → Prop) : Branches → Prop
  | .nil => True
  | .atom r _ rest => p r ∧ allRolesB p rest
  | .sub r n rest => p r ∧ allRolesN p n ∧ allRolesB p rest
end

def roleEdge (p : Str → Prop) (b : Branch) : Prop :=
  p b.1 ∧ (match b.2 with | .node n => allRolesN p n | .atom _ => True)

theorem allRolesB_iff (p : Str → Prop) : ∀ bs : Branches, allRolesB p bs ↔ ∀ b ∈ bs.toList, roleEdge p b
  | .nil => ⟨fun _ _ hb => (nomatch hb), fun _ => trivial⟩
  | .atom r a rest => by
    show p r ∧ allRolesB p rest ↔ ∀ b ∈ (r, Tgt.atom a) :: rest.toList, roleEdge p b
    rw [List.forall_mem_cons, allRolesB_iff p rest]
    exact and_congr_left' (iff_of_eq (and_true _)).symm
  | .sub r n rest => by
    show p r ∧ allRolesN p n ∧ allRolesB p rest ↔ ∀ b ∈ (r, Tgt.node n) :: rest.toList, roleEdge p b
    rw [List.forall_mem_cons, allRolesB_iff p rest]
    exact and_assoc.symm

theorem forall_leading_append {E : Branch → Prop} {bs x : Branches} (hp : ∀ b ∈ bs.toList, E b)
    (hx : ∀ b ∈ x.toList, E b) : ∀ b ∈ (bs.leading.append x).toList, E b := by
  intro b hb
  rw [Branches.toList_append] at hb
  rcases List.mem_append.1 hb with hb | hb
  · exact hp b (mem_of_mem_leading hb)
  · exact hx b hb

theorem allRoles_stable (p : Str → Prop) : RearrStable (allRolesN p) (fun _ b => roleEdge p b) where
  decomp := fun _ bs hp b hb => (allRolesB_iff p bs).1 hp b (mem_of_mem_sortedPart hb)
  rebuild := fun _ bs _ hp _ hx =>
    (allRolesB_iff p _).2 (forall_leading_append ((allRolesB_iff p bs).1 hp) hx)
  sub := fun _ _ _ h => h.2
  resub := fun _ _ _ _ h h' => ⟨h.1, h'⟩

mutual
theorem allRolesN_sameShape (p : Str → Prop) : ∀ n : Node,
    allRolesN p n ↔ Node.sameShape (fun _ r' => p r') n n
  | .mk _ bs => (allRolesB_sameShape p bs).trans (and_iff_right rfl).symm
theorem allRolesB_sameShape (p : Str → Prop) : ∀ bs : Branches,
    allRolesB p bs ↔ Branches.sameShape (fun _ r' => p r') bs bs
  | .nil => Iff.rfl
  | .atom _ _ rest => and_congr Iff.rfl ((allRolesB_sameShape p rest).trans (and_iff_right rfl).symm)
  | .sub _ n rest => and_congr Iff.rfl (and_congr (allRolesN_sameShape p n) (allRolesB_sameShape p rest))
end

mutual
theorem allRolesN_dropNull (p : Str → Prop) : ∀ n : Node, allRolesN p n → allRolesN p (dropNullConcept n)
  | .mk _ bs, h => allRolesB_dropNull p bs h
theorem allRolesB_dropNull (p : Str → Prop) : ∀ bs : Branches, allRolesB p bs → allRolesB p (dropNullBranches bs)
  | .nil, _ => trivial
  | .atom r a rest, h => by
    rw [dropNullBranches_atom]
    split
    · exact allRolesB_dropNull p rest h.2
    · exact ⟨h.1, allRolesB_dropNull p rest h.2⟩
  | .sub r n rest, h => ⟨h.1, allRolesN_dropNull p n h.2.1, allRolesB_dropNull p rest h.2.2⟩
end

mutual
theorem dropNull_nodes : ∀ n : Node, (dropNullConcept n).nodes.map (·.1) = n.nodes.map (·.1)
  | .mk v bs => by
    cases v <;> simp [dropNullConcept, Node.nodes, dropNullB_nodes bs]
theorem dropNullB_nodes : ∀ bs : Branches, (dropNullBranches bs).nodes.map (·.1) = bs.nodes.map (·.1)
  | .nil => rfl
  | .atom r a rest => by
    rw [dropNullBranches_atom]
    split <;> simp [Branches.nodes, dropNullB_nodes rest]
  | .sub r n rest => by
    simp [dropNullBranches_sub, Branches.nodes, dropNull_nodes n, dropNullB_nodes rest]
end

theorem dropNull_vars (n : Node) : (dropNullConcept n).vars = n.vars := dropNull_nodes n

theorem dropNull_var (n : Node) : (dropNullConcept n).var = n.var := by
  cases n; rfl

mutual
theorem noNull_dropNull : ∀ n : Node, noNullN (dropNullConcept n) = true
  | .mk _ bs => noNullB_dropNull bs
theorem noNullB_dropNull : ∀ bs : Branches, noNullB (dropNullBranches bs) = true
  | .nil => rfl
  | .atom r a rest => by
    rw [dropNullBranches_atom]
    split
    · exact noNullB_dropNull rest
    · rename_i h; simp [noNullB_atom, h, noNullB_dropNull rest]
  | .sub r n rest => by
    rw [dropNullBranches_sub, noNullB_sub, noNull_dropNull n, noNullB_dropNull rest]; rfl
end

def noNullEdge (b : Branch) : Prop :=
  match b with
  | (r, .atom a) => ¬ (r = ['/'] ∧ a = .none)
  | (_, .node n) => noNullN n = true

theorem noNullB_iff : ∀ bs : Branches, noNullB bs = true ↔ ∀ b ∈ bs.toList, noNullEdge b
  | .nil => ⟨fun _ _ hb => (nomatch hb), fun _ => rfl⟩
  | .atom r a rest => by
    show _ ↔ ∀ b ∈ (r, Tgt.atom a) :: rest.toList, noNullEdge b
    simp only [noNullB_atom, List.forall_mem_cons, noNullEdge, noNullB_iff rest,
      Bool.and_eq_true, Bool.not_eq_true', decide_eq_false_iff_not]
  | .sub r n rest => by
    show _ ↔ ∀ b ∈ (r, Tgt.node n) :: rest.toList, noNullEdge b
    simp only [noNullB_sub, List.forall_mem_cons, noNullEdge, noNullB_iff rest, Bool.and_eq_true]

theorem noNull_stable : RearrStable (fun n => noNullN n = true) (fun _ b => noNullEdge b) where
  decomp := fun _ bs hp b hb => (noNullB_iff bs).1 hp b (mem_of_mem_sortedPart hb)
  rebuild := fun _ bs _ hp _ hx => (noNullB_iff _).2 (forall_leading_append ((noNullB_iff bs).1 hp) hx)
  sub := fun _ _ _ h => h
  resub := fun _ _ _ _ _ h' => h'

theorem noNull_rearrange (m : Model) (vars : List Str) (key : Option (List KeyFn)) (n : Node)
    (h : noNullN n = true) : noNullN (rearrangeNode m vars key n) = true :=
  rearrangeNode_stable noNull_stable m vars key n h

end Penman.NF

