/-
  Penman.Proofs.NormalFormVarsBase — the renaming `renVar vm` of `reset_variables` on the keys of the
  variable map: injective, onto the new names, and never confusing a key with a name that is not new.
  Namespace `RV` (reset variables) is that of Proofs/ResetVars.lean and ResetIso.lean.
-/
import Penman.Proofs.ResetIso

namespace Penman.RV

variable {vm : AList Str Str} {vars : List Str}

theorem renVar_key_inj (hv : VmOk vm vars) {x y : Str}
    (hx : x ∈ AList.keys vm) (hy : y ∈ AList.keys vm) (e : renVar vm x = renVar vm y) : x = y := by
  obtain ⟨nx, hnx⟩ := Option.isSome_iff_exists.1 (get?_isSome_iff.2 hx)
  obtain ⟨ny, hny⟩ := Option.isSome_iff_exists.1 (get?_isSome_iff.2 hy)
  rw [renVar_of_get? hnx, renVar_of_get? hny] at e
  subst e
  exact get?_inj_of_nodup_vals hv.inj hnx hny

theorem renVar_mem_news (hv : VmOk vm vars) {x : Str}
    (hx : x ∈ AList.keys vm) : renVar vm x ∈ vars.map (renVar vm) :=
  List.mem_map.2 ⟨x, (hv.keys x).2 hx, rfl⟩

/-- a name that is a key or is not a new name is renamed like the key `x` only if it is `x` -/
theorem renVar_eq_key (hv : VmOk vm vars) {x s : Str}
    (hx : x ∈ AList.keys vm) (hs : s ∈ AList.keys vm ∨ s ∉ vars.map (renVar vm))
    (h : renVar vm s = renVar vm x) : s = x := by
  by_cases ks : s ∈ AList.keys vm
  · exact renVar_key_inj hv ks hx h
  · rw [renVar_of_not_key ks] at h
    exact absurd (h ▸ renVar_mem_news hv hx) (hs.resolve_left ks)

end Penman.RV
