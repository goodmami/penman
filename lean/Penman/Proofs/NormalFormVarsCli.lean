/-
  Penman.Proofs.NormalFormVarsCli — the command with `--make-variables FMT`: both passes on one tree,
  with hypotheses on the FIRST pass only.  The facts the second pass needs about the relabelled tree
  (`WfLayout`, no empty concept slot, grammar validity, fixed point of canonicalisation / graph stages /
  rearrangement) are transported along the renaming `RV.renNode vm` (C10 `reset_shape`):
  `NormalFormVarsLayout.lean` (a), `NormalFormVarsTree.lean` (b, c, d), `NormalFormVarsStages.lean` (e).
-/
import Penman.Proofs.NormalFormGraphVars
import Penman.Proofs.NormalFormVarsLayout
import Penman.Proofs.NormalFormVarsTree
import Penman.Proofs.NormalFormVarsStages

namespace Penman
namespace C20gen
open Penman.NF Penman.Cfg Penman.C03Text Penman.RV

mutual
theorem wfText_nodes_symbol (cfg : LexCfg) : ∀ n : Node, Spec.wfNodeB cfg n = true →
    ∀ p ∈ n.nodes, Spec.symbolB cfg p.1 = true
  | .mk none bs, h, p, hp => by
    cases bs with
    | nil => simp [Node.nodes, Branches.nodes] at hp
    | atom r a rest => simp [Spec.wfNodeB] at h
    | sub r n rest => simp [Spec.wfNodeB] at h
  | .mk (some v) bs, h, p, hp => by
    simp only [Spec.wfNodeB, Bool.and_eq_true] at h
    simp only [Node.nodes, List.singleton_append, List.mem_cons] at hp
    rcases hp with rfl | hp
    · exact h.1
    · exact wfText_top_symbol cfg bs h.2 p hp
theorem wfText_top_symbol (cfg : LexCfg) : ∀ bs : Branches, Spec.wfTopB cfg bs = true →
    ∀ p ∈ bs.nodes, Spec.symbolB cfg p.1 = true
  | .nil, _, p, hp => by simp [Branches.nodes] at hp
  | .atom r a rest, h, p, hp => by
    simp only [Spec.wfTopB, Bool.and_eq_true] at h
    simp only [Branches.nodes] at hp
    exact wfText_edges_symbol cfg rest h.2 p hp
  | .sub r n rest, h, p, hp => by
    simp only [Spec.wfTopB, Bool.and_eq_true] at h
    simp only [Branches.nodes, List.mem_append] at hp
    rcases hp with hp | hp
    · exact wfText_nodes_symbol cfg n h.1.2 p hp
    · exact wfText_edges_symbol cfg rest h.2 p hp
theorem wfText_edges_symbol (cfg : LexCfg) : ∀ bs : Branches, Spec.wfEdgesB cfg bs = true →
    ∀ p ∈ bs.nodes, Spec.symbolB cfg p.1 = true
  | .nil, _, p, hp => by simp [Branches.nodes] at hp
  | .atom r a rest, h, p, hp => by
    simp only [Spec.wfEdgesB, Bool.and_eq_true] at h
    simp only [Branches.nodes] at hp
    exact wfText_edges_symbol cfg rest h.2 p hp
  | .sub r n rest, h, p, hp => by
    simp only [Spec.wfEdgesB, Bool.and_eq_true] at h
    simp only [Branches.nodes, List.mem_append] at hp
    rcases hp with hp | hp
    · exact wfText_nodes_symbol cfg n h.1.2 p hp
    · exact wfText_edges_symbol cfg rest h.2 p hp
end

theorem wfText_vars_symbol (cfg : LexCfg) (n : Node) (h : Spec.WfTreeText cfg n) :
    ∀ v ∈ n.vars, Spec.symbolB cfg v = true := by
  intro v hv
  simp only [Node.vars, List.mem_map] at hv
  obtain ⟨p, hp, rfl⟩ := hv
  exact wfText_nodes_symbol cfg n h p hp

theorem symbol_ne_nil {cfg : LexCfg} {s : Str} (h : Spec.symbolB cfg s = true) : s ≠ [] := by
  intro e; subst e; simp [Spec.symbolB] at h

/-- the facts about the variable map used by all transport lemmas -/
structure ResetFacts (cfg : LexCfg) (m : Model) (vm : AList Str Str) (n n' : Node) : Prop where
  shape : n' = renNode vm n
  vmOk : VmOk vm n.vars
  mappable : nodeMappable vm n = true
  isoOk : nodeIsoOk m vm (n.vars.map (renVar vm)) n = true
  newSym : ∀ k nv, AList.get? vm k = some nv → Spec.symbolB cfg nv = true

theorem resetFacts {cfg : LexCfg} (isAlpha : Char → Bool) (lower : Char → Str) (fmt : Fmt) (m : Model)
    (n n' : Node) (vm : AList Str Str)
    (hvm : buildVarmap isAlpha lower fmt n.nodes [] [] = some vm)
    (h : n.resetVariables isAlpha lower fmt = .ok n')
    (hwf : WfReset m vm n = true)
    (hnames : ∀ v ∈ n'.vars, Spec.symbolB cfg v = true) : ResetFacts cfg m vm n n' := by
  obtain ⟨vm', hvm', hn', hall, hvars, _⟩ := reset_shape isAlpha lower fmt n n' h
  rw [hvm] at hvm'
  injection hvm' with hvm'
  subst hvm'
  obtain ⟨_, _, hkeys, hnodup, _, _⟩ := varmap_injective isAlpha lower fmt n vm hvm
  simp only [WfReset, Bool.and_eq_true, List.all_eq_true, bne_iff_ne, ne_eq, Bool.not_eq_true',
    List.contains_eq_mem, decide_eq_false_iff_not] at hwf
  obtain ⟨⟨hq, hnews⟩, hiso⟩ := hwf
  have hv : VmOk vm n.vars :=
    { keys := fun x => (hkeys x).symm
      inj := hnodup
      keysQ := hq
      newsOk := fun k nv hg => hnews nv (List.mem_map.2 ⟨(k, nv), RV.mem_of_get? hg, rfl⟩) }
  refine ⟨hn', hv, (nodeMappable_iff vm n).2 ⟨hall, fun v hv' => (hkeys v).2 hv'⟩, hiso, ?_⟩
  intro k nv hg
  apply hnames
  rw [hvars]
  exact (mem_news hv).2 ⟨k, hg⟩

/-- **`--make-variables`, one graph, both passes, hypotheses on the first pass only.**  The first pass
    decodes/transforms `T` to `g1`, encodes it to `T1`; `R = nfTree m re T1` is the rearranged tree and
    `N'` its relabelling.  Hypotheses: those of `tree_normal_form_stages` on `g1` and `R`, C10's `WfReset`
    for the variable map, and new names that are SYMBOL texts. -/
theorem tree_normal_form_vars_first {cfg : LexCfg} (hwc : Spec.FmtCfgWf cfg = true) (u : UTables) (m : Model)
    (canon : Bool) (re : Option (List KeyFn × Bool)) (rE dE rA : Bool) (fmt : Fmt) (i : Indent) (c : Bool)
    (hw : ModelWf m) (hnoop : m.noop = false) (T : Tree) (g1 : Graph) (T1 : Tree) (N' : Node)
    (vm : AList Str Str)
    (hin : processIn u m (varOpts canon re rE dE rA fmt i c) T = .ok g1)
    (hcf : configure m g1 none = .ok T1)
    (hg : WfGraph m g1) (hL : LayoutOK m g1) (htx : GraphTextOK cfg u.isSpace m g1) (hpv : Cfg.PushVars g1)
    (hnum : NoNum g1)
    (hcanon : canonStep m canon (nfTree m re T1) = .ok (nfTree m re T1))
    (hfix : StagesFixed u.isAlpha m (stageOpts canon re rE dE rA i c) (nfTree m re T1))
    (hvm : buildVarmap u.isAlpha u.lower fmt (nfTree m re T1).node.nodes [] [] = some vm)
    (hrv : (nfTree m re T1).node.resetVariables u.isAlpha u.lower fmt = .ok N')
    (hreset : WfReset m vm (nfTree m re T1).node = true)
    (hnames : ∀ v ∈ N'.vars, Spec.symbolB cfg v = true) :
    processTree u m (varOpts canon re rE dE rA fmt i c) T = .ok (format ⟨N', T1.metadata⟩ i c, 0) ∧
    Spec.WfTreeText cfg N' ∧ Spec.WfMeta u.isSpace T1.metadata ∧
    processTree u m (varOpts canon re rE dE rA fmt i c) ⟨N', T1.metadata⟩ =
      .ok (format ⟨N', T1.metadata⟩ i c, 0) := by
  obtain ⟨hR, hlR, htR, hmR, hidR⟩ := printed_tree (cfg := cfg) u re hw hnoop hcf hg hL htx hpv hnum
  have hnR := nfTree_noNull m re T1
  have hmdR : (nfTree m re T1).metadata = T1.metadata := nfTree_metadata m re T1
  have ht2 : Spec.WfMeta u.isSpace T1.metadata := hmdR ▸ hmR
  have F := resetFacts (cfg := cfg) u.isAlpha u.lower fmt m _ N' vm hvm hrv hreset hnames
  have hsymK : ∀ k ∈ AList.keys vm, Spec.symbolB cfg k = true := fun k hk =>
    wfText_vars_symbol cfg _ htR k ((F.vmOk.keys k).2 hk)
  have hne : ∀ k nv, AList.get? vm k = some nv → nv ≠ [] := fun k nv hg => symbol_ne_nil (F.newSym k nv hg)
  have eR : (⟨(nfTree m re T1).node, T1.metadata⟩ : Tree) = nfTree m re T1 := by
    rw [← hmdR]
  -- (a)
  have hl' : WfLayout u.isAlpha m N' := by
    rw [F.shape]; exact wfLayout_ren u.isAlpha m _ F.vmOk hne F.mappable F.isoOk hlR
  have hnn' : noNullN N' = true := by rw [F.shape, noNullN_ren]; exact hnR
  -- (b)
  have hwt' : Spec.WfTreeText cfg N' := by
    rw [F.shape]
    exact wfTreeText_ren hwc vm _ F.newSym (fun k hk => F.vmOk.keysQ k hk) htR
  -- (d)
  have hcanon' : canonStep m canon ⟨N', T1.metadata⟩ = .ok ⟨N', T1.metadata⟩ := by
    rw [F.shape]
    exact canonStep_ren_fixed m canon vm _ _ (by rw [eR]; exact hcanon)
  -- (c)
  have hre' : rearrangeOpt m re ⟨N', T1.metadata⟩ = ⟨N', T1.metadata⟩ := by
    rw [F.shape]
    exact rearrangeOpt_ren_fixed u.isAlpha m re vm _ _ F.vmOk F.mappable F.isoOk hlR.1
      (fun k hk => tilde_not_in_symbol hwc (hsymK k hk)) (by rw [eR]; exact hidR)
  -- (e)
  have hfix' : StagesFixed u.isAlpha m (varOpts canon re rE dE rA fmt i c) ⟨N', T1.metadata⟩ := by
    intro g' hg'
    rw [F.shape, interpret_ren u.isAlpha m vm _ T1.metadata F.vmOk F.mappable F.isoOk] at hg'
    cases hi : interpret u.isAlpha m ⟨(nfTree m re T1).node, T1.metadata⟩ with
    | error e => rw [hi] at hg'; cases hg'
    | ok g =>
      rw [hi] at hg'
      injection hg' with hg'
      subst hg'
      have hidle : StagesIdle m (stageOpts canon re rE dE rA i c) g := hfix g (by rw [← eR]; exact hi)
      have := stagesIdle_interpret_ren u.isAlpha m (stageOpts canon re rE dE rA i c) vm _ T1.metadata g
        F.vmOk F.mappable F.isoOk hi hidle
      exact ⟨this.reify, this.dereify, this.attrs⟩
  have hrv' : (rearrangeOpt m re T1).node.resetVariables u.isAlpha u.lower fmt = .ok N' := by
    rw [← hR]; exact hrv
  have hnd : (rearrangeOpt m re T1).node.vars.Nodup := by rw [← hR]; exact hlR.2.1
  exact tree_normal_form_vars (cfg := cfg) u m canon re rE dE rA fmt i c T g1 T1 N' hin hcf hnd hrv' hl' hnn'
    hwt' ht2 hcanon' hfix' hre'

end C20gen
end Penman
