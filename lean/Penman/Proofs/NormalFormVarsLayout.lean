/-
  Penman.Proofs.NormalFormVarsLayout — `WfLayout` and `noNullN` are preserved by the renaming
  `RV.renNode vm` that `Tree.reset_variables` performs (C10 `reset_shape`), provided the variable map is
  injective on the tree's variables, no constant is spelled like a new name (`nodeIsoOk`, C10's `WfReset`)
  and the new names are non-empty.
-/
import Penman.Proofs.NormalFormVarsBase
import Penman.Proofs.NormalFormLayout
import Penman.Proofs.RearrangeInterp
import Penman.Spec.WfLayout

namespace Penman
namespace RV

theorem renAtom_eq_none (vm : AList Str Str) (r : Str) (a : Atom) : renAtom vm r a = .none ↔ a = .none := by
  cases a with
  | none => simp [renAtom]
  | num t => simp [renAtom]
  | str s =>
    simp only [renAtom]
    split
    · split <;> simp
    · simp

mutual
theorem noNullN_ren (vm : AList Str Str) : ∀ n : Node, noNullN (renNode vm n) = noNullN n
  | .mk _ bs => noNullB_ren vm bs
theorem noNullB_ren (vm : AList Str Str) : ∀ bs : Branches, noNullB (renBranches vm bs) = noNullB bs
  | .nil => rfl
  | .atom r a rest => by
    simp only [renBranches, NF.noNullB_atom, renAtom_eq_none, noNullB_ren vm rest]
  | .sub r n rest => by
    simp only [renBranches, NF.noNullB_sub, noNullN_ren vm n, noNullB_ren vm rest]
end


theorem atomStr_str (s : Str) : atomStr (.str s) = s := rfl

/-- a reference `k ++ suf` and its image `nv ++ suf` -/
theorem atom_ref_ok (isAlpha : Char → Bool) (k suf nv : Str) (hq : '~' ∉ k) (hq' : k.head? ≠ some '"')
    (hn : '~' ∉ nv) (hn' : nv.head? ≠ some '"') (hne : nv ≠ [])
    (hs : suf = [] ∨ ∃ rest, suf = '~' :: rest) (hok : atomOk isAlpha (.str (k ++ suf)) = true) :
    atomOk isAlpha (.str (nv ++ suf)) = true ∧ atomCore isAlpha (.str (nv ++ suf)) = .str nv := by
  have p1 := processAtomic_stem isAlpha k suf hq hq' hs
  have p2 := processAtomic_stem isAlpha nv suf hn hn' hs
  rw [procTail_ren isAlpha k nv suf] at p2
  simp only [atomOk, p1] at hok
  simp only [atomOk, atomCore, p2]
  cases hpt : procTail isAlpha k suf with
  | error e => simp [hpt] at hok
  | ok p =>
    obtain ⟨t, es⟩ := p
    obtain ⟨ht, _⟩ := procTail_ok hpt
    subst ht
    simp only [hpt, Bool.and_eq_true] at hok
    simp only [map_ok, Bool.and_eq_true, and_true]
    refine ⟨?_, ?_⟩
    · cases nv with
      | nil => exact absurd rfl hne
      | cons c cs => rfl
    · cases es with
      | nil =>
        have h2 := hok.2
        simp only [decide_eq_true_eq, Atom.str.injEq] at h2 ⊢
        have : suf = [] := List.append_right_eq_self.1 h2.symm
        rw [this]; simp
      | cons e es =>
        have h2 := hok.2
        simp only [decide_eq_true_eq, Atom.str.injEq, atomStr_str] at h2 ⊢
        rw [List.append_cancel_left h2]

/-- one atomic branch: `atomOk` is preserved, and the renamed target is the renamed node variable only
    if the target was the node variable -/
theorem atom_ren_ok (isAlpha : Char → Bool) {vm : AList Str Str} {vars : List Str}
    (hv : VmOk vm vars) (hne : ∀ k nv, AList.get? vm k = some nv → nv ≠ [])
    {var : Str} (hvar : var ∈ AList.keys vm) {r : Str} (hr : r ≠ ['/']) (a : Atom)
    (hiso : ∀ s, a = .str s → AList.contains vm (alnStem s) = false → alnStem s ∉ vars.map (renVar vm))
    (hok : atomOk isAlpha a = true) :
    atomOk isAlpha (renAtom vm r a) = true ∧
      (atomCore isAlpha (renAtom vm r a) = .str (renVar vm var) → atomCore isAlpha a = .str var) := by
  cases a with
  | none => exact ⟨hok, fun h => by simp [renAtom, atomCore, processAtomic] at h⟩
  | num t => simp [atomOk, processAtomic] at hok
  | str s =>
    cases hg : AList.get? vm (alnStem s) with
    | none =>
      have hnk : alnStem s ∉ AList.keys vm := get?_eq_none_iff.1 hg
      replace hiso := hiso s rfl (Bool.eq_false_iff.2 fun h => hnk (contains_iff_mem_keys.1 h))
      rw [renAtom_other hg]
      refine ⟨hok, ?_⟩
      intro hcore
      exfalso
      simp only [atomCore] at hcore
      cases hp : processAtomic isAlpha (.str s) with
      | error e => simp [hp] at hcore
      | ok p =>
        obtain ⟨t, e⟩ := p
        simp only [hp, ] at hcore
        obtain ⟨⟨t0, ht0, hcase⟩, _⟩ := processAtomic_ok_tgt hp
        rw [ht0] at hcore
        injection hcore with hcore
        obtain ⟨nv, hnv⟩ := Option.isSome_iff_exists.1 (get?_isSome_iff.2 hvar)
        rw [renVar_of_get? hnv] at hcore
        rcases hcase with h | h
        · apply hiso
          rw [← h, hcore]
          exact (mem_news hv).2 ⟨var, hnv⟩
        · rw [hcore] at h
          exact (hv.newsOk var nv hnv).2 h
    | some nv =>
      have hk : alnStem s ∈ AList.keys vm := get?_isSome_iff.1 (by simp [hg])
      rw [renAtom_ref hr hg]
      have hsplit := partition_tilde_spec s
      have hnvOk := hv.newsOk _ nv hg
      have hok' : atomOk isAlpha (.str (alnStem s ++ alnSuffix s)) = true := by
        have : alnStem s ++ alnSuffix s = s := hsplit.1.symm
        rw [this]; exact hok
      obtain ⟨h1, h2⟩ := atom_ref_ok isAlpha (alnStem s) (alnSuffix s) nv hsplit.2.1 (hv.keysQ _ hk) hnvOk.1 hnvOk.2
        (hne _ nv hg) (alnSuffix_shape s) hok'
      refine ⟨h1, ?_⟩
      intro h
      rw [h2] at h
      injection h with h
      have e := renVar_key_inj hv hk hvar (by rw [renVar_of_get? hg]; exact h)
      have p1 := processAtomic_stem isAlpha (alnStem s) (alnSuffix s) hsplit.2.1 (hv.keysQ _ hk) (alnSuffix_shape s)
      rw [← hsplit.1] at p1
      simp only [atomOk, p1] at hok
      simp only [atomCore, p1]
      cases hpt : procTail isAlpha (alnStem s) (alnSuffix s) with
      | error e => simp [hpt] at hok
      | ok p =>
        obtain ⟨t, es⟩ := p
        obtain ⟨ht, _⟩ := procTail_ok hpt
        rw [ht, e]

mutual
theorem layoutNodeB_ren (isAlpha : Char → Bool) (m : Model) {vm : AList Str Str} {vars : List Str}
    (hv : VmOk vm vars) (hne : ∀ k nv, AList.get? vm k = some nv → nv ≠ []) :
    ∀ n : Node, nodeMappable vm n = true → nodeIsoOk m vm (vars.map (renVar vm)) n = true →
      Penman.wfNodeB isAlpha m n = true → Penman.wfNodeB isAlpha m (renNode vm n) = true
  | .mk v bs, hmp, hok, hwf => by
    cases v with
    | none => cases hwf
    | some var =>
      simp only [nodeMappable, Bool.and_eq_true] at hmp
      simp only [nodeIsoOk] at hok
      have hvar := contains_iff_mem_keys.1 hmp.1
      cases bs with
      | nil => rfl
      | atom role a rest =>
        rw [NF.wfNodeB_atom] at hwf
        by_cases hr : role = ['/']
        · subst hr
          rw [if_pos rfl, Bool.and_eq_true] at hwf
          simp only [branchesMappable] at hmp
          simp only [branchesIsoOk, Bool.and_eq_true] at hok
          show Penman.wfNodeB isAlpha m (.mk (some (renVar vm var))
            (.atom ['/'] (renAtom vm ['/'] a) (renBranches vm rest))) = true
          rw [NF.wfNodeB_atom, if_pos rfl, renAtom_concept, Bool.and_eq_true]
          exact ⟨hwf.1, layoutBranchesB_ren isAlpha m hv hne rest var hvar hmp.2 hok.2 hwf.2⟩
        · rw [if_neg hr] at hwf
          exact NF.wfNodeB_of_branches isAlpha m _ _
            (layoutBranchesB_ren isAlpha m hv hne (.atom role a rest) var hvar hmp.2 hok hwf)
      | sub role n rest =>
        exact NF.wfNodeB_of_branches isAlpha m _ _
          (layoutBranchesB_ren isAlpha m hv hne (.sub role n rest) var hvar hmp.2 hok hwf)
theorem layoutBranchesB_ren (isAlpha : Char → Bool) (m : Model) {vm : AList Str Str} {vars : List Str}
    (hv : VmOk vm vars) (hne : ∀ k nv, AList.get? vm k = some nv → nv ≠ []) :
    ∀ (bs : Branches) (var : Str), var ∈ AList.keys vm → branchesMappable vm bs = true →
      branchesIsoOk m vm (vars.map (renVar vm)) bs = true →
      wfBranchesB isAlpha m var bs = true → wfBranchesB isAlpha m (renVar vm var) (renBranches vm bs) = true
  | .nil, _, _, _, _, _ => rfl
  | .atom role a rest, var, hvar, hmp, hok, hwf => by
    simp only [branchesMappable] at hmp
    simp only [branchesIsoOk, Bool.and_eq_true] at hok
    simp only [NF.wfBranchesB_atom, Bool.and_eq_true, Bool.not_eq_true', Bool.and_eq_false_iff,
      decide_eq_false_iff_not] at hwf
    obtain ⟨⟨⟨hro, hao⟩, hsl⟩, hrest⟩ := hwf
    have hr : role ≠ ['/'] := C02.roleOk_ne_slash isAlpha m hro
    have hiso : ∀ s, a = .str s → AList.contains vm (alnStem s) = false →
        alnStem s ∉ vars.map (renVar vm) := by
      rintro s rfl hc
      simpa [hr, hc] using hok.1
    obtain ⟨h1, h2⟩ := atom_ren_ok isAlpha hv hne hvar hr a hiso hao
    have ih := layoutBranchesB_ren isAlpha m hv hne rest var hvar hmp hok.2 hrest
    simp only [renBranches, NF.wfBranchesB_atom, Bool.and_eq_true, Bool.not_eq_true', Bool.and_eq_false_iff,
      decide_eq_false_iff_not]
    refine ⟨⟨⟨hro, h1⟩, ?_⟩, ih⟩
    rcases hsl with h | h
    · exact Or.inl h
    · exact Or.inr (fun hc => h (h2 hc))
  | .sub role n rest, var, hvar, hmp, hok, hwf => by
    simp only [branchesMappable, Bool.and_eq_true] at hmp
    simp only [branchesIsoOk, Bool.and_eq_true, decide_eq_true_eq] at hok
    simp only [NF.wfBranchesB_sub, Bool.and_eq_true] at hwf
    obtain ⟨⟨hro, hn⟩, hrest⟩ := hwf
    simp only [renBranches, NF.wfBranchesB_sub, Bool.and_eq_true]
    exact ⟨⟨hro, layoutNodeB_ren isAlpha m hv hne n hmp.1 hok.1.2 hn⟩,
      layoutBranchesB_ren isAlpha m hv hne rest var hvar hmp.2 hok.2 hrest⟩
end

theorem distinctTriplesB_ren (isAlpha : Char → Bool) (m : Model) {vm : AList Str Str} (n : Node)
    (hv : VmOk vm n.vars) (hmp : nodeMappable vm n = true)
    (hok : nodeIsoOk m vm (n.vars.map (renVar vm)) n = true)
    (h : distinctTriplesB isAlpha m n = true) : distinctTriplesB isAlpha m (renNode vm n) = true := by
  have hall := ((nodeMappable_iff vm n).1 hmp).1
  have h1 := interpretNode_ren isAlpha m vm n.vars hv n hall hok
  simp only [distinctTriplesB] at h ⊢
  rw [renNode_vars, h1]
  cases hin : interpretNode isAlpha m n.vars n with
  | error e => simp [hin] at h
  | ok p =>
    obtain ⟨ts, es⟩ := p
    simp only [hin, decide_eq_true_eq] at h
    have hcl := interpretNode_closed isAlpha m vm n.vars hv n (ts, es) hmp hok hin
    have hkeys := RA.interpretNode_keys isAlpha m n.vars n ts es hin
    simp only [map_ok, renPair, decide_eq_true_eq]
    have hclT : ∀ t ∈ ts, Closed vm (n.vars.map (renVar vm)) t := by
      intro t ht
      rw [← hkeys] at ht
      obtain ⟨e, he, rfl⟩ := List.mem_map.1 ht
      exact hcl e he
    exact nodup_map_of_inj_on (fun a ha b hb => renTriple_inj hv a b (hclT a ha) (hclT b hb)) h

/-- **`WfLayout` is preserved by the relabelling** -/
theorem wfLayout_ren (isAlpha : Char → Bool) (m : Model) {vm : AList Str Str} (n : Node)
    (hv : VmOk vm n.vars) (hne : ∀ k nv, AList.get? vm k = some nv → nv ≠ [])
    (hmp : nodeMappable vm n = true) (hok : nodeIsoOk m vm (n.vars.map (renVar vm)) n = true)
    (h : WfLayout isAlpha m n) : WfLayout isAlpha m (renNode vm n) := by
  obtain ⟨h1, h2, h3⟩ := h
  refine ⟨layoutNodeB_ren isAlpha m hv hne n hmp hok h1, ?_, distinctTriplesB_ren isAlpha m n hv hmp hok h3⟩
  rw [renNode_vars]
  exact nodup_map_of_inj_on
    (fun a ha b hb => renVar_key_inj hv ((hv.keys a).1 ha) ((hv.keys b).1 hb)) h2

end RV
end Penman
