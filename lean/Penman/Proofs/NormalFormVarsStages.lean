/-
  Penman.Proofs.NormalFormVarsStages — the "idle stage" predicates of C20
  (`NoReifiable`, `NoCollapsible`, `NoAttributes`, `StagesIdle`) are invariant
  under the variable renaming `renGraph vm` of `reset_variables`, for graphs closed under the variable map
  (`RenOk`, `stagesIdle_ren`); the graphs `interpret` returns are closed (`interpret_renHyps`, which needs
  that their `Push` markers name node variables), hence `stagesIdle_interpret_ren`.
-/
import Penman.Proofs.NormalFormVarsBase
import Penman.Proofs.ConfigureStore
import Penman.Spec.NormalFormGraph
import Penman.Proofs.Transform.ReifyProps
import Penman.Proofs.RearrangeInterp
import Penman.Proofs.Interpret
namespace Penman.RV
open Penman.C20gen

theorem ensureColon_role {g : Graph} (hrc : RolesColon g) {t : Triple} (ht : t ∈ g.triples) :
    ensureColon t.role = t.role := ensureColon_of_colon (hrc t ht)

/-- the target of a renamed triple -/
def renTgtAtom (vm : AList Str Str) : Atom → Atom
  | .str s => .str (renVar vm s)
  | a => a

theorem renTriple_src (vm : AList Str Str) (t : Triple) : (renTriple vm t).src = renVar vm t.src := rfl
theorem renTriple_role (vm : AList Str Str) (t : Triple) : (renTriple vm t).role = t.role := rfl

theorem renTriple_tgt_concept (vm : AList Str Str) {t : Triple} (h : t.role = CONCEPT_ROLE) :
    (renTriple vm t).tgt = t.tgt := by
  simp [renTriple, h, ensureColon_concept]

theorem renTriple_tgt_other (vm : AList Str Str) {t : Triple} (h : ensureColon t.role ≠ CONCEPT_ROLE) :
    (renTriple vm t).tgt = renTgtAtom vm t.tgt := by
  simp only [renTriple, h, if_false, renTgtAtom]
  cases t.tgt <;> rfl

theorem renGraph_getTop (vm : AList Str Str) (g : Graph) :
    (renGraph vm g).getTop = g.getTop.map (renVar vm) := by
  simp only [Graph.getTop, renGraph]
  cases g.top with
  | some t => rfl
  | none =>
    cases g.triples with
    | nil => rfl
    | cons t r => rfl

theorem mem_variables_ren (vm : AList Str Str) (g : Graph) (x' : Str) :
    x' ∈ (renGraph vm g).variables ↔ ∃ x ∈ g.variables, renVar vm x = x' := by
  simp only [mem_variables]
  constructor
  · rintro (⟨t', ht', rfl⟩ | h)
    · simp only [renGraph, List.mem_map] at ht'
      obtain ⟨t, ht, rfl⟩ := ht'
      exact ⟨t.src, Or.inl ⟨t, ht, rfl⟩, rfl⟩
    · simp only [renGraph, Option.map_eq_some_iff] at h
      obtain ⟨x, hx, rfl⟩ := h
      exact ⟨x, Or.inr hx, rfl⟩
  · rintro ⟨x, (⟨t, ht, rfl⟩ | h), rfl⟩
    · exact Or.inl ⟨renTriple vm t, List.mem_map.2 ⟨t, ht, rfl⟩, rfl⟩
    · right; simp [renGraph, h]

theorem variables_keys {vm : AList Str Str} {news : List Str} {g : Graph}
    (hcl : ∀ t ∈ g.triples, Closed vm news t)
    (htop : ∀ t, g.top = some t → t ∈ AList.keys vm) {x : Str} (hx : x ∈ g.variables) :
    x ∈ AList.keys vm := by
  rcases (mem_variables g x).1 hx with ⟨t, ht, rfl⟩ | h
  · exact (hcl t ht).1
  · exact htop x h

theorem noReifiable_ren {m : Model} {vm : AList Str Str} {g : Graph} (h : NoReifiable m g) :
    NoReifiable m (renGraph vm g) := by
  intro t' ht'
  simp only [renGraph, List.mem_map] at ht'
  obtain ⟨t, ht, rfl⟩ := ht'
  exact h t ht

theorem noAttributes_ren {vm : AList Str Str} {g : Graph} (hrc : RolesColon g) (h : NoAttributes g) :
    NoAttributes (renGraph vm g) := by
  intro t' ht'
  simp only [renGraph, List.mem_map] at ht'
  obtain ⟨t, ht, rfl⟩ := ht'
  by_cases hc : t.role = CONCEPT_ROLE
  · exact Or.inl hc
  · right
    have h1 := (h t ht).resolve_left hc
    have hc' : ensureColon t.role ≠ CONCEPT_ROLE := by rw [ensureColon_role hrc ht]; exact hc
    rw [renTriple_tgt_other vm hc']
    cases htg : t.tgt with
    | none => simp [htg, atomInVars] at h1
    | num x => simp [htg, atomInVars] at h1
    | str s =>
      simp only [htg, atomInVars, decide_eq_true_eq] at h1
      simp only [renTgtAtom, atomInVars, decide_eq_true_eq]
      exact (mem_variables_ren vm g _).2 ⟨s, h1, rfl⟩

theorem filter_src_ren {vm : AList Str Str} {vars : List Str} (hv : VmOk vm vars) {l : List Triple}
    (hl : ∀ t ∈ l, t.src ∈ AList.keys vm) {v : Str} (hvk : v ∈ AList.keys vm) (P : Str → Prop)
    [DecidablePred P] :
    (l.map (renTriple vm)).filter (fun t => P t.role ∧ t.src = renVar vm v) =
      (l.filter (fun t => P t.role ∧ t.src = v)).map (renTriple vm) := by
  rw [List.filter_map]
  congr 1
  apply List.filter_congr
  intro t ht
  have : renVar vm t.src = renVar vm v ↔ t.src = v :=
    ⟨renVar_key_inj hv (hl t ht) hvk, fun e => by rw [e]⟩
  simp [Function.comp, renTriple_src, renTriple_role, this]

theorem otherOf_ren {vm : AList Str Str} {vars : List Str} (hv : VmOk vm vars) {l : List Triple}
    (hl : ∀ t ∈ l, t.src ∈ AList.keys vm) {v : Str} (hvk : v ∈ AList.keys vm) :
    otherOf (l.map (renTriple vm)) (renVar vm v) = (otherOf l v).map (renTriple vm) :=
  filter_src_ren hv hl hvk (· ≠ CONCEPT_ROLE)

theorem instOf_ren {vm : AList Str Str} {vars : List Str} (hv : VmOk vm vars) {l : List Triple}
    (hl : ∀ t ∈ l, t.src ∈ AList.keys vm) {v : Str} (hvk : v ∈ AList.keys vm) :
    instOf (l.map (renTriple vm)) (renVar vm v) = (instOf l v).map (renTriple vm) :=
  filter_src_ren hv hl hvk (· = CONCEPT_ROLE)

/-- a fixed variable stays fixed -/
theorem fixed_ren {vm : AList Str Str} {g : Graph} (hrc : RolesColon g) {v : Str}
    (h : Atom.str v ∈ (agendaScan g).1) :
    Atom.str (renVar vm v) ∈ (agendaScan (renGraph vm g)).1 := by
  rw [agendaScan_fixed] at h ⊢
  rcases h with h | ⟨t, ht, hr, htg⟩
  · left
    simp only [topAtom, renGraph_getTop] at h ⊢
    cases hg : g.getTop with
    | none => simp [hg] at h
    | some x =>
      simp only [hg, Atom.str.injEq] at h
      simp [h]
  · right
    refine ⟨renTriple vm t, List.mem_map.2 ⟨t, ht, rfl⟩, hr, ?_⟩
    rw [renTriple_tgt_other vm (by rw [ensureColon_role hrc ht]; exact hr), htg]; rfl

theorem get?_renEntry {vm : AList Str Str} {vars : List Str} (hv : VmOk vm vars) :
    ∀ (d : Epidata) (b : Triple), (∀ e ∈ d, Closed vm (vars.map (renVar vm)) e.1) →
      Closed vm (vars.map (renVar vm)) b →
      AList.get? (d.map (renEntry vm)) (renTriple vm b) =
        (AList.get? d b).map (List.map (renEpi vm))
  | [], b, _, _ => rfl
  | (k, es) :: r, b, hd, hb => by
    have hk : Closed vm (vars.map (renVar vm)) k := hd (k, es) List.mem_cons_self
    have ih := get?_renEntry hv r b (fun e he => hd e (List.mem_cons_of_mem _ he)) hb
    simp only [List.map_cons, AList.get?_cons, renEntry]
    by_cases h : k = b
    · simp [h]
    · have : renTriple vm k ≠ renTriple vm b := fun e => h (renTriple_inj hv k b hk hb e)
      simp only [if_neg h, if_neg this]
      exact ih

theorem getPushedVariable_ren {vm : AList Str Str} {vars : List Str} (hv : VmOk vm vars) {g : Graph}
    (hep : ∀ e ∈ g.epidata, Closed vm (vars.map (renVar vm)) e.1) {b : Triple}
    (hb : Closed vm (vars.map (renVar vm)) b) :
    getPushedVariable (renGraph vm g) (renTriple vm b) = (getPushedVariable g b).map (renVar vm) := by
  unfold getPushedVariable
  simp only [renGraph]
  rw [get?_renEntry hv g.epidata b hep hb]
  cases AList.get? g.epidata b with
  | none => rfl
  | some es =>
    simp only [Option.map_some, Option.getD_some]
    induction es with
    | nil => rfl
    | cons e r ih => cases e <;> simp [List.findSome?, renEpi, ih]

theorem getPushedVariable_mem {g : Graph} {b : Triple} {w : Str} (h : getPushedVariable g b = some w) :
    ∃ e ∈ g.epidata, Epi.push w ∈ e.2 := by
  unfold getPushedVariable at h
  cases hg : AList.get? g.epidata b with
  | none => simp [hg] at h
  | some es =>
    simp only [hg, Option.getD_some] at h
    obtain ⟨a, ha, hf⟩ := List.exists_of_findSome?_eq_some h
    refine ⟨(b, es), AList.mem_of_get? hg, ?_⟩
    cases a with
    | push v => simp only [Option.some.injEq] at hf; subst hf; exact ha
    | pop => simp at hf
    | roleAln p i => simp at hf
    | aln p i => simp at hf

theorem dereifyLoop_ren (f : Atom → Atom) (r1 r2 : Str) (x y : Atom) : ∀ ds : List Reif,
    dereifyLoop r1 r2 (f x) (f y) ds =
      (dereifyLoop r1 r2 x y ds).map (fun p => (f p.1, p.2.1, f p.2.2))
  | [] => rfl
  | rf :: rest => by
    simp only [dereifyLoop]
    split
    · rfl
    · split
      · rfl
      · exact dereifyLoop_ren f r1 r2 x y rest

theorem dereify_ren (m : Model) (vm : AList Str Str) {i0 a b : Triple} (hi : i0.role = CONCEPT_ROLE)
    (ha : ensureColon a.role ≠ CONCEPT_ROLE) (hb : ensureColon b.role ≠ CONCEPT_ROLE)
    (h1 : i0.src = a.src) (h2 : a.src = b.src) :
    m.dereify (renTriple vm i0) (renTriple vm a) (renTriple vm b) =
      (m.dereify i0 a b).map (fun p => (renTgtAtom vm p.1, p.2.1, renTgtAtom vm p.2.2)) := by
  simp only [Model.dereify, renTriple_role, renTriple_src, hi, h1, h2, renTriple_tgt_concept vm hi,
    renTriple_tgt_other vm ha, renTriple_tgt_other vm hb, dereifyLoop_ren]
  simp only [ne_eq, not_true_eq_false, if_false, and_self]
  split
  · rfl
  · cases dereifyLoop a.role b.role a.tgt b.tgt (m.reifs.filter (·.concept = i0.tgt)) <;> rfl

theorem dereifyLoop_src {r1 r2 : Str} {x y : Atom} : ∀ {ds : List Reif} {p : Atom × Str × Atom},
    dereifyLoop r1 r2 x y ds = some p → p.1 = x ∨ p.1 = y
  | [], p, h => by simp [dereifyLoop] at h
  | rf :: rest, p, h => by
    simp only [dereifyLoop] at h
    split at h
    · injection h with h; subst h; exact Or.inl rfl
    · split at h
      · injection h with h; subst h; exact Or.inr rfl
      · exact dereifyLoop_src h

theorem dereify_src {m : Model} {i0 a b : Triple} {p : Atom × Str × Atom}
    (h : m.dereify i0 a b = .ok p) : p.1 = a.tgt ∨ p.1 = b.tgt := by
  simp only [Model.dereify] at h
  split at h
  · cases h
  · split at h
    · cases h
    · split at h
      · cases h
      · split at h
        · rename_i hd
          injection h with h; subst h; exact dereifyLoop_src hd
        · cases h

/-- the new source of a dereified triple is a variable of the renamed graph only if the old
    one is a variable of the old graph -/
theorem dereify_var_ren {m : Model} {vm : AList Str Str} {vars : List Str} (hv : VmOk vm vars)
    {g : Graph} (hcl : ∀ t ∈ g.triples, Closed vm (vars.map (renVar vm)) t)
    (htop : ∀ t, g.top = some t → t ∈ AList.keys vm) {i0 x y : Triple}
    (hx : x ∈ g.triples) (hxr : ensureColon x.role ≠ CONCEPT_ROLE)
    (hy : y ∈ g.triples) (hyr : ensureColon y.role ≠ CONCEPT_ROLE) {s role : Str} {tgt : Atom}
    (hd : m.dereify i0 x y = .ok (.str s, role, tgt)) (hs : s ∉ g.variables) :
    renVar vm s ∉ (renGraph vm g).variables := by
  intro hin
  obtain ⟨k, hk, hks⟩ := (mem_variables_ren vm g _).1 hin
  have hkk := variables_keys hcl htop hk
  have hsc : s ∈ AList.keys vm ∨ s ∉ vars.map (renVar vm) := by
    rcases dereify_src hd with e | e
    · exact (hcl x hx).2 hxr s e.symm
    · exact (hcl y hy).2 hyr s e.symm
  exact hs (renVar_eq_key hv hkk hsc hks.symm ▸ hk)


/-- what the renaming needs of a graph: coloned roles, triples and marker keys closed under the
    variable map, the top a key, and pushed variables that are keys or not new names -/
structure RenOk (vm : AList Str Str) (vars : List Str) (g : Graph) : Prop where
  colon : RolesColon g
  closed : ∀ t ∈ g.triples, Closed vm (vars.map (renVar vm)) t
  epi : ∀ e ∈ g.epidata, Closed vm (vars.map (renVar vm)) e.1
  top : ∀ t, g.top = some t → t ∈ AList.keys vm
  push : ∀ e ∈ g.epidata, ∀ w, Epi.push w ∈ e.2 → w ∈ AList.keys vm ∨ w ∉ vars.map (renVar vm)

theorem entryRes_skip_ren {m : Model} {vm : AList Str Str} {vars : List Str} (hv : VmOk vm vars)
    {g : Graph} (H : RenOk vm vars g)
    {v : Str} {i0 : Triple} (hvk : v ∈ AList.keys vm) (hi0r : i0.role = CONCEPT_ROLE)
    (hi0s : i0.src = v) (h : entryRes m g v i0 = .skip) :
    entryRes m (renGraph vm g) (renVar vm v) (renTriple vm i0) = .skip := by
  obtain ⟨hrc, hcl, hep, htop, hpush⟩ := H
  unfold entryRes at h ⊢
  have ho : otherOf (renGraph vm g).triples (renVar vm v) = (otherOf g.triples v).map (renTriple vm) :=
    otherOf_ren hv (fun t ht => (hcl t ht).1) hvk
  rw [ho]
  rcases hl : otherOf g.triples v with _ | ⟨a, _ | ⟨b, _ | ⟨c, r⟩⟩⟩
  · rfl
  · rfl
  · rw [hl] at h
    simp only [List.map_cons, List.map_nil] at h ⊢
    obtain ⟨hag, har, has⟩ := mem_otherOf (ts := g.triples) (x := v) (t := a) (by rw [hl]; simp)
    obtain ⟨hbg, hbr, hbs⟩ := mem_otherOf (ts := g.triples) (x := v) (t := b) (by rw [hl]; simp)
    have har' : ensureColon a.role ≠ CONCEPT_ROLE := by rw [ensureColon_role hrc hag]; exact har
    have hbr' : ensureColon b.role ≠ CONCEPT_ROLE := by rw [ensureColon_role hrc hbg]; exact hbr
    by_cases hc' : Atom.str (renVar vm v) ∉ (agendaScan (renGraph vm g)).1 ∧
        m.isDereifiable (renTriple vm i0).tgt
    · have hc : Atom.str v ∉ (agendaScan g).1 ∧ m.isDereifiable i0.tgt :=
        ⟨fun hin => hc'.1 (fixed_ren hrc hin), by rw [← renTriple_tgt_concept vm hi0r]; exact hc'.2⟩
      rw [if_pos hc] at h; rw [if_pos hc']
      have hp : getPushedVariable (renGraph vm g) (renTriple vm b) = some (renVar vm v) ↔
          getPushedVariable g b = some v := by
        rw [getPushedVariable_ren hv hep (hcl b hbg)]
        constructor
        · intro hh
          obtain ⟨w, hw, hw'⟩ := Option.map_eq_some_iff.1 hh
          obtain ⟨e, he, hwe⟩ := getPushedVariable_mem hw
          rw [hw, renVar_eq_key hv hvk (hpush e he w hwe) hw']
        · intro hh; rw [hh]; rfl
      simp only [hp]
      -- the two relations, in the order the agenda entry takes them: what is used of them is symmetric
      obtain ⟨x, y, hx, hy, ⟨hxg, hxr, hxs⟩, hyg, hyr, hys⟩ : ∃ x y,
          (if getPushedVariable g b = some v then b else a) = x ∧
          (if getPushedVariable g b = some v then a else b) = y ∧
          (x ∈ g.triples ∧ ensureColon x.role ≠ CONCEPT_ROLE ∧ x.src = v) ∧
          y ∈ g.triples ∧ ensureColon y.role ≠ CONCEPT_ROLE ∧ y.src = v := by
        by_cases hpv : getPushedVariable g b = some v
        · exact ⟨b, a, if_pos hpv, if_pos hpv, ⟨hbg, hbr', hbs⟩, hag, har', has⟩
        · exact ⟨a, b, if_neg hpv, if_neg hpv, ⟨hag, har', has⟩, hbg, hbr', hbs⟩
      rw [hx, hy] at h
      rw [← apply_ite (renTriple vm), ← apply_ite (renTriple vm), hx, hy,
        dereify_ren m vm hi0r hxr hyr (hi0s.trans hxs.symm) (hxs.trans hys.symm)]
      cases hd : m.dereify i0 x y with
      | error e =>
        rw [hd] at h
        cases e <;> first | rfl | (simp at h)
      | ok r =>
        obtain ⟨src, role, tgt⟩ := r
        rw [hd] at h
        simp only [map_ok]
        cases src with
        | none => rfl
        | num t => rfl
        | str s =>
          have hs : s ∉ g.variables := by intro hs; simp [hs] at h
          have := dereify_var_ren hv hcl htop hxg hxr hyg hyr hd hs
          simp [renTgtAtom, this]
    · simp only [hc', if_false]
  · rfl

theorem noCollapsible_ren {m : Model} {vm : AList Str Str} {vars : List Str} (hv : VmOk vm vars)
    {g : Graph} (H : RenOk vm vars g)
    (h : NoCollapsible m g) : NoCollapsible m (renGraph vm g) := by
  unfold NoCollapsible at h ⊢
  rw [dereifyAgenda_nil_iff] at h ⊢
  intro p' hp'
  have h1 := agendaScan_inst_mem hp'
  obtain ⟨hmem, _, hs⟩ := instOf_getLast h1
  simp only [renGraph, List.mem_map] at hmem
  obtain ⟨t, ht, hte⟩ := hmem
  have hvk : t.src ∈ AList.keys vm := (H.closed t ht).1
  have hp1 : p'.1 = renVar vm t.src := by rw [← hs, ← hte]; rfl
  have hsrcs : ∀ t ∈ g.triples, t.src ∈ AList.keys vm := fun t ht => (H.closed t ht).1
  rw [hp1, show (renGraph vm g).triples = g.triples.map (renTriple vm) from rfl,
    instOf_ren hv hsrcs hvk, List.getLast?_map] at h1
  obtain ⟨i0, hi0, hi0e⟩ := Option.map_eq_some_iff.1 h1
  obtain ⟨_, hi0r, hi0s⟩ := instOf_getLast hi0
  have hmem0 : (t.src, i0) ∈ (agendaScan g).2.1 :=
    AList.mem_of_get? (by rw [agendaScan_inst]; exact hi0)
  have h2 := entryRes_skip_ren hv H hvk hi0r hi0s (h (t.src, i0) hmem0)
  rw [hp1, ← hi0e]; exact h2

def PushKeys (vm : AList Str Str) (l : List (Triple × List Epi)) : Prop :=
  ∀ e ∈ l, ∀ w, Epi.push w ∈ e.2 → w ∈ AList.keys vm

theorem map_eq_self {α : Type} {f : α → α} : ∀ {l : List α}, l.map f = l → ∀ x ∈ l, f x = x
  | [], _, x, hx => by cases hx
  | a :: r, h, x, hx => by
    simp only [List.map_cons, List.cons.injEq] at h
    rcases List.mem_cons.1 hx with rfl | hx
    · exact h.1
    · exact map_eq_self h.2 x hx

/-- a marker list that no renaming changes holds no `Push`: rename `w` to something else -/
theorem no_push_of_fix {es : List Epi} (h : ∀ vm, es.map (renEpi vm) = es) (w : Str) :
    Epi.push w ∉ es := by
  intro hw
  have h1 := map_eq_self (h [(w, 'a' :: w)]) _ hw
  simp only [renEpi, Epi.push.injEq, renVar, AList.get?, List.find?, decide_true, Option.map_some,
    Option.getD_some] at h1
  have := congrArg List.length h1
  simp at this

theorem processRole_no_push {isAlpha : Char → Bool} {r role : Str} {repis : List Epi}
    (hpr : processRole isAlpha r = .ok (role, repis)) (w : Str) : Epi.push w ∉ repis := by
  apply no_push_of_fix
  by_cases hr : r = ['/']
  · subst hr
    rw [processRole_concept] at hpr
    injection hpr with hpr; injection hpr with _ h2; subst h2
    intro _; rfl
  · exact (processRole_ok hr hpr).2

theorem appendPopLast_push {vm : AList Str Str} : ∀ (l : List (Triple × List Epi)),
    PushKeys vm l → PushKeys vm (appendPopLast l)
  | [], h => h
  | [(t, e)], h => by
    intro e' he' w hw
    simp only [appendPopLast, List.mem_singleton] at he'
    subst he'
    simp only [List.mem_append, List.mem_singleton, reduceCtorEq, or_false] at hw
    exact h (t, e) List.mem_cons_self w hw
  | x :: y :: r, h => by
    intro e' he' w hw
    simp only [appendPopLast] at he'
    rcases List.mem_cons.1 he' with rfl | he'
    · exact h _ List.mem_cons_self w hw
    · exact appendPopLast_push (y :: r) (fun e he => h e (List.mem_cons_of_mem _ he)) e' he' w hw

mutual
theorem interpretNode_push (isAlpha : Char → Bool) (m : Model) (vm : AList Str Str)
    (vars : List Str) : ∀ (n : Node) (p : List Triple × List (Triple × List Epi)),
    nodeMappable vm n = true → interpretNode isAlpha m vars n = .ok p → PushKeys vm p.2
  | .mk v bs, (ts, es), hmp, h => by
    obtain ⟨var, out, rfl, hb, hcase⟩ := Interp.interpretNode_ok h
    simp only [nodeMappable, Bool.and_eq_true] at hmp
    have ih := interpretBranches_push isAlpha m vm vars bs var out hmp.2 hb
    rcases hcase with ⟨_, _, rfl⟩ | ⟨_, _, rfl⟩
    · exact ih
    · intro e he
      rcases List.mem_cons.1 he with rfl | he
      · intro w hw; cases hw
      · exact ih e he
theorem interpretBranches_push (isAlpha : Char → Bool) (m : Model) (vm : AList Str Str)
    (vars : List Str) : ∀ (bs : Branches) (var : Str) (out : InterpOut),
    branchesMappable vm bs = true → interpretBranches isAlpha m vars var bs = .ok out →
    PushKeys vm out.epidata
  | .nil, var, out, _, h => by
    simp only [interpretBranches] at h; injection h with h; subst h
    intro e he; cases he
  | .atom r a rest, var, out, hmp, h => by
    simp only [branchesMappable] at hmp
    obtain ⟨role, repis, tgt, tepis, out', hpr, hpa, hib, rfl⟩ := Interp.interpretBranches_atom_ok h
    intro e he
    rcases List.mem_cons.1 he with rfl | he
    · intro w hw
      rcases List.mem_append.1 hw with hw | hw
      · exact absurd hw (processRole_no_push hpr w)
      · exact absurd hw (no_push_of_fix (processAtomic_epis hpa) w)
    · exact interpretBranches_push isAlpha m vm vars rest var out' hmp hib e he
  | .sub r n rest, var, out, hmp, h => by
    simp only [branchesMappable, Bool.and_eq_true] at hmp
    obtain ⟨role, repis, nv, nts, nes, out', hpr, hnv, hin, hib, rfl⟩ := Interp.interpretBranches_sub_ok h
    have hk : nv ∈ AList.keys vm := by
      have := hmp.1
      cases n with
      | mk v bs =>
        cases hnv
        simp only [nodeMappable, Bool.and_eq_true] at this
        exact contains_iff_mem_keys.1 this.1
    intro e he
    rcases List.mem_cons.1 he with rfl | he
    · intro w hw
      rcases List.mem_append.1 hw with hw | hw
      · exact absurd hw (processRole_no_push hpr w)
      · simp only [List.mem_singleton, Epi.push.injEq] at hw
        subst hw; exact hk
    · rcases List.mem_append.1 he with he | he
      · exact appendPopLast_push nes (interpretNode_push isAlpha m vm vars n (nts, nes) hmp.1 hin) e he
      · exact interpretBranches_push isAlpha m vm vars rest var out' hmp.2 hib e he
end

theorem mem_ofList_sub {α β : Type} [DecidableEq α] {l : List (α × β)} {p : α × β}
    (h : p ∈ AList.ofList l) : p ∈ l := by
  have : ∀ (l : List (α × β)) (acc : AList α β), p ∈ l.foldl (fun d q => d.set q.1 q.2) acc →
      p ∈ acc ∨ p ∈ l := by
    intro l
    induction l with
    | nil => intro acc h; left; exact h
    | cons q r ih =>
      intro acc h
      rcases ih _ h with h' | h'
      · rcases Cfg.mem_set h' with h'' | h''
        · left; exact h''
        · right; rw [h'']; simp
      · right; exact List.mem_cons_of_mem _ h'
  rcases this l [] h with h' | h'
  · cases h'
  · exact h'

theorem closed_ensureColon {vm : AList Str Str} {news : List Str} {t : Triple}
    (h : Closed vm news t) : Closed vm news { t with role := ensureColon t.role } :=
  ⟨h.1, fun hc => h.2 (by rw [ensureColon_idem] at hc; exact hc)⟩

theorem interpret_renHyps (isAlpha : Char → Bool) (m : Model) (vm : AList Str Str) (n : Node)
    (md : AList Str Str) (g : Graph)
    (hv : VmOk vm n.vars) (hmp : nodeMappable vm n = true)
    (hok : nodeIsoOk m vm (n.vars.map (renVar vm)) n = true)
    (hi : interpret isAlpha m ⟨n, md⟩ = .ok g) : RenOk vm n.vars g := by
  rw [interpret_def] at hi
  cases hin : interpretNode isAlpha m n.vars n with
  | error e => simp [hin, fmap_error] at hi
  | ok p =>
    simp only [hin, ok_bind, pure_eq] at hi
    injection hi with hi
    subst hi
    have hcl := interpretNode_closed isAlpha m vm n.vars hv n p hmp hok hin
    have hpu := interpretNode_push isAlpha m vm n.vars n p hmp hin
    have hkeys := RA.interpretNode_keys isAlpha m n.vars n p.1 p.2 hin
    refine ⟨mk'_rolesColon _ _ _ _, ?_, ?_, ?_, ?_⟩
    · intro t ht
      simp only [Graph.mk', List.mem_map] at ht
      obtain ⟨t0, ht0, rfl⟩ := ht
      rw [← hkeys] at ht0
      obtain ⟨e, he, rfl⟩ := List.mem_map.1 ht0
      exact closed_ensureColon (hcl e he)
    · intro e he
      exact hcl e (epimapOf_sub p.2 e (mem_ofList_sub he))
    · intro t ht
      cases n with
      | mk v bs =>
        cases v with
        | none => simp [nodeMappable] at hmp
        | some x =>
          simp only [nodeMappable, Bool.and_eq_true] at hmp
          simp only [Graph.mk', Node.var, Option.some.injEq] at ht
          subst ht
          exact contains_iff_mem_keys.1 hmp.1
    · intro e he w hw
      exact Or.inl (hpu e (epimapOf_sub p.2 e (mem_ofList_sub he)) w hw)

theorem stagesIdle_ren {m : Model} {o : Opts} {vm : AList Str Str} {vars : List Str}
    (hv : VmOk vm vars) {g : Graph} (H : RenOk vm vars g) (h : StagesIdle m o g) :
    StagesIdle m o (renGraph vm g) :=
  ⟨fun ho => noReifiable_ren (h.reify ho), fun ho => noCollapsible_ren hv H (h.dereify ho),
   fun ho => noAttributes_ren H.colon (h.attrs ho)⟩

/-- the idle-stage predicates of the graph `interpret` returns survive the
    renaming of `reset_variables` -/
theorem stagesIdle_interpret_ren (isAlpha : Char → Bool) (m : Model) (o : Opts) (vm : AList Str Str)
    (n : Node) (md : AList Str Str) (g : Graph)
    (hv : VmOk vm n.vars) (hmp : nodeMappable vm n = true)
    (hok : nodeIsoOk m vm (n.vars.map (renVar vm)) n = true)
    (hi : interpret isAlpha m ⟨n, md⟩ = .ok g)
    (h : StagesIdle m o g) : StagesIdle m o (renGraph vm g) :=
  stagesIdle_ren hv (interpret_renHyps isAlpha m vm n md g hv hmp hok hi) h

theorem dedup_map_inj {f : Str → Str} : ∀ (l : List Str),
    (∀ a ∈ l, ∀ b ∈ l, f a = f b → a = b) → dedup (l.map f) = (dedup l).map f
  | [], _ => rfl
  | x :: r, h => by
    have ih := dedup_map_inj r
      (fun a ha b hb => h a (List.mem_cons_of_mem _ ha) b (List.mem_cons_of_mem _ hb))
    simp only [List.map_cons, dedup, ih, List.filter_map]
    congr 2
    apply List.filter_congr
    intro a ha
    have ha' : a ∈ r := RV.mem_dedup.1 ha
    have : f a = f x ↔ a = x :=
      ⟨h a (List.mem_cons_of_mem _ ha') x List.mem_cons_self, fun e => by rw [e]⟩
    simp [Function.comp, this]

theorem variables_ren {vm : AList Str Str} {vars : List Str} (hv : VmOk vm vars) {g : Graph}
    (hcl : ∀ t ∈ g.triples, Closed vm (vars.map (renVar vm)) t)
    (htop : ∀ t, g.top = some t → t ∈ AList.keys vm) :
    (renGraph vm g).variables = g.variables.map (renVar vm) := by
  have hd : dedup ((g.triples.map (renTriple vm)).map (·.src)) =
      (dedup (g.triples.map (·.src))).map (renVar vm) := by
    rw [← dedup_map_inj]
    · simp only [List.map_map]; rfl
    · intro a ha b hb
      obtain ⟨ta, hta, rfl⟩ := List.mem_map.1 ha
      obtain ⟨tb, htb, rfl⟩ := List.mem_map.1 hb
      exact renVar_key_inj hv (hcl ta hta).1 (hcl tb htb).1
  unfold Graph.variables
  simp only [renGraph, hd]
  cases ht : g.top with
  | none => rfl
  | some t =>
    simp only [Option.map_some]
    have hk := htop t ht
    have : renVar vm t ∈ (dedup (g.triples.map (·.src))).map (renVar vm) ↔
        t ∈ dedup (g.triples.map (·.src)) := by
      constructor
      · intro h
        obtain ⟨k, hk', he⟩ := List.mem_map.1 h
        obtain ⟨tk, htk, rfl⟩ := List.mem_map.1 (RV.mem_dedup.1 hk')
        rw [← renVar_key_inj hv (hcl tk htk).1 hk he]; exact hk'
      · intro h; exact List.mem_map.2 ⟨t, h, rfl⟩
    by_cases h : t ∈ dedup (g.triples.map (·.src))
    · rw [if_pos h, if_pos (this.2 h)]
    · rw [if_neg h, if_neg (fun h' => h (this.1 h'))]; simp

end Penman.RV
