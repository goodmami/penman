/-
  Penman.Proofs.NormalFormVarsTree — three properties of a tree are preserved by the
  shape-preserving renaming `renNode vm` performed by `reset_variables`:
  (d) `canonStep_ren_fixed`     — being a fixed point of role canonicalisation,
  (c) `rearrangeOpt_ren_fixed`  — being a fixed point of the `--rearrange` step
      (via `rearrange_ren`: `rearrange` commutes with the renaming),
  (b) `wfTreeText_ren`          — character-level grammar validity `Spec.WfTreeText`.
-/
import Penman.Proofs.ResetIso
import Penman.Proofs.Rearrange
import Penman.Proofs.LayoutBranch
import Penman.Proofs.NormalFormTree
import Penman.Proofs.TextWfLemmas
import Penman.Spec.NormalForm
namespace Penman.RV

mutual
theorem canonNode_ren_fixed (m : Model) (vm : AList Str Str) : ∀ (n : Node),
    canonNode m n = .ok n → canonNode m (renNode vm n) = .ok (renNode vm n)
  | .mk v bs, h => by
    rw [canonNode] at h
    obtain ⟨bs', hbs, h2⟩ := Interp.bind_ok h
    simp only [pure_eq, Except.ok.injEq, Node.mk.injEq, true_and] at h2
    rw [h2] at hbs
    rw [renNode, canonNode, canonBranches_ren_fixed m vm bs hbs]; rfl
theorem canonBranches_ren_fixed (m : Model) (vm : AList Str Str) : ∀ (bs : Branches),
    canonBranches m bs = .ok bs → canonBranches m (renBranches vm bs) = .ok (renBranches vm bs)
  | .nil, _ => by rw [renBranches, canonBranches]; rfl
  | .atom role a rest, h => by
    rw [canonBranches] at h
    obtain ⟨r', hr, h2⟩ := Interp.bind_ok h
    obtain ⟨rest', hrest, h3⟩ := Interp.bind_ok h2
    simp only [pure_eq, Except.ok.injEq, Branches.atom.injEq, true_and] at h3
    obtain ⟨e1, e2⟩ := h3
    rw [e1] at hr; rw [e2] at hrest
    rw [renBranches, canonBranches, hr, canonBranches_ren_fixed m vm rest hrest]; rfl
  | .sub role n rest, h => by
    rw [canonBranches] at h
    obtain ⟨r', hr, h2⟩ := Interp.bind_ok h
    obtain ⟨n', hn, h3⟩ := Interp.bind_ok h2
    obtain ⟨rest', hrest, h4⟩ := Interp.bind_ok h3
    simp only [pure_eq, Except.ok.injEq, Branches.sub.injEq] at h4
    obtain ⟨e1, e2, e3⟩ := h4
    rw [e1] at hr; rw [e2] at hn; rw [e3] at hrest
    rw [renBranches, canonBranches, hr, canonNode_ren_fixed m vm n hn,
      canonBranches_ren_fixed m vm rest hrest]; rfl
end

theorem canonStep_ren_fixed (m : Model) (canon : Bool) (vm : AList Str Str) (n : Node)
    (md : AList Str Str) (h : canonStep m canon ⟨n, md⟩ = .ok ⟨n, md⟩) :
    canonStep m canon ⟨renNode vm n, md⟩ = .ok ⟨renNode vm n, md⟩ := by
  cases canon with
  | false => rfl
  | true =>
    simp only [canonStep, if_true, canonicalizeRoles] at h ⊢
    obtain ⟨n', hn, h2⟩ := Interp.bind_ok h
    simp only [pure_eq, Except.ok.injEq, Tree.mk.injEq, and_true] at h2
    rw [h2] at hn
    rw [canonNode_ren_fixed m vm n hn]; rfl


def renTgt (vm : AList Str Str) (r : Str) : Tgt → Tgt
  | .atom a => .atom (renAtom vm r a)
  | .node n => .node (renNode vm n)

def renBranch (vm : AList Str Str) (b : Branch) : Branch := (b.1, renTgt vm b.1 b.2)

theorem ofList_map_renBranch (vm : AList Str Str) : ∀ (l : List Branch),
    Branches.ofList (l.map (renBranch vm)) = renBranches vm (Branches.ofList l)
  | [] => by simp [Branches.ofList, renBranches]
  | (r, .atom a) :: rest => by
    simp [Branches.ofList, renBranches, renBranch, renTgt, ofList_map_renBranch vm rest]
  | (r, .node n) :: rest => by
    simp [Branches.ofList, renBranches, renBranch, renTgt, ofList_map_renBranch vm rest]

/-- the attributes-first flag of a branch is invariant under the renaming -/
def KeyInv (vm : AList Str Str) (vars vars' : List Str) (b : Branch) : Prop :=
  branchTargetInVars vars' (renBranch vm b).2 = branchTargetInVars vars b.2

theorem branchKey_ren {m : Model} {vm : AList Str Str} {vars vars' : List Str}
    {key : Option (List KeyFn)} {b : Branch} (h : KeyInv vm vars vars' b) :
    branchKey m vars' key (renBranch vm b) = branchKey m vars key b := by
  have h' : branchTargetInVars vars' (renBranch vm b).2 = branchTargetInVars vars b.2 := h
  simp only [branchKey, h']; rfl

theorem sortBranches_ren (m : Model) (vm : AList Str Str) (vars vars' : List Str)
    (key : Option (List KeyFn)) (l : List Branch) (h : ∀ b ∈ l, KeyInv vm vars vars' b) :
    sortBranches m vars' key (l.map (renBranch vm)) =
      (sortBranches m vars key l).map (renBranch vm) := by
  simp only [sortBranches]
  symm
  apply List.map_mergeSort
  intro a ha b hb
  rw [branchKey_ren (h a ha), branchKey_ren (h b hb)]

mutual
/-- no branch but possibly a first atomic one has the role `/` -/
def slashFirstN : Node → Bool
  | .mk _ .nil => true
  | .mk _ (.atom _ _ rest) => noSlashB rest
  | .mk _ (.sub r n rest) => decide (r ≠ ['/']) && slashFirstN n && noSlashB rest
def noSlashB : Branches → Bool
  | .nil => true
  | .atom r _ rest => decide (r ≠ ['/']) && noSlashB rest
  | .sub r n rest => decide (r ≠ ['/']) && slashFirstN n && noSlashB rest
end

mutual
theorem slashFirstN_of_wf (isAlpha : Char → Bool) (m : Model) : ∀ (n : Node),
    Penman.wfNodeB isAlpha m n = true → slashFirstN n = true
  | .mk none bs, h => by cases h
  | .mk (some var) .nil, _ => by simp [slashFirstN]
  | .mk (some var) (.atom r a rest), h => by
    rw [NF.wfNodeB_atom] at h
    simp only [slashFirstN]
    split at h
    · simp only [Bool.and_eq_true] at h
      exact noSlashB_of_wf isAlpha m var rest h.2
    · simp only [NF.wfBranchesB_atom, Bool.and_eq_true] at h
      exact noSlashB_of_wf isAlpha m var rest h.2
  | .mk (some var) (.sub r n rest), h => by
    simp only [NF.wfNodeB_sub, NF.wfBranchesB_sub, Bool.and_eq_true] at h
    simp only [slashFirstN, Bool.and_eq_true, decide_eq_true_eq]
    exact ⟨⟨C02.roleOk_ne_slash isAlpha m h.1.1, slashFirstN_of_wf isAlpha m n h.1.2⟩,
      noSlashB_of_wf isAlpha m var rest h.2⟩
theorem noSlashB_of_wf (isAlpha : Char → Bool) (m : Model) (var : Str) : ∀ (bs : Branches),
    Penman.wfBranchesB isAlpha m var bs = true → noSlashB bs = true
  | .nil, _ => by simp [noSlashB]
  | .atom r a rest, h => by
    simp only [NF.wfBranchesB_atom, Bool.and_eq_true] at h
    simp only [noSlashB, Bool.and_eq_true, decide_eq_true_eq]
    exact ⟨C02.roleOk_ne_slash isAlpha m h.1.1.1, noSlashB_of_wf isAlpha m var rest h.2⟩
  | .sub r n rest, h => by
    simp only [NF.wfBranchesB_sub, Bool.and_eq_true] at h
    simp only [noSlashB, Bool.and_eq_true, decide_eq_true_eq]
    exact ⟨⟨C02.roleOk_ne_slash isAlpha m h.1.1, slashFirstN_of_wf isAlpha m n h.1.2⟩,
      noSlashB_of_wf isAlpha m var rest h.2⟩
end

section Comm
set_option linter.unusedSectionVars false
-- `vars` / `vars'` are the lists `rearrange` sorts by before / after the renaming (empty, or the variables
-- of the tree with attributes first).  `HA`, `HN`: an atomic target, resp. the variable of a nested node,
-- is in `vars'` after the renaming iff it was in `vars` before — all the sort key looks at.
variable (m : Model) (vm : AList Str Str) (vars vars' news : List Str) (key : Option (List KeyFn))
  (HA : ∀ r s, r ≠ ['/'] → (AList.contains vm (alnStem s) = false → alnStem s ∉ news) →
    branchTargetInVars vars' (.atom (renAtom vm r (.str s))) = branchTargetInVars vars (.atom (.str s)))
  (HN : ∀ v, v ∈ AList.keys vm → (renVar vm v ∈ vars' ↔ v ∈ vars))

include HA in
theorem keyInv_atom {r : Str} {a : Atom} (hr : r ≠ ['/'])
    (hok : (decide (r = ['/']) ||
      match a with
      | .str s => if AList.contains vm (alnStem s) then roleOk m r else decide (alnStem s ∉ news)
      | _ => true) = true) :
    KeyInv vm vars vars' (r, .atom a) := by
  simp only [KeyInv, renBranch, renTgt]
  cases a with
  | none => rfl
  | num t => rfl
  | str s =>
    apply HA r s hr
    intro hc
    simpa [hr, hc] using hok

include HN in
theorem keyInv_node {r : Str} {n : Node} (hmp : nodeMappable vm n = true) :
    KeyInv vm vars vars' (r, .node (rearrangeNode m vars key n)) := by
  simp only [KeyInv, renBranch, renTgt, branchTargetInVars, renNode_var, RA.rearrangeNode_var]
  cases n with
  | mk v bs =>
    cases v with
    | none => simp [nodeMappable] at hmp
    | some x =>
      simp only [nodeMappable, Bool.and_eq_true] at hmp
      have := HN x (contains_iff_mem_keys.1 hmp.1)
      simp only [Node.var, Option.map_some]
      by_cases hx : x ∈ vars
      · simp [hx, this.2 hx]
      · have : ¬ renVar vm x ∈ vars' := fun h => hx (this.1 h)
        simp [hx, this]

include HA HN

theorem kids_keyInv : ∀ (bs : Branches), branchesMappable vm bs = true →
    branchesIsoOk m vm news bs = true → noSlashB bs = true →
    ∀ b ∈ rearrangeKids m vars key bs, KeyInv vm vars vars' b
  | .nil, _, _, _ => by simp [rearrangeKids]
  | .atom r a rest, hmp, hok, hs => by
    simp only [branchesMappable] at hmp
    simp only [branchesIsoOk, Bool.and_eq_true] at hok
    simp only [noSlashB, Bool.and_eq_true, decide_eq_true_eq] at hs
    intro b hb
    simp only [rearrangeKids, List.mem_cons] at hb
    rcases hb with rfl | hb
    · exact keyInv_atom m vm vars vars' news HA hs.1 hok.1
    · exact kids_keyInv rest hmp hok.2 hs.2 b hb
  | .sub r n rest, hmp, hok, hs => by
    simp only [branchesMappable, Bool.and_eq_true] at hmp
    simp only [branchesIsoOk, Bool.and_eq_true] at hok
    simp only [noSlashB, Bool.and_eq_true] at hs
    intro b hb
    simp only [rearrangeKids, List.mem_cons] at hb
    rcases hb with rfl | hb
    · exact keyInv_node m vm vars vars' key HN hmp.1
    · exact kids_keyInv rest hmp.2 hok.2 hs.2 b hb

mutual
theorem rearrangeNode_ren : ∀ (n : Node), nodeMappable vm n = true →
    nodeIsoOk m vm news n = true → slashFirstN n = true →
    rearrangeNode m vars' key (renNode vm n) = renNode vm (rearrangeNode m vars key n)
  | .mk v .nil, _, _, _ => by simp [renNode, renBranches, rearrangeNode]
  | .mk v (.atom r a rest), hmp, hok, hs => by
    simp only [nodeMappable, branchesMappable, Bool.and_eq_true] at hmp
    simp only [nodeIsoOk, branchesIsoOk, Bool.and_eq_true] at hok
    simp only [slashFirstN] at hs
    have ih := rearrangeKids_ren rest hmp.2 hok.2 hs
    have hk := kids_keyInv m vm vars vars' news key HA HN rest hmp.2 hok.2 hs
    simp only [renNode, renBranches, rearrangeNode, ih]
    by_cases hr : r = ['/']
    · simp only [hr, if_true, renNode, renBranches]
      rw [sortBranches_ren m vm vars vars' key _ hk, ofList_map_renBranch]
    · simp only [hr, if_false, renNode]
      have e : (r, Tgt.atom (renAtom vm r a)) = renBranch vm (r, .atom a) := rfl
      rw [e, ← List.map_cons, sortBranches_ren m vm vars vars' key _ ?_, ofList_map_renBranch]
      intro b hb
      rcases List.mem_cons.1 hb with rfl | hb
      · exact keyInv_atom m vm vars vars' news HA hr hok.1
      · exact hk b hb
  | .mk v (.sub r n rest), hmp, hok, hs => by
    simp only [nodeMappable, branchesMappable, Bool.and_eq_true] at hmp
    simp only [nodeIsoOk, branchesIsoOk, Bool.and_eq_true, decide_eq_true_eq] at hok
    simp only [slashFirstN, Bool.and_eq_true, decide_eq_true_eq] at hs
    have ih1 := rearrangeNode_ren n hmp.2.1 hok.1.2 hs.1.2
    have ih := rearrangeKids_ren rest hmp.2.2 hok.2 hs.2
    have hk := kids_keyInv m vm vars vars' news key HA HN rest hmp.2.2 hok.2 hs.2
    have hr : r ≠ ['/'] := hs.1.1
    simp only [renNode, renBranches, rearrangeNode, ih, ih1, hr, if_false]
    have e : (r, Tgt.node (renNode vm (rearrangeNode m vars key n))) =
        renBranch vm (r, .node (rearrangeNode m vars key n)) := rfl
    rw [e, ← List.map_cons, sortBranches_ren m vm vars vars' key _ ?_, ofList_map_renBranch]
    intro b hb
    rcases List.mem_cons.1 hb with rfl | hb
    · exact keyInv_node m vm vars vars' key HN hmp.2.1
    · exact hk b hb
theorem rearrangeKids_ren : ∀ (bs : Branches), branchesMappable vm bs = true →
    branchesIsoOk m vm news bs = true → noSlashB bs = true →
    rearrangeKids m vars' key (renBranches vm bs) =
      (rearrangeKids m vars key bs).map (renBranch vm)
  | .nil, _, _, _ => by simp [renBranches, rearrangeKids]
  | .atom r a rest, hmp, hok, hs => by
    simp only [branchesMappable] at hmp
    simp only [branchesIsoOk, Bool.and_eq_true] at hok
    simp only [noSlashB, Bool.and_eq_true] at hs
    simp only [renBranches, rearrangeKids, List.map_cons, rearrangeKids_ren rest hmp hok.2 hs.2]
    rfl
  | .sub r n rest, hmp, hok, hs => by
    simp only [branchesMappable, Bool.and_eq_true] at hmp
    simp only [branchesIsoOk, Bool.and_eq_true] at hok
    simp only [noSlashB, Bool.and_eq_true] at hs
    simp only [renBranches, rearrangeKids, List.map_cons, rearrangeKids_ren rest hmp.2 hok.2 hs.2,
      rearrangeNode_ren n hmp.1 hok.1.2 hs.1.2]
    rfl
end

end Comm

theorem alnStem_of_no_tilde {s : Str} (h : '~' ∉ s) : alnStem s = s := by
  simp [alnStem, partition_tilde_none s h]

theorem HA_vars {vm : AList Str Str} {vars : List Str} (hv : VmOk vm vars)
    (hkt : ∀ k ∈ AList.keys vm, '~' ∉ k) :
    ∀ r s, r ≠ ['/'] →
      (AList.contains vm (alnStem s) = false → alnStem s ∉ vars.map (renVar vm)) →
      branchTargetInVars (vars.map (renVar vm)) (.atom (renAtom vm r (.str s))) =
        branchTargetInVars vars (.atom (.str s)) := by
  intro r s hr hc
  have hsp := partition_tilde_spec s
  cases hg : AList.get? vm (alnStem s) with
  | some nv =>
    have hkey : alnStem s ∈ AList.keys vm := get?_isSome_iff.1 (by simp [hg])
    rw [renAtom_ref hr hg]
    simp only [branchTargetInVars]
    rcases alnSuffix_shape s with he | ⟨rest, he⟩
    · have hs : s = alnStem s := by simpa [he] using hsp.1
      have h1 : s ∈ vars := by rw [hs]; exact (hv.keys _).2 hkey
      have h2 : nv ∈ vars.map (renVar vm) := (mem_news hv).2 ⟨_, hg⟩
      simp [he, h1, h2]
    · have h1 : s ∉ vars := by
        intro h
        have := hkt s ((hv.keys _).1 h)
        rw [hsp.1, he] at this
        simp at this
      have h2 : nv ++ alnSuffix s ∉ vars.map (renVar vm) := by
        intro h
        obtain ⟨k, hk⟩ := (mem_news hv).1 h
        have := (hv.newsOk _ _ hk).1
        rw [he] at this
        simp at this
      simp [h1, h2]
  | none =>
    have hkey : alnStem s ∉ AList.keys vm := get?_eq_none_iff.1 hg
    have hc' : AList.contains vm (alnStem s) = false :=
      Bool.eq_false_iff.2 fun h => hkey (contains_iff_mem_keys.1 h)
    rw [renAtom_other hg]
    simp only [branchTargetInVars]
    have h1 : s ∉ vars := by
      intro h
      have hk := (hv.keys _).1 h
      rw [alnStem_of_no_tilde (hkt s hk)] at hkey
      exact hkey hk
    have h2 : s ∉ vars.map (renVar vm) := by
      intro h
      obtain ⟨k, hk⟩ := (mem_news hv).1 h
      have := hc hc'
      rw [alnStem_of_no_tilde (hv.newsOk _ _ hk).1] at this
      exact this h
    simp [h1, h2]

theorem HN_vars {vm : AList Str Str} {vars : List Str} (hv : VmOk vm vars) :
    ∀ v, v ∈ AList.keys vm → (renVar vm v ∈ vars.map (renVar vm) ↔ v ∈ vars) := by
  intro v hk
  have h1 : v ∈ vars := (hv.keys v).2 hk
  exact ⟨fun _ => h1, fun _ => List.mem_map.2 ⟨v, h1, rfl⟩⟩

/-- `rearrange` commutes with the renaming of `reset_variables` -/
theorem rearrange_ren (isAlpha : Char → Bool) (m : Model) (key : Option (List KeyFn)) (af : Bool)
    (vm : AList Str Str) (n : Node) (md : AList Str Str) (hv : VmOk vm n.vars)
    (hmp : nodeMappable vm n = true)
    (hok : nodeIsoOk m vm (n.vars.map (renVar vm)) n = true)
    (hwf : Penman.wfNodeB isAlpha m n = true)
    (hkt : ∀ k ∈ AList.keys vm, '~' ∉ k) :
    rearrange m key af ⟨renNode vm n, md⟩ =
      ⟨renNode vm (rearrange m key af ⟨n, md⟩).node, md⟩ := by
  have hs := slashFirstN_of_wf isAlpha m n hwf
  simp only [rearrange, renNode_vars]
  cases af with
  | false =>
    simp only [Bool.false_eq_true, if_false]
    rw [rearrangeNode_ren m vm [] [] (n.vars.map (renVar vm)) key
      (fun _ _ _ _ => by rw [RA.branchTargetInVars_nil, RA.branchTargetInVars_nil])
      (fun _ _ => ⟨fun h => (nomatch h), fun h => (nomatch h)⟩) n hmp hok hs]
  | true =>
    simp only [if_true]
    rw [rearrangeNode_ren m vm n.vars (n.vars.map (renVar vm)) (n.vars.map (renVar vm)) key
      (HA_vars hv hkt) (HN_vars hv) n hmp hok hs]

/-- a tree fixed by the `--rearrange` step stays fixed after `reset_variables` -/
theorem rearrangeOpt_ren_fixed (isAlpha : Char → Bool) (m : Model) (re : Option (List KeyFn × Bool))
    (vm : AList Str Str) (n : Node) (md : AList Str Str) (hv : VmOk vm n.vars)
    (hmp : nodeMappable vm n = true)
    (hok : nodeIsoOk m vm (n.vars.map (renVar vm)) n = true)
    (hwf : Penman.wfNodeB isAlpha m n = true)
    (hkt : ∀ k ∈ AList.keys vm, '~' ∉ k)
    (h : rearrangeOpt m re ⟨n, md⟩ = ⟨n, md⟩) :
    rearrangeOpt m re ⟨renNode vm n, md⟩ = ⟨renNode vm n, md⟩ := by
  cases re with
  | none => rfl
  | some p =>
    obtain ⟨ks, af⟩ := p
    simp only [rearrangeOpt] at h ⊢
    rw [rearrange_ren isAlpha m (some ks) af vm n md hv hmp hok hwf hkt, h]

section TextWf
open Penman.Spec

variable {cfg : LexCfg}

theorem tilde_not_in_symbol' (hcfg : FmtCfgWf cfg = true) {s : Str} (h : symbolB cfg s = true) :
    '~' ∉ s := by
  have h1 := ((FL.symbolB_iff s).1 h).1.2
  intro hm
  exact h1 _ hm (FL.tilde_ends (FL.FmtCfgWf.toP hcfg)).1

theorem alnSuffix_of_no_tilde {s : Str} (h : '~' ∉ s) : alnSuffix s = [] := by
  simp [alnSuffix, partition_tilde_none s h]

theorem alnSuffix_append {q rest : Str} (h : '~' ∉ q) : alnSuffix (q ++ '~' :: rest) = '~' :: rest := by
  simp [alnSuffix, partition_tilde_append q rest h]

theorem alnStem_append {q rest : Str} (h : '~' ∉ q) : alnStem (q ++ '~' :: rest) = q := by
  simp [alnStem, partition_tilde_append q rest h]

theorem atomTextB_ren (hcfg : FmtCfgWf cfg = true) (vm : AList Str Str)
    (hnew : ∀ k nv, AList.get? vm k = some nv → symbolB cfg nv = true)
    (hq : ∀ k ∈ AList.keys vm, k.head? ≠ some '"') {s nv : Str}
    (hg : AList.get? vm (alnStem s) = some nv) (h : atomTextB cfg s = true) :
    atomTextB cfg (nv ++ alnSuffix s) = true := by
  have hP := FL.FmtCfgWf.toP hcfg
  have hkey : alnStem s ∈ AList.keys vm := get?_isSome_iff.1 (by simp [hg])
  have hnv : symbolB cfg nv = true := hnew _ _ hg
  obtain ⟨m0, a, hs, hm, ha⟩ := (FL.alignedB_iff _ s).1 h
  have hsp := partition_tilde_spec s
  apply (FL.alignedB_iff _ _).2
  simp only [Bool.or_eq_true] at hm
  rcases hm with hm | hm
  · have hnt : '~' ∉ m0 := tilde_not_in_symbol' hcfg hm
    rcases ha with rfl | ha
    · have hs' : s = m0 := by simpa using hs
      have : alnSuffix s = [] := alnSuffix_of_no_tilde (hs' ▸ hnt)
      exact ⟨nv, [], by simp [this], by simp [hnv], Or.inl rfl⟩
    · obtain ⟨pre, ds, tail, ea, -⟩ := ((FL.alignmentB_iff hP.base a).1 ha).1
      have ea' : a = '~' :: (pre ++ ds ++ tail) := by simp [ea]
      have : alnSuffix s = a := by
        rw [hs, ea', alnSuffix_append hnt]
      exact ⟨nv, a, by rw [this], by simp [hnv], Or.inr ha⟩
  · exfalso
    obtain ⟨body, hb, -⟩ := ((FL.stringB_iff hP.base m0).1 hm).1
    have hhead : s.head? = some '"' := by rw [hs, hb]; rfl
    have hk := hq _ hkey
    cases hst : alnStem s with
    | nil =>
      have e : s = alnSuffix s := by simpa [hst] using hsp.1
      rcases alnSuffix_shape s with h0 | ⟨rest, h0⟩
      · rw [e, h0] at hhead; simp at hhead
      · rw [e, h0] at hhead; simp at hhead
    | cons c t =>
      have e := hsp.1
      rw [hst] at e hk
      rw [e] at hhead
      simp only [List.cons_append, List.head?_cons] at hhead hk
      exact hk hhead

theorem atomB_ren (hcfg : FmtCfgWf cfg = true) (vm : AList Str Str)
    (hnew : ∀ k nv, AList.get? vm k = some nv → symbolB cfg nv = true)
    (hq : ∀ k ∈ AList.keys vm, k.head? ≠ some '"') (r : Str) (a : Atom)
    (h : atomB cfg a = true) : atomB cfg (renAtom vm r a) = true := by
  cases a with
  | none => exact h
  | num t => exact h
  | str s =>
    by_cases hr : r = ['/']
    · subst hr; rw [renAtom_concept]; exact h
    · cases hg : AList.get? vm (alnStem s) with
      | none => rw [renAtom_other hg]; exact h
      | some nv =>
        rw [renAtom_ref hr hg]
        exact atomTextB_ren hcfg vm hnew hq hg h

theorem symbolB_renVar (vm : AList Str Str)
    (hnew : ∀ k nv, AList.get? vm k = some nv → symbolB cfg nv = true) {v : Str}
    (h : symbolB cfg v = true) : symbolB cfg (renVar vm v) = true := by
  cases hg : AList.get? vm v with
  | none => rw [renVar_of_not_key (get?_eq_none_iff.1 hg)]; exact h
  | some nv => rw [renVar_of_get? hg]; exact hnew _ _ hg

section
variable (hcfg : FmtCfgWf cfg = true) (vm : AList Str Str)
  (hnew : ∀ k nv, AList.get? vm k = some nv → symbolB cfg nv = true)
  (hq : ∀ k ∈ AList.keys vm, k.head? ≠ some '"')
include hcfg hnew hq
set_option linter.unusedSectionVars false

mutual
theorem wfNodeB_ren : ∀ (n : Node), Spec.wfNodeB cfg n = true → Spec.wfNodeB cfg (renNode vm n) = true
  | .mk none bs, h => by
    cases bs with
    | nil => simp [renNode, renBranches, Spec.wfNodeB]
    | atom r a rest => simp [Spec.wfNodeB] at h
    | sub r n rest => simp [Spec.wfNodeB] at h
  | .mk (some v) bs, h => by
    simp only [Spec.wfNodeB, Bool.and_eq_true] at h
    simp only [renNode, Option.map_some, Spec.wfNodeB, Bool.and_eq_true]
    exact ⟨symbolB_renVar vm hnew h.1, wfTopB_ren bs h.2⟩
theorem wfTopB_ren : ∀ (bs : Branches), wfTopB cfg bs = true → wfTopB cfg (renBranches vm bs) = true
  | .nil, _ => by simp [renBranches, wfTopB]
  | .atom r a rest, h => by
    simp only [wfTopB, Bool.and_eq_true] at h
    simp only [renBranches, wfTopB, Bool.and_eq_true]
    refine ⟨?_, wfEdgesB_ren rest h.2⟩
    have h1 := h.1
    split at h1
    · rename_i hr; rw [if_pos hr]; exact atomB_ren hcfg vm hnew hq r a h1
    · rename_i hr
      rw [if_neg hr]
      simp only [Bool.and_eq_true] at h1 ⊢
      exact ⟨h1.1, atomB_ren hcfg vm hnew hq r a h1.2⟩
  | .sub r n rest, h => by
    simp only [wfTopB, Bool.and_eq_true] at h
    simp only [renBranches, wfTopB, Bool.and_eq_true]
    exact ⟨⟨h.1.1, wfNodeB_ren n h.1.2⟩, wfEdgesB_ren rest h.2⟩
theorem wfEdgesB_ren : ∀ (bs : Branches), wfEdgesB cfg bs = true → wfEdgesB cfg (renBranches vm bs) = true
  | .nil, _ => by simp [renBranches, wfEdgesB]
  | .atom r a rest, h => by
    simp only [wfEdgesB, Bool.and_eq_true] at h
    simp only [renBranches, wfEdgesB, Bool.and_eq_true]
    exact ⟨⟨h.1.1, atomB_ren hcfg vm hnew hq r a h.1.2⟩, wfEdgesB_ren rest h.2⟩
  | .sub r n rest, h => by
    simp only [wfEdgesB, Bool.and_eq_true] at h
    simp only [renBranches, wfEdgesB, Bool.and_eq_true]
    exact ⟨⟨h.1.1, wfNodeB_ren n h.1.2⟩, wfEdgesB_ren rest h.2⟩
end

end

theorem wfTreeText_ren {cfg : LexCfg} (hcfg : Spec.FmtCfgWf cfg = true) (vm : AList Str Str) (n : Node)
    (hnew : ∀ k nv, AList.get? vm k = some nv → Spec.symbolB cfg nv = true)
    (hq : ∀ k ∈ AList.keys vm, k.head? ≠ some '"')
    (h : Spec.WfTreeText cfg n) : Spec.WfTreeText cfg (renNode vm n) :=
  wfNodeB_ren hcfg vm hnew hq n h

end TextWf

end Penman.RV
