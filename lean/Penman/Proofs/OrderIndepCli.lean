/-
  Penman.Proofs.OrderIndepCli — property C17 for the `penman` command: the per-graph function and the
  whole command (`process`, `main`) with every set iteration of the library routed through an abstract
  hash seed equal the model's.
-/
import Penman.Proofs.OrderIndepConfigure
import Penman.Proofs.OrderIndepDfs
import Penman.Main
namespace Penman.OrderIndep

/-- A hash seed, abstractly: the order in which a set of strings is iterated, given as a
    function of the model's canonical listing of that set. Any permutation is allowed. -/
structure Seed where
  enum : List Str → List Str
  perm : ∀ l, (enum l).Perm l

/-- the seed under which every set is iterated in the model's own order -/
def Seed.id : Seed := ⟨fun l => l, fun _ => List.Perm.refl _⟩
/-- the seed under which every set is iterated backwards -/
def Seed.rev : Seed := ⟨List.reverse, fun l => List.reverse_perm l⟩

theorem Seed.same (sd : Seed) (l : List Str) : SameMembers (sd.enum l) l :=
  SameMembers.of_perm (sd.perm l)

theorem interpretWith_seed (sd : Seed) (isAlpha : Char → Bool) (m : Model) (t : Tree) :
    interpretWith isAlpha m (sd.enum t.node.vars) t = interpret isAlpha m t :=
  interpretWith_congr isAlpha m (sd.same _) t

theorem reifyEdgesWith_seed (sd : Seed) (m : Model) (g : Graph) :
    reifyEdgesWith m (sd.enum g.variables) g = reifyEdges m g :=
  reifyEdgesWith_congr m (sd.same _) g

theorem reifyAttributesWith_seed (sd : Seed) (g : Graph) :
    reifyAttributesWith (sd.enum g.variables) g = reifyAttributes g :=
  reifyAttributesWith_congr (sd.same _) g

theorem configureWith_seed (sd : Seed) (m : Model) (g : Graph) (top : Option Str) :
    configureWith m (sd.enum g.variables) g top = configure m g top :=
  configureWith_congr m (sd.same _) g top

theorem rearrangeWith_seed (sd : Seed) (m : Model) (key : Option (List KeyFn)) (af : Bool) (t : Tree) :
    rearrangeWith m (sd.enum t.node.vars) key af t = rearrange m key af t :=
  rearrangeWith_congr m (sd.same _) key af t

/-- `reconfigure` under a seed (it calls `configure` on the re-sorted copy) -/
def reconfigureWith (sd : Seed) (m : Model) (g : Graph) (top : Option Str)
    (key : Option (List KeyFn)) : Except PyErr Tree :=
  let epidata := g.epidata.map fun (t, es) => (t, es.filter (!·.isLayout))
  let triples := match key with
    | none => g.triples
    | some ks => g.triples.mergeSort fun a b => kvLe (evalKeys m ks a.role) (evalKeys m ks b.role)
  let g' : Graph := { g with epidata := epidata, triples := triples }
  configureWith m (sd.enum g'.variables) g' (match top with | some t => some t | none => g.getTop)

theorem reconfigureWith_seed (sd : Seed) (m : Model) (g : Graph) (top : Option Str)
    (key : Option (List KeyFn)) : reconfigureWith sd m g top key = reconfigure m g top key := by
  unfold reconfigureWith reconfigure
  exact configureWith_seed sd m _ _

/-- `Model.errors` under a seed: neighbour sets and the unreachable set go through it -/
def errorsSeed (sd : Seed) (m : Model) (g : Graph) : AList (Option Triple) (List Nat) :=
  errorsWith m (fun v => sd.enum (neighbours g (dedup (g.triples.map (·.src))) v)) sd.enum g

theorem errorsSeed_eq (sd : Seed) (m : Model) (g : Graph) : errorsSeed sd m g = m.errors g := by
  rw [errors_eq_with]
  exact errorsWith_congr m g _ _ _ _ (fun v => sd.perm _) (fun v => List.Perm.refl _) sd.perm
    (fun l => List.Perm.refl _)

/-- `_check` under a seed -/
def checkGraphWith (sd : Seed) (m : Model) (g : Graph) : Graph × Nat :=
  let errs := errorsSeed sd m g
  if errs.isEmpty then (g, 0)
  else
    let step (acc : AList Str Str × Nat) (p : Option Triple × List Nat) :=
      let (md, i) := acc
      let ctx : Str := match p.1 with
        | some t => '(' :: t.src ++ [' '] ++ t.role ++ [' '] ++ atomStr t.tgt ++ ") ".toList
        | none => []
      let md := p.2.foldl (fun md e => md.set ("error-".toList ++ natToStr i) (ctx ++ errMsg e)) md
      (md, i + 1)
    let (md, _) := errs.foldl step (g.metadata, 1)
    ({ g with metadata := md }, 1)

theorem checkGraphWith_seed (sd : Seed) (m : Model) (g : Graph) :
    checkGraphWith sd m g = checkGraph m g := by
  unfold checkGraphWith checkGraph
  rw [errorsSeed_eq]
  rfl

/-- `_process_in` under a seed -/
def processInWith (sd : Seed) (u : UTables) (m : Model) (o : Opts) (t : Tree) : Except PyErr Graph := do
  let t ← if o.canonicalizeRoles then canonicalizeRoles m t else pure t
  let g ← interpretWith u.isAlpha m (sd.enum t.node.vars) t
  let g ← if o.reifyEdges then reifyEdgesWith m (sd.enum g.variables) g else pure g
  let g ← if o.dereifyEdges then dereifyEdges m g else pure g
  let g := if o.reifyAttributes then reifyAttributesWith (sd.enum g.variables) g else g
  let g ← if o.indicateBranches then indicateBranches m g else pure g
  pure g

theorem processInWith_seed (sd : Seed) (u : UTables) (m : Model) (o : Opts) (t : Tree) :
    processInWith sd u m o t = processIn u m o t := by
  unfold processInWith processIn
  simp only [interpretWith_seed, reifyEdgesWith_seed, reifyAttributesWith_seed]

/-- `_process_out` under a seed -/
def processOutWith (sd : Seed) (u : UTables) (m : Model) (o : Opts) (g : Graph) : Except PyErr Tree := do
  let t ← match o.reconfigure with
    | some ks => do
      let t ← reconfigureWith sd m g none (some ks)
      let _ ← interpretWith u.isAlpha m (sd.enum t.node.vars) t
      pure t
    | none => configureWith m (sd.enum g.variables) g none
  let t := match o.rearrange with
    | some (ks, af) => rearrangeWith m (sd.enum t.node.vars) (some ks) af t
    | none => t
  match o.makeVariables with
  | some fmt => do
    let n ← t.node.resetVariables u.isAlpha u.lower fmt
    pure { t with node := n }
  | none => pure t

theorem processOutWith_seed (sd : Seed) (u : UTables) (m : Model) (o : Opts) (g : Graph) :
    processOutWith sd u m o g = processOut u m o g := by
  unfold processOutWith processOut
  simp only [interpretWith_seed, reconfigureWith_seed, configureWith_seed, rearrangeWith_seed]
  rfl

/-- one graph of `process` under a seed -/
def processTreeWith (sd : Seed) (u : UTables) (m : Model) (o : Opts) (t : Tree) :
    Except PyErr (Str × Nat) := do
  let g ← processInWith sd u m o t
  let (g, code) := if o.check then checkGraphWith sd m g else (g, 0)
  if o.triples then
    let ind := match o.indent with | none => false | some i => i != 0
    pure (formatTriples g.triples ind, code)
  else do
    let t ← processOutWith sd u m o g
    pure (format t o.indent o.compact, code)

theorem processTreeWith_seed (sd : Seed) (u : UTables) (m : Model) (o : Opts) (t : Tree) :
    processTreeWith sd u m o t = processTree u m o t := by
  unfold processTreeWith processTree
  simp only [processInWith_seed, checkGraphWith_seed, processOutWith_seed]
  rfl

/-- `process(f, …)` under a seed -/
def processLoopWith (sd : Seed) (u : UTables) (m : Model) (o : Opts) (c : PCtx) :
    Nat → List Tok → Bool → Str → Nat → Str × Except PyErr Nat
  | 0, _, _, out, _ => (out, .error (.other "fuel"))
  | _+1, [], _, out, code => (out, .ok code)
  | f+1, t :: ts, first, out, code =>
    if t.ty = .COMMENT ∨ t.ty = .LPAREN then
      match parseTree c u.isSpace (t :: ts) with
      | .error e => (out, .error e)
      | .ok (tree, rest) =>
        let out := if first then out else out ++ ['\n']
        match processTreeWith sd u m o tree with
        | .error e => (out, .error e)
        | .ok (s, code') => processLoopWith sd u m o c f rest false (out ++ s ++ ['\n']) (code ||| code')
    else (out, .ok code)

theorem processLoopWith_seed (sd : Seed) (u : UTables) (m : Model) (o : Opts) (c : PCtx) :
    ∀ (f : Nat) (toks : List Tok) (first : Bool) (out : Str) (code : Nat),
      processLoopWith sd u m o c f toks first out code = processLoop u m o c f toks first out code
  | 0, _, _, _, _ => rfl
  | _+1, [], _, _, _ => rfl
  | f+1, t :: ts, first, out, code => by
    simp only [processLoopWith, processLoop, processTreeWith_seed, processLoopWith_seed sd u m o c f]
    rfl

def processInputWith (sd : Seed) (cfg : LexCfg) (u : UTables) (m : Model) (o : Opts) (input : Str) :
    Str × Except PyErr Nat :=
  let toks := lexLines cfg cfg.penmanOrder (fileLines input)
  processLoopWith sd u m o ⟨eofPos toks⟩ (toks.length + 1) toks true [] 0

theorem processInputWith_seed (sd : Seed) (cfg : LexCfg) (u : UTables) (m : Model) (o : Opts)
    (input : Str) : processInputWith sd cfg u m o input = processInput cfg u m o input := by
  simp only [processInputWith, processInput, processLoopWith_seed]

/-- `main()` under a seed -/
def mainRunWith (sd : Seed) (cfg : LexCfg) (u : UTables) (m : Model) (o : Opts) :
    List Str → Str → Nat → Str × Except PyErr Nat
  | [], out, code => (out, .ok code)
  | inp :: rest, out, code =>
    match processInputWith sd cfg u m o inp with
    | (s, .ok c) => mainRunWith sd cfg u m o rest (out ++ s) (code ||| c)
    | (s, .error e) => (out ++ s, .error e)

theorem mainRunWith_seed (sd : Seed) (cfg : LexCfg) (u : UTables) (m : Model) (o : Opts) :
    ∀ (inputs : List Str) (out : Str) (code : Nat),
      mainRunWith sd cfg u m o inputs out code = mainRun cfg u m o inputs out code
  | [], _, _ => rfl
  | inp :: rest, out, code => by
    simp only [mainRunWith, mainRun, processInputWith_seed, mainRunWith_seed sd cfg u m o rest]
    rfl

end Penman.OrderIndep
