/-
  Penman.Proofs.OrderIndepConfigure — property C17 for `layout._configure`, which builds
  `nodemap = {var: None for var in g.variables()}` by iterating a set. Everything `configure` does with
  `nodemap` afterwards is a lookup or an update by key, so the result does not depend on the iteration
  order: states with the same cells and the same nodemap AS A MAPPING (`StEq`) stay so through
  `_configure_node`, `_find_next` and the `while data:` loop.
-/
import Penman.Proofs.OrderIndep
namespace Penman.OrderIndep

/-- two dicts with the same lookups (key order may differ) -/
def NmEq (nm nm' : AList Str NM) : Prop := ∀ k, AList.get? nm k = AList.get? nm' k

theorem NmEq.contains {nm nm' : AList Str NM} (h : NmEq nm nm') (k : Str) :
    AList.contains nm k = AList.contains nm' k := by
  rw [RV.contains_eq_isSome, RV.contains_eq_isSome, h k]

theorem NmEq.set {nm nm' : AList Str NM} (h : NmEq nm nm') (k : Str) (v : NM) :
    NmEq (AList.set nm k v) (AList.set nm' k v) := by
  intro k'
  rw [AList.get?_set, AList.get?_set, h k']

/-- the initial `nodemap` as a mapping: every variable ↦ unset, whatever the enumeration -/
theorem get?_map_unset (vars : List Str) (k : Str) :
    AList.get? (vars.map (·, NM.unset)) k = if k ∈ vars then some NM.unset else none := by
  induction vars with
  | nil => simp
  | cons v vs ih =>
    simp only [List.map_cons, AList.get?_cons, ih, List.mem_cons]
    by_cases h : v = k
    · simp [h]
    · simp [h, Ne.symm h]

theorem nmEq_init {vars vars' : List Str} (h : SameMembers vars vars') (top : Str) :
    NmEq (AList.set (vars.map (·, NM.unset)) top NM.own)
         (AList.set (vars'.map (·, NM.unset)) top NM.own) := by
  apply NmEq.set
  intro k
  rw [get?_map_unset, get?_map_unset]
  simp [h k]

/-- states that agree on the cells and, as mappings, on the nodemap -/
def StEq (st st' : St) : Prop := st.cells = st'.cells ∧ NmEq st.nm st'.nm

theorem StEq.cell {st st' : St} (h : StEq st st') (v : Str) : st.cell v = st'.cell v := by
  simp only [St.cell, h.1]

theorem StEq.addBack {st st' : St} (h : StEq st st') (v : Str) (e : Edge) :
    StEq (st.addBack v e) (st'.addBack v e) := by
  refine ⟨?_, h.2⟩
  simp only [St.addBack, h.cell, h.1]

theorem StEq.addFront {st st' : St} (h : StEq st st') (v : Str) (e : Edge) :
    StEq (st.addFront v e) (st'.addFront v e) := by
  refine ⟨?_, h.2⟩
  simp only [St.addFront, h.cell, h.1]

theorem StEq.newCell {st st' : St} (h : StEq st st') (v : Str) :
    StEq (st.newCell v) (st'.newCell v) := by
  refine ⟨?_, h.2.set v .own⟩
  simp only [St.newCell, h.1]

theorem StEq.noteSite {st st' : St} (h : StEq st st') (var : Str) (target : Atom) :
    StEq (st.noteSite var target) (st'.noteSite var target) := by
  cases target with
  | none => exact h
  | num _ => exact h
  | str v =>
    simp only [St.noteSite, ← h.2 v]
    split
    · exact ⟨h.1, h.2.set v _⟩
    · exact h

theorem StEq.established {st st' : St} (h : StEq st st') (target : Atom) :
    st.established target = st'.established target := by
  cases target <;> simp only [St.established, h.2 _]

theorem StEq.pushVar {st st' : St} (h : StEq st st') (push : Bool) (target : Atom) :
    pushVar st push target = pushVar st' push target := by
  simp only [Penman.pushVar, h.established]

def CNRel (r r' : List Datum × St × Bool) : Prop := r.1 = r'.1 ∧ StEq r.2.1 r'.2.1 ∧ r.2.2 = r'.2.2

theorem configureNode_rel (m : Model) :
    ∀ (fuel : Nat) (var : Str) (data : List Datum) (st st' : St) (s : Bool), StEq st st' →
      CNRel (configureNode m fuel var data st s) (configureNode m fuel var data st' s)
  | 0, _, _, _, _, _, h => ⟨rfl, h, rfl⟩
  | _+1, _, [], _, _, _, h => ⟨rfl, h, rfl⟩
  | _+1, _, .pop :: _, _, _, _, h => ⟨rfl, h, rfl⟩
  | fuel+1, var, .t tr push epis :: data, st, st', s, h => by
    simp only [configureNode]
    cases orient m var tr push s with
    | none => exact ⟨rfl, h, rfl⟩
    | some o =>
      obtain ⟨role, target, push', s'⟩ := o
      simp only []
      refine ite_rel (fun _ => ite_rel (fun _ => configureNode_rel m fuel var data st st' s' h)
        fun _ => configureNode_rel m fuel var data _ _ s' (h.addFront _ _)) fun _ => ?_
      rw [← h.pushVar]
      cases pushVar st push' target with
      | none => exact configureNode_rel m fuel var data _ _ s' ((h.noteSite _ _).addBack _ _)
      | some v =>
        obtain ⟨e1, e2, e3⟩ := configureNode_rel m fuel v data _ _ false (h.newCell v)
        simp only [← e1, ← e3]
        exact configureNode_rel m fuel var _ _ _ _ (e2.addBack _ _)

theorem getOrEstablish_rel {st st' : St} (h : StEq st st') (v : Str) :
    (getOrEstablish st v).1 = (getOrEstablish st' v).1 ∧
      StEq (getOrEstablish st v).2 (getOrEstablish st' v).2 := by
  simp only [getOrEstablish, ← h.2 v]
  cases hg : AList.get? st.nm v with
  | none => exact ⟨rfl, h⟩
  | some x =>
    cases x with
    | unset => exact ⟨rfl, h⟩
    | own => exact ⟨rfl, h⟩
    | site u =>
      refine ⟨rfl, ?_, h.2.set v .own⟩
      simp only [h.cell, h.1]

def FNRel (r r' : List Datum × Option Str × List Datum × St) : Prop :=
  r.1 = r'.1 ∧ r.2.1 = r'.2.1 ∧ r.2.2.1 = r'.2.2.1 ∧ StEq r.2.2.2 r'.2.2.2

theorem tryEstablish_rel {st st' : St} (h : StEq st st') (v : Str) :
    (if AList.contains st.nm v then getOrEstablish st v else (false, st)).1 =
      (if AList.contains st'.nm v then getOrEstablish st' v else (false, st')).1 ∧
    StEq (if AList.contains st.nm v then getOrEstablish st v else (false, st)).2
      (if AList.contains st'.nm v then getOrEstablish st' v else (false, st')).2 := by
  rw [← h.2.contains v]
  cases AList.contains st.nm v with
  | true => simpa using getOrEstablish_rel h v
  | false => exact ⟨rfl, h⟩

theorem findNext_rel :
    ∀ (data skippedRev : List Datum) (st st' : St), StEq st st' →
      FNRel (findNext data skippedRev st) (findNext data skippedRev st')
  | [], [], _, _, h => ⟨rfl, rfl, rfl, h⟩
  | [], _ :: _, _, _, h => ⟨rfl, rfl, rfl, h⟩
  | .pop :: rest, sk, st, st', h => by
    simp only [findNext]
    exact findNext_rel rest _ st st' h
  | .t tr push epis :: rest, sk, st, st', h => by
    simp only [findNext]
    obtain ⟨a1, a2⟩ := tryEstablish_rel h tr.src
    rw [← a1]
    refine ite_rel (fun _ => ⟨rfl, rfl, rfl, a2⟩) fun _ => ?_
    cases tr.tgt with
    | none => exact findNext_rel rest _ _ _ a2
    | num _ => exact findNext_rel rest _ _ _ a2
    | str tv =>
      obtain ⟨b1, b2⟩ := tryEstablish_rel a2 tv
      simp only [← b1]
      exact ite_rel (fun _ => ⟨rfl, rfl, rfl, b2⟩) fun _ => findNext_rel rest _ _ _ b2

theorem configureLoop_rel (m : Model) :
    ∀ (fuel : Nat) (data skipped : List Datum) (st st' : St), StEq st st' →
      ExceptRel StEq (configureLoop m fuel data skipped st) (configureLoop m fuel data skipped st')
  | 0, _, _, _, _, _ => rfl
  | _+1, [], [], _, _, h => h
  | _+1, [], _ :: _, _, _, _ => rfl
  | fuel+1, d :: ds, skipped, st, st', h => by
    simp only [configureLoop]
    -- name both results of `_find_next`, split them, and identify the components that are equal
    obtain ⟨f1, f2, f3, f4⟩ := findNext_rel (d :: ds) [] st st' h
    generalize findNext (d :: ds) [] st = x at f1 f2 f3 f4 ⊢
    generalize findNext (d :: ds) [] st' = x' at f1 f2 f3 f4 ⊢
    obtain ⟨sk, var, data1, st1⟩ := x
    obtain ⟨sk', var', data1', st1'⟩ := x'
    simp only at f1 f2 f3 f4
    subst f1 f2 f3
    cases var with
    | none => exact rfl
    | some v =>
      refine ite_rel (fun _ => rfl) (fun _ => ?_)
      obtain ⟨c1, c2, c3⟩ := configureNode_rel m (data1.length + 1) v data1 _ _ false f4
      generalize configureNode m (data1.length + 1) v data1 st1 false = y at c1 c2 c3 ⊢
      generalize configureNode m (data1.length + 1) v data1 st1' false = y' at c1 c2 c3 ⊢
      obtain ⟨data2, st2, sur⟩ := y
      obtain ⟨data2', st2', sur'⟩ := y'
      simp only at c1 c2 c3
      subst c1 c3
      refine ite_rel (fun _ => ?_) (fun _ => ite_rel (fun _ => rfl) (fun _ => ?_))
      · cases data2 with
        | nil => exact rfl
        | cons d2 rest => exact configureLoop_rel m fuel _ _ _ _ c2
      · exact configureLoop_rel m fuel _ _ _ _ c2

/-- `configure(g, top, model)` where `for var in g.variables()` runs through `vars` -/
def configureWith (m : Model) (vars : List Str) (g : Graph) (top : Option Str) : Except PyErr Tree :=
  if g.triples.isEmpty then .ok { node := .mk g.getTop .nil, metadata := g.metadata }
  else
    let top := match top with | some t => some t | none => g.getTop
    match top with
    | none => .error (.layout 0)
    | some top =>
      if top ∉ vars then .error (.layout 0)
      else do
        let st0 : St := { cells := [(top, [])], nm := AList.set (vars.map (·, NM.unset)) top NM.own }
        let data ← preconfigure m g.epidata g.triples []
        let (data1, st1, _) := configureNode m (data.length + 1) top data st0 false
        let st2 ← configureLoop m ((data.length + 1) * (data.length + 1) + 1) (stripPops data1) [] st1
        let node ← buildNode st2.cells (2 * st2.cells.length + 2) top
        pure { node := node, metadata := g.metadata }

theorem configure_eq_with (m : Model) (g : Graph) (top : Option Str) :
    configure m g top = configureWith m g.variables g top := rfl

theorem configureWith_congr (m : Model) {vars vars' : List Str} (h : SameMembers vars vars')
    (g : Graph) (top : Option Str) : configureWith m vars g top = configureWith m vars' g top := by
  unfold configureWith
  refine ite_congr rfl (fun _ => rfl) (fun _ => ?_)
  dsimp only
  generalize (match top with | some t => some t | none => g.getTop) = top'
  cases top' with
  | none => rfl
  | some tp =>
    refine ite_congr (propext (not_congr (h tp))) (fun _ => rfl) (fun _ => ?_)
    cases preconfigure m g.epidata g.triples [] with
    | error e => rfl
    | ok data =>
      have h0 : StEq { cells := [(tp, [])], nm := AList.set (vars.map (·, NM.unset)) tp NM.own }
          { cells := [(tp, [])], nm := AList.set (vars'.map (·, NM.unset)) tp NM.own } :=
        ⟨rfl, nmEq_init h tp⟩
      obtain ⟨c1, c2, _⟩ := configureNode_rel m (data.length + 1) tp data _ _ false h0
      apply ExceptRel.eq_of
      show ExceptRel (· = ·) (Except.bind _ _) (Except.bind _ _)
      dsimp only [Except.bind]
      rw [← c1]
      refine ExceptRel.bind (configureLoop_rel m _ _ [] _ _ c2) ?_
      intro a b hab
      rw [hab.1]
      cases buildNode b.cells (2 * b.cells.length + 2) tp <;> exact rfl

end Penman.OrderIndep
