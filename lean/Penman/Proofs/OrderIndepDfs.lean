/-
  Penman.Proofs.OrderIndepDfs — property C17 for `model._dfs` / `Model.errors`: `_dfs` iterates the
  neighbour SETS `q[cur]`, `errors` iterates `sorted(unreachable)`. With the model's fuel the visited set
  is the connected component of the top whatever order the neighbours are pushed in, and `sorted` of a
  set does not depend on its enumeration. The worklist argument is that of Proofs/Dfs.lean (property
  C16) for an arbitrary neighbour enumeration `nb`; measure and list facts are taken from there.
-/
import Penman.Proofs.OrderIndep
import Penman.Proofs.Dfs
namespace Penman.OrderIndep

/-- `_dfs` with the enumeration of each neighbour set as a parameter -/
def dfsLoopWith (nb : Str → List Str) : Nat → List Str → List Str → List Str
  | 0, _, visited => visited
  | _+1, [], visited => visited
  | f+1, cur :: agenda, visited =>
    if cur ∈ visited then dfsLoopWith nb f agenda visited
    else dfsLoopWith nb f ((nb cur).filter (· ∉ cur :: visited) ++ agenda) (cur :: visited)

theorem dfsLoop_eq_with (g : Graph) (srcs : List Str) :
    ∀ (f : Nat) (agenda visited : List Str),
      dfsLoop g srcs f agenda visited = dfsLoopWith (neighbours g srcs) f agenda visited
  | 0, _, _ => rfl
  | _+1, [], _ => rfl
  | f+1, cur :: agenda, visited => by
    show (if cur ∈ visited then dfsLoop g srcs f _ _ else dfsLoop g srcs f _ _) = _
    rw [dfsLoop_eq_with g srcs f, dfsLoop_eq_with g srcs f]
    rfl

/-- connected to `top` through the neighbour relation (only MEMBERSHIP in `nb u` matters) -/
inductive Conn (nb : Str → List Str) (top : Str) : Str → Prop
  | refl : Conn nb top top
  | step {u w : Str} : Conn nb top u → w ∈ nb u → Conn nb top w

theorem Conn.congr {nb nb' : Str → List Str} (h : ∀ v, SameMembers (nb v) (nb' v)) {top v : Str}
    (c : Conn nb top v) : Conn nb' top v := by
  induction c with
  | refl => exact .refl
  | step _ hw ih => exact .step ih ((h _ _).mp hw)

section
variable (nb : Str → List Str) (srcs : List Str) (n : Nat)
  (hsub : ∀ v w, w ∈ nb v → w ∈ srcs) (hlen : ∀ v, (nb v).length ≤ n)

theorem dfsLoopWith_visited (f : Nat) (cur : Str) (agenda visited : List Str) (h : cur ∈ visited) :
    dfsLoopWith nb (f+1) (cur :: agenda) visited = dfsLoopWith nb f agenda visited :=
  if_pos h

theorem dfsLoopWith_fresh (f : Nat) (cur : Str) (agenda visited : List Str) (h : cur ∉ visited) :
    dfsLoopWith nb (f+1) (cur :: agenda) visited =
      dfsLoopWith nb f ((nb cur).filter (· ∉ cur :: visited) ++ agenda) (cur :: visited) :=
  if_neg h

include hlen in
theorem dfsMeasure_fresh (cur : Str) (agenda visited : List Str)
    (hc : cur ∈ srcs) (hv : cur ∉ visited) :
    dfsMeasure n srcs ((nb cur).filter (· ∉ cur :: visited) ++ agenda) (cur :: visited)
      < dfsMeasure n srcs (cur :: agenda) visited := by
  simp only [dfsMeasure, List.length_append, List.length_cons]
  have h1 := filter_notMem_cons_lt srcs visited cur hc hv
  have h2 : ((nb cur).filter (· ∉ cur :: visited)).length ≤ n :=
    Nat.le_trans (List.length_filter_le _ _) (hlen cur)
  generalize (srcs.filter (· ∉ cur :: visited)).length = a at *
  generalize (srcs.filter (· ∉ visited)).length = b at *
  generalize ((nb cur).filter (· ∉ cur :: visited)).length = k at *
  have : n * (a + 1) ≤ n * b := Nat.mul_le_mul_left n h1
  rw [Nat.mul_add, Nat.mul_one] at this
  omega

/-- soundness (no fuel condition) -/
theorem dfsLoopWith_sound (P : Str → Prop)
    (hP : ∀ v w, P v → w ∈ nb v → P w)
    (f : Nat) (agenda visited : List Str)
    (hA : ∀ a ∈ agenda, P a) (hV : ∀ a ∈ visited, P a) :
    ∀ a ∈ dfsLoopWith nb f agenda visited, P a := by
  induction f generalizing agenda visited with
  | zero => simpa [dfsLoopWith] using hV
  | succ f ih =>
    cases agenda with
    | nil => simpa [dfsLoopWith] using hV
    | cons cur agenda =>
      by_cases hv : cur ∈ visited
      · rw [dfsLoopWith_visited nb _ _ _ _ hv]
        exact ih _ _ (fun a ha => hA a (List.mem_cons_of_mem _ ha)) hV
      · rw [dfsLoopWith_fresh nb _ _ _ _ hv]
        have hc : P cur := hA cur (List.mem_cons_self ..)
        apply ih
        · intro a ha
          rcases List.mem_append.1 ha with h | h
          · exact hP cur a hc (List.mem_filter.1 h).1
          · exact hA a (List.mem_cons_of_mem _ h)
        · intro a ha
          rcases List.mem_cons.1 ha with h | h
          · exact h ▸ hc
          · exact hV a h

theorem dfsLoopWith_nil (f : Nat) (visited : List Str) : dfsLoopWith nb f [] visited = visited := by
  cases f <;> rfl

/-- an empty agenda: `visited` is returned, and the invariant says it is closed -/
theorem dfsLoopWith_complete_nil (f : Nat) (visited : List Str)
    (hI : ∀ v ∈ visited, ∀ w ∈ nb v, w ∈ visited ∨ w ∈ ([] : List Str)) :
    (∀ a, a ∈ visited ∨ a ∈ ([] : List Str) → a ∈ dfsLoopWith nb f [] visited) ∧
    (∀ v ∈ dfsLoopWith nb f [] visited, ∀ w ∈ nb v, w ∈ dfsLoopWith nb f [] visited) := by
  rw [dfsLoopWith_nil]
  exact ⟨fun a ha => ha.resolve_right List.not_mem_nil,
    fun v hv w hw => (hI v hv w hw).resolve_right List.not_mem_nil⟩

include hsub hlen in
/-- completeness: with enough fuel the result contains agenda and visited and is closed
    under the neighbour relation -/
theorem dfsLoopWith_complete (f : Nat) (agenda visited : List Str)
    (hA : ∀ a ∈ agenda, a ∈ srcs)
    (hf : dfsMeasure n srcs agenda visited ≤ f)
    (hI : ∀ v ∈ visited, ∀ w ∈ nb v, w ∈ visited ∨ w ∈ agenda) :
    (∀ a, a ∈ visited ∨ a ∈ agenda → a ∈ dfsLoopWith nb f agenda visited) ∧
    (∀ v ∈ dfsLoopWith nb f agenda visited, ∀ w ∈ nb v, w ∈ dfsLoopWith nb f agenda visited) := by
  induction f generalizing agenda visited with
  | zero =>
    cases agenda with
    | nil => exact dfsLoopWith_complete_nil nb 0 visited hI
    | cons a l => simp [dfsMeasure] at hf
  | succ f ih =>
    cases agenda with
    | nil => exact dfsLoopWith_complete_nil nb (f + 1) visited hI
    | cons cur agenda =>
      by_cases hv : cur ∈ visited
      · rw [dfsLoopWith_visited nb _ _ _ _ hv]
        -- `cur` is visited already: the same set of pending and visited variables
        have hset : ∀ a, a ∈ visited ∨ a ∈ cur :: agenda → a ∈ visited ∨ a ∈ agenda := fun a ha =>
          ha.elim Or.inl fun h => (List.mem_cons.1 h).elim (fun e => Or.inl (e ▸ hv)) Or.inr
        obtain ⟨h1, h2⟩ := ih agenda visited (fun a ha => hA a (List.mem_cons_of_mem _ ha))
          (by simp only [dfsMeasure, List.length_cons] at hf ⊢; omega)
          (fun v hv' w hw => hset w (hI v hv' w hw))
        exact ⟨fun a ha => h1 a (hset a ha), h2⟩
      · rw [dfsLoopWith_fresh nb _ _ _ _ hv]
        have hm := dfsMeasure_fresh nb srcs n hlen cur agenda visited (hA cur (List.mem_cons_self ..)) hv
        -- nothing pending or visited is lost when `cur` moves over and its neighbours are pushed
        have hsup : ∀ a, a ∈ visited ∨ a ∈ cur :: agenda →
            a ∈ cur :: visited ∨ a ∈ (nb cur).filter (· ∉ cur :: visited) ++ agenda := fun a ha =>
          ha.elim (fun h => Or.inl (List.mem_cons_of_mem _ h)) fun h =>
            (List.mem_cons.1 h).elim (fun e => Or.inl (e ▸ List.mem_cons_self))
              fun h => Or.inr (List.mem_append_right _ h)
        obtain ⟨h1, h2⟩ := ih ((nb cur).filter (· ∉ cur :: visited) ++ agenda) (cur :: visited)
          (fun a ha => (List.mem_append.1 ha).elim (fun h => hsub cur a (List.mem_filter.1 h).1)
            fun h => hA a (List.mem_cons_of_mem _ h))
          (by omega)
          (fun v hv' w hw => by
            rcases List.mem_cons.1 hv' with rfl | hv'
            · by_cases hwv : w ∈ v :: visited
              · exact Or.inl hwv
              · exact Or.inr (List.mem_append_left _ (List.mem_filter.2 ⟨hw, by simpa using hwv⟩))
            · exact hsup w (hI v hv' w hw))
        exact ⟨fun a ha => h1 a (hsup a ha), h2⟩

include hsub hlen in
/-- with fuel beyond the measure, the visited set is exactly the connected component -/
theorem mem_dfsLoopWith_iff (top : Str) (htop : top ∈ srcs) (f : Nat)
    (hf : 1 + n * srcs.length ≤ f) (v : Str) :
    v ∈ dfsLoopWith nb f [top] [] ↔ Conn nb top v := by
  have hfuel : dfsMeasure n srcs [top] [] ≤ f := by
    simp only [dfsMeasure, List.length_cons, List.length_nil]
    have : (srcs.filter (· ∉ ([] : List Str))).length ≤ srcs.length := List.length_filter_le _ _
    have := Nat.mul_le_mul_left n this
    omega
  constructor
  · intro h
    refine dfsLoopWith_sound nb (fun a => Conn nb top a) ?_ f [top] [] ?_ ?_ v h
    · intro a w ha hw; exact .step ha hw
    · intro a ha
      simp only [List.mem_singleton] at ha
      subst ha; exact .refl
    · intro a ha; cases ha
  · intro h
    obtain ⟨h2, h3⟩ := dfsLoopWith_complete nb srcs n hsub hlen f [top] []
      (by intro a ha; simp only [List.mem_singleton] at ha; exact ha ▸ htop) hfuel
      (by intro v hv; cases hv)
    induction h with
    | refl => exact h2 top (Or.inr (List.mem_singleton.2 rfl))
    | step _ hw ih => exact h3 _ ih _ hw
end

theorem mem_dedup' {α : Type} [DecidableEq α] (l : List α) (x : α) : x ∈ dedup l ↔ x ∈ l :=
  Penman.mem_dedup

/-- `_dfs(g, top)` where the set `q[cur]` is enumerated as `nb cur` -/
def reachableWith (nb : Str → List Str) (g : Graph) (top : Str) : List Str :=
  dfsLoopWith nb (g.triples.length * g.triples.length + g.triples.length + 2) [top] []

theorem reachable_eq_with (g : Graph) (top : Str) :
    reachable g top = reachableWith (neighbours g (dedup (g.triples.map (·.src)))) g top := by
  simp only [reachable, reachableWith, dfsLoop_eq_with]

/-- a neighbour enumeration that, for every variable, is a permutation of the model's -/
def NbPerm (g : Graph) (nb : Str → List Str) : Prop :=
  ∀ v, (nb v).Perm (neighbours g (dedup (g.triples.map (·.src))) v)

theorem fuel_ok (g : Graph) :
    1 + g.triples.length * (dedup (g.triples.map (·.src))).length ≤
      g.triples.length * g.triples.length + g.triples.length + 2 := by
  have h := length_dedup_le (g.triples.map (·.src))
  rw [List.length_map] at h
  have := Nat.mul_le_mul_left g.triples.length h
  omega

/-- the model's fuel suffices for every neighbour enumeration, and the visited set is the
    connected component of `top` -/
theorem mem_reachableWith_iff (g : Graph) (nb : Str → List Str) (hnb : NbPerm g nb) (top : Str)
    (htop : top ∈ dedup (g.triples.map (·.src))) (v : Str) :
    v ∈ reachableWith nb g top ↔ Conn nb top v :=
  -- (the binder type lets `t.src` elaborate at once; otherwise unification meets a postponed hole)
  mem_dfsLoopWith_iff nb (dedup (g.triples.map fun t : Triple => t.src)) g.triples.length
    (fun a w hw => neighbours_subset g _ a w ((hnb a).mem_iff.mp hw))
    (fun a => (hnb a).length_eq ▸ length_neighbours_le g _ a) top htop
    (g.triples.length * g.triples.length + g.triples.length + 2) (fuel_ok g) v

/-- **the visited set does not depend on the order in which neighbours are pushed** -/
theorem reachableWith_members (g : Graph) (nb nb' : Str → List Str) (hnb : NbPerm g nb)
    (hnb' : NbPerm g nb') (top : Str) (htop : top ∈ dedup (g.triples.map (·.src))) :
    SameMembers (reachableWith nb g top) (reachableWith nb' g top) := by
  intro v
  rw [mem_reachableWith_iff g nb hnb top htop, mem_reachableWith_iff g nb' hnb' top htop]
  have h : ∀ v, SameMembers (nb v) (nb' v) :=
    fun v => SameMembers.of_perm ((hnb v).trans (hnb' v).symm)
  exact ⟨Conn.congr h, Conn.congr (fun v => (h v).symm)⟩

/-- `Model.errors(graph)` where `_dfs` enumerates each neighbour set `q[cur]` as `nb cur` and
    `sorted(unreachable)` receives the set `unreachable` enumerated through `enum` -/
def errorsWith (m : Model) (nb : Str → List Str) (enum : List Str → List Str) (g : Graph) :
    AList (Option Triple) (List Nat) :=
  let add (d : AList (Option Triple) (List Nat)) (k : Option Triple) (msg : Nat) :=
    d.set k ((AList.get? d k).getD [] ++ [msg])
  if g.triples.isEmpty then [(none, [2])]
  else
    let d1 := g.triples.foldl (fun d t => if m.hasRole t.role then d else add d (some t) 0) []
    let srcs := dedup (g.triples.map (·.src))
    match g.getTop with
    | none => add d1 none 3
    | some top =>
      if top.isEmpty then add d1 none 3
      else if top ∉ srcs then add d1 none 4
      else
        let reach := reachableWith nb g top
        let unreach := sortStrs (enum (srcs.filter (· ∉ reach)))
        unreach.foldl (fun d u => (g.triples.filter (·.src = u)).foldl (fun d t => add d (some t) 1) d) d1

theorem errors_eq_with (m : Model) (g : Graph) :
    m.errors g = errorsWith m (neighbours g (dedup (g.triples.map (·.src)))) id g := by
  unfold Model.errors errorsWith
  simp only [reachable_eq_with, id]
  rfl

/-- **`Model.errors` does not depend on any set iteration order** -/
theorem errorsWith_congr (m : Model) (g : Graph) (nb nb' : Str → List Str)
    (enum enum' : List Str → List Str) (hnb : NbPerm g nb) (hnb' : NbPerm g nb')
    (he : ∀ l, (enum l).Perm l) (he' : ∀ l, (enum' l).Perm l) :
    errorsWith m nb enum g = errorsWith m nb' enum' g := by
  unfold errorsWith
  refine ite_congr rfl (fun _ => rfl) (fun _ => ?_)
  cases g.getTop with
  | none => rfl
  | some top =>
    refine ite_congr rfl (fun _ => rfl) (fun _ => ite_congr rfl (fun _ => rfl) (fun ht => ?_))
    -- the two sides differ in `unreach` only
    have hm := reachableWith_members g nb nb' hnb hnb' top (Decidable.not_not.mp ht)
    have hf : (dedup (g.triples.map (·.src))).filter (· ∉ reachableWith nb g top) =
        (dedup (g.triples.map (·.src))).filter (· ∉ reachableWith nb' g top) :=
      List.filter_congr fun x _ => decide_eq_decide.mpr (not_congr (hm x))
    dsimp only
    rw [hf, sortStrs_congr ((he _).trans (he' _).symm)]

end Penman.OrderIndep
