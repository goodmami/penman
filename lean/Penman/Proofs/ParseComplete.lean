/-
  The converse of the round trip: whatever the parser accepts is the token
  list of a well-formed concrete syntax tree (`CNode`, i.e. a sentence of
  the documented grammar with its robustness extensions), and the tree
  returned is that syntax tree's abstract tree.
-/
import Penman.Proofs.ParseRoundTrip
namespace Penman

theorem takeAln_inv {c : PCtx} {tok : Tok} {ts : List Tok} {v : Str × List Tok}
    (h : takeAln c tok.text ts = .ok v) :
    ∃ x : TText, x.tok = tok ∧ x.wfAln = true ∧ x.text = v.1 ∧ tok :: ts = x.toks ++ v.2 := by
  cases ts with
  | nil => simp [takeAln] at h
  | cons a ts' =>
    simp only [takeAln] at h
    split at h
    · rename_i ha
      cases h
      exact ⟨⟨tok, some a⟩, rfl, by simp [TText.wfAln, ha], rfl, rfl⟩
    · cases h
      exact ⟨⟨tok, none⟩, rfl, rfl, rfl, rfl⟩

theorem expectTy_ok {c : PCtx} {ty : TokTy} {toks : List Tok} {x : Tok} {ts : List Tok}
    (h : expectTy c ty toks = .ok (x, ts)) : toks = x :: ts ∧ x.ty = ty := by
  cases toks with
  | nil => cases h
  | cons t ts' =>
    rw [expectTy] at h
    split at h
    · cases h; exact ⟨rfl, ‹_›⟩
    · cases h

/-- a `do` block succeeds: its first action did, and so did the rest -/
theorem bind_eq_ok {ε α β : Type} {x : Except ε α} {f : α → Except ε β} {b : β} :
    (x >>= f) = .ok b ↔ ∃ a, x = .ok a ∧ f a = .ok b := by
  cases x <;> simp [bind, Except.bind]

/-- every branch of the parser that ends in `pure` is one production of the grammar: inverting the
    `do` blocks (`bind_eq_ok`) yields the tokens it read and, by induction on the fuel, the syntax
    trees of its recursive calls -/
theorem parse_complete (c : PCtx) (f : Nat) :
    (∀ toks v, parseNode c f toks = .ok v →
      ∃ k : CNode, k.wf = true ∧ k.tree = v.1 ∧ toks = k.toks ++ v.2) ∧
    (∀ toks v, parseEdges c f toks = .ok v →
      ∃ (es : CEdges) (rp : Tok), es.wf = true ∧ rp.ty = .RPAREN ∧ es.tree = v.1 ∧ toks = es.toks ++ rp :: v.2) := by
  induction f with
  | zero => constructor <;> intro toks _ h <;> simp [parseNode, parseEdges] at h
  | succ f ih =>
    obtain ⟨ihN, ihE⟩ := ih
    constructor
    · intro toks v h
      rw [parseNode, bind_eq_ok] at h
      obtain ⟨⟨t0, ts⟩, e0, h⟩ := h
      obtain ⟨rfl, h0⟩ := expectTy_ok e0
      cases ts with
      | nil => cases h
      | cons t ts1 =>
        dsimp only at h
        by_cases hr : t.ty = .RPAREN
        · rw [if_pos hr] at h; cases h
          exact ⟨.empty t0 t, by simp [CNode.wf, h0, hr], rfl, rfl⟩
        rw [if_neg hr, bind_eq_ok] at h
        obtain ⟨⟨vt, ts2⟩, ev, h⟩ := h
        obtain ⟨e, hs⟩ := expectTy_ok ev
        cases e
        cases ts1 with
        | nil => cases h
        | cons s ts3 =>
          dsimp only at h
          by_cases hsl : s.ty = .SLASH
          · rw [if_pos hsl] at h
            cases ts3 with
            | nil => cases h
            | cons k ts4 =>
              dsimp only at h
              by_cases hk : isSymOrStr k = true
              · rw [if_pos hk] at h
                obtain ⟨⟨concept, ts5⟩, hA, h⟩ := bind_eq_ok.1 h
                obtain ⟨⟨bs, ts6⟩, hB, h⟩ := bind_eq_ok.1 h
                cases h
                obtain ⟨x, hx1, hx2, hx3, hx4⟩ := takeAln_inv hA
                obtain ⟨es, rp, he1, he2, he3, he4⟩ := ihE _ _ hB
                dsimp only at hx3 hx4 he3 he4
                refine ⟨.mk t0 t (some (s, some x)) es rp, ?_, ?_, ?_⟩
                · simp [CNode.wf, slashWf, h0, hs, hsl, hx1, hk, hx2, he1, he2]
                · simp [CNode.tree, hx3, he3]
                · simp [CNode.toks, slashToks, hx4, he4]
              · rw [if_neg hk] at h
                obtain ⟨⟨bs, ts5⟩, hB, h⟩ := bind_eq_ok.1 h
                cases h
                obtain ⟨es, rp, he1, he2, he3, he4⟩ := ihE _ _ hB
                dsimp only at he3 he4
                refine ⟨.mk t0 t (some (s, none)) es rp, ?_, ?_, ?_⟩
                · simp [CNode.wf, slashWf, h0, hs, hsl, he1, he2]
                · simp [CNode.tree, he3]
                · simp [CNode.toks, slashToks, he4]
          · rw [if_neg hsl] at h
            obtain ⟨⟨bs, ts4⟩, hB, h⟩ := bind_eq_ok.1 h
            cases h
            obtain ⟨es, rp, he1, he2, he3, he4⟩ := ihE _ _ hB
            dsimp only at he3 he4
            refine ⟨.mk t0 t none es rp, ?_, ?_, ?_⟩
            · simp [CNode.wf, slashWf, h0, hs, he1, he2]
            · simp [CNode.tree, he3]
            · simp [CNode.toks, slashToks, he4]
    · intro toks v h
      cases toks with
      | nil => cases h
      | cons t ts =>
        rw [parseEdges] at h
        by_cases h1 : t.ty = .RPAREN
        · rw [if_pos h1] at h; cases h
          exact ⟨.nil, t, rfl, h1, rfl, rfl⟩
        rw [if_neg h1] at h
        by_cases h2 : t.ty = .ROLE
        · rw [if_neg (not_not_intro h2)] at h
          obtain ⟨⟨role, ts1⟩, hA, h⟩ := bind_eq_ok.1 h
          obtain ⟨r, hr1, hr2, hr3, hr4⟩ := takeAln_inv hA
          cases ts1 with
          | nil => cases h
          | cons n ts2 =>
            dsimp only at h hr3 hr4
            by_cases h3 : isSymOrStr n = true
            · rw [if_pos h3] at h
              obtain ⟨⟨tgt, ts3⟩, hB, h⟩ := bind_eq_ok.1 h
              obtain ⟨⟨rest, ts4⟩, hC, h⟩ := bind_eq_ok.1 h
              cases h
              obtain ⟨a, ha1, ha2, ha3, ha4⟩ := takeAln_inv hB
              obtain ⟨es, rp, he1, he2, he3, he4⟩ := ihE _ _ hC
              refine ⟨.atom r (some a) es, rp, ?_, he2, ?_, ?_⟩
              · simp [CEdges.wf, hr1, h2, hr2, ha1, h3, ha2, he1]
              · simp [CEdges.tree, hr3, ha3, he3]
              · rw [hr4, ha4, he4]; simp [CEdges.toks]
            rw [if_neg h3] at h
            by_cases h4 : n.ty = .LPAREN
            · rw [if_pos h4] at h
              obtain ⟨⟨node, ts3⟩, hB, h⟩ := bind_eq_ok.1 h
              obtain ⟨⟨rest, ts4⟩, hC, h⟩ := bind_eq_ok.1 h
              cases h
              obtain ⟨k, hk1, hk2, hk3⟩ := ihN _ _ hB
              obtain ⟨es, rp, he1, he2, he3, he4⟩ := ihE _ _ hC
              refine ⟨.sub r k es, rp, ?_, he2, ?_, ?_⟩
              · simp [CEdges.wf, hr1, h2, hr2, hk1, he1]
              · simp [CEdges.tree, hr3, hk2, he3]
              · rw [hr4, hk3, he4]; simp [CEdges.toks]
            rw [if_neg h4] at h
            by_cases h5 : n.ty = .ROLE ∨ n.ty = .RPAREN
            · rw [if_pos h5] at h
              obtain ⟨⟨rest, ts3⟩, hC, h⟩ := bind_eq_ok.1 h
              cases h
              obtain ⟨es, rp, he1, he2, he3, he4⟩ := ihE _ _ hC
              refine ⟨.atom r none es, rp, ?_, he2, ?_, ?_⟩
              · simp [CEdges.wf, hr1, h2, hr2, he1]
              · simp [CEdges.tree, hr3, he3]
              · rw [hr4, he4]; simp [CEdges.toks]
            · rw [if_neg h5] at h; cases h
        · rw [if_pos h2] at h; cases h

/-- **the parser accepts exactly the sentences of the grammar** : `parseNode`
    succeeds on `toks` with tree `t` and remainder `rest` iff `toks` is the
    token list of a well-formed concrete syntax tree with abstract tree `t`,
    followed by `rest` -/
theorem parseNode_ok_iff (c : PCtx) (f : Nat) (toks : List Tok) (hf : toks.length < f) (t : Node) (rest : List Tok) :
    parseNode c f toks = .ok (t, rest) ↔ ∃ ts, TreeToks t ts ∧ toks = ts ++ rest := by
  constructor
  · intro h
    obtain ⟨k, h1, h2, h3⟩ := (parse_complete c f).1 toks _ h
    exact ⟨k.toks, ⟨k, h1, h2, rfl⟩, h3⟩
  · rintro ⟨ts, h, rfl⟩
    exact parseNode_treeToks c t ts rest f h (by have := h.size_le; simp at hf; omega)

end Penman
