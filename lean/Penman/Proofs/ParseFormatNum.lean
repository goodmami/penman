/-
  Penman.Proofs.ParseFormatNum — format ∘ lex ∘ parse for trees that carry NUMBERS.
  `format` writes a numeric atom by its text, the parser reads the text back as a string, so
  the text of a tree `n` parses to `writtenForm n`.  (The texts of `n` and `writtenForm n`
  may differ in whitespace when `compact` is set and a number is spelled like a variable — the
  formatter's "is the target a variable" test sees a number in one and a string in the other —
  so this is proved on the token level, by the induction `FL.node_reads`, not by rewriting.)
-/
import Penman.Props.C01

namespace Penman.C03Text
open Penman.Spec Penman.Lex Penman.FL

variable {cfg : LexCfg}

theorem atomText_written (a : Atom) : atomText (writtenAtom a) = atomText a := by cases a <;> rfl

theorem writtenAtom_idem (a : Atom) : writtenAtom (writtenAtom a) = writtenAtom a := by cases a <;> rfl

theorem writtenForm_var (n : Node) : (writtenForm n).var = n.var := by
  cases n; simp [writtenForm, Node.var]

mutual
theorem writtenForm_nodes_fst : (n : Node) → (writtenForm n).nodes.map (·.1) = n.nodes.map (·.1)
  | .mk v bs => by
    cases v with
    | none => simp [writtenForm, Node.nodes, writtenBs_nodes_fst bs]
    | some x => simp [writtenForm, Node.nodes, writtenBs_nodes_fst bs]
theorem writtenBs_nodes_fst : (bs : Branches) → (writtenBs bs).nodes.map (·.1) = bs.nodes.map (·.1)
  | .nil => rfl
  | .atom r a rest => by simp [writtenBs, Branches.nodes, writtenBs_nodes_fst rest]
  | .sub r n rest => by
    simp [writtenBs, Branches.nodes, writtenBs_nodes_fst rest, writtenForm_nodes_fst n]
end

theorem writtenForm_vars (n : Node) : (writtenForm n).vars = n.vars := writtenForm_nodes_fst n

/-- `FL.edges_reads` for lexing: the edges of a tree whose written form is `es.tree` -/
theorem edges_lex_num (hw : FmtCfgWfP cfg) : (es : CEdges) → es.wf = true → (∀ t ∈ es.toks, TokGood cfg t) →
    ∀ (bs : Branches), writtenBs bs = es.tree →
    ∀ (indent : Indent) (vars : List Str) (column : Int) (j rest : Str),
      Joined Sep ((formatEdges indent vars bs column).map (·.2)) j →
      lexP cfg (j ++ ')' :: rest) = es.toks.map core ++ lexP cfg (')' :: rest) :=
  fun es hwf hg bs hbs indent vars column j rest hj =>
    edges_reads (lexReading hw) es hwf hg bs hbs indent vars column j hj rest

theorem format_lexC_num (hw : FmtCfgWfP cfg) (k : CNode) (hk : CNode.Good cfg k) (n : Node)
    (hn : writtenForm n = k.tree) (md : AList Str Str)
    (hmd : ∀ kv ∈ md, NoBreak kv.1 ∧ NoBreak kv.2) (i : Indent) (c : Bool) :
    lexP cfg (format ⟨n, md⟩ i c) =
      (formatMeta md).map (fun l => (TokTy.COMMENT, l)) ++ k.toks.map core :=
  format_lexC_written hw k hk n hn md hmd i c

/-- **parse ∘ format with numbers**: the text of a tree whose written form is grammar-valid
    parses, under every formatting option, to its written form with the same metadata -/
theorem parse_format_num (hw : FmtCfgWf cfg = true) (isSpace : Char → Bool) (n : Node)
    (md : AList Str Str) (ht : WfTreeText cfg (writtenForm n)) (hmd : WfMeta isSpace md)
    (i : Indent) (c : Bool) :
    C01.parse cfg isSpace (format ⟨n, md⟩ i c) = .ok ⟨writtenForm n, md⟩ := by
  have hwp := FmtCfgWf.toP hw
  obtain ⟨k, hk, hkt⟩ := wfNode_cst hwp.base (writtenForm n) ht
  obtain ⟨cs, ts, e, hcs, htx, h2⟩ :=
    split_comments (format_lexC_num hwp k hk n hkt.symm md (C01.wfMeta_noBreak hmd) i c)
  exact C01.parse_of_toks isSpace hmd ⟨cs, ts, e, hcs, htx, hkt ▸ treeToks_of_core hk.1 h2⟩

end Penman.C03Text
