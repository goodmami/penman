/-
  The recursive-descent parser of `Penman.Parse` against the pushdown automaton of
  `Spec.Automaton`: `parseNode` / `parseEdges` are simulated step by step (`sim_all`), hence
  `parseNode_eq_loop`, `parseTree_eq`, `parseToks_eq`, `iterparseToks_eq`; then viable prefixes
  and the position of a rejection, on the automaton alone.
-/
import Penman.Spec.Automaton
import Penman.Proofs.ParseComplete
namespace Penman
open Spec.Automaton

theorem endPos_eq_eofPos (all : List Tok) : endPos all = eofPos all := by
  induction all with
  | nil => rfl
  | cons t ts ih =>
    cases ts with
    | nil => rfl
    | cons u us => simp only [endPos, ih, eofPos, List.getLast?_cons_cons]

theorem isAtomTok_eq (t : Tok) : isAtomTok t = isSymOrStr t := rfl

theorem takeAln_length {c : PCtx} {text : Str} {toks : List Tok} {v : Str × List Tok}
    (h : takeAln c text toks = .ok v) : v.2.length ≤ toks.length := by
  cases toks with
  | nil => cases h
  | cons t ts' =>
    rw [takeAln] at h
    split at h <;> cases h <;> simp

/-- both parsers consume at least one token: what they accept is `k.toks ++ rest` -/
theorem parseNode_length' {c : PCtx} {f : Nat} {toks : List Tok} {v : Node × List Tok}
    (h : parseNode c f toks = .ok v) : v.snd.length < toks.length := by
  obtain ⟨k, -, -, rfl⟩ := (parse_complete c f).1 toks v h
  have : 0 < k.toks.length := by cases k <;> simp [CNode.toks]
  simp only [List.length_append]
  omega
theorem parseEdges_length' {c : PCtx} {f : Nat} {toks : List Tok} {v : Branches × List Tok}
    (h : parseEdges c f toks = .ok v) : v.snd.length < toks.length := by
  obtain ⟨es, rp, -, -, -, rfl⟩ := (parse_complete c f).2 toks v h
  simp only [List.length_append, List.length_cons]
  omega

/-- the report of an outcome in the parser context `c` -/
def Spec.Automaton.Outcome.toExcept (c : PCtx) : Outcome → Except PyErr (Node × List Tok)
  | .accept n rest => .ok (n, rest)
  | .rejectAt t => .error (tokErr t)
  | .exhausted => .error c.eofErr

theorem report_eq_toExcept (all : List Tok) (o : Outcome) :
    o.report all = Outcome.toExcept ⟨eofPos all⟩ o := by
  cases o <;> simp [Outcome.report, Outcome.toExcept, tokErr, PCtx.eofErr, endPos_eq_eofPos]

/-- continue the automaton after the node `n` has been completed below `ps` -/
def resume (n : Node) (ps : List (Frame × Str)) (rest : List Tok) : Outcome :=
  match ps with
  | [] => .accept n rest
  | (p, r) :: ps' => loop ⟨.edges, p.push (r, .node n), ps'⟩ rest

theorem resume_cons (n : Node) (p : Frame) (r : Str) (ps : List (Frame × Str)) (rest : List Tok) :
    resume n ((p, r) :: ps) rest = loop ⟨.edges, p.push (r, .node n), ps⟩ rest := rfl
theorem resume_nil (n : Node) (rest : List Tok) : resume n [] rest = .accept n rest := rfl

theorem loop_of_close (cfg : Config) (cur : Frame) (ps : List (Frame × Str)) (t : Tok) (ts : List Tok)
    (h : step cfg t = close cur ps) : loop cfg (t :: ts) = resume cur.node ps ts := by
  cases ps with
  | nil => simp [loop, h, close, resume]
  | cons p ps => obtain ⟨p, r⟩ := p; simp [loop, h, close, resume]

/-- where a target or concept is missing the automaton takes the same token again, from state
    `edges`, after pushing the branch: the step agrees, no token is consumed in between -/
theorem loop_congr_step (cfg cfg' : Config) (t : Tok) (ts : List Tok)
    (h : step cfg t = step cfg' t) : loop cfg (t :: ts) = loop cfg' (t :: ts) := by
  simp only [loop, h]

theorem Branches.ofList_toList : (bs : Branches) → Branches.ofList bs.toList = bs
  | .nil => rfl
  | .atom r a rest => by simp [Branches.toList, Branches.ofList, Branches.ofList_toList rest]
  | .sub r n rest => by simp [Branches.toList, Branches.ofList, Branches.ofList_toList rest]

theorem Branches.ofList_append_toList (l : List Branch) (bs : Branches) :
    Branches.ofList (l ++ bs.toList) = (Branches.ofList l).append bs := by
  induction l with
  | nil => simp [Branches.ofList, Branches.append, Branches.ofList_toList]
  | cons b l ih =>
    obtain ⟨r, tg⟩ := b
    cases tg <;> simp [Branches.ofList, Branches.append, ih]

theorem loop_afterRole (c : PCtx) (r : Str) (cur : Frame) (ps : List (Frame × Str)) (toks : List Tok) :
    (loop ⟨.afterRole r, cur, ps⟩ toks).toExcept c
      = takeAln c r toks >>= fun x => (loop ⟨.target x.1, cur, ps⟩ x.2).toExcept c := by
  cases toks with
  | nil => simp [loop, takeAln, Outcome.toExcept, bind, Except.bind]
  | cons t ts =>
    by_cases h : t.ty = .ALIGNMENT
    · simp [loop, step, takeAln, h, bind, Except.bind]
    · simp [loop, step, takeAln, h, bind, Except.bind]

theorem loop_afterAtom (c : PCtx) (r a : Str) (cur : Frame) (ps : List (Frame × Str)) (toks : List Tok) :
    (loop ⟨.afterAtom r a, cur, ps⟩ toks).toExcept c
      = takeAln c a toks >>= fun x =>
          (loop ⟨.edges, cur.push (r, .atom (.str x.1)), ps⟩ x.2).toExcept c := by
  cases toks with
  | nil => simp [loop, takeAln, Outcome.toExcept, bind, Except.bind]
  | cons t ts =>
    by_cases h : t.ty = .ALIGNMENT
    · simp [loop, step, stepAtom, takeAln, h, bind, Except.bind]
    · simp [loop, step, stepAtom, takeAln, h, bind, Except.bind]

/-- the statement relating `parseEdges` to the automaton in state `edges` -/
def EdgesSim (c : PCtx) (f : Nat) : Prop :=
  ∀ (toks : List Tok) (cur : Frame) (ps : List (Frame × Str)), toks.length < f →
    (loop ⟨.edges, cur, ps⟩ toks).toExcept c
      = parseEdges c f toks >>= fun x =>
          (resume (.mk cur.var (Branches.ofList (cur.bs ++ x.1.toList))) ps x.2).toExcept c

/-- the statement relating `parseNode` to the automaton just after `(` -/
def NodeSim (c : PCtx) (f : Nat) : Prop :=
  ∀ (t0 : Tok) (toks : List Tok) (ps : List (Frame × Str)), t0.ty = .LPAREN → toks.length + 1 < f →
    (loop ⟨.opened, Frame.empty, ps⟩ toks).toExcept c
      = parseNode c f (t0 :: toks) >>= fun x => (resume x.1 ps x.2).toExcept c

theorem loop_next {cfg cfg' : Config} {t : Tok} {ts : List Tok} (h : step cfg t = .next cfg') :
    loop cfg (t :: ts) = loop cfg' ts := by
  rw [loop, h]

/-- after a completed branch `b` the automaton reads the remaining edges, where the parser puts
    the branch (`g`) in front of what `parseEdges` returns -/
theorem EdgesSim.push {c : PCtx} {f : Nat} (ihE : EdgesSim c f) (toks : List Tok) (cur : Frame) (b : Branch)
    (ps : List (Frame × Str)) (hl : toks.length < f) (g : Branches → Branches)
    (hg : ∀ bs, (g bs).toList = b :: bs.toList) :
    (loop ⟨.edges, cur.push b, ps⟩ toks).toExcept c
      = (parseEdges c f toks >>= fun z => pure (g z.1, z.2)) >>= fun x =>
          (resume (.mk cur.var (Branches.ofList (cur.bs ++ x.1.toList))) ps x.2).toExcept c := by
  rw [ihE toks _ ps hl]
  cases parseEdges c f toks with
  | error e => rfl
  | ok z => simp [bind, Except.bind, pure, Except.pure, Frame.push, hg]

/-- the edges of the node with variable `v` whose first branches are `l`, up to its `)` -/
theorem EdgesSim.node {c : PCtx} {f : Nat} (ihE : EdgesSim c f) (toks : List Tok) (v : Str) (l : List Branch)
    (ps : List (Frame × Str)) (hl : toks.length < f) (g : Branches → Branches)
    (hg : ∀ bs, (g bs).toList = l ++ bs.toList) :
    (loop ⟨.edges, ⟨some v, l⟩, ps⟩ toks).toExcept c
      = (parseEdges c f toks >>= fun z => pure (Node.mk (some v) (g z.1), z.2)) >>= fun x =>
          (resume x.1 ps x.2).toExcept c := by
  rw [ihE toks _ ps hl]
  cases parseEdges c f toks with
  | error e => rfl
  | ok z => simp [bind, Except.bind, pure, Except.pure, ← hg, Branches.ofList_toList]

theorem edgesSim_succ (c : PCtx) (f : Nat) (ihN : NodeSim c f) (ihE : EdgesSim c f) : EdgesSim c (f+1) := by
  intro toks cur ps hlen
  cases toks with
  | nil => rfl
  | cons t ts =>
    simp only [List.length_cons] at hlen
    rw [parseEdges]
    by_cases h1 : t.ty = .RPAREN
    · rw [loop_of_close _ cur ps t ts (by simp [step, stepEdges, h1]), if_pos h1]
      simp [bind, Except.bind, Branches.toList, Frame.node]
    rw [if_neg h1]
    by_cases h2 : t.ty = .ROLE
    · rw [if_neg (not_not_intro h2), loop_next (cfg' := ⟨.afterRole t.text, cur, ps⟩) (by simp [step, stepEdges, h2]),
        loop_afterRole]
      cases hA : takeAln c t.text ts with
      | error e => rfl
      | ok x =>
        obtain ⟨role, ts1⟩ := x
        have l1 := takeAln_length hA
        rw [ok_bind, ok_bind]
        cases ts1 with
        | nil => rfl
        | cons n ts2 =>
          simp only [List.length_cons] at l1
          dsimp only
          by_cases h3 : isSymOrStr n = true
          · rw [if_pos h3, loop_next (cfg' := ⟨.afterAtom role n.text, cur, ps⟩) (by
              simp [step, stepTarget, isAtomTok_eq, h3]), loop_afterAtom]
            cases hB : takeAln c n.text ts2 with
            | error e => rfl
            | ok y =>
              have l2 := takeAln_length hB
              exact ihE.push y.2 cur (role, .atom (.str y.1)) ps (by omega) (.atom role (.str y.1)) (fun _ => rfl)
          rw [if_neg h3]
          by_cases h4 : n.ty = .LPAREN
          · rw [if_pos h4, loop_next (cfg' := ⟨.opened, Frame.empty, (cur, role) :: ps⟩) (by
              simp [step, stepTarget, isAtomTok_eq, h3, h4]), ihN n ts2 _ h4 (by omega)]
            cases hB : parseNode c f (n :: ts2) with
            | error e => rfl
            | ok y =>
              have l2 := parseNode_length' hB
              simp only [List.length_cons] at l2
              exact ihE.push y.2 cur (role, .node y.1) ps (by omega) (.sub role y.1) (fun _ => rfl)
          rw [if_neg h4]
          by_cases h5 : n.ty = .ROLE ∨ n.ty = .RPAREN
          · rw [if_pos h5, loop_congr_step ⟨.target role, cur, ps⟩ ⟨.edges, cur.push (role, .atom .none), ps⟩ n ts2 (by
              have h5' : (n.ty = .ROLE || n.ty = .RPAREN) = true := by simpa using h5
              simp [step, stepTarget, isAtomTok_eq, h3, h4, h5'])]
            exact ihE.push (n :: ts2) cur (role, .atom .none) ps (by simp only [List.length_cons]; omega)
              (.atom role .none) (fun _ => rfl)
          · have h5' : (n.ty = .ROLE || n.ty = .RPAREN) = false := by simpa using h5
            rw [if_neg h5, show loop ⟨.target role, cur, ps⟩ (n :: ts2) = .rejectAt n by
              simp [loop, step, stepTarget, isAtomTok_eq, h3, h4, h5']]
            rfl
    · rw [if_pos h2]
      simp [loop, step, stepEdges, h1, h2, Outcome.toExcept, bind, Except.bind]

theorem nodeSim_succ (c : PCtx) (f : Nat) (ihE : EdgesSim c f) : NodeSim c (f+1) := by
  intro t0 toks ps h0 hlen
  rw [parseNode, expectTy, if_pos h0, ok_bind]
  cases toks with
  | nil => rfl
  | cons t ts1 =>
    simp only [List.length_cons] at hlen
    dsimp only
    by_cases hr : t.ty = .RPAREN
    · rw [loop_of_close _ Frame.empty ps t ts1 (by simp [step, hr]), if_pos hr]
      rfl
    rw [if_neg hr]
    by_cases hs : t.ty = .SYMBOL
    · rw [loop_next (cfg' := ⟨.afterVar, ⟨some t.text, []⟩, ps⟩) (by simp [step, hs, Frame.empty]),
        expectTy, if_pos hs, ok_bind]
      cases ts1 with
      | nil => rfl
      | cons s ts3 =>
        simp only [List.length_cons] at hlen
        dsimp only
        by_cases hsl : s.ty = .SLASH
        · rw [if_pos hsl, loop_next (cfg' := ⟨.afterSlash, ⟨some t.text, []⟩, ps⟩) (by simp [step, hsl])]
          cases ts3 with
          | nil => rfl
          | cons k ts4 =>
            simp only [List.length_cons] at hlen
            dsimp only
            by_cases hk : isSymOrStr k = true
            · rw [if_pos hk, loop_next (cfg' := ⟨.afterConcept k.text, ⟨some t.text, []⟩, ps⟩) (by
                simp [step, isAtomTok_eq, hk]),
                show loop ⟨.afterConcept k.text, ⟨some t.text, []⟩, ps⟩ ts4
                  = loop ⟨.afterAtom ['/'] k.text, ⟨some t.text, []⟩, ps⟩ ts4 by cases ts4 <;> rfl,
                loop_afterAtom]
              cases hB : takeAln c k.text ts4 with
              | error e => rfl
              | ok y =>
                have l2 := takeAln_length hB
                exact ihE.node y.2 t.text [(['/'], .atom (.str y.1))] ps (by omega) (.atom ['/'] (.str y.1))
                  (fun _ => rfl)
            · rw [if_neg hk, loop_congr_step ⟨.afterSlash, ⟨some t.text, []⟩, ps⟩
                ⟨.edges, ⟨some t.text, [(['/'], .atom .none)]⟩, ps⟩ k ts4 (by simp [step, isAtomTok_eq, hk, Frame.push])]
              exact ihE.node (k :: ts4) t.text [(['/'], .atom .none)] ps (by simp only [List.length_cons]; omega)
                (.atom ['/'] .none) (fun _ => rfl)
        · rw [if_neg hsl, loop_congr_step ⟨.afterVar, ⟨some t.text, []⟩, ps⟩ ⟨.edges, ⟨some t.text, []⟩, ps⟩ s ts3 (by
            simp [step, hsl])]
          exact ihE.node (s :: ts3) t.text [] ps (by simp only [List.length_cons]; omega) id (fun _ => rfl)
    · rw [expectTy, if_neg hs, show loop ⟨.opened, Frame.empty, ps⟩ (t :: ts1) = .rejectAt t by
        simp [loop, step, hr, hs]]
      rfl

theorem sim_all (c : PCtx) : ∀ f, NodeSim c f ∧ EdgesSim c f
  | 0 => ⟨fun _ _ _ _ h => absurd h (by omega), fun _ _ _ h => absurd h (by omega)⟩
  | f+1 => ⟨nodeSim_succ c f (sim_all c f).2, edgesSim_succ c f (sim_all c f).1 (sim_all c f).2⟩

/-- `parseNode` with enough fuel is the automaton started in state `start false` -/
theorem parseNode_eq_loop (c : PCtx) (f : Nat) (toks : List Tok) (hf : toks.length < f) :
    parseNode c f toks = (run false toks).toExcept c := by
  cases toks with
  | nil =>
    cases f with
    | zero => simp at hf
    | succ f => simp [parseNode, expectTy, run, loop, Outcome.toExcept, bind, Except.bind]
  | cons t0 ts =>
    by_cases h0 : t0.ty = .LPAREN
    · have := (sim_all c f).1 t0 ts [] h0 (by simpa using hf)
      rw [show run false (t0 :: ts) = loop ⟨.opened, Frame.empty, []⟩ ts by simp [run, loop, init, step, h0]]
      rw [this]
      cases parseNode c f (t0 :: ts) with
      | error e => simp [bind, Except.bind]
      | ok x => simp [bind, Except.bind, resume_nil, Outcome.toExcept]
    · cases f with
      | zero => simp at hf
      | succ f => simp [parseNode, expectTy, run, loop, init, step, h0, Outcome.toExcept, bind, Except.bind]

/-- the metadata decoded from the leading COMMENT tokens, starting from `md` -/
def metaOf (isSpace : Char → Bool) (toks : List Tok) (md : AList Str Str) : AList Str Str :=
  (leadingComments toks).foldl (fun md t => commentMeta isSpace (t.text.length + 1) t.text md) md

/-- the tokens after the leading COMMENT tokens -/
def afterComments (toks : List Tok) : List Tok := toks.dropWhile (·.ty = .COMMENT)

theorem leadingComments_append_afterComments (toks : List Tok) :
    leadingComments toks ++ afterComments toks = toks := List.takeWhile_append_dropWhile

/-- `parseComments` consumes exactly the leading COMMENT tokens (and fails
    at end of input) -/
theorem parseComments_eq (c : PCtx) (isSpace : Char → Bool) (toks : List Tok) (md : AList Str Str) :
    parseComments c isSpace toks md =
      if afterComments toks = [] then .error c.eofErr
      else .ok (metaOf isSpace toks md, afterComments toks) := by
  induction toks generalizing md with
  | nil => simp [parseComments, afterComments]
  | cons t ts ih =>
    by_cases h : t.ty = .COMMENT
    · simp only [parseComments, h, if_true, ih]
      simp only [afterComments, metaOf, leadingComments, h, List.dropWhile_cons, List.takeWhile_cons,
        decide_true, if_true, List.foldl_cons]
      split <;> rename_i h' <;> simp [h']
    · simp [parseComments, afterComments, metaOf, leadingComments, h]

theorem leadingComments_append (cs : List Tok) (m : Tok) (ms : List Tok)
    (hcs : ∀ x ∈ cs, x.ty = .COMMENT) (hm : m.ty ≠ .COMMENT) :
    leadingComments (cs ++ m :: ms) = cs ∧ afterComments (cs ++ m :: ms) = m :: ms := by
  induction cs with
  | nil => simp [leadingComments, afterComments, hm]
  | cons c cs ih =>
    have hc := hcs c (by simp)
    have ih := ih (fun x hx => hcs x (by simp [hx]))
    simp only [leadingComments, afterComments] at ih ⊢
    simp [hc, ih]

theorem metaOf_append (isSpace : Char → Bool) (cs : List Tok) (m : Tok) (ms : List Tok)
    (hcs : ∀ x ∈ cs, x.ty = .COMMENT) (hm : m.ty ≠ .COMMENT) (md : AList Str Str) :
    metaOf isSpace (cs ++ m :: ms) md
      = cs.foldl (fun md t => commentMeta isSpace (t.text.length + 1) t.text md) md := by
  simp [metaOf, (leadingComments_append cs m ms hcs hm).1]

theorem run_true_eq (toks : List Tok) : run true toks = run false (afterComments toks) := by
  induction toks with
  | nil => rfl
  | cons t ts ih =>
    by_cases h : t.ty = .COMMENT
    · have : run true (t :: ts) = run true ts := by simp [run, loop, init, step, h]
      rw [this, ih]; simp [afterComments, h]
    · simp [afterComments, h, run, loop, init, step]

theorem afterComments_length (toks : List Tok) : (afterComments toks).length ≤ toks.length := by
  have := congrArg List.length (leadingComments_append_afterComments toks)
  simp at this; omega

theorem parseTree_eq (c : PCtx) (isSpace : Char → Bool) (toks : List Tok) :
    parseTree c isSpace toks =
      ((run true toks).toExcept c).map (fun x => (⟨x.1, metaOf isSpace toks []⟩, x.2)) := by
  simp only [parseTree, parseComments_eq, run_true_eq]
  by_cases h : afterComments toks = []
  · simp [h, run, loop, Outcome.toExcept, bind, Except.bind, Except.map]
  · simp only [h, if_false, bind, Except.bind]
    rw [parseNode_eq_loop c _ _ (Nat.lt_succ_self _)]
    cases (run false (afterComments toks)).toExcept c <;> simp [Except.map, pure, Except.pure]

theorem parseToks_eq (isSpace : Char → Bool) (toks : List Tok) :
    parseToks isSpace toks =
      ((run true toks).report toks).map (fun x => ⟨x.1, metaOf isSpace toks []⟩) := by
  simp only [parseToks, parseTree_eq, report_eq_toExcept]
  cases (run true toks).toExcept ⟨eofPos toks⟩ <;> simp [Except.map]

theorem toExcept_not_other (c : PCtx) (o : Outcome) (s : String) : o.toExcept c ≠ .error (.other s) := by
  cases o <;> simp [Outcome.toExcept, tokErr, PCtx.eofErr]

theorem toExcept_ok_or_decode (c : PCtx) (o : Outcome) :
    (∃ x, o.toExcept c = .ok x) ∨ (∃ l k n, o.toExcept c = .error (.decode l k n)) := by
  cases o <;> simp [Outcome.toExcept, tokErr, PCtx.eofErr]

/-- a decode error comes from a rejected token (kind 1) or from the end of the input (kind 0) -/
theorem toExcept_decode {c : PCtx} {o : Outcome} {l k n : Nat} (h : o.toExcept c = .error (.decode l k n)) :
    (∃ t, o = .rejectAt t ∧ l = t.lineno ∧ k = t.offset ∧ n = 1) ∨
    (o = .exhausted ∧ (l, k) = c.eof ∧ n = 0) := by
  cases o with
  | accept nd rest => cases h
  | rejectAt t => cases h; exact .inl ⟨t, rfl, rfl, rfl, rfl⟩
  | exhausted => cases h; exact .inr ⟨rfl, rfl, rfl⟩

theorem parseToks_decode {isSpace : Char → Bool} {toks : List Tok} {l k n : Nat}
    (h : parseToks isSpace toks = .error (.decode l k n)) :
    (∃ t, run true toks = .rejectAt t ∧ l = t.lineno ∧ k = t.offset ∧ n = 1) ∨
    (run true toks = .exhausted ∧ (l, k) = eofPos toks ∧ n = 0) := by
  rw [parseToks_eq, report_eq_toExcept] at h
  apply toExcept_decode (c := ⟨eofPos toks⟩)
  cases hr : (run true toks).toExcept ⟨eofPos toks⟩ with
  | ok x => rw [hr] at h; cases h
  | error e => rw [hr] at h; cases h; rfl

def Spec.Automaton.Stop.toErr (c : PCtx) : Stop → Option PyErr
  | .ended => none
  | .rejectAt t => some (tokErr t)
  | .exhausted => some c.eofErr

theorem error?_eq_toErr (all : List Tok) (s : Stop) : s.error? all = s.toErr ⟨eofPos all⟩ := by
  cases s <;> simp [Stop.error?, Stop.toErr, tokErr, PCtx.eofErr, endPos_eq_eofPos]

theorem runAll_nil : runAll [] = ([], .ended) := by rw [runAll]

theorem runAll_cons_stop (t : Tok) (ts : List Tok) (h : ¬ (t.ty = .COMMENT ∨ t.ty = .LPAREN)) :
    runAll (t :: ts) = ([], .ended) := by
  rw [runAll]; simp at h; simp [h]

theorem runAll_cons (t : Tok) (ts : List Tok) (h : t.ty = .COMMENT ∨ t.ty = .LPAREN) :
    runAll (t :: ts) =
      match run true (t :: ts) with
      | .accept n rest => ((t :: ts, n) :: (runAll rest).1, (runAll rest).2)
      | .rejectAt u => ([], .rejectAt u)
      | .exhausted => ([], .exhausted) := by
  rw [runAll]
  have : (t.ty = .COMMENT || t.ty = .LPAREN) = true := by simpa using h
  simp only [this, if_true]
  split <;> simp_all

/-- the tree read from the token list `p.1` with node `p.2` -/
def mkTree (isSpace : Char → Bool) (p : List Tok × Node) : Tree := ⟨p.2, metaOf isSpace p.1 []⟩

theorem iterparseLoop_eq (c : PCtx) (isSpace : Char → Bool) (f : Nat) :
    ∀ (toks : List Tok) (acc : List Tree), toks.length < f →
      iterparseLoop c isSpace f toks acc =
        (acc.reverse ++ (runAll toks).1.map (mkTree isSpace), (runAll toks).2.toErr c) := by
  induction f with
  | zero => intro toks acc h; omega
  | succ f ih =>
    intro toks acc hlen
    cases toks with
    | nil => simp [iterparseLoop, runAll_nil, Stop.toErr]
    | cons t ts =>
      by_cases h : t.ty = .COMMENT ∨ t.ty = .LPAREN
      · simp only [iterparseLoop, h, if_true, parseTree_eq, runAll_cons t ts h]
        cases hr : run true (t :: ts) with
        | accept n rest =>
          have l := loop_accept_length _ _ _ _ hr
          simp only [List.length_cons] at l hlen
          simp only [Outcome.toExcept, Except.map]
          rw [ih rest _ (by omega)]
          simp [mkTree]
        | rejectAt u => simp [Outcome.toExcept, Except.map, Stop.toErr]
        | exhausted => simp [Outcome.toExcept, Except.map, Stop.toErr]
      · simp [iterparseLoop, h, runAll_cons_stop t ts h, Stop.toErr]

theorem iterparseToks_eq (isSpace : Char → Bool) (toks : List Tok) :
    iterparseToks isSpace toks =
      ((runAll toks).1.map (mkTree isSpace), (runAll toks).2.error? toks) := by
  simp [iterparseToks, iterparseLoop_eq _ _ _ toks [] (Nat.lt_succ_self _), error?_eq_toErr]

theorem loop_append_of_steps (cfg cfg' : Config) (pre ext : List Tok) (h : steps cfg pre = some cfg') :
    loop cfg (pre ++ ext) = loop cfg' ext := by
  induction pre generalizing cfg with
  | nil => simp [steps] at h; simp [h]
  | cons t ts ih =>
    simp only [steps] at h
    split at h
    · rename_i cfg1 hs
      simp only [List.cons_append, loop, hs]
      exact ih _ h
    · cases h

theorem loop_rejectAt (cfg : Config) (toks : List Tok) (t : Tok) (h : loop cfg toks = .rejectAt t) :
    ∃ pre post cfg', toks = pre ++ t :: post ∧ steps cfg pre = some cfg' ∧ step cfg' t = .reject := by
  induction toks generalizing cfg with
  | nil => simp [loop] at h
  | cons u us ih =>
    simp only [loop] at h
    split at h
    · rename_i cfg1 hs
      obtain ⟨pre, post, cfg', e, s, r⟩ := ih _ h
      exact ⟨u :: pre, post, cfg', by simp [e], by simp [steps, hs, s], r⟩
    · cases h
    · rename_i hs
      cases h
      exact ⟨[], us, cfg, rfl, rfl, hs⟩

theorem loop_exhausted (cfg : Config) (toks : List Tok) (h : loop cfg toks = .exhausted) :
    ∃ cfg', steps cfg toks = some cfg' := by
  induction toks generalizing cfg with
  | nil => exact ⟨cfg, rfl⟩
  | cons u us ih =>
    simp only [loop] at h
    split at h
    · rename_i cfg1 hs
      obtain ⟨cfg', s⟩ := ih _ h
      exact ⟨cfg', by simp [steps, hs, s]⟩
    · cases h
    · cases h

def rpTok : Tok := ⟨.RPAREN, [')'], 0, 0⟩
def lpTok : Tok := ⟨.LPAREN, ['('], 0, 0⟩

/-- from state `edges`, closing all open nodes leads to acceptance -/
theorem edges_completable (ps : List (Frame × Str)) :
    ∀ cur, ∃ n, loop ⟨.edges, cur, ps⟩ (List.replicate (ps.length + 1) rpTok) = .accept n [] := by
  induction ps with
  | nil => intro cur; exact ⟨cur.node, by simp [List.replicate, loop, step, stepEdges, rpTok, close]⟩
  | cons p ps ih =>
    intro cur
    obtain ⟨p, r⟩ := p
    obtain ⟨n, hn⟩ := ih (p.push (r, .node cur.node))
    refine ⟨n, ?_⟩
    rw [List.length_cons, List.replicate_succ]
    simp only [loop, step, stepEdges, rpTok, close, if_true]
    exact hn

/-- in every state after the opening `(`, a `)` is accepted and closes the current node -/
theorem step_rp_close (st : State) (cur : Frame) (ps : List (Frame × Str)) (h : ∀ cm, st ≠ .start cm) :
    ∃ cur', step ⟨st, cur, ps⟩ rpTok = step ⟨.edges, cur', ps⟩ rpTok := by
  cases st with
  | start cm => exact absurd rfl (h cm)
  | opened => exact ⟨cur, by simp [step, stepEdges, rpTok]⟩
  | afterVar => exact ⟨cur, by simp [step, stepEdges, rpTok]⟩
  | afterSlash => exact ⟨_, by simp [step, isAtomTok, rpTok]; rfl⟩
  | afterConcept c => exact ⟨_, by simp [step, stepAtom, rpTok]; rfl⟩
  | edges => exact ⟨cur, rfl⟩
  | afterRole r => exact ⟨_, by simp [step, stepTarget, isAtomTok, rpTok]; rfl⟩
  | target r => exact ⟨_, by simp [step, stepTarget, isAtomTok, rpTok]; rfl⟩
  | afterAtom r a => exact ⟨_, by simp [step, stepAtom, rpTok]; rfl⟩

/-- every configuration can be completed to an accepted input -/
theorem completable (cfg : Config) : ∃ ext n, loop cfg ext = .accept n [] := by
  obtain ⟨st, cur, ps⟩ := cfg
  by_cases h : ∃ cm, st = .start cm
  · obtain ⟨cm, rfl⟩ := h
    obtain ⟨n, hn⟩ := edges_completable ps cur
    refine ⟨lpTok :: List.replicate (ps.length + 1) rpTok, n, ?_⟩
    rw [List.replicate_succ] at hn ⊢
    rw [show loop ⟨.start cm, cur, ps⟩ (lpTok :: rpTok :: List.replicate ps.length rpTok)
          = loop ⟨.opened, cur, ps⟩ (rpTok :: List.replicate ps.length rpTok) by simp [loop, step, lpTok]]
    rw [loop_congr_step ⟨.opened, cur, ps⟩ ⟨.edges, cur, ps⟩ _ _ (by simp [step, stepEdges, rpTok])]
    exact hn
  · obtain ⟨cur', hc⟩ := step_rp_close st cur ps (fun cm e => h ⟨cm, e⟩)
    obtain ⟨n, hn⟩ := edges_completable ps cur'
    refine ⟨List.replicate (ps.length + 1) rpTok, n, ?_⟩
    rw [List.replicate_succ] at hn ⊢
    rw [loop_congr_step _ _ _ _ hc]; exact hn

theorem viable_of_steps (cm : Bool) (pre : List Tok) (cfg : Config) (h : steps (init cm) pre = some cfg) :
    Viable cm pre := by
  obtain ⟨ext, n, hn⟩ := completable cfg
  exact ⟨ext, n, [], by rw [run, loop_append_of_steps _ _ _ _ h, hn]⟩

theorem not_viable_of_reject (cm : Bool) (pre : List Tok) (t : Tok) (cfg : Config)
    (h : steps (init cm) pre = some cfg) (hr : step cfg t = .reject) : ¬ Viable cm (pre ++ [t]) := by
  rintro ⟨ext, n, rest, ha⟩
  rw [run, List.append_assoc, loop_append_of_steps _ _ _ _ h] at ha
  simp [loop, hr] at ha

/-- the automaton rejects at `t` : `t` is in the input, what precedes it is a
    viable prefix, and with `t` it is not -/
theorem run_rejectAt (cm : Bool) (toks : List Tok) (t : Tok) (h : run cm toks = .rejectAt t) :
    ∃ pre post, toks = pre ++ t :: post ∧ Viable cm pre ∧ ¬ Viable cm (pre ++ [t]) := by
  obtain ⟨pre, post, cfg, e, s, r⟩ := loop_rejectAt _ _ _ h
  exact ⟨pre, post, e, viable_of_steps cm pre cfg s, not_viable_of_reject cm pre t cfg s r⟩

/-- the automaton runs out of input: all of it is a viable prefix -/
theorem run_exhausted (cm : Bool) (toks : List Tok) (h : run cm toks = .exhausted) : Viable cm toks := by
  obtain ⟨cfg, s⟩ := loop_exhausted _ _ h
  exact viable_of_steps cm toks cfg s

end Penman
