/-
  Metadata comments: what `commentMeta` (the `rpartition('::')` loop of
  `_parse_comments`) computes on a comment of the form
  `pre ::k1 v1 ::k2 v2 …`.
-/
import Penman.Parse
namespace Penman

/-- `'::' in s` -/
def hasSep : Str → Bool
  | ':' :: ':' :: _ => true
  | _ :: cs => hasSep cs
  | [] => false

theorem hasSep_cons (c : Char) (cs : Str) :
    hasSep (c :: cs) = ([':', ':'].isPrefixOf (c :: cs) || hasSep cs) := by
  cases cs with
  | nil => simp [hasSep, List.isPrefixOf]
  | cons d ds =>
    by_cases h : c = ':' ∧ d = ':'
    · obtain ⟨rfl, rfl⟩ := h; simp [hasSep, List.isPrefixOf]
    · have key : hasSep (c :: d :: ds) = hasSep (d :: ds) :=
        hasSep.eq_2 c (d :: ds) (by intro tail h1 h2; simp at h2; exact h ⟨h1, h2.1⟩)
      have : [':', ':'].isPrefixOf (c :: d :: ds) = false := by
        simp only [List.isPrefixOf, Bool.and_true, Bool.and_eq_false_iff, beq_eq_false_iff_ne, ne_eq]
        by_cases hc : c = ':'
        · exact .inr (fun hd => h ⟨hc, hd.symm⟩)
        · exact .inl (fun hc' => hc hc'.symm)
      rw [key, this, Bool.false_or]

theorem hasSep_colon_cons (x : Str) : hasSep (':' :: x) = (x.head? == some ':' || hasSep x) := by
  rw [hasSep_cons]
  cases x with
  | nil => simp [List.isPrefixOf]
  | cons d ds =>
    by_cases hd : d = ':'
    · subst hd; simp [List.isPrefixOf]
    · have : (':' == d) = false := beq_eq_false_iff_ne.2 (fun h => hd h.symm)
      simp [List.isPrefixOf, hd, this]

theorem hasSep_append_blank (a b : Str) : hasSep (a ++ ' ' :: b) = (hasSep a || hasSep b) := by
  induction a with
  | nil => simp [hasSep_cons, List.isPrefixOf, hasSep]
  | cons c cs ih =>
    rw [List.cons_append, hasSep_cons, hasSep_cons c cs, ih]
    cases cs with
    | nil => by_cases hc : c = ':' <;> simp [List.isPrefixOf, hc]
    | cons d ds => simp [List.isPrefixOf, Bool.or_assoc]

theorem hasSep_prefix (a b : Str) (h : hasSep (a ++ b) = false) : hasSep a = false := by
  induction a with
  | nil => rfl
  | cons c cs ih =>
    rw [List.cons_append, hasSep_cons, Bool.or_eq_false_iff] at h
    rw [hasSep_cons, Bool.or_eq_false_iff]
    refine ⟨?_, ih h.2⟩
    cases cs with
    | nil => simp [List.isPrefixOf]
    | cons d ds => simpa [List.isPrefixOf] using h.1

/-- start of the last `::` -/
def lastIdx : Str → Nat
  | [] => 0
  | _ :: cs => if hasSep cs then 1 + lastIdx cs else 0

theorem rfindAux_eq : ∀ (s : Str) (i : Nat) (acc : Option Nat),
    rfindAux [':', ':'] s i acc = if hasSep s then some (i + lastIdx s) else acc
  | [], i, acc => by simp [rfindAux, hasSep]
  | c :: cs, i, acc => by
    rw [rfindAux, rfindAux_eq cs, hasSep_cons, lastIdx]
    by_cases h : hasSep cs = true
    · simp [h]; omega
    · simp [h]

theorem rfindAux_noSep (s : Str) (i : Nat) (acc : Option Nat) (h : hasSep s = false) :
    rfindAux [':', ':'] s i acc = acc := by
  rw [rfindAux_eq, h]
  rfl

theorem rfindAux_append (before rest : Str) (i : Nat) (acc : Option Nat) :
    ∃ acc', rfindAux [':', ':'] (before ++ rest) i acc = rfindAux [':', ':'] rest (i + before.length) acc' := by
  induction before generalizing i acc with
  | nil => exact ⟨acc, by simp⟩
  | cons c cs ih =>
    obtain ⟨acc', h⟩ := ih (i+1) (if [':', ':'].isPrefixOf (c :: (cs ++ rest)) then some i else acc)
    exact ⟨acc', by simp only [List.cons_append, rfindAux, h, List.length_cons]; congr 1; omega⟩

/-- `(before + '::' + after).rpartition('::')` when `after` contains no
    further `::` and does not start with `:` -/
theorem rpartition_sep (before after : Str) (h : hasSep (':' :: after) = false) :
    rpartitionStr [':', ':'] (before ++ ':' :: ':' :: after) = (before, true, after) := by
  unfold rpartitionStr
  obtain ⟨acc', e⟩ := rfindAux_append before (':' :: ':' :: after) 0 none
  rw [e, rfindAux, rfindAux_noSep _ _ _ h]
  simp [List.isPrefixOf]

theorem rpartition_noSep (s : Str) (h : hasSep s = false) :
    rpartitionStr [':', ':'] s = ([], false, s) := by
  unfold rpartitionStr
  rw [rfindAux_noSep _ _ _ h]

/-- `s.partition(c)` for a single character cuts at the first `c` … -/
theorem partition_at (c : Char) (a b : Str) (h : c ∉ a) : partitionStr [c] (a ++ c :: b) = (a, true, b) := by
  induction a with
  | nil => simp [partitionStr, List.isPrefixOf]
  | cons d ds ih =>
    have hd : c ≠ d := fun e => h (by rw [e]; exact List.mem_cons_self)
    have ih := ih (fun e => h (List.mem_cons_of_mem _ e))
    simp [partitionStr, List.isPrefixOf, hd, ih]

/-- … and finds nothing when there is none -/
theorem partition_none (c : Char) (a : Str) (h : c ∉ a) : partitionStr [c] a = (a, false, []) := by
  induction a with
  | nil => simp [partitionStr]
  | cons d ds ih =>
    have hd : c ≠ d := fun e => h (by rw [e]; exact List.mem_cons_self)
    have ih := ih (fun e => h (List.mem_cons_of_mem _ e))
    simp [partitionStr, List.isPrefixOf, hd, ih]

/-- one `::key value` entry; `value = none` : no blank after the key -/
abbrev MetaEntry := Str × Option Str

def MetaEntry.text (e : MetaEntry) : Str :=
  e.1 ++ (match e.2 with | none => [] | some v => ' ' :: v)

/-- the value stored for an entry: `value.rstrip()` -/
def MetaEntry.value (isSpace : Char → Bool) (e : MetaEntry) : Str :=
  match e.2 with | none => [] | some v => rstripBy isSpace v

/-- the key has no blank, and `::` occurs neither in the entry nor across
    the boundary with the preceding `::` -/
def MetaEntry.ok (e : MetaEntry) : Bool :=
  !(e.1.contains ' ') && !hasSep (':' :: e.text)

theorem partition_entry (e : MetaEntry) (h : e.ok = true) :
    partitionStr [' '] e.text = (e.1, e.2.isSome, match e.2 with | none => [] | some v => v) := by
  obtain ⟨k, ov⟩ := e
  simp only [MetaEntry.ok, Bool.and_eq_true, Bool.not_eq_true', List.contains_eq_mem,
    decide_eq_false_iff_not] at h
  cases ov with
  | none => simpa [MetaEntry.text] using partition_none ' ' k h.1
  | some v => simpa [MetaEntry.text] using partition_at ' ' k v h.1

/-- one round of the loop -/
theorem commentMeta_entry (isSpace : Char → Bool) (f : Nat) (before : Str) (e : MetaEntry)
    (md : AList Str Str) (h : e.ok = true) :
    commentMeta isSpace (f+1) (before ++ ':' :: ':' :: e.text) md
      = commentMeta isSpace f before (md.set e.1 (e.value isSpace)) := by
  have h2 : hasSep (':' :: e.text) = false := by
    simp only [MetaEntry.ok, Bool.and_eq_true, Bool.not_eq_true'] at h; exact h.2
  have hne : (before ++ ':' :: ':' :: e.text).isEmpty = false := by cases before <;> rfl
  simp only [commentMeta, hne, rpartition_sep before e.text h2, partition_entry e h]
  obtain ⟨k, ov⟩ := e
  cases ov <;> simp [MetaEntry.value, rstripBy]

/-- the loop ends at a prefix without `::` -/
theorem commentMeta_noSep (isSpace : Char → Bool) (f : Nat) (pre : Str) (md : AList Str Str)
    (h : hasSep pre = false) : commentMeta isSpace f pre md = md := by
  cases f with
  | zero => rfl
  | succ f =>
    simp only [commentMeta, rpartition_noSep pre h]
    split <;> simp

/-- the comment `pre ::k1 v1 ::k2 v2 …` -/
def metaLine (pre : Str) (es : List MetaEntry) : Str :=
  pre ++ es.flatMap (fun e => ':' :: ':' :: e.text)

theorem metaLine_snoc (pre : Str) (es : List MetaEntry) (e : MetaEntry) :
    metaLine pre (es ++ [e]) = metaLine pre es ++ ':' :: ':' :: e.text := by
  simp [metaLine]

/-- **metadata of one comment** : the entries are stored from right to left -/
theorem commentMeta_metaLine_rev (isSpace : Char → Bool) (pre : Str) (hpre : hasSep pre = false) :
    ∀ (rs : List MetaEntry) (f : Nat) (md : AList Str Str), (∀ e ∈ rs, e.ok = true) → rs.length ≤ f →
    commentMeta isSpace f (metaLine pre rs.reverse) md
      = rs.foldl (fun md e => md.set e.1 (e.value isSpace)) md
  | [], f, md, _, _ => by simpa [metaLine] using commentMeta_noSep isSpace f pre md hpre
  | e :: rs, 0, _, _, hf => by simp at hf
  | e :: rs, f+1, md, hes, hf => by
    rw [List.reverse_cons, metaLine_snoc, commentMeta_entry isSpace f _ e md (hes e (by simp))]
    rw [commentMeta_metaLine_rev isSpace pre hpre rs f _ (fun e' he' => hes e' (by simp [he'])) (by simpa using hf)]
    simp

theorem commentMeta_metaLine (isSpace : Char → Bool) (pre : Str) (es : List MetaEntry) (f : Nat)
    (md : AList Str Str) (hpre : hasSep pre = false) (hes : ∀ e ∈ es, e.ok = true) (hf : es.length ≤ f) :
    commentMeta isSpace f (metaLine pre es) md
      = es.foldr (fun e md => md.set e.1 (e.value isSpace)) md := by
  have := commentMeta_metaLine_rev isSpace pre hpre es.reverse f md (by simpa using hes) (by simpa using hf)
  rw [List.reverse_reverse] at this
  rw [this, List.foldl_reverse]

theorem metaLine_length (pre : Str) (es : List MetaEntry) : 2 * es.length ≤ (metaLine pre es).length := by
  induction es with
  | nil => simp
  | cons e es ih => simp [metaLine] at ih ⊢; omega

/-- the entry `format` writes for `(k, v)` : no blank when the value is empty -/
def fmtEntry (kv : Str × Str) : MetaEntry := (kv.1, if kv.2.isEmpty then none else some kv.2)

theorem fmtLine_eq (kv : Str × Str) :
    "# ::".toList ++ kv.1 ++ (if kv.2.isEmpty then kv.2 else ' ' :: kv.2) = metaLine "# ".toList [fmtEntry kv] := by
  obtain ⟨k, v⟩ := kv
  cases v <;> simp [metaLine, fmtEntry, MetaEntry.text]

/-- **round trip of one metadata line** `# ::key value` ↦ `(key, value.rstrip())` -/
theorem commentMeta_fmtLine (isSpace : Char → Bool) (kv : Str × Str) (md : AList Str Str) (f : Nat)
    (hok : (fmtEntry kv).ok = true) (hf : 1 ≤ f) :
    commentMeta isSpace f ("# ::".toList ++ kv.1 ++ (if kv.2.isEmpty then kv.2 else ' ' :: kv.2)) md
      = md.set kv.1 (rstripBy isSpace kv.2) := by
  rw [fmtLine_eq, commentMeta_metaLine isSpace _ _ f md (by decide) (by simpa using hok) (by simpa using hf)]
  obtain ⟨k, v⟩ := kv
  cases v <;> simp [fmtEntry, MetaEntry.value, rstripBy]

theorem AList.set_of_not_mem (d : AList Str Str) (k v : Str) (h : k ∉ d.map (·.1)) :
    d.set k v = d ++ [(k, v)] := by
  induction d with
  | nil => rfl
  | cons p d ih =>
    obtain ⟨k', v'⟩ := p
    simp only [List.map_cons, List.mem_cons, not_or] at h
    have hne : k' ≠ k := fun e => h.1 e.symm
    simp [AList.set, hne, ih h.2]

/-- a dictionary written one key per line is read back unchanged: keys
    distinct, each entry well-formed, each value its own `rstrip` -/
theorem foldl_fmtLines (isSpace : Char → Bool) (md acc : AList Str Str)
    (hnd : (acc ++ md).map (·.1) |>.Pairwise (· ≠ ·))
    (hok : ∀ kv ∈ md, (fmtEntry kv).ok = true ∧ rstripBy isSpace kv.2 = kv.2) :
    md.foldl (fun d kv =>
      commentMeta isSpace (("# ::".toList ++ kv.1 ++ (if kv.2.isEmpty then kv.2 else ' ' :: kv.2)).length + 1)
        ("# ::".toList ++ kv.1 ++ (if kv.2.isEmpty then kv.2 else ' ' :: kv.2)) d) acc = acc ++ md := by
  induction md generalizing acc with
  | nil => simp
  | cons kv md ih =>
    have h1 := hok kv (by simp)
    simp only [List.foldl_cons]
    rw [commentMeta_fmtLine isSpace kv acc _ h1.1 (by omega), h1.2]
    have hk : kv.1 ∉ acc.map (·.1) := by
      intro hm
      simp only [List.map_append, List.map_cons, List.pairwise_append, List.pairwise_cons] at hnd
      exact hnd.2.2 _ hm _ (by simp) rfl
    rw [AList.set_of_not_mem acc kv.1 kv.2 hk]
    have := ih (acc ++ [(kv.1, kv.2)]) (by simpa using hnd) (fun kv' h' => hok kv' (by simp [h']))
    simpa using this

end Penman
