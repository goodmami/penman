/-
  Token-level round trip: a concrete syntax tree (`CNode`/`CEdges`: the tokens
  of a graph arranged as a tree, positions and texts arbitrary) determines a
  token list (`toks`) and an abstract tree (`tree`, where an ALIGNMENT token's
  text is glued to the preceding role / atom text, as the parser does).
  The parser maps `toks` back to `tree` (`parseNode_cst`).  The same as a relation between
  abstract trees and token lists (`TreeToks`, `EdgesToks`: what C07 and C01 use), and a
  canonical token list `Node.toks sh` for a tree whose texts are cut as `sh : TokShape` says.
-/
import Penman.Parse
namespace Penman

/-- a ROLE / SYMBOL / STRING token with an optional ALIGNMENT token after it -/
structure TText where
  tok : Tok
  aln : Option Tok

def TText.toks (x : TText) : List Tok :=
  match x.aln with
  | none => [x.tok]
  | some a => [x.tok, a]

/-- the text the parser builds: token text with the alignment text glued on -/
def TText.text (x : TText) : Str :=
  match x.aln with
  | none => x.tok.text
  | some a => x.tok.text ++ a.text

def TText.wfAln (x : TText) : Bool :=
  match x.aln with
  | none => true
  | some a => a.ty = .ALIGNMENT

mutual
/-- concrete syntax of a node -/
inductive CNode where
  /-- `()` -/
  | empty (lp rp : Tok)
  /-- `( var [ '/' [concept] ] edges )` -/
  | mk (lp var : Tok) (slash : Option (Tok × Option TText)) (edges : CEdges) (rp : Tok)
/-- concrete syntax of an edge list -/
inductive CEdges where
  | nil
  /-- `role [aln] [atom [aln]]` -/
  | atom (role : TText) (tgt : Option TText) (rest : CEdges)
  /-- `role [aln] node` -/
  | sub (role : TText) (n : CNode) (rest : CEdges)
end

def slashToks : Option (Tok × Option TText) → List Tok
  | none => []
  | some (s, none) => [s]
  | some (s, some c) => s :: c.toks

mutual
def CNode.toks : CNode → List Tok
  | .empty lp rp => [lp, rp]
  | .mk lp var sl es rp => lp :: var :: (slashToks sl ++ (es.toks ++ [rp]))
def CEdges.toks : CEdges → List Tok
  | .nil => []
  | .atom r none rest => r.toks ++ rest.toks
  | .atom r (some a) rest => r.toks ++ (a.toks ++ rest.toks)
  | .sub r n rest => r.toks ++ (n.toks ++ rest.toks)
end

mutual
def CNode.tree : CNode → Node
  | .empty _ _ => .mk none .nil
  | .mk _ var sl es _ =>
    .mk (some var.text)
      (match sl with
       | none => es.tree
       | some (_, none) => .atom ['/'] .none es.tree
       | some (_, some c) => .atom ['/'] (.str c.text) es.tree)
def CEdges.tree : CEdges → Branches
  | .nil => .nil
  | .atom r none rest => .atom r.text .none rest.tree
  | .atom r (some a) rest => .atom r.text (.str a.text) rest.tree
  | .sub r n rest => .sub r.text n.tree rest.tree
end

def slashWf : Option (Tok × Option TText) → Bool
  | none => true
  | some (s, none) => s.ty = .SLASH
  | some (s, some c) => s.ty = .SLASH && isSymOrStr c.tok && c.wfAln

mutual
/-- token types are those of the grammar -/
def CNode.wf : CNode → Bool
  | .empty lp rp => lp.ty = .LPAREN && rp.ty = .RPAREN
  | .mk lp var sl es rp =>
    lp.ty = .LPAREN && var.ty = .SYMBOL && slashWf sl && es.wf && rp.ty = .RPAREN
def CEdges.wf : CEdges → Bool
  | .nil => true
  | .atom r none rest => r.tok.ty = .ROLE && r.wfAln && rest.wf
  | .atom r (some a) rest => r.tok.ty = .ROLE && r.wfAln && isSymOrStr a.tok && a.wfAln && rest.wf
  | .sub r n rest => r.tok.ty = .ROLE && r.wfAln && n.wf && rest.wf
end

/-- `takeAln` on a text token's alignment part, when what follows is not an ALIGNMENT -/
theorem takeAln_ttext (c : PCtx) (x : TText) (m : Tok) (ms : List Tok)
    (hx : x.wfAln = true) (hm : m.ty ≠ .ALIGNMENT) :
    takeAln c x.tok.text ((x.toks ++ m :: ms).tail) = .ok (x.text, m :: ms) := by
  unfold TText.toks TText.text
  unfold TText.wfAln at hx
  cases h : x.aln with
  | none => simp [takeAln, hm]
  | some a => simp [h] at hx; simp [takeAln, hx]

theorem TText.toks_append (x : TText) (l : List Tok) : x.toks ++ l = x.tok :: (x.toks ++ l).tail := by
  unfold TText.toks; cases x.aln <;> rfl

/-- the token after an edge list (closed by `rp`) is a ROLE or `)` -/
theorem CEdges.head (es : CEdges) (rp : Tok) (rest : List Tok) (h : es.wf = true) (hrp : rp.ty = .RPAREN) :
    ∃ m ms, es.toks ++ rp :: rest = m :: ms ∧ (m.ty = .ROLE ∨ m.ty = .RPAREN) := by
  cases es with
  | nil => exact ⟨rp, rest, by simp [CEdges.toks], .inr hrp⟩
  | atom r tgt es' =>
    cases tgt with
    | none =>
      simp only [CEdges.wf, Bool.and_eq_true, decide_eq_true_eq] at h
      exact ⟨r.tok, _, by rw [CEdges.toks, List.append_assoc, r.toks_append], .inl h.1.1⟩
    | some a =>
      simp only [CEdges.wf, Bool.and_eq_true, decide_eq_true_eq] at h
      exact ⟨r.tok, _, by rw [CEdges.toks, List.append_assoc, r.toks_append], .inl h.1.1.1.1⟩
  | sub r n es' =>
    simp only [CEdges.wf, Bool.and_eq_true, decide_eq_true_eq] at h
    exact ⟨r.tok, _, by rw [CEdges.toks, List.append_assoc, r.toks_append], .inl h.1.1.1⟩

theorem CNode.head (k : CNode) (rest : List Tok) (h : k.wf = true) :
    ∃ m ms, k.toks ++ rest = m :: ms ∧ m.ty = .LPAREN := by
  cases k with
  | empty lp rp =>
    simp only [CNode.wf, Bool.and_eq_true, decide_eq_true_eq] at h
    exact ⟨lp, _, by simp [CNode.toks]; rfl, h.1⟩
  | mk lp var sl es rp =>
    simp only [CNode.wf, Bool.and_eq_true, decide_eq_true_eq] at h
    exact ⟨lp, _, by simp [CNode.toks]; rfl, h.1.1.1.1⟩

theorem ne_aln_of_role_or_rparen {m : Tok} (h : m.ty = .ROLE ∨ m.ty = .RPAREN) : m.ty ≠ .ALIGNMENT := by
  rcases h with h | h <;> simp [h]

theorem ne_aln_of_symOrStr {m : Tok} (h : isSymOrStr m = true) : m.ty ≠ .ALIGNMENT := by
  simp [isSymOrStr] at h; rcases h with h | h <;> simp [h]

theorem not_symOrStr_of_role_or_rparen {m : Tok} (h : m.ty = .ROLE ∨ m.ty = .RPAREN) : isSymOrStr m = false := by
  rcases h with h | h <;> simp [isSymOrStr, h]

theorem ok_bind {ε α β : Type} (a : α) (k : α → Except ε β) : (Except.ok a >>= k) = k a := rfl

theorem CNode.edges_size_lt (lp var : Tok) (sl : Option (Tok × Option TText)) (es : CEdges) (rp : Tok) :
    es.tree.size < (CNode.mk lp var sl es rp).tree.size := by
  match sl with
  | none => simp only [CNode.tree, Node.size]; omega
  | some (_, none) => simp only [CNode.tree, Node.size, Branches.size]; omega
  | some (_, some _) => simp only [CNode.tree, Node.size, Branches.size]; omega

/- The parser is run on `k.toks ++ rest` one production at a time; the token after a text token
   (`CEdges.head`, `CNode.head`) decides the parser's branch and is never an ALIGNMENT where
   `takeAln` looks.  One unit of fuel per constructor of the tree is enough. -/
mutual
theorem parseNode_cst (c : PCtx) : (k : CNode) → (f : Nat) → (rest : List Tok) → k.wf = true →
    k.tree.size ≤ f → parseNode c f (k.toks ++ rest) = .ok (k.tree, rest)
  | .empty lp rp, f, rest, hw, hf => by
    simp only [CNode.wf, Bool.and_eq_true, decide_eq_true_eq] at hw
    cases f with
    | zero => simp [CNode.tree, Node.size] at hf
    | succ f =>
      rw [CNode.toks, List.cons_append, parseNode, expectTy, if_pos hw.1, ok_bind]
      dsimp only [List.cons_append]
      rw [if_pos hw.2]
      rfl
  | .mk lp var sl es rp, f, rest, hw, hf => by
    simp only [CNode.wf, Bool.and_eq_true, decide_eq_true_eq] at hw
    obtain ⟨⟨⟨⟨hlp, hv⟩, hsl⟩, hes⟩, hrp⟩ := hw
    cases f with
    | zero => simp [CNode.tree, Node.size] at hf
    | succ f =>
      obtain ⟨m, ms, e, hm⟩ := es.head rp rest hes hrp
      have ih := parseEdges_cst c es f rp rest hes hrp (by
        have := CNode.edges_size_lt lp var sl es rp; omega)
      rw [e] at ih
      have hvr : var.ty ≠ .RPAREN := by simp [hv]
      have hm1 : m.ty ≠ .SLASH := by rcases hm with h | h <;> simp [h]
      rw [CNode.toks]
      simp only [List.cons_append, List.append_assoc, List.nil_append, e]
      rw [parseNode, expectTy, if_pos hlp, ok_bind]
      dsimp only
      rw [if_neg hvr, expectTy, if_pos hv, ok_bind]
      match sl, hsl with
      | none, _ =>
        dsimp only [slashToks, List.nil_append]
        rw [if_neg hm1, ih]
        rfl
      | some (s, none), hsl =>
        simp only [slashWf, decide_eq_true_eq] at hsl
        dsimp only [slashToks, List.cons_append, List.nil_append]
        rw [if_pos hsl, if_neg (by simp [not_symOrStr_of_role_or_rparen hm]), ih]
        rfl
      | some (s, some cpt), hsl =>
        simp only [slashWf, Bool.and_eq_true, decide_eq_true_eq] at hsl
        obtain ⟨⟨hs, hk⟩, hca⟩ := hsl
        dsimp only [slashToks, List.cons_append]
        rw [cpt.toks_append]
        dsimp only
        rw [if_pos hs, if_pos hk, takeAln_ttext c cpt m ms hca (ne_aln_of_role_or_rparen hm), ok_bind]
        dsimp only
        rw [ih]
        rfl
theorem parseEdges_cst (c : PCtx) : (es : CEdges) → (f : Nat) → (rp : Tok) → (rest : List Tok) → es.wf = true →
    rp.ty = .RPAREN → es.tree.size ≤ f → parseEdges c f (es.toks ++ rp :: rest) = .ok (es.tree, rest)
  | .nil, f, rp, rest, _, hrp, hf => by
    cases f with
    | zero => simp [CEdges.tree, Branches.size] at hf
    | succ f =>
      rw [CEdges.toks, List.nil_append, parseEdges, if_pos hrp]
      rfl
  | .atom r none es, f, rp, rest, hw, hrp, hf => by
    simp only [CEdges.wf, Bool.and_eq_true, decide_eq_true_eq] at hw
    obtain ⟨⟨hr, ha⟩, hes⟩ := hw
    cases f with
    | zero => simp [CEdges.tree, Branches.size] at hf
    | succ f =>
      have ih := parseEdges_cst c es f rp rest hes hrp (by simp only [CEdges.tree, Branches.size] at hf; omega)
      obtain ⟨m, ms, e, hm⟩ := es.head rp rest hes hrp
      rw [e] at ih
      have h1 : m.ty ≠ .LPAREN := by rcases hm with h | h <;> simp [h]
      rw [CEdges.toks, List.append_assoc, e, r.toks_append, parseEdges, if_neg (by simp [hr]),
        if_neg (by simp [hr]), takeAln_ttext c r m ms ha (ne_aln_of_role_or_rparen hm), ok_bind]
      dsimp only
      rw [if_neg (by simp [not_symOrStr_of_role_or_rparen hm]), if_neg h1, if_pos hm, ih]
      rfl
  | .atom r (some a) es, f, rp, rest, hw, hrp, hf => by
    simp only [CEdges.wf, Bool.and_eq_true, decide_eq_true_eq] at hw
    obtain ⟨⟨⟨⟨hr, ha⟩, hs⟩, haa⟩, hes⟩ := hw
    cases f with
    | zero => simp [CEdges.tree, Branches.size] at hf
    | succ f =>
      have ih := parseEdges_cst c es f rp rest hes hrp (by simp only [CEdges.tree, Branches.size] at hf; omega)
      obtain ⟨m, ms, e, hm⟩ := es.head rp rest hes hrp
      rw [e] at ih
      rw [CEdges.toks, List.append_assoc, List.append_assoc, e, a.toks_append (m :: ms), r.toks_append, parseEdges,
        if_neg (by simp [hr]), if_neg (by simp [hr]), takeAln_ttext c r a.tok _ ha (ne_aln_of_symOrStr hs), ok_bind]
      dsimp only
      rw [if_pos hs, takeAln_ttext c a m ms haa (ne_aln_of_role_or_rparen hm), ok_bind]
      dsimp only
      rw [ih]
      rfl
  | .sub r n es, f, rp, rest, hw, hrp, hf => by
    simp only [CEdges.wf, Bool.and_eq_true, decide_eq_true_eq] at hw
    obtain ⟨⟨⟨hr, ha⟩, hn⟩, hes⟩ := hw
    cases f with
    | zero => simp [CEdges.tree, Branches.size] at hf
    | succ f =>
      have ihE := parseEdges_cst c es f rp rest hes hrp (by simp only [CEdges.tree, Branches.size] at hf; omega)
      have ihN := parseNode_cst c n f (es.toks ++ rp :: rest) hn (by
        simp only [CEdges.tree, Branches.size] at hf; omega)
      obtain ⟨m, ms, e, hm⟩ := n.head (es.toks ++ rp :: rest) hn
      rw [e] at ihN
      rw [CEdges.toks, List.append_assoc, List.append_assoc, e, r.toks_append, parseEdges,
        if_neg (by simp [hr]), if_neg (by simp [hr]), takeAln_ttext c r m ms ha (by simp [hm]), ok_bind]
      dsimp only
      rw [if_neg (by simp [isSymOrStr, hm]), if_pos hm, ihN, ok_bind]
      dsimp only
      rw [ihE]
      rfl
end

theorem TText.toks_length_pos (x : TText) : 1 ≤ x.toks.length := by
  unfold TText.toks; cases x.aln <;> simp

mutual
theorem CNode.size_le : (k : CNode) → k.tree.size ≤ k.toks.length
  | .empty lp rp => by simp [CNode.tree, CNode.toks, Node.size, Branches.size]
  | .mk lp var sl es rp => by
    have := es.size_le
    match sl with
    | none => simp [CNode.tree, CNode.toks, Node.size, slashToks]; omega
    | some (s, none) => simp [CNode.tree, CNode.toks, Node.size, Branches.size, slashToks]; omega
    | some (s, some c) => simp [CNode.tree, CNode.toks, Node.size, Branches.size, slashToks]; omega
theorem CEdges.size_le : (es : CEdges) → es.tree.size ≤ es.toks.length + 1
  | .nil => by simp [CEdges.tree, Branches.size]
  | .atom r none es => by
    have := es.size_le; have := r.toks_length_pos
    simp [CEdges.tree, CEdges.toks, Branches.size]; omega
  | .atom r (some a) es => by
    have := es.size_le; have := r.toks_length_pos
    simp [CEdges.tree, CEdges.toks, Branches.size]; omega
  | .sub r n es => by
    have := es.size_le; have := n.size_le; have := r.toks_length_pos
    simp [CEdges.tree, CEdges.toks, Branches.size]; omega
end

/-- the fuel `parseTree` uses is enough -/
theorem parseNode_cst_top (c : PCtx) (k : CNode) (rest : List Tok) (hw : k.wf = true) :
    parseNode c ((k.toks ++ rest).length + 1) (k.toks ++ rest) = .ok (k.tree, rest) :=
  parseNode_cst c k _ rest hw (by have := k.size_le; simp; omega)

/-- `ts` is a ROLE token (optionally followed by an ALIGNMENT token) whose glued text is `r` -/
def RoleToks (r : Str) (ts : List Tok) : Prop :=
  ∃ x : TText, x.tok.ty = .ROLE ∧ x.wfAln = true ∧ x.text = r ∧ x.toks = ts
/-- `ts` is a SYMBOL or STRING token (optionally followed by an ALIGNMENT token) whose glued text is `a` -/
def AtomToks (a : Str) (ts : List Tok) : Prop :=
  ∃ x : TText, isSymOrStr x.tok = true ∧ x.wfAln = true ∧ x.text = a ∧ x.toks = ts
/-- `ts` is a token list of the edge list `bs` -/
def EdgesToks (bs : Branches) (ts : List Tok) : Prop :=
  ∃ es : CEdges, es.wf = true ∧ es.tree = bs ∧ es.toks = ts
/-- `ts` is a token list of the node `t` -/
def TreeToks (t : Node) (ts : List Tok) : Prop :=
  ∃ k : CNode, k.wf = true ∧ k.tree = t ∧ k.toks = ts

theorem RoleToks.single (t : Tok) (h : t.ty = .ROLE) : RoleToks t.text [t] :=
  ⟨⟨t, none⟩, h, rfl, rfl, rfl⟩
theorem RoleToks.aligned (t a : Tok) (h : t.ty = .ROLE) (ha : a.ty = .ALIGNMENT) : RoleToks (t.text ++ a.text) [t, a] :=
  ⟨⟨t, some a⟩, h, by simp [TText.wfAln, ha], rfl, rfl⟩
theorem AtomToks.single (t : Tok) (h : isSymOrStr t = true) : AtomToks t.text [t] :=
  ⟨⟨t, none⟩, h, rfl, rfl, rfl⟩
theorem AtomToks.aligned (t a : Tok) (h : isSymOrStr t = true) (ha : a.ty = .ALIGNMENT) :
    AtomToks (t.text ++ a.text) [t, a] :=
  ⟨⟨t, some a⟩, h, by simp [TText.wfAln, ha], rfl, rfl⟩

theorem EdgesToks.nil : EdgesToks .nil [] := ⟨.nil, rfl, rfl, rfl⟩
theorem EdgesToks.atom_none {r : Str} {bs : Branches} {tr tb : List Tok}
    (hr : RoleToks r tr) (hb : EdgesToks bs tb) : EdgesToks (.atom r .none bs) (tr ++ tb) := by
  obtain ⟨x, h1, h2, rfl, rfl⟩ := hr
  obtain ⟨es, h3, rfl, rfl⟩ := hb
  exact ⟨.atom x none es, by simp [CEdges.wf, h1, h2, h3], rfl, rfl⟩
theorem EdgesToks.atom_str {r a : Str} {bs : Branches} {tr ta tb : List Tok}
    (hr : RoleToks r tr) (ha : AtomToks a ta) (hb : EdgesToks bs tb) :
    EdgesToks (.atom r (.str a) bs) (tr ++ (ta ++ tb)) := by
  obtain ⟨x, h1, h2, rfl, rfl⟩ := hr
  obtain ⟨y, h4, h5, rfl, rfl⟩ := ha
  obtain ⟨es, h3, rfl, rfl⟩ := hb
  exact ⟨.atom x (some y) es, by simp [CEdges.wf, h1, h2, h3, h4, h5], rfl, rfl⟩
theorem EdgesToks.sub {r : Str} {n : Node} {bs : Branches} {tr tn tb : List Tok}
    (hr : RoleToks r tr) (hn : TreeToks n tn) (hb : EdgesToks bs tb) :
    EdgesToks (.sub r n bs) (tr ++ (tn ++ tb)) := by
  obtain ⟨x, h1, h2, rfl, rfl⟩ := hr
  obtain ⟨k, h4, rfl, rfl⟩ := hn
  obtain ⟨es, h3, rfl, rfl⟩ := hb
  exact ⟨.sub x k es, by simp [CEdges.wf, h1, h2, h3, h4], rfl, rfl⟩

theorem TreeToks.empty (lp rp : Tok) (h1 : lp.ty = .LPAREN) (h2 : rp.ty = .RPAREN) :
    TreeToks (.mk none .nil) [lp, rp] := ⟨.empty lp rp, by simp [CNode.wf, h1, h2], rfl, rfl⟩
/-- `( var edges )` -/
theorem TreeToks.node {lp var rp : Tok} {bs : Branches} {tb : List Tok}
    (h1 : lp.ty = .LPAREN) (hv : var.ty = .SYMBOL) (h2 : rp.ty = .RPAREN) (hb : EdgesToks bs tb) :
    TreeToks (.mk (some var.text) bs) (lp :: var :: (tb ++ [rp])) := by
  obtain ⟨es, h3, rfl, rfl⟩ := hb
  exact ⟨.mk lp var none es rp, by simp [CNode.wf, slashWf, h1, h2, h3, hv], rfl, by simp [CNode.toks, slashToks]⟩
/-- `( var / edges )` : missing concept -/
theorem TreeToks.node_slash {lp var sl rp : Tok} {bs : Branches} {tb : List Tok}
    (h1 : lp.ty = .LPAREN) (hv : var.ty = .SYMBOL) (hs : sl.ty = .SLASH) (h2 : rp.ty = .RPAREN)
    (hb : EdgesToks bs tb) :
    TreeToks (.mk (some var.text) (.atom ['/'] .none bs)) (lp :: var :: sl :: (tb ++ [rp])) := by
  obtain ⟨es, h3, rfl, rfl⟩ := hb
  exact ⟨.mk lp var (some (sl, none)) es rp, by simp [CNode.wf, slashWf, h1, h2, h3, hv, hs], rfl,
    by simp [CNode.toks, slashToks]⟩
/-- `( var / concept edges )` -/
theorem TreeToks.node_concept {lp var sl rp : Tok} {a : Str} {bs : Branches} {ta tb : List Tok}
    (h1 : lp.ty = .LPAREN) (hv : var.ty = .SYMBOL) (hs : sl.ty = .SLASH) (h2 : rp.ty = .RPAREN)
    (ha : AtomToks a ta) (hb : EdgesToks bs tb) :
    TreeToks (.mk (some var.text) (.atom ['/'] (.str a) bs)) (lp :: var :: sl :: (ta ++ (tb ++ [rp]))) := by
  obtain ⟨y, h4, h5, rfl, rfl⟩ := ha
  obtain ⟨es, h3, rfl, rfl⟩ := hb
  exact ⟨.mk lp var (some (sl, some y)) es rp, by simp [CNode.wf, slashWf, h1, h2, h3, h4, h5, hv, hs], rfl,
    by simp [CNode.toks, slashToks]⟩

/-- parsing a token list of a tree gives back the tree, whatever follows -/
theorem parseNode_treeToks (c : PCtx) (t : Node) (ts rest : List Tok) (f : Nat) (h : TreeToks t ts)
    (hf : t.size ≤ f) : parseNode c f (ts ++ rest) = .ok (t, rest) := by
  obtain ⟨k, hw, rfl, rfl⟩ := h
  exact parseNode_cst c k f rest hw hf

theorem parseEdges_edgesToks (c : PCtx) (bs : Branches) (ts : List Tok) (rp : Tok) (rest : List Tok) (f : Nat)
    (h : EdgesToks bs ts) (hrp : rp.ty = .RPAREN) (hf : bs.size ≤ f) :
    parseEdges c f (ts ++ rp :: rest) = .ok (bs, rest) := by
  obtain ⟨es, hw, rfl, rfl⟩ := h
  exact parseEdges_cst c es f rp rest hw hrp hf

theorem TreeToks.size_le {t : Node} {ts : List Tok} (h : TreeToks t ts) : t.size ≤ ts.length := by
  obtain ⟨k, _, rfl, rfl⟩ := h; exact k.size_le

/-- how the texts of a tree are cut into tokens: where the alignment suffix
    of a role / atom text starts, and which atom texts are STRING tokens -/
structure TokShape where
  split : Str → Str × Option Str
  isString : Str → Bool

/-- no ALIGNMENT tokens, every atom a SYMBOL -/
def TokShape.plain : TokShape := ⟨fun s => (s, none), fun _ => false⟩

def TokShape.splitOk (sh : TokShape) (s : Str) : Bool :=
  match sh.split s with
  | (core, none) => core = s
  | (core, some a) => core ++ a = s

def TokShape.textToks (sh : TokShape) (ty : TokTy) (s : Str) : List Tok :=
  match sh.split s with
  | (core, none) => [⟨ty, core, 0, 0⟩]
  | (core, some a) => [⟨ty, core, 0, 0⟩, ⟨.ALIGNMENT, a, 0, 0⟩]

def TokShape.atomTy (sh : TokShape) (s : Str) : TokTy := if sh.isString s then .STRING else .SYMBOL

def TokShape.atomToks (sh : TokShape) : Atom → List Tok
  | .str s => sh.textToks (sh.atomTy s) s
  | _ => []

def TokShape.atomOk (sh : TokShape) : Atom → Bool
  | .none => true
  | .str s => sh.splitOk s
  | .num _ => false

def mkTok (ty : TokTy) (s : Str) : Tok := ⟨ty, s, 0, 0⟩

mutual
def Node.toks (sh : TokShape) : Node → List Tok
  | .mk none _ => [mkTok .LPAREN ['('], mkTok .RPAREN [')']]
  | .mk (some v) bs => mkTok .LPAREN ['('] :: mkTok .SYMBOL v :: (Branches.topToks sh bs ++ [mkTok .RPAREN [')']])
/-- the branch list of a node: a first branch with role `/` is the concept -/
def Branches.topToks (sh : TokShape) : Branches → List Tok
  | .nil => []
  | .atom r a rest =>
    if r = ['/'] then mkTok .SLASH ['/'] :: (sh.atomToks a ++ Branches.toks sh rest)
    else sh.textToks .ROLE r ++ (sh.atomToks a ++ Branches.toks sh rest)
  | .sub r n rest => sh.textToks .ROLE r ++ (Node.toks sh n ++ Branches.toks sh rest)
def Branches.toks (sh : TokShape) : Branches → List Tok
  | .nil => []
  | .atom r a rest => sh.textToks .ROLE r ++ (sh.atomToks a ++ Branches.toks sh rest)
  | .sub r n rest => sh.textToks .ROLE r ++ (Node.toks sh n ++ Branches.toks sh rest)
end

mutual
/-- the trees `Node.toks` is meant for: no variable only for the empty
    node; atomic targets are strings (cut consistently) or missing; role
    texts are cut consistently -/
def Node.WfTree (sh : TokShape) : Node → Bool
  | .mk none bs => (match bs with | .nil => true | _ => false)
  | .mk (some _) bs => Branches.WfTop sh bs
def Branches.WfTop (sh : TokShape) : Branches → Bool
  | .nil => true
  | .atom r a rest =>
    if r = ['/'] then sh.atomOk a && Branches.WfTree sh rest
    else sh.splitOk r && sh.atomOk a && Branches.WfTree sh rest
  | .sub r n rest => sh.splitOk r && Node.WfTree sh n && Branches.WfTree sh rest
def Branches.WfTree (sh : TokShape) : Branches → Bool
  | .nil => true
  | .atom r a rest => sh.splitOk r && sh.atomOk a && Branches.WfTree sh rest
  | .sub r n rest => sh.splitOk r && Node.WfTree sh n && Branches.WfTree sh rest
end

/-- a text cut consistently is one token with an optional ALIGNMENT token, of any type `ty` -/
theorem TokShape.textToks_ttext (sh : TokShape) (ty : TokTy) (s : Str) (h : sh.splitOk s = true) :
    ∃ x : TText, x.tok.ty = ty ∧ x.wfAln = true ∧ x.text = s ∧ x.toks = sh.textToks ty s := by
  unfold TokShape.splitOk at h
  unfold TokShape.textToks
  cases e : sh.split s with
  | mk core oa =>
    cases oa with
    | none =>
      simp only [e, decide_eq_true_eq] at h
      exact ⟨⟨⟨ty, core, 0, 0⟩, none⟩, rfl, rfl, h, rfl⟩
    | some a =>
      simp only [e, decide_eq_true_eq] at h
      exact ⟨⟨⟨ty, core, 0, 0⟩, some ⟨.ALIGNMENT, a, 0, 0⟩⟩, rfl, rfl, h, rfl⟩

theorem TokShape.roleToks (sh : TokShape) (r : Str) (h : sh.splitOk r = true) :
    RoleToks r (sh.textToks .ROLE r) :=
  sh.textToks_ttext .ROLE r h

theorem TokShape.atomToks_str (sh : TokShape) (s : Str) (h : sh.splitOk s = true) :
    AtomToks s (sh.atomToks (.str s)) := by
  obtain ⟨x, hty, hx⟩ := sh.textToks_ttext (sh.atomTy s) s h
  refine ⟨x, ?_, hx⟩
  rw [isSymOrStr, hty, TokShape.atomTy]
  split <;> rfl

theorem TokShape.edge_atom (sh : TokShape) (r : Str) (a : Atom) (rest : Branches) (tb : List Tok)
    (hr : sh.splitOk r = true) (ha : sh.atomOk a = true) (hb : EdgesToks rest tb) :
    EdgesToks (.atom r a rest) (sh.textToks .ROLE r ++ (sh.atomToks a ++ tb)) := by
  cases a with
  | none => simpa [TokShape.atomToks] using EdgesToks.atom_none (sh.roleToks r hr) hb
  | str s => exact EdgesToks.atom_str (sh.roleToks r hr) (sh.atomToks_str s ha) hb
  | num t => simp [TokShape.atomOk] at ha

mutual
theorem Node.treeToks (sh : TokShape) : (t : Node) → t.WfTree sh = true → TreeToks t (t.toks sh)
  | .mk none bs, h => by
    cases bs <;> simp [Node.WfTree] at h
    exact TreeToks.empty _ _ rfl rfl
  | .mk (some v) bs, h => by
    simp only [Node.WfTree] at h
    simp only [Node.toks]
    match bs, h with
    | .nil, _ => exact TreeToks.node (var := mkTok .SYMBOL v) rfl rfl rfl EdgesToks.nil
    | .atom r a rest, h =>
      simp only [Branches.WfTop] at h
      simp only [Branches.topToks]
      by_cases hr : r = ['/']
      · subst hr
        simp only [if_true, Bool.and_eq_true] at h ⊢
        have hb := Branches.edgesToks sh rest h.2
        cases a with
        | none =>
          have := TreeToks.node_slash (var := mkTok .SYMBOL v) (sl := mkTok .SLASH ['/'])
            (lp := mkTok .LPAREN ['(']) (rp := mkTok .RPAREN [')']) rfl rfl rfl rfl hb
          simp only [TokShape.atomToks, List.nil_append]
          exact this
        | str s =>
          have := TreeToks.node_concept (var := mkTok .SYMBOL v) (sl := mkTok .SLASH ['/'])
            (lp := mkTok .LPAREN ['(']) (rp := mkTok .RPAREN [')']) rfl rfl rfl rfl (sh.atomToks_str s h.1) hb
          simp only [List.cons_append, List.append_assoc]
          exact this
        | num t => simp [TokShape.atomOk] at h
      · simp only [hr, if_false, Bool.and_eq_true] at h ⊢
        have hb := Branches.edgesToks sh rest h.2
        exact TreeToks.node (var := mkTok .SYMBOL v) rfl rfl rfl (sh.edge_atom r a rest _ h.1.1 h.1.2 hb)
    | .sub r n rest, h =>
      simp only [Branches.WfTop, Bool.and_eq_true] at h
      simp only [Branches.topToks]
      exact TreeToks.node (var := mkTok .SYMBOL v) rfl rfl rfl
        (EdgesToks.sub (sh.roleToks r h.1.1) (Node.treeToks sh n h.1.2) (Branches.edgesToks sh rest h.2))
theorem Branches.edgesToks (sh : TokShape) : (bs : Branches) → bs.WfTree sh = true → EdgesToks bs (bs.toks sh)
  | .nil, _ => EdgesToks.nil
  | .atom r a rest, h => by
    simp only [Branches.WfTree, Bool.and_eq_true] at h
    simp only [Branches.toks]
    exact sh.edge_atom r a rest _ h.1.1 h.1.2 (Branches.edgesToks sh rest h.2)
  | .sub r n rest, h => by
    simp only [Branches.WfTree, Bool.and_eq_true] at h
    simp only [Branches.toks]
    exact EdgesToks.sub (sh.roleToks r h.1.1) (Node.treeToks sh n h.1.2) (Branches.edgesToks sh rest h.2)
end

/-- **token-level round trip** : parsing the token list of a well-formed
    tree, followed by anything, gives back the tree and what followed -/
theorem parse_toks (c : PCtx) (sh : TokShape) (t : Node) (rest : List Tok) (f : Nat)
    (h : t.WfTree sh = true) (hf : t.size ≤ f) :
    parseNode c f (t.toks sh ++ rest) = .ok (t, rest) :=
  parseNode_treeToks c t _ rest f (t.treeToks sh h) hf

end Penman
