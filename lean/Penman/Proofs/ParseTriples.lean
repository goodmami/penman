/-
  Triple conjunctions.  `_parse_triples` (model: `parseTriplesLoop`) is the iterative machine of
  `Spec.TripleAutomaton`: same triples, same error positions, for either value of the flag that
  says whether the conjunction sign is still glued to the role token.  Totality and fuel
  irrelevance follow.  Then the round trip for the spacing variants of `role(src, tgt) ^ role(…`.
-/
import Penman.Parse
import Penman.Spec.TripleAutomaton
import Penman.Proofs.ParseMeta
namespace Penman.TripleAut
open Penman.Spec.TripleAutomaton
open Penman.Spec.Automaton (isAtomTok)

theorem beforeComma_of_none (s : Str) (h : afterComma s = none) : beforeComma s = s := by
  unfold afterComma at h
  split at h
  · rename_i hd
    have := List.takeWhile_append_dropWhile (p := (· != ',')) (l := s)
    rw [hd, List.append_nil] at this
    exact this
  · cases h

theorem partition_eq (s : Str) :
    partitionStr [','] s = (beforeComma s, (afterComma s).isSome, (afterComma s).getD []) := by
  induction s with
  | nil => rfl
  | cons c cs ih =>
    by_cases hc : c = ','
    · subst hc
      simp [partitionStr, beforeComma, afterComma, List.isPrefixOf]
    · have hb : beforeComma (c :: cs) = c :: beforeComma cs := by
        simp [beforeComma, hc]
      have ha : afterComma (c :: cs) = afterComma cs := by
        simp [afterComma, hc]
      have hp : ([','] : Str).isPrefixOf (c :: cs) = false := by
        simp [List.isPrefixOf]; exact fun e => hc e.symm
      simp only [partitionStr, hp, ih, hb, ha]
      cases h : afterComma cs with
      | none => simp [beforeComma_of_none cs h]
      | some b => simp

theorem withColon_eq (r : Str) : (if startsWith [':'] r then r else ':' :: r) = withColon r := by
  cases r with
  | nil => rfl
  | cons c cs =>
    by_cases hc : c = ':'
    · subst hc; rfl
    · have : (':' == c) = false := by simp; exact fun e => hc e.symm
      simp [startsWith, List.isPrefixOf, this]
      unfold withColon
      split
      · rename_i h; injection h with h1 _; exact absurd h1 hc
      · rfl

/-- the closing `)` -/
def closeF (c : PCtx) (role src : Str) (tgt : Atom) (ts4 : List Tok) : Except PyErr (Triple × List Tok) :=
  match expectTy c .RPAREN ts4 with
  | .error e => .error e
  | .ok (_, ts5) => .ok (⟨src, role, tgt⟩, ts5)

/-- after a comma: an optional target, then `)` -/
def commaF (c : PCtx) (role src : Str) : List Tok → Except PyErr (Triple × List Tok)
  | n :: ts' => if isSymOrStr n then closeF c role src (.str n.text) ts' else closeF c role src .none (n :: ts')
  | [] => closeF c role src .none []

/-- `_parse_triple` and the closing `)` -/
def argsClose (c : PCtx) (role : Str) (sym : Tok) (ts3 : List Tok) : Except PyErr (Triple × List Tok) :=
  match parseTriple sym ts3 with
  | .error e => .error e
  | .ok (s, t, ts4) => closeF c role s t ts4

/-- the triple from `(` to `)`, the role being known -/
def body (c : PCtx) (role : Str) (ts1 : List Tok) : Except PyErr (Triple × List Tok) :=
  match expectTy c .LPAREN ts1 with
  | .error e => .error e
  | .ok (_, ts2) =>
    match expectTy c .SYMBOL ts2 with
    | .error e => .error e
    | .ok (sym, ts3) => argsClose c role sym ts3

/-- the role read from the role token; `strip` : the conjunction sign is glued to it -/
def roleOf (strip : Bool) (text : Str) : Str :=
  withColon (if strip && startsWith ['^'] text then text.drop 1 else text)

/-- how `_parse_triples` goes on after a `)` (`none` : the conjunction ends; `some (strip, rest)` :
    another triple follows) -/
def tripleCont : List Tok → Option (Bool × List Tok)
  | [] => none
  | n :: ts6 =>
    if n.ty ≠ .SYMBOL || !startsWith ['^'] n.text then none
    else if n.text = ['^'] then some (false, ts6)
    else some (true, n :: ts6)

theorem tripleCont_length {ts5 : List Tok} {s : Bool} {ts : List Tok} (h : tripleCont ts5 = some (s, ts)) :
    ts.length ≤ ts5.length := by
  cases ts5 with
  | nil => cases h
  | cons n ts6 =>
    simp only [tripleCont] at h
    split at h
    · cases h
    · split at h <;> cases h <;> simp

theorem parseTriplesLoop_succ (c : PCtx) (f : Nat) (strip : Bool) (toks : List Tok) (acc : List Triple) :
    parseTriplesLoop c (f+1) strip toks acc =
      match expectTy c .SYMBOL toks with
      | .error e => .error e
      | .ok (rt, ts1) =>
        match body c (roleOf strip rt.text) ts1 with
        | .error e => .error e
        | .ok (tr, ts5) =>
          match tripleCont ts5 with
          | none => .ok (tr :: acc).reverse
          | some (s, ts) => parseTriplesLoop c f s ts (tr :: acc) := by
  simp only [parseTriplesLoop, body, argsClose, closeF, roleOf, bind, Except.bind, withColon_eq]
  cases expectTy c .SYMBOL toks with
  | error e => rfl
  | ok x1 =>
    simp only
    cases expectTy c .LPAREN x1.2 with
    | error e => rfl
    | ok x2 =>
      simp only
      cases expectTy c .SYMBOL x2.2 with
      | error e => rfl
      | ok x3 =>
        simp only
        cases parseTriple x3.1 x3.2 with
        | error e => rfl
        | ok x4 =>
          simp only
          cases expectTy c .RPAREN x4.2.2 with
          | error e => rfl
          | ok x5 =>
            simp only
            cases x5.2 with
            | nil => rfl
            | cons n ts6 =>
              simp only [tripleCont]
              by_cases h1 : (n.ty ≠ .SYMBOL || !startsWith ['^'] n.text) = true
              · rw [if_pos h1, if_pos h1]; rfl
              · rw [if_neg h1, if_neg h1]
                by_cases h2 : n.text = ['^']
                · rw [if_pos h2, if_pos h2]
                · rw [if_neg h2, if_neg h2]

/-- `_parse_triple` by the position of the comma in the source symbol -/
theorem argsClose_eq (c : PCtx) (role : Str) (sym : Tok) (ts3 : List Tok) :
    argsClose c role sym ts3 =
      match afterComma sym.text with
      | some (b0 :: bs) => closeF c role (beforeComma sym.text) (.str (b0 :: bs)) ts3
      | some [] => commaF c role (beforeComma sym.text) ts3
      | none =>
        match ts3 with
        | n :: ts' =>
          if n.ty = .SYMBOL then
            if n.text = [','] then commaF c role (beforeComma sym.text) ts'
            else if startsWith [','] n.text then closeF c role (beforeComma sym.text) (.str (n.text.drop 1)) ts'
            else .error (tokErr n)
          else closeF c role (beforeComma sym.text) .none (n :: ts')
        | [] => closeF c role (beforeComma sym.text) .none [] := by
  unfold argsClose parseTriple
  simp only [partition_eq]
  cases afterComma sym.text with
  | some b =>
    cases b with
    | cons b0 bs => rfl
    | nil =>
      cases ts3 with
      | nil => rfl
      | cons n ts' =>
        by_cases hn : isSymOrStr n = true
        · simp [commaF, hn]
        · simp [commaF, hn]
  | none =>
    cases ts3 with
    | nil => rfl
    | cons n ts' =>
      by_cases hn : n.ty = .SYMBOL
      · by_cases hc : n.text = [',']
        · cases ts' with
          | nil => simp [hn, hc, commaF]
          | cons k ts'' =>
            by_cases hk : isSymOrStr k = true
            · simp [hn, hc, commaF, hk]
            · simp [hn, hc, commaF, hk]
        · by_cases hs : startsWith [','] n.text = true
          · simp [hn, hc, hs]
          · simp [hn, hc, hs]
      · simp [hn]

def _root_.Penman.Spec.TripleAutomaton.Outcome.toExcept (c : PCtx) : Outcome → Except PyErr (List Triple)
  | .accept trs => .ok trs
  | .rejectAt t => .error (tokErr t)
  | .exhausted => .error c.eofErr

theorem toExcept_ok_or_decode (c : PCtx) (o : Outcome) :
    (∃ r, o.toExcept c = .ok r) ∨ (∃ l k n, o.toExcept c = .error (.decode l k n)) := by
  cases o with
  | accept trs => exact .inl ⟨trs, rfl⟩
  | rejectAt t => exact .inr ⟨_, _, _, rfl⟩
  | exhausted => exact .inr ⟨_, _, _, rfl⟩

/-- the code piece `x` fails exactly where the machine run `o` fails, or both
    complete the triple and go on with the same remaining tokens (fewer than `n`) -/
def Sim (c : PCtx) (x : Except PyErr (Triple × List Tok)) (o : Outcome) (acc : List Triple) (n : Nat) : Prop :=
  match x with
  | .error e => o.toExcept c = .error e
  | .ok (tr, ts5) => o = loop ⟨.afterTriple, acc ++ [tr]⟩ ts5 ∧ ts5.length < n

theorem Sim.mono {c x o acc n m} (h : Sim c x o acc n) (hnm : n ≤ m) : Sim c x o acc m := by
  cases x with
  | error e => exact h
  | ok p => exact ⟨h.1, Nat.lt_of_lt_of_le h.2 hnm⟩

theorem Sim.congr {c x o o' acc n} (h : Sim c x o' acc n) (ho : o = o') : Sim c x o acc n := ho ▸ h

/-- `)` is due in state `st` -/
theorem closeF_sim (c : PCtx) (role src : Str) (tgt : Atom) (st : State) (ts4 : List Tok) (acc : List Triple)
    (hend : atEnd ⟨st, acc⟩ = .exhausted)
    (hrp : ∀ t, t.ty = .RPAREN → step ⟨st, acc⟩ t = .next ⟨.afterTriple, acc ++ [⟨src, role, tgt⟩]⟩)
    (hno : ∀ t ts, ts4 = t :: ts → t.ty ≠ .RPAREN → step ⟨st, acc⟩ t = .reject) :
    Sim c (closeF c role src tgt ts4) (loop ⟨st, acc⟩ ts4) acc (ts4.length + 1) := by
  cases ts4 with
  | nil => simp [Sim, closeF, expectTy, loop, hend, Outcome.toExcept]
  | cons t ts =>
    by_cases h : t.ty = .RPAREN
    · simp only [Sim, closeF, expectTy, loop, h, if_true, hrp t h, List.length_cons]
      exact ⟨trivial, by omega⟩
    · simp [Sim, closeF, expectTy, loop, h, hno t ts rfl h, Outcome.toExcept]

theorem close_sim (c : PCtx) (role src tgt : Str) (ts4 : List Tok) (acc : List Triple) :
    Sim c (closeF c role src (.str tgt) ts4) (loop ⟨.expectClose role src tgt, acc⟩ ts4) acc (ts4.length + 1) :=
  closeF_sim c role src _ _ ts4 acc rfl (fun t h => by simp [step, h]) (fun t _ _ h => by simp [step, h])

/-- comma read: a target or `)` -/
theorem comma_sim (c : PCtx) (role src : Str) (ts : List Tok) (acc : List Triple) :
    Sim c (commaF c role src ts) (loop ⟨.afterSource role src true, acc⟩ ts) acc (ts.length + 1) := by
  cases ts with
  | nil => simp [Sim, commaF, closeF, expectTy, loop, atEnd, Outcome.toExcept]
  | cons n ts' =>
    by_cases hn : isSymOrStr n = true
    · have hr : n.ty ≠ .RPAREN := by
        intro e; simp [isSymOrStr, e] at hn
      have hn' : isAtomTok n = true := hn
      simp only [commaF, hn, if_true]
      refine ((close_sim c role src n.text ts' acc).mono (by simp)).congr ?_
      simp [loop, step, hr, hn']
    · have hn' : isAtomTok n = false := Bool.eq_false_iff.2 hn
      simp only [commaF, hn]
      refine closeF_sim c role src .none _ (n :: ts') acc rfl (fun t h => by simp [step, h]) (fun t ts e h => ?_)
      injection e with e1 _
      subst e1
      simp [step, h, hn']

theorem args_sim (c : PCtx) (role : Str) (sym : Tok) (hsym : sym.ty = .SYMBOL) (ts3 : List Tok)
    (acc : List Triple) :
    Sim c (argsClose c role sym ts3) (loop ⟨.expectSource role, acc⟩ (sym :: ts3)) acc (ts3.length + 2) := by
  rw [argsClose_eq]
  cases hac : afterComma sym.text with
  | some b =>
    cases b with
    | cons b0 bs =>
      -- `a,b`
      refine ((close_sim c role (beforeComma sym.text) (b0 :: bs) ts3 acc).mono (by omega)).congr ?_
      simp [loop, step, hsym, hac]
    | nil =>
      -- `a,`
      refine ((comma_sim c role (beforeComma sym.text) ts3 acc).mono (by omega)).congr ?_
      simp [loop, step, hsym, hac]
  | none =>
    -- `a`
    have h1 : loop ⟨.expectSource role, acc⟩ (sym :: ts3)
        = loop ⟨.afterSource role (beforeComma sym.text) false, acc⟩ ts3 := by
      simp [loop, step, hsym, hac]
    rw [h1]
    cases ts3 with
    | nil => simp [Sim, closeF, expectTy, loop, atEnd, Outcome.toExcept]
    | cons n ts' =>
      by_cases hn : n.ty = .SYMBOL
      · have hr : n.ty ≠ .RPAREN := by simp [hn]
        simp only [hn, if_true]
        by_cases hcm : n.text = [',']
        · -- `a` `,`
          simp only [hcm, if_true]
          refine ((comma_sim c role (beforeComma sym.text) ts' acc).mono (by simp)).congr ?_
          simp [loop, step, hn, hcm]
        · simp only [hcm, if_false]
          cases htx : n.text with
          | nil =>
            simp [Sim, startsWith, List.isPrefixOf, loop, step, hn, htx, Outcome.toExcept]
          | cons x xs =>
            by_cases hx : x = ','
            · -- `a` `,b`
              subst hx
              cases xs with
              | nil => exact absurd htx hcm
              | cons y ys =>
                simp only [startsWith, List.isPrefixOf, beq_self_eq_true, Bool.true_and, if_true,
                  List.drop_succ_cons, List.drop_zero]
                refine ((close_sim c role (beforeComma sym.text) (y :: ys) ts' acc).mono (by simp)).congr ?_
                simp [loop, step, hn, htx]
            · -- `a` `b` : no transition
              have hx' : (',' == x) = false := by simp; exact fun e => hx e.symm
              have h2 : loop ⟨.afterSource role (beforeComma sym.text) false, acc⟩ (n :: ts') = .rejectAt n := by
                simp [loop, step, hn, htx, hx]
              simp [Sim, startsWith, List.isPrefixOf, hx', h2, Outcome.toExcept]
      · simp only [hn, if_false]
        refine (closeF_sim c role _ .none _ (n :: ts') acc rfl (fun t h => by simp [step, h])
          (fun t ts e h => ?_)).mono (by simp)
        injection e with e1 _
        subst e1
        simp [step, h, hn]

theorem body_sim (c : PCtx) (role : Str) (ts1 : List Tok) (acc : List Triple) :
    Sim c (body c role ts1) (loop ⟨.expectOpen role, acc⟩ ts1) acc ts1.length := by
  unfold body
  cases ts1 with
  | nil => simp [Sim, expectTy, loop, atEnd, Outcome.toExcept]
  | cons lp ts2 =>
    by_cases hlp : lp.ty = .LPAREN
    · have h1 : loop ⟨.expectOpen role, acc⟩ (lp :: ts2) = loop ⟨.expectSource role, acc⟩ ts2 := by
        simp [loop, step, hlp]
      simp only [expectTy, hlp, if_true, h1]
      cases ts2 with
      | nil => simp [Sim, loop, atEnd, Outcome.toExcept]
      | cons sym ts3 =>
        by_cases hsym : sym.ty = .SYMBOL
        · simp only [hsym, if_true]
          exact (args_sim c role sym hsym ts3 acc).mono (by simp)
        · simp [Sim, hsym, loop, step, Outcome.toExcept]
    · simp [Sim, expectTy, hlp, loop, step, Outcome.toExcept]

/-- the run of the machine that `parseTriplesLoop … strip` performs: with `strip` the
    conjunction sign is still on the role token, which the machine has read in state `afterTriple` -/
def headRun (strip : Bool) (acc : List Triple) : List Tok → Outcome
  | [] => .exhausted
  | rt :: ts => if rt.ty = .SYMBOL then loop ⟨.expectOpen (roleOf strip rt.text), acc⟩ ts else .rejectAt rt

theorem headRun_false (acc : List Triple) (toks : List Tok) :
    headRun false acc toks = loop ⟨.expectRole, acc⟩ toks := by
  cases toks with
  | nil => rfl
  | cons rt ts =>
    by_cases h : rt.ty = .SYMBOL
    · simp [headRun, loop, step, h, roleOf]
    · simp [headRun, loop, step, h]

theorem loop_afterTriple (acc : List Triple) (toks : List Tok) :
    loop ⟨.afterTriple, acc⟩ toks =
      match tripleCont toks with
      | none => .accept acc
      | some (s, ts) => headRun s acc ts := by
  cases toks with
  | nil => rfl
  | cons n ts6 =>
    by_cases hn : n.ty = .SYMBOL
    · cases htx : n.text with
      | nil => simp [tripleCont, hn, htx, startsWith, loop, step]
      | cons x xs =>
        by_cases hx : x = '^'
        · subst hx
          cases xs with
          | nil =>
            -- a lone `^`
            simp [tripleCont, hn, htx, startsWith, List.isPrefixOf, headRun_false, loop, step]
          | cons y ys =>
            -- `^role`
            simp [tripleCont, hn, htx, startsWith, List.isPrefixOf, headRun, roleOf, loop, step]
        · have hx' : ('^' == x) = false := by simp; exact fun e => hx e.symm
          simp [tripleCont, hn, htx, startsWith, List.isPrefixOf, hx', loop, step, hx]
    · simp [tripleCont, hn, loop, step]

/-- **`_parse_triples` is the machine**, from inside a conjunction: any context `c`, either
    flag, enough fuel -/
theorem parseTriplesLoop_eq_headRun (c : PCtx) :
    ∀ (f : Nat) (strip : Bool) (toks : List Tok) (acc : List Triple), toks.length < f →
      parseTriplesLoop c f strip toks acc = (headRun strip acc.reverse toks).toExcept c
  | 0, _, _, _, h => absurd h (Nat.not_lt_zero _)
  | f+1, strip, toks, acc, hf => by
    rw [parseTriplesLoop_succ]
    cases toks with
    | nil => rfl
    | cons rt ts1 =>
      by_cases hrt : rt.ty = .SYMBOL
      · have hb := body_sim c (roleOf strip rt.text) ts1 acc.reverse
        simp only [expectTy, headRun, hrt, if_true]
        cases hx : body c (roleOf strip rt.text) ts1 with
        | error e =>
          rw [hx] at hb
          exact hb.symm
        | ok x =>
          obtain ⟨tr, ts5⟩ := x
          rw [hx] at hb
          obtain ⟨ho, hl⟩ := hb
          rw [ho, loop_afterTriple]
          cases hc : tripleCont ts5 with
          | none => simp [hc, Outcome.toExcept]
          | some p =>
            obtain ⟨s, ts⟩ := p
            have := tripleCont_length hc
            simp only [List.length_cons] at hf
            simp only [hc]
            rw [parseTriplesLoop_eq_headRun c f s ts _ (by omega), List.reverse_cons]
      · simp [expectTy, headRun, hrt, Outcome.toExcept]

end Penman.TripleAut

namespace Penman
open TripleAut

/-- with fuel above the number of tokens the result does not depend on the fuel … -/
theorem parseTriplesLoop_fuel (c : PCtx) (f g : Nat) (strip : Bool) (toks : List Tok) (acc : List Triple)
    (hf : toks.length < f) (hg : toks.length < g) :
    parseTriplesLoop c f strip toks acc = parseTriplesLoop c g strip toks acc := by
  rw [parseTriplesLoop_eq_headRun c f strip toks acc hf, parseTriplesLoop_eq_headRun c g strip toks acc hg]

/-- … and is a result or a decode error -/
theorem parseTriplesLoop_total (c : PCtx) (f : Nat) (strip : Bool) (toks : List Tok) (acc : List Triple)
    (hf : toks.length < f) :
    (∃ r, parseTriplesLoop c f strip toks acc = .ok r) ∨
    (∃ l k n, parseTriplesLoop c f strip toks acc = .error (.decode l k n)) := by
  rw [parseTriplesLoop_eq_headRun c f strip toks acc hf]
  exact toExcept_ok_or_decode c _

/-- the role of a triple gets a leading colon -/
def colonRole (r : Str) : Str := if startsWith [':'] r then r else ':' :: r

/-- the tokens between `(` and `)` of a triple with source `src` and target
    `tgt`, in every spacing the lexer can produce -/
inductive ArgToks (src : Str) : Atom → List Tok → Prop
  /-- `a,b` : one SYMBOL -/
  | glued (t : Tok) (b : Str) : t.ty = .SYMBOL → t.text = src ++ ',' :: b → b ≠ [] → ArgToks src (.str b) [t]
  /-- `a, b` -/
  | commaLeft (t n : Tok) : t.ty = .SYMBOL → t.text = src ++ [','] → isSymOrStr n = true →
      ArgToks src (.str n.text) [t, n]
  /-- `a , b` -/
  | spaced (a cm n : Tok) : a.ty = .SYMBOL → a.text = src → cm.ty = .SYMBOL → cm.text = [','] →
      isSymOrStr n = true → ArgToks src (.str n.text) [a, cm, n]
  /-- `a ,b` -/
  | commaRight (a n : Tok) (b : Str) : a.ty = .SYMBOL → a.text = src → n.ty = .SYMBOL → n.text = ',' :: b →
      b ≠ [] → ArgToks src (.str b) [a, n]
  /-- `a` : no target -/
  | noTarget (a : Tok) : a.ty = .SYMBOL → a.text = src → ArgToks src .none [a]
  /-- `a,` : no target -/
  | commaOnly (t : Tok) : t.ty = .SYMBOL → t.text = src ++ [','] → ArgToks src .none [t]
  /-- `a ,` : no target -/
  | spacedCommaOnly (a cm : Tok) : a.ty = .SYMBOL → a.text = src → cm.ty = .SYMBOL → cm.text = [','] →
      ArgToks src .none [a, cm]

theorem ArgToks.parse {src : Str} {tgt : Atom} {args : List Tok} (h : ArgToks src tgt args) (hs : ',' ∉ src)
    (rp : Tok) (hrp : rp.ty = .RPAREN) (after : List Tok) :
    ∃ sym more, args = sym :: more ∧ sym.ty = .SYMBOL ∧
      parseTriple sym (more ++ rp :: after) = .ok (src, tgt, rp :: after) := by
  have hrp1 : isSymOrStr rp = false := by simp [isSymOrStr, hrp]
  have hrp2 : rp.ty ≠ .SYMBOL := by simp [hrp]
  cases h with
  | glued t b h1 h2 h3 =>
    refine ⟨t, [], rfl, h1, ?_⟩
    have : b.isEmpty = false := List.isEmpty_eq_false_iff.2 h3
    simp [parseTriple, h2, partition_at ',' src b hs, this]
  | commaLeft t n h1 h2 h3 =>
    refine ⟨t, [n], rfl, h1, ?_⟩
    simp [parseTriple, h2, partition_at ',' src [] hs, h3]
  | spaced a cm n h1 h2 h3 h4 h5 =>
    refine ⟨a, [cm, n], rfl, h1, ?_⟩
    simp [parseTriple, h2, partition_none ',' src hs, h3, h4, h5]
  | commaRight a n b h1 h2 h3 h4 h5 =>
    refine ⟨a, [n], rfl, h1, ?_⟩
    simp [parseTriple, h2, partition_none ',' src hs, h3, h4, h5, startsWith, List.isPrefixOf]
  | noTarget a h1 h2 =>
    refine ⟨a, [], rfl, h1, ?_⟩
    simp [parseTriple, h2, partition_none ',' src hs, hrp2]
  | commaOnly t h1 h2 =>
    refine ⟨t, [], rfl, h1, ?_⟩
    simp [parseTriple, h2, partition_at ',' src [] hs, hrp1]
  | spacedCommaOnly a cm h1 h2 h3 h4 =>
    refine ⟨a, [cm], rfl, h1, ?_⟩
    simp [parseTriple, h2, partition_none ',' src hs, h3, h4, hrp1]

/-- the role token: `^role` when the caret is glued to it (`strip`), else `role` -/
def HeadTok (strip : Bool) (r : Str) (rt : Tok) : Prop :=
  rt.ty = .SYMBOL ∧ (if strip then rt.text = '^' :: r ∧ r ≠ [] else rt.text = r)

theorem HeadTok.plain (rt : Tok) (h : rt.ty = .SYMBOL) : HeadTok false rt.text rt := ⟨h, by simp⟩
theorem HeadTok.caret (rt : Tok) (r : Str) (h : rt.ty = .SYMBOL) (ht : rt.text = '^' :: r) (hr : r ≠ []) :
    HeadTok true r rt := ⟨h, by simp [ht, hr]⟩

theorem HeadTok.role_eq {strip : Bool} {r : Str} {rt : Tok} (h : HeadTok strip r rt) :
    roleOf strip rt.text = colonRole r := by
  obtain ⟨-, htext⟩ := h
  rw [colonRole, withColon_eq, roleOf]
  cases strip with
  | true => simp only [if_true] at htext; simp [htext.1, startsWith, List.isPrefixOf]
  | false => simp only [Bool.false_eq_true, if_false] at htext; simp [htext]

/-- the tokens `role ( args )` of one triple -/
def OneTripleToks (strip : Bool) (tr : Triple) (ts : List Tok) : Prop :=
  ∃ (r : Str) (rt lp rp : Tok) (args : List Tok),
    HeadTok strip r rt ∧ lp.ty = .LPAREN ∧ rp.ty = .RPAREN ∧ ArgToks tr.src tr.tgt args ∧ ',' ∉ tr.src ∧
    tr.role = colonRole r ∧ ts = rt :: lp :: (args ++ [rp])

theorem OneTripleToks.length_pos {strip : Bool} {tr : Triple} {ts : List Tok} (h : OneTripleToks strip tr ts) :
    0 < ts.length := by
  obtain ⟨r, rt, lp, rp, args, -, -, -, -, -, -, rfl⟩ := h
  simp

/-- one round of `_parse_triples` reads the tokens of one triple -/
theorem parseTriplesLoop_one (c : PCtx) (f : Nat) {strip : Bool} {tr : Triple} {ts : List Tok}
    (h : OneTripleToks strip tr ts) (after : List Tok) (acc : List Triple) :
    parseTriplesLoop c (f+1) strip (ts ++ after) acc =
      match tripleCont after with
      | none => .ok (tr :: acc).reverse
      | some (s, ts') => parseTriplesLoop c f s ts' (tr :: acc) := by
  obtain ⟨r, rt, lp, rp, args, hh, hlp, hrp, ha, hs, hr, rfl⟩ := h
  obtain ⟨sym, more, rfl, hsym, hp⟩ := ha.parse hs rp hrp after
  have hb : body c (roleOf strip rt.text) (lp :: sym :: (more ++ rp :: after)) = .ok (tr, after) := by
    simp only [body, argsClose, closeF, expectTy, hlp, hsym, hp, hrp, if_true, hh.role_eq, ← hr]
  rw [parseTriplesLoop_succ]
  simp only [List.cons_append, List.append_assoc, List.nil_append, expectTy, hh.1, if_true, hb]

/-- a conjunction of triples; the flag says whether the first role token
    has the caret glued to it (`^role`) -/
inductive ConjToks : Bool → List Triple → List Tok → Prop
  | last (strip : Bool) (tr : Triple) (ts : List Tok) : OneTripleToks strip tr ts → ConjToks strip [tr] ts
  /-- `… ) ^ role ( …` -/
  | sep (strip : Bool) (tr : Triple) (ts : List Tok) (caret : Tok) (trs : List Triple) (more : List Tok) :
      OneTripleToks strip tr ts → caret.ty = .SYMBOL → caret.text = ['^'] → ConjToks false trs more →
      ConjToks strip (tr :: trs) (ts ++ caret :: more)
  /-- `… ) ^role ( …` -/
  | glue (strip : Bool) (tr : Triple) (ts : List Tok) (trs : List Triple) (more : List Tok) :
      OneTripleToks strip tr ts → ConjToks true trs more →
      ConjToks strip (tr :: trs) (ts ++ more)

/-- the conjunction ends here: no SYMBOL starting with `^` follows -/
def StopsAt : List Tok → Prop
  | [] => True
  | n :: _ => ¬ (n.ty = .SYMBOL ∧ startsWith ['^'] n.text = true)

theorem tripleCont_stops {rest : List Tok} (h : StopsAt rest) : tripleCont rest = none := by
  cases rest with
  | nil => rfl
  | cons n ts =>
    simp only [StopsAt, not_and] at h
    simp only [tripleCont]
    by_cases h1 : n.ty = .SYMBOL
    · simp [h1, h h1]
    · simp [h1]

theorem tripleCont_caret {caret : Tok} (h1 : caret.ty = .SYMBOL) (h2 : caret.text = ['^']) (more : List Tok) :
    tripleCont (caret :: more) = some (false, more) := by
  simp [tripleCont, h1, h2, startsWith, List.isPrefixOf]

/-- a conjunction that starts with `^role` goes on as such -/
theorem ConjToks.cont_glued {trs : List Triple} {more : List Tok} (h : ConjToks true trs more) (rest : List Tok) :
    tripleCont (more ++ rest) = some (true, more ++ rest) := by
  have key : ∀ tr ts l, OneTripleToks true tr ts → tripleCont (ts ++ l) = some (true, ts ++ l) := by
    rintro tr ts l ⟨r, rt, lp, rp, args, ⟨h1, h2⟩, _, _, _, _, _, rfl⟩
    simp only [if_true] at h2
    simp [tripleCont, h1, h2.1, h2.2, startsWith, List.isPrefixOf]
  cases h with
  | last _ tr ts h1 => exact key _ _ _ h1
  | sep _ tr ts caret trs more h1 _ _ _ => rw [List.append_assoc]; exact key _ _ _ h1
  | glue _ tr ts trs more h1 _ => rw [List.append_assoc]; exact key _ _ _ h1

/-- **triples round trip** : the tokens of a conjunction, in any mix of the
    spacing variants, parse to the list of triples -/
theorem parseTriplesLoop_conj (c : PCtx) {strip : Bool} {trs : List Triple} {ts : List Tok}
    (h : ConjToks strip trs ts) :
    ∀ (f : Nat) (rest : List Tok) (acc : List Triple), StopsAt rest → (ts ++ rest).length < f →
      parseTriplesLoop c f strip (ts ++ rest) acc = .ok (acc.reverse ++ trs) := by
  induction h with
  | last strip tr ts h1 =>
    intro f rest acc hst hf
    cases f with
    | zero => omega
    | succ f => rw [parseTriplesLoop_one c f h1, tripleCont_stops hst]; simp
  | sep strip tr ts caret trs more h1 hc1 hc2 _ ih =>
    intro f rest acc hst hf
    cases f with
    | zero => omega
    | succ f =>
      rw [List.append_assoc, List.cons_append, parseTriplesLoop_one c f h1, tripleCont_caret hc1 hc2]
      simp only
      rw [ih f rest _ hst (by simp at hf ⊢; omega)]
      simp
  | glue strip tr ts trs more h1 h2 ih =>
    intro f rest acc hst hf
    cases f with
    | zero => omega
    | succ f =>
      rw [List.append_assoc, parseTriplesLoop_one c f h1, h2.cont_glued rest]
      simp only
      rw [ih f rest _ hst (by have := h1.length_pos; simp at hf ⊢; omega)]
      simp

/-- on the top-level function (its own fuel), whatever follows the conjunction -/
theorem parseTriplesToks_conj {trs : List Triple} {ts : List Tok} (h : ConjToks false trs ts)
    (rest : List Tok) (hst : StopsAt rest) : parseTriplesToks (ts ++ rest) = .ok trs := by
  have := parseTriplesLoop_conj ⟨eofPos (ts ++ rest)⟩ h ((ts ++ rest).length + 1) rest [] hst (Nat.lt_succ_self _)
  simpa [parseTriplesToks] using this

end Penman
