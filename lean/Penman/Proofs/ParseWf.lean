/-
  What the parser can produce is grammar-valid:
  * every token of `lexStr` is good (`TokGood`: text in its class language, no line break,
    no SYMBOL starting with `#`) — from the C08 specification of the lexer;
  * every tree the parser returns is the tree of a concrete syntax tree made of input tokens
    (`parseToks_good`; `C01.parse_wf` concludes `WfTreeText`);
  * the metadata parsed from COMMENT tokens is `WfMeta`.
-/
import Penman.Proofs.FormatTop
import Penman.Proofs.ParseComplete
import Penman.Proofs.ParseMeta

namespace Penman.FL
open Penman.Spec Penman.Lex

variable {cfg : LexCfg}

theorem mem_lexLinesFrom {order : List TokTy} {t : Tok} :
    ∀ (ls : List Str) (n : Nat), t ∈ lexLinesFrom cfg order n ls → ∃ l ∈ ls, ∃ m, t ∈ lexLine cfg order m l
  | [], _, h => by simp [lexLinesFrom] at h
  | l :: ls, n, h => by
    simp only [lexLinesFrom, List.mem_append] at h
    rcases h with h | h
    · exact ⟨l, by simp, n, h⟩
    · obtain ⟨l', hl', m, hm⟩ := mem_lexLinesFrom ls (n+1) h
      exact ⟨l', by simp [hl'], m, hm⟩

theorem noBreak_of_sublist {a b : Str} (h : a.Sublist b) (hb : NoBreak b) : NoBreak a :=
  ⟨fun h1 => hb.1 (h.subset h1), fun h1 => hb.2 (h.subset h1)⟩

theorem lexLine_good (hwf : CfgWfP cfg) {order tl : List TokTy} (ho : order = .COMMENT :: tl)
    (hU : TokTy.UNEXPECTED ∈ order) (n : Nat) (line : Str) (hnb : NoBreak line) :
    ∀ t ∈ lexLine cfg order n line, TokGood cfg t := by
  intro t ht
  obtain ⟨pre, post, hord, hpre, hm⟩ := (lexLine_spec hwf hU n line).2 t ht
  obtain ⟨⟨hp, hl, -⟩, -⟩ := hm
  have hsub : t.text.Sublist line := hp.sublist.trans (List.drop_sublist _ _)
  refine ⟨hl, noBreak_of_sublist hsub hnb, ?_⟩
  -- a SYMBOL is tried after COMMENT, which would have matched the whole rest of the line at `#`
  intro hty hhash
  rw [hty, ho] at hord
  cases pre with
  | nil => simp at hord
  | cons p pre' =>
    simp only [List.cons_append, List.cons.injEq] at hord
    have hc := hpre .COMMENT (by rw [← hord.1]; simp)
    obtain ⟨u, hu⟩ := hp
    cases htext : t.text with
    | nil => simp [htext] at hhash
    | cons c body =>
      simp [htext] at hhash; subst hhash
      have hnb' : NoBreak (line.drop t.offset) := noBreak_of_sublist (List.drop_sublist _ _) hnb
      rw [← hu, htext] at hnb'
      refine hc (line.drop t.offset) ⟨List.prefix_refl _, ⟨body ++ u, by rw [← hu, htext]; simp, ?_⟩,
        fun _ => .inl List.drop_length⟩
      intro hmem
      exact hnb'.1 (by simp [hmem])

theorem lexStr_good (hw : FmtCfgWfP cfg) (s : Str) : ∀ t ∈ lexStr cfg cfg.penmanOrder s, TokGood cfg t := by
  intro t ht
  obtain ⟨l, hl, m, hm⟩ := mem_lexLinesFrom _ _ ht
  obtain ⟨tl, ho⟩ := hw.penman_head
  have hnb : NoBreak l := (splits_join (splitLines_splits s)).choose_spec.2.2.2 l hl
  exact lexLine_good hw.base ho (orderWf_mem hw.base.penman_order) m l hnb t hm

theorem hasColons_eq : ∀ s : Str, hasColons s = hasSep s := by
  intro s
  fun_induction hasColons s with
  | case1 => simp [hasSep]
  | case2 c cs hne ih =>
    rw [ih]
    conv => rhs; unfold hasSep
    split
    · rename_i heq; simp at heq; exact (hne _ heq.1 heq.2).elim
    · rename_i heq; simp at heq; rw [heq.2]
    · rename_i heq; simp at heq
  | case3 => simp [hasSep]

/-- the `::`-condition of a metadata line, decomposed -/
theorem entry_ok_iff (k v : Str) :
    (fmtEntry (k, v)).ok = true ↔
      ' ' ∉ k ∧ k.head? ≠ some ':' ∧ hasSep k = false ∧ hasSep v = false := by
  simp only [MetaEntry.ok, fmtEntry, MetaEntry.text, Bool.and_eq_true, Bool.not_eq_true',
    List.contains_eq_mem, decide_eq_false_iff_not]
  cases v with
  | nil =>
    simp only [List.isEmpty_nil, if_true, List.append_nil, hasSep_colon_cons, Bool.or_eq_false_iff,
      beq_eq_false_iff_ne, ne_eq]
    simp [hasSep]
  | cons d ds =>
    simp only [List.isEmpty_cons, Bool.false_eq_true, if_false, hasSep_colon_cons, hasSep_append_blank,
      Bool.or_eq_false_iff, beq_eq_false_iff_ne, ne_eq]
    cases k with
    | nil => simp
    | cons e es => simp

theorem lastIdx_spec : ∀ s : Str, hasSep s = true →
    s.drop (lastIdx s) = ':' :: ':' :: s.drop (lastIdx s + 2) ∧ hasSep (s.drop (lastIdx s + 1)) = false
  | [], h => by simp [hasSep] at h
  | c :: cs, h => by
    rw [lastIdx]
    by_cases h' : hasSep cs = true
    · have := lastIdx_spec cs h'
      simp only [h', if_true]
      rw [show 1 + lastIdx cs = lastIdx cs + 1 by omega]
      simpa using this
    · simp only [h', Bool.false_eq_true, if_false]
      rw [hasSep_cons] at h
      simp only [h', Bool.or_false] at h
      cases cs with
      | nil => simp [List.isPrefixOf] at h
      | cons d ds =>
        simp [List.isPrefixOf] at h
        obtain ⟨rfl, rfl⟩ := h
        simp at h'
        simp [h']

theorem rpartition_spec (s : Str) :
    (hasSep s = true ∧ ∃ before after, s = before ++ ':' :: ':' :: after ∧ hasSep (':' :: after) = false ∧
      rpartitionStr [':', ':'] s = (before, true, after)) ∨
    (hasSep s = false ∧ rpartitionStr [':', ':'] s = ([], false, s)) := by
  by_cases h : hasSep s = true
  · left
    obtain ⟨h1, h2⟩ := lastIdx_spec s h
    refine ⟨h, s.take (lastIdx s), s.drop (lastIdx s + 2), ?_, ?_, ?_⟩
    · rw [← h1, List.take_append_drop]
    · have : s.drop (lastIdx s + 1) = ':' :: s.drop (lastIdx s + 2) := by
        have := congrArg (List.drop 1) h1
        simpa [List.drop_drop, Nat.add_comm] using this
      rw [← this]; exact h2
    · simp [rpartitionStr, rfindAux_eq, h]
  · right
    simp only [Bool.not_eq_true] at h
    exact ⟨h, by simp [rpartitionStr, rfindAux_eq, h]⟩

theorem partition_spec : ∀ s : Str,
    (∃ k v, s = k ++ ' ' :: v ∧ ' ' ∉ k ∧ partitionStr [' '] s = (k, true, v)) ∨
    (' ' ∉ s ∧ partitionStr [' '] s = (s, false, []))
  | [] => .inr ⟨by simp, rfl⟩
  | c :: cs => by
    by_cases hc : c = ' '
    · subst hc
      exact .inl ⟨[], cs, rfl, by simp, by simp [partitionStr, List.isPrefixOf]⟩
    · have hc' : ' ' ≠ c := fun h => hc h.symm
      rcases partition_spec cs with ⟨k, v, rfl, hk, hp⟩ | ⟨hn, hp⟩
      · exact .inl ⟨c :: k, v, rfl, by simp [hc', hk], by simp [partitionStr, List.isPrefixOf, hc', hp]⟩
      · exact .inr ⟨by simp [hc', hn], by simp [partitionStr, List.isPrefixOf, hc', hp]⟩

theorem rstrip_prefix (p : Char → Bool) (v : Str) : ∃ w, v = rstripBy p v ++ w := by
  refine ⟨(v.reverse.takeWhile p).reverse, ?_⟩
  have h := List.takeWhile_append_dropWhile (p := p) (l := v.reverse)
  calc v = v.reverse.reverse := (List.reverse_reverse v).symm
    _ = (v.reverse.takeWhile p ++ v.reverse.dropWhile p).reverse := by rw [h]
    _ = _ := by rw [List.reverse_append]; rfl

theorem dropWhile_idem (p : Char → Bool) (l : Str) : (l.dropWhile p).dropWhile p = l.dropWhile p := by
  induction l with
  | nil => rfl
  | cons c cs ih =>
    by_cases h : p c = true
    · simp [h, ih]
    · simp [h]

theorem rstrip_idem (p : Char → Bool) (v : Str) : rstripBy p (rstripBy p v) = rstripBy p v := by
  simp [rstripBy, dropWhile_idem]

/-- the item stored by one round of the `_parse_comments` loop is well-formed -/
theorem item_ok (isSpace : Char → Bool) (k v : Str) (hk : ' ' ∉ k)
    (hs : hasSep (':' :: (k ++ if v = [] then [] else ' ' :: v)) = false) (nk : NoBreak k) (nv : NoBreak v) :
    metaItemB isSpace (k, rstripBy isSpace v) = true := by
  obtain ⟨w, hw⟩ := rstrip_prefix isSpace v
  have nv' : NoBreak (rstripBy isSpace v) :=
    noBreak_of_sublist (by have := List.sublist_append_left (rstripBy isSpace v) w; rwa [← hw] at this) nv
  have h3 : k.head? ≠ some ':' ∧ hasSep k = false ∧ hasSep v = false := by
    by_cases hv : v = []
    · subst hv
      simp only [if_true, List.append_nil, hasSep_colon_cons, Bool.or_eq_false_iff, beq_eq_false_iff_ne] at hs
      exact ⟨hs.1, hs.2, rfl⟩
    · simp only [hv, if_false, hasSep_colon_cons, hasSep_append_blank, Bool.or_eq_false_iff,
        beq_eq_false_iff_ne] at hs
      refine ⟨?_, hs.2.1, hs.2.2⟩
      cases k with
      | nil => simp
      | cons e es => simpa using hs.1
  have h4 : hasSep (rstripBy isSpace v) = false := hasSep_prefix _ w (by rw [← hw]; exact h3.2.2)
  simp only [metaItemB, Bool.and_eq_true, Bool.not_eq_true', List.contains_eq_mem, decide_eq_false_iff_not,
    bne_iff_ne, ne_eq, hasColons_eq, beq_iff_eq, noBreakB_iff]
  exact ⟨⟨⟨⟨⟨⟨hk, h3.1⟩, h3.2.1⟩, h4⟩, rstrip_idem _ _⟩, nk⟩, nv'⟩

/-- `d[k] = v` keeps the keys in place (a new key goes to the end) and changes no other entry -/
theorem set_keys : ∀ (md : AList Str Str) (k v : Str),
    (md.set k v).map (·.1) = if k ∈ md.map (·.1) then md.map (·.1) else md.map (·.1) ++ [k]
  | [], k, v => rfl
  | (k0, v0) :: r, k, v => by
    by_cases hk : k0 = k
    · simp [AList.set, hk]
    · have hk' : ¬ k = k0 := fun e => hk e.symm
      simp only [AList.set, if_neg hk, List.map_cons, List.mem_cons, hk', false_or, set_keys r k v]
      split <;> rfl

theorem mem_set : ∀ (md : AList Str Str) (k v : Str) (kv : Str × Str), kv ∈ md.set k v → kv = (k, v) ∨ kv ∈ md
  | [], k, v, kv, h => by simpa [AList.set] using h
  | (k0, v0) :: r, k, v, kv, h => by
    by_cases hk : k0 = k
    · simp only [AList.set, if_pos hk, List.mem_cons] at h
      rcases h with rfl | h
      · exact .inl (by rw [hk])
      · exact .inr (List.mem_cons_of_mem _ h)
    · simp only [AList.set, if_neg hk, List.mem_cons] at h
      rcases h with rfl | h
      · exact .inr List.mem_cons_self
      · exact (mem_set r k v kv h).imp_right (List.mem_cons_of_mem _)

theorem wfMeta_set (isSpace : Char → Bool) (md : AList Str Str) (k v : Str) (h : WfMeta isSpace md)
    (hkv : metaItemB isSpace (k, v) = true) : WfMeta isSpace (md.set k v) := by
  refine ⟨?_, List.all_eq_true.2 fun kv hm =>
    (mem_set md k v kv hm).elim (fun e => e ▸ hkv) (List.all_eq_true.1 h.2 kv)⟩
  rw [set_keys]
  split
  · exact h.1
  · rename_i hk
    exact List.pairwise_append.2 ⟨h.1, List.pairwise_singleton _ _, fun a ha b hb => by
      rw [List.mem_singleton.1 hb]; rintro rfl; exact hk ha⟩

theorem commentMeta_inv (isSpace : Char → Bool) : ∀ (f : Nat) (comment : Str) (md : AList Str Str),
    NoBreak comment → WfMeta isSpace md → WfMeta isSpace (commentMeta isSpace f comment md)
  | 0, _, _, _, h => h
  | f+1, comment, md, hnb, h => by
    simp only [commentMeta]
    split
    · exact h
    · rcases rpartition_spec comment with ⟨-, before, after, rfl, hs, hp⟩ | ⟨-, hp⟩
      · rw [hp]
        simp only [if_true]
        have nb1 : NoBreak before := noBreak_of_sublist (by simp) hnb
        have nb2 : NoBreak after := noBreak_of_sublist
          (((List.sublist_cons_self ':' after).trans (List.sublist_cons_self ':' _)).trans
            (List.sublist_append_right _ _)) hnb
        apply commentMeta_inv isSpace f before _ nb1
        rcases partition_spec after with ⟨k, v, rfl, hk, hpp⟩ | ⟨hn, hpp⟩
        · rw [hpp]
          refine wfMeta_set isSpace md k _ h (item_ok isSpace k v hk ?_
            (noBreak_of_sublist (by simp) nb2) (noBreak_of_sublist (by simp) nb2))
          by_cases hv : v = []
          · subst hv
            simp only [if_true, List.append_nil]
            rw [show ':' :: (k ++ [' ']) = (':' :: k) ++ [' '] from rfl] at hs
            exact hasSep_prefix _ _ hs
          · simpa [hv] using hs
        · rw [hpp]
          have := item_ok isSpace after [] hn (by simpa using hs) nb2 noBreak_nil
          exact wfMeta_set isSpace md after _ h (by simpa [rstripBy] using this)
      · rw [hp]; exact h

theorem parseComments_inv (c : PCtx) (isSpace : Char → Bool) : ∀ (toks : List Tok) (md : AList Str Str)
    (md' : AList Str Str) (ts : List Tok), parseComments c isSpace toks md = .ok (md', ts) →
    (∀ t ∈ toks, NoBreak t.text) → WfMeta isSpace md →
    WfMeta isSpace md' ∧ ∀ t ∈ ts, t ∈ toks
  | [], _, _, _, h, _, _ => by simp [parseComments] at h
  | t :: toks, md, md', ts, h, hnb, hmd => by
    simp only [parseComments] at h
    split at h
    · obtain ⟨h1, h2⟩ := parseComments_inv c isSpace toks _ md' ts h (fun t ht => hnb t (by simp [ht]))
        (commentMeta_inv isSpace _ _ md (hnb t (by simp)) hmd)
      exact ⟨h1, fun t ht => by simp [h2 t ht]⟩
    · cases h
      exact ⟨hmd, fun _ h => h⟩

/-- **what the parser can produce is grammar-valid** (tree and metadata) -/
theorem parseToks_good (isSpace : Char → Bool) (toks : List Tok) (T : Tree)
    (h : parseToks isSpace toks = .ok T) (hnb : ∀ t ∈ toks, NoBreak t.text) :
    (∃ k : CNode, k.wf = true ∧ k.tree = T.node ∧ ∀ t ∈ k.toks, t ∈ toks) ∧ WfMeta isSpace T.metadata := by
  simp only [parseToks, parseTree, bind, Except.bind, Except.map] at h
  cases hA : parseComments ⟨eofPos toks⟩ isSpace toks [] with
  | error e => simp [hA] at h
  | ok p =>
    obtain ⟨md, ts⟩ := p
    simp only [hA] at h
    cases hB : parseNode ⟨eofPos toks⟩ (ts.length + 1) ts with
    | error e => simp [hB] at h
    | ok q =>
      simp only [hB, pure, Except.pure] at h
      cases h
      obtain ⟨h1, h2⟩ := parseComments_inv _ isSpace toks [] md ts hA hnb ⟨by simp, by simp⟩
      obtain ⟨k, k1, k2, k3⟩ := (parse_complete _ _).1 ts q hB
      refine ⟨⟨k, k1, k2, fun t ht => h2 t (by rw [k3]; simp [ht])⟩, h1⟩

end Penman.FL
