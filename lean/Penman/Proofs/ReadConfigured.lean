/-
  Penman.Proofs.ReadConfigured — reading the configured tree back, numbers and alignment markers
  allowed.  `decode_core` reads any tree whose written relations are those of the configured tree
  with every constant in written form (numbers as their text): the tree itself when the graph has
  no numbers, and `writtenForm T`, the tree the parser returns, in general.  Every relation is read
  with the alignments of the graph triple it expresses.
-/
import Penman.Proofs.AlignEncoded
import Penman.Proofs.AlignNoAlign
import Penman.Proofs.ParseFormatNum

namespace Penman
namespace Cfg
open Penman.Spec.Reading Penman.C03Text

/-- a written relation with its constant in written form -/
def wW (w : Written) : Written :=
  ⟨w.ctx, w.role, match w.tgt with | .atom a => .atom (writtenAtom a) | t => t⟩

/-- an edge with its constant in written form -/
def wE (e : Edge) : Edge :=
  { e with tgt := match e.tgt with | .atom a => .atom (writtenAtom a) | t => t }

theorem labelled_writtenBs : (bs : Branches) → labelled (writtenBs bs) = labelled bs
  | .nil => rfl
  | .atom r a rest => by
    have := labelled_writtenBs rest
    simp only [labelled, writtenBs, Branches.toList, List.any_cons] at this ⊢
    rw [this]
  | .sub r n rest => by
    have := labelled_writtenBs rest
    simp only [labelled, writtenBs, Branches.toList, List.any_cons] at this ⊢
    rw [this]

mutual
theorem written_writtenForm : (n : Node) → Node.written (writtenForm n) = (Node.written n).map wW
  | .mk v bs => by
    simp only [writtenForm, Node.written, labelled_writtenBs, List.map_append, written_writtenBs v bs]
    split <;> simp [wW, writtenAtom]
theorem written_writtenBs (ctx : Option Str) : (bs : Branches) →
    Branches.written ctx (writtenBs bs) = (Branches.written ctx bs).map wW
  | .nil => rfl
  | .atom r a rest => by
    simp [writtenBs, Branches.written, written_writtenBs ctx rest, wW]
  | .sub r n rest => by
    simp [writtenBs, Branches.written, written_writtenBs ctx rest, written_writtenForm n, wW,
      C03Text.writtenForm_var]
end

theorem denote_wE (v : Str) (e : Edge) : writtenTriple (Cfg.denote v e) = Cfg.denote v (wE e) := by
  cases e with
  | mk role tgt epis =>
    cases tgt with
    | atom a => rfl
    | node w => rfl

theorem goodT_written {m : Model} {x : Triple} (h : GoodT m x) (hn : ∀ s, x.tgt = .num s → '~' ∉ s) :
    GoodT m (writtenTriple x) := by
  refine ⟨h.colon, h.roleTilde, h.canon, ?_⟩
  cases htg : x.tgt with
  | none => simp [writtenTriple, htg, writtenAtom, TgtOK]
  | str s => have := h.tgt; rw [htg] at this; simpa [writtenTriple, htg, writtenAtom] using this
  | num s => simp only [writtenTriple, htg, writtenAtom, TgtOK]; exact Or.inl (hn s htg)

theorem notNum_written (x : Triple) : notNum (writtenTriple x).tgt = true := by
  cases h : x.tgt <;> simp [writtenTriple, h, writtenAtom, notNum]

theorem written_of_notNum {x : Triple} (h : notNum x.tgt = true) : writtenTriple x = x := by
  cases x with
  | mk a b c => cases c <;> simp [writtenTriple, writtenAtom, notNum] at h ⊢

/-- a graph without numbers is compared as it is -/
theorem writtenTriple_of_noNum {g : Graph} (h : NoNum g) : g.triples.map writtenTriple = g.triples :=
  (List.map_congr_left fun x hx => written_of_notNum (h x hx)).trans (List.map_id _)

theorem wE_of_notNum {v : Str} {e : Edge} (h : notNum (Cfg.denote v e).tgt = true) : wE e = e := by
  cases e with
  | mk role tgt epis =>
    cases tgt with
    | node w => rfl
    | atom a =>
      cases a with
      | none => rfl
      | str s => rfl
      | num s => simp [Cfg.denote, notNum] at h

theorem deinvert1_num (m : Model) (g : Graph) {x : Triple} (h : notNum x.tgt = false) : deinvert1 m g x = x := by
  cases x with
  | mk a b c => cases c <;> simp [notNum] at h; simp [deinvert1, Graph.isVar]

theorem notNum_deinvert1 (m : Model) (g : Graph) {x : Triple} (h : notNum x.tgt = true) :
    notNum (deinvert1 m g x).tgt = true := by
  unfold deinvert1; split
  · rw [invert_tgt]; rfl
  · exact h

/-- comparing by written form absorbs one de-inversion -/
theorem dw_deinvert1 {m : Model} (hw : ModelWf m) {g : Graph} {x : Triple}
    (hc : m.canonInversion x.role = some x.role) :
    deinvert1 m g (writtenTriple (deinvert1 m g x)) = deinvert1 m g (writtenTriple x) := by
  cases hn : notNum x.tgt with
  | false => rw [deinvert1_num m g hn]
  | true =>
    rw [written_of_notNum (notNum_deinvert1 m g hn), written_of_notNum hn, deinvert1_idem hw hc]

namespace Al

theorem atomStr_written (a : Atom) : atomStr (writtenAtom a) = atomStr a := by cases a <;> rfl

/-- the written form of the relation an edge becomes is the relation its written form becomes -/
theorem edgeWritten_wE (v : Str) (e : Edge) : wW (edgeWritten v e) = edgeWritten v (wE e) := by
  cases e with
  | mk role tgt epis =>
    cases tgt with
    | atom a =>
      simp only [wW, wE, edgeWritten, outRole, outAtom, atomStr_written]
      split <;> simp [writtenAtom]
    | node w => simp [wW, wE, edgeWritten, outRole]

variable {isAlpha : Char → Bool} {m : Model} {vars : List Str} {v : Str} {e : Edge}

/-- the facts about an edge carry over to its written form -/
theorem edgeFacts_wE (F : EdgeFacts isAlpha m vars v e)
    (hn : ∀ s, (Cfg.denote v e).tgt = .num s → '~' ∉ s) : EdgeFacts isAlpha m vars v (wE e) := by
  refine ⟨F.notInst, ?_, ?_, F.one1, F.one2, F.ok, F.ra, ?_⟩
  · rw [← denote_wE]; exact goodT_written F.good hn
  · intro w hw'
    apply F.node w
    cases e with
    | mk role tgt epis => cases tgt <;> simp [wE] at hw' ⊢; exact hw'
  · intro hne
    obtain ⟨s, hs, h2, h3⟩ := F.ta hne
    refine ⟨s, ?_, h2, h3⟩
    cases e with
    | mk role tgt epis =>
      simp only [] at hs; subst hs
      rfl

/-- reading the written form of an edge of the store: the store's triple in written form, swapped once
    if its role is inverted and its target a variable, with the edge's alignments -/
theorem read_edge (hnoop : m.noop = false) (F : EdgeFacts isAlpha m vars v e)
    (hn : ∀ s, (Cfg.denote v e).tgt = .num s → '~' ∉ s) :
    ∃ d, Spec.Reading.denote isAlpha m vars (wW (edgeWritten v e)) = .ok d ∧
      d.triple = readTriple m vars (writtenTriple (Cfg.denote v e)) ∧ colon d.triple = d.triple ∧
      d.roleAln.map (fun a => Epi.roleAln a.1 a.2) = (e.epis.filter fun x => x.mode = 1).getLast? ∧
      d.tgtAln.map (fun a => Epi.aln a.1 a.2) = (e.epis.filter fun x => x.mode = 2).getLast? := by
  obtain ⟨d, hd, h1, h2, h3⟩ := denote_edge_al hnoop (edgeFacts_wE F hn) (by rw [← denote_wE]; exact notNum_written _)
  rw [edgeWritten_wE]
  rw [← denote_wE] at h1
  refine ⟨d, hd, h1, ?_, h2, h3⟩
  have hc : d.triple.role.head? = some ':' := by
    rw [h1]; unfold readTriple; split
    · rw [invert_role]; exact head_invertRole m _ F.good.colon
    · exact F.good.colon
  simp [colon, ensureColon_of_head hc]

theorem denote_nullW (isAlpha : Char → Bool) (m : Model) (vars : List Str) (v : Str) :
    Spec.Reading.denote isAlpha m vars (nullW v) = .ok ⟨⟨v, CONCEPT_ROLE, .none⟩, none, none, v, none, false⟩ := by
  simp [nullW, Spec.Reading.denote, roleName, roleAlnText, parseAln?]

/-- a cell is read as labelled iff it holds a `/` edge -/
theorem cellLabelled_iff {es : List Edge} (hF : ∀ e ∈ es, EdgeFacts isAlpha m vars v e) :
    cellLabelled es = true ↔ ∃ e ∈ es, e.role = ['/'] := by
  simp only [cellLabelled, List.any_eq_true, decide_eq_true_eq]
  constructor
  · rintro ⟨e, he, hrn⟩
    refine ⟨e, he, ?_⟩
    rw [roleName_outRole (hF e he), denote_role_slash] at hrn
    apply Decidable.byContradiction
    intro hns
    rw [slashRole, if_neg hns] at hrn
    exact (hF e he).notInst hrn
  · rintro ⟨e, he, hs⟩
    exact ⟨e, he, by rw [roleName_outRole (hF e he), denote_role_slash, slashRole, if_pos hs]⟩

theorem colon_nullLabel (v : Str) : colon ⟨v, CONCEPT_ROLE, .none⟩ = ⟨v, CONCEPT_ROLE, .none⟩ := by
  have : ensureColon CONCEPT_ROLE = CONCEPT_ROLE := ensureColon_of_head rfl
  simp [colon, this]

section
variable {g : Graph} {t : Str} {T : Tree} {st : St} {l : List Triple}

/-- a null node label of a well-formed graph is `(v :instance None)` -/
theorem nullB_eq (hg : WfGraphAl m g) {x : Triple} (hx : x ∈ g.triples) (hn : nullB x = true) :
    x = ⟨x.src, CONCEPT_ROLE, .none⟩ := by
  obtain ⟨hr, hmis⟩ := (nullB_iff x).1 hn
  have hmiss : x.tgt = .none := by
    cases htg : x.tgt with
    | none => rfl
    | num _ => rw [htg] at hmis; simp [Atom.isMissing] at hmis
    | str s' =>
      rw [htg] at hmis
      simp only [Atom.isMissing, List.isEmpty_iff] at hmis
      subst hmis
      exact absurd htg (hg.instNotEmpty x hx hr)
  rw [← hr, ← hmiss]

/-- the label-less cells of the store are exactly the null labels of `g` -/
theorem nulls_perm (hg : WfGraphAl m g) (E : EncodedAl m g t T st l) (hnd : (ckeys st.cells).Nodup)
    (hlabel : ∀ p ∈ st.cells, (cellLabelled p.2 = true ↔ ∃ e ∈ p.2, e.role = ['/'])) :
    ((st.cells.filter fun p => !cellLabelled p.2).map
      fun p => (⟨p.1, CONCEPT_ROLE, .none⟩ : Triple)).Perm (g.triples.filter nullB) := by
  refine (List.perm_ext_iff_of_nodup ?_ ?_).2 ?_
  · have hsub : ((st.cells.filter fun p => !cellLabelled p.2).map (·.1)).Nodup :=
      List.Nodup.sublist (List.Sublist.map _ List.filter_sublist) hnd
    have := List.Pairwise.map (S := fun a b : Triple => a ≠ b) (fun v : Str => (⟨v, CONCEPT_ROLE, .none⟩ : Triple))
      (fun a b hab h => hab (congrArg Triple.src h)) hsub
    rw [List.map_map] at this
    exact this
  · exact hg.nullNodup
  · intro x
    simp only [List.mem_map, List.mem_filter, Bool.not_eq_eq_eq_not, Bool.not_true]
    constructor
    · rintro ⟨p, ⟨hp, hunl⟩, rfl⟩
      obtain ⟨t0, ht0, hs0, hr0⟩ := hg.labelled p.1 ((E.keys _).1 (mem_keys_of_mem hp))
      cases hn0 : nullB t0 with
      | false =>
        exfalso
        have hmem := E.perm.subset (E.inst t0 ht0 hr0 hn0)
        simp only [placed, List.mem_flatMap, List.mem_map] at hmem
        obtain ⟨q, hq, e, he, hden⟩ := hmem
        have hk : q.1 = p.1 := by rw [← hs0, ← hden]; rfl
        have hes : q.2 = p.2 := by
          have h1 := get?_of_mem_nodup hnd (k := q.1) (es := q.2) hq
          have h2 := get?_of_mem_nodup hnd (k := p.1) (es := p.2) hp
          rw [hk, h2] at h1; simpa using h1.symm
        rw [hes] at he
        have hrole : (Cfg.denote q.1 e).role = CONCEPT_ROLE := by rw [hden]; exact hr0
        simp only [Cfg.denote] at hrole
        split at hrole
        · rename_i h
          have := (hlabel p hp).2 ⟨e, he, h⟩
          rw [this] at hunl; exact absurd hunl (by simp)
        · exact (E.edges p hp e he).1 hrole
      | true =>
        have := nullB_eq hg ht0 hn0
        rw [hs0] at this
        rw [← this]; exact ⟨ht0, hn0⟩
    · rintro ⟨hx, hxn⟩
      have hnull := (nullB_iff x).1 hxn
      have hkey := storeOf_ownInst E.store x hx hnull.1
      simp only [ckeys, AList.keys, List.mem_map] at hkey
      obtain ⟨p, hp, hp1⟩ := hkey
      refine ⟨p, ⟨hp, ?_⟩, ?_⟩
      · cases hl : cellLabelled p.2 with
        | false => rfl
        | true =>
          exfalso
          obtain ⟨e, he, hs⟩ := (hlabel p hp).1 hl
          have hy : Cfg.denote p.1 e ∈ placed st.cells := mem_placed hp he
          have hyl := E.perm.symm.subset hy
          obtain ⟨t0, ht0, hv⟩ := E.version _ hyl
          have hyr : (Cfg.denote p.1 e).role = CONCEPT_ROLE := by simp [Cfg.denote, hs]
          have hy0 : Cfg.denote p.1 e = t0 := by
            rcases hv with h | ⟨h, _, hr0⟩
            · exact h
            · exfalso
              rw [h, invert_role] at hyr
              exact (hg.noInstOf t0 ht0 hr0).1 hyr
          have h0r : t0.role = CONCEPT_ROLE := by rw [← hy0]; exact hyr
          have h0s : t0.src = x.src := by rw [← hy0, ← hp1]; rfl
          have := hg.nullAlone x hx hxn t0 ht0 h0r h0s
          apply E.notNull _ hyl
          rw [hy0, this]; exact hnull
      · rw [hp1]; exact (nullB_eq hg hx hxn).symm

/-- `E.same` with constants compared by their written form: up to one de-inversion the graph's
    triples are the store's and the null labels -/
theorem same_written (hw : ModelWf m) (hg : WfGraphAl m g) (E : EncodedAl m g t T st l) :
    ((g.triples.map writtenTriple).map (deinvert1 m g)).Perm
      (l.map (fun x => deinvert1 m g (writtenTriple x)) ++ g.triples.filter nullB) := by
  have hsame := E.same.map (fun x => deinvert1 m g (writtenTriple x))
  rw [List.map_map, List.map_append, List.map_map, List.map_map] at hsame
  have a1 : g.triples.map ((fun x => deinvert1 m g (writtenTriple x)) ∘ deinvert1 m g) =
      (g.triples.map writtenTriple).map (deinvert1 m g) := by
    rw [List.map_map]
    exact List.map_congr_left fun x hx => dw_deinvert1 hw (hg.roles x hx).2.2
  have a2 : l.map ((fun x => deinvert1 m g (writtenTriple x)) ∘ deinvert1 m g) =
      l.map (fun x => deinvert1 m g (writtenTriple x)) := by
    refine List.map_congr_left fun x hx => ?_
    obtain ⟨t0, ht0, hv⟩ := E.version x hx
    exact dw_deinvert1 hw (goodT_of_version_al hw hg ht0 hv).canon
  have a3 : (g.triples.filter nullB).map ((fun x => deinvert1 m g (writtenTriple x)) ∘ deinvert1 m g) =
      g.triples.filter nullB := by
    refine (List.map_congr_left fun x hx => ?_).trans (List.map_id _)
    obtain ⟨hx1, hx2⟩ := List.mem_filter.1 hx
    show deinvert1 m g (writtenTriple (deinvert1 m g x)) = x
    rw [dw_deinvert1 hw (hg.roles x hx1).2.2, nullB_eq hg hx1 hx2]
    simp [deinvert1, writtenTriple, writtenAtom, Graph.isVar]
  rw [a1, a2, a3] at hsame
  exact hsame
end


/-- **reading the configured tree back.** `T'` is any tree with the written relations of the configured
    tree `T`, constants in written form.  It is interpreted to a graph with the same top, the same
    variables and the same triples (constants compared by their written form, up to order and one
    de-inversion); each relation of the reading carries the alignments of a graph triple it decodes. -/
theorem decode_core (isAlpha : Char → Bool) {m : Model} {g : Graph} {t : Str} {T T' : Tree} {st : St}
    {l : List Triple} (hw : ModelWf m) (hnoop : m.noop = false) (hg : WfGraphAl m g) (hal : AlignOK isAlpha m g)
    (hnumok : ∀ x ∈ g.triples, ∀ s, x.tgt = .num s → '~' ∉ s) (E : EncodedAl m g t T st l)
    (hwr : Node.written T'.node = (Node.written T.node).map wW) (hvs : T'.node.vars = T.node.vars)
    (hv : T'.node.var = T.node.var) (hmd : T'.metadata = T.metadata) :
    ∃ g' ds, interpret isAlpha m T' = .ok g' ∧
      Spec.Reading.read isAlpha m T'.node = .ok ⟨T.node.var, ds⟩ ∧
      g'.getTop = some t ∧ (∀ x, x ∈ g'.variables ↔ x ∈ g.variables) ∧
      (g'.triples.map (deinvert1 m g)).Perm ((g.triples.map writtenTriple).map (deinvert1 m g)) ∧
      (∀ x ∈ g'.triples, ∃ t0 ∈ g.triples, x = writtenTriple t0 ∨ x = m.invert (writtenTriple t0)) ∧
      g'.metadata = AList.ofList g.metadata ∧
      (∀ d ∈ ds, ∃ t1 ∈ g.triples, d.triple = deinvert1 m g (writtenTriple t1) ∧ colon d.triple = d.triple ∧
        d.roleAln.map (fun a => Epi.roleAln a.1 a.2) = roleAlnOf g t1 ∧
        d.tgtAln.map (fun a => Epi.aln a.1 a.2) = tgtAlnOf g t1) := by
  have hr2 : ∀ x ∈ g.triples, RoleOK2 m x := fun x hx => roleOK2_of_colon m x (hg.roles x hx).1
  obtain ⟨hW, hvars, _, hnd, hvar⟩ := storeOf_tree hr2 E.store E.build
  have hgood := storeOf_good E.store
  have hvmem : ∀ s, s ∈ T.node.vars ↔ s ∈ g.variables := fun s => hvars.mem_iff.trans (E.keys s)
  have hEF := fun p hp e he => edgeFacts (isAlpha := isAlpha) (p := p) (e := e) hw hg hal E hvmem hgood.forest hp he
  have hnumS : ∀ x ∈ placed st.cells, ∀ s, x.tgt = .num s → '~' ∉ s := by
    intro x hx
    obtain ⟨t0, ht0, hv⟩ := E.version x (E.perm.symm.subset hx)
    rcases hv with rfl | ⟨rfl, _, _⟩
    · exact hnumok _ ht0
    · intro s hs; rw [invert_tgt] at hs; cases hs
  have hlabel : ∀ p ∈ st.cells, (cellLabelled p.2 = true ↔ ∃ e ∈ p.2, e.role = ['/']) :=
    fun p hp => cellLabelled_iff fun e he => (hEF p hp e he).1
  have hW' := hW.trans (flat_ownW_split st.cells)
  -- `mapM_map` wants what a relation is read as given as a function of the relation: `D` (its value
  -- where `denote` fails is never used); with `id` for the projection the reading is `ws.map D`
  let D : Written → Denoted := fun w =>
    match Spec.Reading.denote isAlpha m T.node.vars w with
    | .ok d => d
    | .error _ => ⟨⟨[], [], .none⟩, none, none, [], none, false⟩
  let G : Written → Triple := fun w => (D w).triple
  have hDedge : ∀ p ∈ st.cells, ∀ e ∈ p.2,
      Spec.Reading.denote isAlpha m T.node.vars (wW (edgeWritten p.1 e)) = .ok (D (wW (edgeWritten p.1 e))) ∧
      (D (wW (edgeWritten p.1 e))).triple = readTriple m T.node.vars (writtenTriple (Cfg.denote p.1 e)) ∧
      colon (D (wW (edgeWritten p.1 e))).triple = (D (wW (edgeWritten p.1 e))).triple ∧
      (D (wW (edgeWritten p.1 e))).roleAln.map (fun a => Epi.roleAln a.1 a.2) =
        (e.epis.filter fun x => x.mode = 1).getLast? ∧
      (D (wW (edgeWritten p.1 e))).tgtAln.map (fun a => Epi.aln a.1 a.2) =
        (e.epis.filter fun x => x.mode = 2).getLast? := by
    intro p hp e he
    obtain ⟨d, hd, h⟩ := read_edge hnoop (hEF p hp e he).1 (hnumS _ (mem_placed hp he))
    have : D (wW (edgeWritten p.1 e)) = d := by simp only [D, hd]
    rw [this]; exact ⟨hd, h⟩
  have hGedge : ∀ p ∈ st.cells, ∀ e ∈ p.2,
      G (wW (edgeWritten p.1 e)) = readTriple m T.node.vars (writtenTriple (Cfg.denote p.1 e)) :=
    fun p hp e he => (hDedge p hp e he).2.1
  have hwnull : ∀ v, wW (nullW v) = nullW v := fun v => rfl
  have hDnull : ∀ v, Spec.Reading.denote isAlpha m T.node.vars (nullW v) = .ok (D (nullW v)) ∧
      D (nullW v) = ⟨⟨v, CONCEPT_ROLE, .none⟩, none, none, v, none, false⟩ := by
    intro v
    have hd := denote_nullW isAlpha m T.node.vars v
    have : D (nullW v) = ⟨⟨v, CONCEPT_ROLE, .none⟩, none, none, v, none, false⟩ := by simp only [D, hd]
    rw [this]; exact ⟨hd, rfl⟩
  have hGnull : ∀ v, G (nullW v) = ⟨v, CONCEPT_ROLE, .none⟩ := by
    intro v; simp only [G, (hDnull v).2]
  have hall : ∀ w ∈ (Node.written T.node).map wW,
      (Spec.Reading.denote isAlpha m T.node.vars w).map id = .ok (D w) := by
    intro w hw'
    obtain ⟨w0, hw0, rfl⟩ := List.mem_map.1 hw'
    have := hW'.subset hw0
    simp only [List.mem_append, nullsW, flat, List.mem_flatMap, List.mem_map] at this
    rcases this with ⟨p, _, rfl⟩ | ⟨p, hp, e, he, rfl⟩
    · rw [hwnull, (hDnull p.1).1]; rfl
    · rw [(hDedge p hp e he).1]; rfl
  obtain ⟨ds, hds, hdsD⟩ := mapM_map _ (id : Denoted → Denoted) D _ hall
  simp only [List.map_id] at hdsD
  have hdsmap : ds.map Denoted.triple = ((Node.written T.node).map wW).map G := by
    rw [hdsD, List.map_map]; rfl
  have hread : Spec.Reading.read isAlpha m T'.node = .ok ⟨T.node.var, ds⟩ := by
    unfold Spec.Reading.read
    rw [hwr, hvs, hds, hv]; rfl
  obtain ⟨g', hg'⟩ := Interp.interpret_defined hread
  obtain ⟨r, hr, htop, _, _, htr⟩ := Props.C04.C04 isAlpha m T' g' hg'
  rw [hread] at hr; simp only [Except.ok.injEq] at hr; subst hr
  obtain ⟨_, _, hv3⟩ := Props.C04.C04_variables isAlpha m T' g' _ hg' hread
  have hv3' : ∀ x, x ∈ g'.variables ↔ x ∈ T.node.vars := by
    intro x; rw [hv3 x, hvs]
  have hreadT : ∀ x : Triple, readTriple m T.node.vars x = deinvert1 m g x := readTriple_eq_deinvert1 hvmem
  obtain ⟨nullTs, hnT⟩ : ∃ x : List Triple,
      x = (st.cells.filter fun p => !cellLabelled p.2).map fun p => (⟨p.1, CONCEPT_ROLE, .none⟩ : Triple) := ⟨_, rfl⟩
  have hnulls : nullTs.Perm (g.triples.filter nullB) := by
    rw [hnT]; exact nulls_perm hg E hnd hlabel
  have hnullDW : ∀ x ∈ nullTs, deinvert1 m g (writtenTriple x) = x := by
    intro x hx
    rw [hnT] at hx
    obtain ⟨p, _, rfl⟩ := List.mem_map.1 hx
    simp [deinvert1, writtenTriple, writtenAtom, Graph.isVar]
  obtain ⟨_, _, _, Dd⟩ := Interp.decoded hg'
  have hrel : ∀ d ∈ ds, ∃ t1 ∈ g.triples, d.triple = deinvert1 m g (writtenTriple t1) ∧ colon d.triple = d.triple ∧
      d.roleAln.map (fun a => Epi.roleAln a.1 a.2) = roleAlnOf g t1 ∧
      d.tgtAln.map (fun a => Epi.aln a.1 a.2) = tgtAlnOf g t1 := by
    intro d hd
    rw [hdsD] at hd
    obtain ⟨w', hw', rfl⟩ := List.mem_map.1 hd
    obtain ⟨w0, hw0, rfl⟩ := List.mem_map.1 hw'
    have := hW'.subset hw0
    simp only [List.mem_append, nullsW, flat, List.mem_flatMap, List.mem_map, List.mem_filter] at this
    rcases this with ⟨p, ⟨hp, hunl⟩, rfl⟩ | ⟨p, hp, e, he, rfl⟩
    · rw [hwnull, (hDnull p.1).2]
      have hmem : (⟨p.1, CONCEPT_ROLE, .none⟩ : Triple) ∈ nullTs := by
        rw [hnT]; exact List.mem_map.2 ⟨p, List.mem_filter.2 ⟨hp, hunl⟩, rfl⟩
      have hin := List.mem_filter.1 (hnulls.subset hmem)
      refine ⟨_, hin.1, (hnullDW _ hmem).symm, ?_, ?_, ?_⟩
      · exact colon_nullLabel p.1
      · cases hra : roleAlnOf g ⟨p.1, CONCEPT_ROLE, .none⟩ with
        | none => rfl
        | some x => exact (hal.roleAln _ hin.1 (by rw [hra]; simp) rfl).elim
      · cases hta : tgtAlnOf g ⟨p.1, CONCEPT_ROLE, .none⟩ with
        | none => rfl
        | some x => exact absurd (hal.tgtAln _ hin.1 (by rw [hta]; simp)) (by simp [AlnTgtOK])
    · obtain ⟨_, t1, ht1, hv, hde, hra, hta⟩ := hEF p hp e he
      obtain ⟨_, h1, hc, h2, h3⟩ := hDedge p hp e he
      have hkey : deinvert1 m g (writtenTriple (Cfg.denote p.1 e)) = deinvert1 m g (writtenTriple t1) := by
        rcases hv with hv | ⟨hv, ⟨b, hb⟩, _⟩
        · rw [hv]
        · have hn0 : notNum t1.tgt = true := by rw [hb]; rfl
          have hn1 : notNum (Cfg.denote p.1 e).tgt = true := by rw [hv, invert_tgt]; rfl
          rw [written_of_notNum hn1, written_of_notNum hn0]; exact hde
      exact ⟨t1, ht1, by rw [h1, hreadT, hkey], hc, by rw [h2, hra], by rw [h3, hta]⟩
  have hperm : g'.triples.Perm (nullTs ++ l.map (fun x => deinvert1 m g (writtenTriple x))) := by
    have htr' : g'.triples = ds.map Denoted.triple := by
      rw [htr]
      simp only [Reading.triples, List.map_map]
      refine List.map_congr_left fun d hd => ?_
      obtain ⟨_, _, _, hc, _⟩ := hrel d hd
      exact hc
    rw [htr', hdsmap]
    refine ((hW'.map wW).map G).trans ?_
    rw [List.map_append, List.map_append]
    have e1 : ((nullsW st.cells).map wW).map G = nullTs := by
      rw [hnT]
      simp only [nullsW, List.map_map]
      exact List.map_congr_left fun p _ => hGnull p.1
    have e2 : ((flat (fun v es => es.map (edgeWritten v)) st.cells).map wW).map G =
        (placed st.cells).map (fun x => deinvert1 m g (writtenTriple x)) := by
      simp only [flat, placed, List.map_flatMap, List.map_map]
      apply flatMap_congr'
      intro p hp
      refine List.map_congr_left fun e he => ?_
      exact (hGedge p hp e he).trans (hreadT _)
    rw [e1, e2]
    exact List.Perm.append_left _ (E.perm.symm.map _)
  have hmemK : ∀ x ∈ g'.triples, ∃ t1 ∈ g.triples, x = deinvert1 m g (writtenTriple t1) := by
    intro x hx
    rw [htr] at hx
    obtain ⟨y, hy, rfl⟩ := List.mem_map.1 hx
    obtain ⟨d, hd, rfl⟩ := List.mem_map.1 hy
    obtain ⟨t1, ht1, h1, hc, _⟩ := hrel d hd
    exact ⟨t1, ht1, by rw [hc, h1]⟩
  refine ⟨g', ds, hg', hread, by rw [htop]; exact hvar, fun x => (hv3' x).trans (hvmem x), ?_, ?_, ?_, hrel⟩
  · -- the multiset of triples: de-inversion fixes every decoded triple
    have hfix : g'.triples.map (deinvert1 m g) = g'.triples := by
      refine (List.map_congr_left fun x hx => ?_).trans (List.map_id _)
      obtain ⟨t1, ht1, rfl⟩ := hmemK x hx
      exact deinvert1_idem hw (x := writtenTriple t1) (hg.roles t1 ht1).2.2
    rw [hfix]
    exact hperm.trans (List.perm_append_comm.trans
      ((List.Perm.append_left _ hnulls).trans (same_written hw hg E).symm))
  · intro x hx
    obtain ⟨t1, ht1, rfl⟩ := hmemK x hx
    exact ⟨t1, ht1, deinvert1_cases m g _⟩
  · rw [Dd.md, hmd, E.metaEq]

/-- `decode_core` at the tree the parser returns -/
theorem decode_written_al (isAlpha : Char → Bool) {m : Model} {g : Graph} {t : Str} {T : Tree} {st : St}
    {l : List Triple} (hw : ModelWf m) (hnoop : m.noop = false) (hg : WfGraphAl m g) (hal : AlignOK isAlpha m g)
    (hnumok : ∀ x ∈ g.triples, ∀ s, x.tgt = .num s → '~' ∉ s) (E : EncodedAl m g t T st l) :
    ∃ g' ds, interpret isAlpha m ⟨writtenForm T.node, T.metadata⟩ = .ok g' ∧
      Spec.Reading.read isAlpha m (writtenForm T.node) = .ok ⟨T.node.var, ds⟩ ∧
      g'.getTop = some t ∧ (∀ x, x ∈ g'.variables ↔ x ∈ g.variables) ∧
      (g'.triples.map (deinvert1 m g)).Perm ((g.triples.map writtenTriple).map (deinvert1 m g)) ∧
      (∀ x ∈ g'.triples, ∃ t0 ∈ g.triples, x = writtenTriple t0 ∨ x = m.invert (writtenTriple t0)) ∧
      g'.metadata = AList.ofList g.metadata ∧
      (∀ d ∈ ds, ∃ t1 ∈ g.triples, d.triple = deinvert1 m g (writtenTriple t1) ∧ colon d.triple = d.triple ∧
        d.roleAln.map (fun a => Epi.roleAln a.1 a.2) = roleAlnOf g t1 ∧
        d.tgtAln.map (fun a => Epi.aln a.1 a.2) = tgtAlnOf g t1) :=
  decode_core (T' := ⟨writtenForm T.node, T.metadata⟩) isAlpha hw hnoop hg hal hnumok E
    (written_writtenForm T.node) (writtenForm_vars T.node) (writtenForm_var T.node) rfl

end Al

/-- **C03 read back through the text.** For an encoded graph (numbers allowed) the written form of
    the configured tree — the tree the parser returns — is interpreted to a graph with the same top,
    the same variables and the same triples, constants compared by their written form, up to order
    and one de-inversion. -/
theorem decode_written (isAlpha : Char → Bool) {m : Model} {g : Graph} {t : Str} {T : Tree} {st : St}
    {l : List Triple} (hw : ModelWf m) (hnoop : m.noop = false) (hg : WfGraph m g)
    (hnumok : ∀ x ∈ g.triples, ∀ s, x.tgt = .num s → '~' ∉ s) (E : Encoded m g t T st l) :
    ∃ g', interpret isAlpha m ⟨writtenForm T.node, T.metadata⟩ = .ok g' ∧
      g'.getTop = some t ∧ (∀ x, x ∈ g'.variables ↔ x ∈ g.variables) ∧
      (g'.triples.map (deinvert1 m g)).Perm ((g.triples.map writtenTriple).map (deinvert1 m g)) ∧
      (∀ x ∈ g'.triples, ∃ t0 ∈ g.triples, x = writtenTriple t0 ∨ x = m.invert (writtenTriple t0)) ∧
      g'.metadata = AList.ofList g.metadata := by
  obtain ⟨g', _, h1, _, h2, h3, h4, h5, h6, _⟩ := Al.decode_written_al isAlpha hw hnoop ((wfGraph_iff m g).1 hg).1
    (Al.alignOK_of_noAlign isAlpha m hg.noAlign) hnumok
    (E.toAl fun x hx => roleOK2_of_colon m x (hg.roles x hx).1)
  exact ⟨g', h1, h2, h3, h4, h5, h6⟩

end Cfg
end Penman
