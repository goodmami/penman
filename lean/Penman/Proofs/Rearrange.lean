/-
  Penman.Proofs.Rearrange — `rearrangeNode` / `rearrangeKids` / `rearrange` (namespace `RA`): the
  branch multiset is preserved (`NodePerm`) and with it the variables of the tree, the result is sorted
  at every node (`NodeSorted`), sorted trees are exactly the fixed points, hence idempotence; only
  membership in `vars` matters.
-/
import Penman.Proofs.RearrangeOrder
namespace Penman.RA

theorem Branches.toList_ofList : ∀ l : List Branch, (Branches.ofList l).toList = l
  | [] => rfl
  | (_, .atom _) :: rest => congrArg (_ :: ·) (Branches.toList_ofList rest)
  | (_, .node _) :: rest => congrArg (_ :: ·) (Branches.toList_ofList rest)

theorem Branches.ofList_toList : ∀ bs : Branches, Branches.ofList bs.toList = bs
  | .nil => rfl
  | .atom r a rest => congrArg (Branches.atom r a) (Branches.ofList_toList rest)
  | .sub r n rest => congrArg (Branches.sub r n) (Branches.ofList_toList rest)

theorem Branches.toList_append : ∀ a b : Branches, (a.append b).toList = a.toList ++ b.toList
  | .nil, _ => rfl
  | .atom _ _ rest, b => congrArg (_ :: ·) (Branches.toList_append rest b)
  | .sub _ _ rest, b => congrArg (_ :: ·) (Branches.toList_append rest b)

theorem Branches.leading_append_sortedPart (bs : Branches) : bs.leading.append bs.sortedPart = bs := by
  cases bs with
  | nil => rfl
  | atom r a rest => by_cases h : r = ['/'] <;> simp [Branches.leading, Branches.sortedPart, h, Branches.append]
  | sub r n rest => by_cases h : r = ['/'] <;> simp [Branches.leading, Branches.sortedPart, h, Branches.append]

theorem Branches.sortedPart_sublist (bs : Branches) : bs.sortedPart.toList.Sublist bs.toList := by
  cases bs with
  | nil => exact List.Sublist.refl _
  | atom r a rest =>
    by_cases h : r = ['/'] <;> simp [Branches.sortedPart, h, Branches.toList]
  | sub r n rest =>
    by_cases h : r = ['/'] <;> simp [Branches.sortedPart, h, Branches.toList]

theorem Branches.leading_append_sortedPart_sublist (bs x : Branches) :
    (bs.leading.append x).sortedPart.toList.Sublist x.toList := by
  cases bs with
  | nil => exact Branches.sortedPart_sublist x
  | atom r a rest =>
    by_cases h : r = ['/']
    · simp [Branches.leading, h, Branches.append, Branches.sortedPart]
    · simpa [Branches.leading, h, Branches.append] using Branches.sortedPart_sublist x
  | sub r n rest =>
    by_cases h : r = ['/']
    · simp [Branches.leading, h, Branches.append, Branches.sortedPart]
    · simpa [Branches.leading, h, Branches.append] using Branches.sortedPart_sublist x

theorem rearrangeKids_eq_map (m : Model) (vars : List Str) (key : Option (List KeyFn)) :
    ∀ bs : Branches, rearrangeKids m vars key bs = bs.toList.map (rearrangeBranch m vars key)
  | .nil => rfl
  | .atom _ _ rest => congrArg (_ :: ·) (rearrangeKids_eq_map m vars key rest)
  | .sub _ _ rest => congrArg (_ :: ·) (rearrangeKids_eq_map m vars key rest)

/-- `_rearrange` in one equation: the leading `/` branch is kept as it is
    (its target is not touched even if it is a node), the other branches are
    rearranged recursively and then sorted. -/
theorem rearrangeNode_eq (m : Model) (vars : List Str) (key : Option (List KeyFn)) (v : Option Str) (bs : Branches) :
    rearrangeNode m vars key (.mk v bs) =
      .mk v (bs.leading.append
        (Branches.ofList (sortBranches m vars key (rearrangeKids m vars key bs.sortedPart)))) := by
  cases bs with
  | nil => simp [rearrangeNode, Branches.leading, Branches.sortedPart, rearrangeKids, sortBranches,
      Branches.ofList, Branches.append]
  | atom r a rest =>
    by_cases h : r = ['/'] <;>
      simp [rearrangeNode, Branches.leading, Branches.sortedPart, h, Branches.append, rearrangeKids]
  | sub r n rest =>
    by_cases h : r = ['/'] <;>
      simp [rearrangeNode, Branches.leading, Branches.sortedPart, h, Branches.append, rearrangeKids]

theorem rearrangeNode_var (m : Model) (vars : List Str) (key : Option (List KeyFn)) (n : Node) :
    (rearrangeNode m vars key n).var = n.var := by
  cases n with
  | mk v bs => rw [rearrangeNode_eq]; rfl

mutual
theorem _root_.Penman.NodePerm.refl : ∀ n : Node, NodePerm n n
  | .mk _ bs => .mk (BranchesRel.refl bs) (List.Perm.refl _)
theorem _root_.Penman.BranchesRel.refl : ∀ bs : Branches, BranchesRel bs bs
  | .nil => .nil
  | .atom _ _ rest => .atom (BranchesRel.refl rest)
  | .sub _ n rest => .sub (NodePerm.refl n) (BranchesRel.refl rest)
end

theorem _root_.Penman.NodePerm.var_eq {n n' : Node} (h : NodePerm n n') : n'.var = n.var := by
  cases h; rfl

theorem _root_.Penman.BranchesRel.append : ∀ {a a' b b' : Branches}, BranchesRel a a' → BranchesRel b b' →
    BranchesRel (a.append b) (a'.append b')
  | .nil, _, _, _, h1, h2 => by cases h1; exact h2
  | .atom r x rest, _, _, _, h1, h2 => by
    cases h1 with | atom h => exact .atom (BranchesRel.append h h2)
  | .sub r n rest, _, _, _, h1, h2 => by
    cases h1 with | sub hn h => exact .sub hn (BranchesRel.append h h2)

theorem rearrangeKids_rel_sortedPart {m : Model} {vars : List Str} {key : Option (List KeyFn)} {bs : Branches}
    (h : BranchesRel bs (Branches.ofList (rearrangeKids m vars key bs))) :
    BranchesRel bs.sortedPart (Branches.ofList (rearrangeKids m vars key bs.sortedPart)) := by
  cases bs with
  | nil => exact h
  | atom r a rest =>
    by_cases hr : r = ['/']
    · simp only [Branches.sortedPart, hr, if_true]
      simp only [rearrangeKids, Branches.ofList] at h
      cases h with | atom h => exact h
    · simpa only [Branches.sortedPart, hr, if_false] using h
  | sub r n rest =>
    by_cases hr : r = ['/']
    · simp only [Branches.sortedPart, hr, if_true]
      simp only [rearrangeKids, Branches.ofList] at h
      cases h with | sub _ h => exact h
    · simpa only [Branches.sortedPart, hr, if_false] using h

mutual
theorem rearrangeNode_perm (m : Model) (vars : List Str) (key : Option (List KeyFn)) :
    ∀ n : Node, NodePerm n (rearrangeNode m vars key n)
  | .mk v bs => by
    rw [rearrangeNode_eq]
    have hk := rearrangeKids_rel_sortedPart (rearrangeKids_rel m vars key bs)
    have h1 : BranchesRel bs (bs.leading.append (Branches.ofList (rearrangeKids m vars key bs.sortedPart))) := by
      have := BranchesRel.append (BranchesRel.refl bs.leading) hk
      rwa [Branches.leading_append_sortedPart] at this
    refine .mk h1 ?_
    simp only [Branches.toList_append, Branches.toList_ofList]
    exact ((sortBranches_perm m vars key _).symm).append_left _
theorem rearrangeKids_rel (m : Model) (vars : List Str) (key : Option (List KeyFn)) :
    ∀ bs : Branches, BranchesRel bs (Branches.ofList (rearrangeKids m vars key bs))
  | .nil => .nil
  | .atom r a rest => by
    simp only [rearrangeKids, Branches.ofList]
    exact .atom (rearrangeKids_rel m vars key rest)
  | .sub r n rest => by
    simp only [rearrangeKids, Branches.ofList]
    exact .sub (rearrangeNode_perm m vars key n) (rearrangeKids_rel m vars key rest)
end

def tgtVars : Tgt → List Str
  | .atom _ => []
  | .node n => n.vars

theorem Branches.nodes_map_fst : ∀ bs : Branches,
    bs.nodes.map (·.1) = bs.toList.flatMap (fun b => tgtVars b.2)
  | .nil => rfl
  | .atom r a rest => by
    simp [Branches.nodes, Branches.toList, tgtVars, Branches.nodes_map_fst rest]
  | .sub r n rest => by
    simp [Branches.nodes, Branches.toList, tgtVars, Node.vars, Branches.nodes_map_fst rest]

theorem Node.vars_mk (v : Option Str) (bs : Branches) :
    (Node.mk v bs).vars = v.toList ++ bs.nodes.map (·.1) := by
  cases v <;> simp [Node.vars, Node.nodes]

mutual
theorem _root_.Penman.NodePerm.vars_perm : ∀ (n : Node) {n' : Node}, NodePerm n n' → n'.vars.Perm n.vars
  | .mk v bs, _, h => by
    cases h with
    | @mk _ _ mid bs' hrel hperm =>
      rw [Node.vars_mk, Node.vars_mk]
      refine List.Perm.append_left _ ?_
      refine List.Perm.trans ?_ (BranchesRel.vars_perm bs hrel)
      rw [Branches.nodes_map_fst, Branches.nodes_map_fst]
      exact hperm.symm.flatMap_right _
theorem _root_.Penman.BranchesRel.vars_perm : ∀ (bs : Branches) {mid : Branches}, BranchesRel bs mid →
    (mid.nodes.map (·.1)).Perm (bs.nodes.map (·.1))
  | .nil, _, h => by cases h; exact List.Perm.refl _
  | .atom r a rest, _, h => by
    cases h with
    | atom h => simpa [Branches.nodes] using BranchesRel.vars_perm rest h
  | .sub r n rest, _, h => by
    cases h with
    | sub hn h =>
      simp only [Branches.nodes, List.map_append]
      exact (NodePerm.vars_perm n hn).append (BranchesRel.vars_perm rest h)
end

theorem rearrangeNode_vars_perm (m : Model) (vars : List Str) (key : Option (List KeyFn)) (n : Node) :
    (rearrangeNode m vars key n).vars.Perm n.vars :=
  NodePerm.vars_perm n (rearrangeNode_perm m vars key n)

theorem kidsSorted_iff (le : Branch → Branch → Bool) : ∀ bs : Branches,
    KidsSorted le bs ↔ ∀ r n, (r, Tgt.node n) ∈ bs.toList → NodeSorted le n
  | .nil => ⟨fun _ _ _ hm => absurd hm List.not_mem_nil, fun _ => KidsSorted.nil⟩
  | .atom _ _ rest =>
    ⟨fun h r n hm => by
      cases h with
      | atom h => exact (kidsSorted_iff le rest).mp h r n ((List.mem_cons.1 hm).resolve_left nofun),
     fun h => .atom ((kidsSorted_iff le rest).mpr fun r n hm => h r n (List.mem_cons_of_mem _ hm))⟩
  | .sub r' n' rest =>
    ⟨fun h r n hm => by
      cases h with
      | sub hn h =>
        rcases List.mem_cons.1 hm with e | hm
        · exact Tgt.node.inj (Prod.mk.inj e).2 ▸ hn
        · exact (kidsSorted_iff le rest).mp h r n hm,
     fun h => .sub (h r' n' List.mem_cons_self)
      ((kidsSorted_iff le rest).mpr fun r n hm => h r n (List.mem_cons_of_mem _ hm))⟩

theorem kidsSorted_of_subset {le : Branch → Branch → Bool} {bs bs' : Branches}
    (hs : ∀ b, b ∈ bs'.toList → b ∈ bs.toList) (h : KidsSorted le bs) : KidsSorted le bs' :=
  (kidsSorted_iff le bs').mpr fun r n hm => (kidsSorted_iff le bs).mp h r n (hs _ hm)

mutual
theorem rearrangeNode_sorted (m : Model) (vars : List Str) (key : Option (List KeyFn)) :
    ∀ n : Node, NodeSorted (branchLe m vars key) (rearrangeNode m vars key n)
  | .mk v bs => by
    rw [rearrangeNode_eq]
    have hk := rearrangeKids_sorted m vars key bs
    have hsub := Branches.leading_append_sortedPart_sublist bs
      (Branches.ofList (sortBranches m vars key (rearrangeKids m vars key bs.sortedPart)))
    rw [Branches.toList_ofList] at hsub
    refine .mk ?_ ?_
    · exact List.Pairwise.sublist hsub (sortBranches_pairwise m vars key _)
    · rw [kidsSorted_iff]
      intro r n hm
      have h1 := (sortBranches_perm m vars key _).subset (hsub.subset hm)
      rw [rearrangeKids_eq_map] at h1 hk
      exact hk r n (List.map_subset _ (Branches.sortedPart_sublist bs).subset h1)
theorem rearrangeKids_sorted (m : Model) (vars : List Str) (key : Option (List KeyFn)) :
    ∀ bs : Branches, ∀ r n, (r, Tgt.node n) ∈ rearrangeKids m vars key bs → NodeSorted (branchLe m vars key) n
  | .nil => by simp [rearrangeKids]
  | .atom r a rest => by
    simpa [rearrangeKids] using rearrangeKids_sorted m vars key rest
  | .sub r n rest => by
    intro r' n' hm
    simp only [rearrangeKids, List.mem_cons, Prod.mk.injEq, Tgt.node.injEq] at hm
    rcases hm with ⟨_, rfl⟩ | hm
    · exact rearrangeNode_sorted m vars key n
    · exact rearrangeKids_sorted m vars key rest r' n' hm
end

/-- the kids stay as they are once every nested node does -/
theorem rearrangeKids_fixed {m : Model} {vars : List Str} {key : Option (List KeyFn)} {bs : Branches}
    (h : ∀ r n, (r, Tgt.node n) ∈ bs.toList → rearrangeNode m vars key n = n) :
    rearrangeKids m vars key bs = bs.toList := by
  rw [rearrangeKids_eq_map]
  refine (List.map_congr_left fun b hb => ?_).trans (List.map_id _)
  obtain ⟨r, t⟩ := b
  cases t with
  | atom a => rfl
  | node n => exact congrArg (fun x => (r, Tgt.node x)) (h r n hb)

mutual
theorem rearrangeNode_of_sorted (m : Model) (vars : List Str) (key : Option (List KeyFn)) :
    ∀ n : Node, NodeSorted (branchLe m vars key) n → rearrangeNode m vars key n = n
  | .mk v bs, h => by
    cases h with
    | mk hp hk =>
      rw [rearrangeNode_eq, rearrangeKids_fixed fun r n hb =>
          rearrangeNode_of_mem_sorted m vars key bs r n ((Branches.sortedPart_sublist bs).subset hb)
            ((kidsSorted_iff _ _).mp hk r n hb),
        sortBranches_of_pairwise m vars key hp, Branches.ofList_toList,
        Branches.leading_append_sortedPart]
theorem rearrangeNode_of_mem_sorted (m : Model) (vars : List Str) (key : Option (List KeyFn)) :
    ∀ (bs : Branches) (r : Str) (n : Node), (r, Tgt.node n) ∈ bs.toList →
      NodeSorted (branchLe m vars key) n → rearrangeNode m vars key n = n
  | .nil, _, _, hm, _ => nomatch hm
  | .atom _ _ rest, r, n, hm, hs =>
    rearrangeNode_of_mem_sorted m vars key rest r n ((List.mem_cons.1 hm).resolve_left nofun) hs
  | .sub _ n' rest, r, n, hm, hs => by
    rcases List.mem_cons.1 hm with e | hm
    · have e : n = n' := Tgt.node.inj (Prod.mk.inj e).2
      rw [e] at hs ⊢
      exact rearrangeNode_of_sorted m vars key n' hs
    · exact rearrangeNode_of_mem_sorted m vars key rest r n hm hs
end

theorem rearrangeKids_of_sorted (m : Model) (vars : List Str) (key : Option (List KeyFn)) :
    ∀ bs : Branches, KidsSorted (branchLe m vars key) bs → rearrangeKids m vars key bs = bs.toList :=
  fun bs h => rearrangeKids_fixed fun r n hb =>
    rearrangeNode_of_sorted m vars key n ((kidsSorted_iff _ bs).mp h r n hb)

/-- same for the sorted part (a structural sub-branch-list) -/
theorem rearrangeKids_of_sorted_part (m : Model) (vars : List Str) (key : Option (List KeyFn)) :
    ∀ bs : Branches, KidsSorted (branchLe m vars key) bs.sortedPart →
      rearrangeKids m vars key bs.sortedPart = bs.sortedPart.toList :=
  fun bs => rearrangeKids_of_sorted m vars key bs.sortedPart

theorem rearrangeNode_eq_self_iff (m : Model) (vars : List Str) (key : Option (List KeyFn)) (n : Node) :
    rearrangeNode m vars key n = n ↔ NodeSorted (branchLe m vars key) n :=
  ⟨fun h => h ▸ rearrangeNode_sorted m vars key n, rearrangeNode_of_sorted m vars key n⟩

theorem rearrangeNode_idem (m : Model) (vars : List Str) (key : Option (List KeyFn)) (n : Node) :
    rearrangeNode m vars key (rearrangeNode m vars key n) = rearrangeNode m vars key n :=
  rearrangeNode_of_sorted m vars key _ (rearrangeNode_sorted m vars key n)

theorem branchTargetInVars_congr {vs vs' : List Str} (h : ∀ x, x ∈ vs ↔ x ∈ vs') (t : Tgt) :
    branchTargetInVars vs t = branchTargetInVars vs' t := by
  cases t with
  | atom a => cases a <;> simp [branchTargetInVars, h]
  | node n => simp only [branchTargetInVars]; split <;> simp [h]

theorem sortBranches_congr (m : Model) {vs vs' : List Str} (h : ∀ x, x ∈ vs ↔ x ∈ vs')
    (key : Option (List KeyFn)) : sortBranches m vs key = sortBranches m vs' key := by
  funext bs
  simp only [sortBranches, branchKey, branchTargetInVars_congr h]

mutual
theorem rearrangeNode_congr (m : Model) {vs vs' : List Str} (h : ∀ x, x ∈ vs ↔ x ∈ vs')
    (key : Option (List KeyFn)) : ∀ n : Node, rearrangeNode m vs key n = rearrangeNode m vs' key n
  | .mk v bs => by
    have hk := rearrangeKids_congr m h key bs
    cases bs with
    | nil => simp [rearrangeNode]
    | atom r a rest =>
      simp only [rearrangeKids, List.cons.injEq, true_and] at hk
      simp only [rearrangeNode, sortBranches_congr m h key, hk]
    | sub r n rest =>
      simp only [rearrangeKids, List.cons.injEq, Prod.mk.injEq, true_and, Tgt.node.injEq] at hk
      simp only [rearrangeNode, sortBranches_congr m h key, hk.1, hk.2]
theorem rearrangeKids_congr (m : Model) {vs vs' : List Str} (h : ∀ x, x ∈ vs ↔ x ∈ vs')
    (key : Option (List KeyFn)) : ∀ bs : Branches, rearrangeKids m vs key bs = rearrangeKids m vs' key bs
  | .nil => rfl
  | .atom r a rest => by simp only [rearrangeKids, rearrangeKids_congr m h key rest]
  | .sub r n rest => by
    simp only [rearrangeKids, rearrangeKids_congr m h key rest, rearrangeNode_congr m h key n]
end

theorem rearrange_idem_lemma (m : Model) (key : Option (List KeyFn)) (af : Bool) (t : Tree) :
    rearrange m key af (rearrange m key af t) = rearrange m key af t := by
  cases af with
  | false => simp only [rearrange, Bool.false_eq_true, if_false, rearrangeNode_idem]
  | true =>
    simp only [rearrange, if_true]
    rw [rearrangeNode_congr m (vs := (rearrangeNode m t.node.vars key t.node).vars) (vs' := t.node.vars)
      (fun x => (rearrangeNode_vars_perm m t.node.vars key t.node).mem_iff) key, rearrangeNode_idem]

end Penman.RA
