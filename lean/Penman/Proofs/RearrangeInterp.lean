/-
  Penman.Proofs.RearrangeInterp — `interpret` is insensitive to branch order (namespace `RA`):
  for `NodePerm`-related trees the triples are a permutation, the concept flag is the same and the
  epidata agree up to order and the position of `POP` (`OutRel`). `interpretBranches` is read as a
  fold of single-branch results (`branchOut`, `InterpOut.combine`), so that a permutation of the
  branches permutes the results. With distinct triples the statement reaches the graph's epidata.
-/
import Penman.Proofs.Rearrange
import Penman.Proofs.InterpretCases
import Penman.Proofs.AssocList
namespace Penman.RA

theorem atomInVars_congr {vs vs' : List Str} (h : ∀ x, x ∈ vs ↔ x ∈ vs') (a : Atom) :
    atomInVars vs a = atomInVars vs' a := by
  cases a <;> simp [atomInVars, h]

mutual
theorem interpretNode_congr (isAlpha : Char → Bool) (m : Model) {vs vs' : List Str}
    (h : ∀ x, x ∈ vs ↔ x ∈ vs') : ∀ n : Node, interpretNode isAlpha m vs n = interpretNode isAlpha m vs' n
  | .mk v bs => by
    cases v with
    | none => simp [interpretNode]
    | some var => simp only [interpretNode, interpretBranches_congr isAlpha m h var bs]
theorem interpretBranches_congr (isAlpha : Char → Bool) (m : Model) {vs vs' : List Str}
    (h : ∀ x, x ∈ vs ↔ x ∈ vs') (var : Str) :
    ∀ bs : Branches, interpretBranches isAlpha m vs var bs = interpretBranches isAlpha m vs' var bs
  | .nil => by simp [interpretBranches]
  | .atom r a rest => by
    simp only [interpretBranches, atomInVars_congr h, interpretBranches_congr isAlpha m h var rest]
  | .sub r n rest => by
    simp only [interpretBranches, interpretNode_congr isAlpha m h n,
      interpretBranches_congr isAlpha m h var rest]
end

/-- what one branch contributes -/
def branchOut (isAlpha : Char → Bool) (m : Model) (vs : List Str) (var : Str) : Branch → Except PyErr InterpOut
  | (role, .atom a) => do
    let (role, repis) ← processRole isAlpha role
    let (tgt, tepis) ← processAtomic isAlpha a
    let triple : Triple := ⟨var, role, tgt⟩
    let triple := if m.isRoleInverted role && atomInVars vs tgt then m.deinvert triple else triple
    pure ⟨role = CONCEPT_ROLE, [triple], [(triple, repis ++ tepis)]⟩
  | (role, .node n) => do
    let (role, repis) ← processRole isAlpha role
    match n.var with
    | none => throw (.unmodelled "node without a variable")
    | some nv =>
      let triple := m.deinvert ⟨var, role, .str nv⟩
      let (ntriples, nepis) ← interpretNode isAlpha m vs n
      pure ⟨role = CONCEPT_ROLE, triple :: ntriples, (triple, repis ++ [.push nv]) :: appendPopLast nepis⟩

def _root_.Penman.InterpOut.combine (o out : InterpOut) : InterpOut :=
  ⟨out.hasConcept || o.hasConcept, o.triples ++ out.triples, o.epidata ++ out.epidata⟩

theorem Except.bind_eq_ok_iff {ε α β : Type} {x : Except ε α} {f : α → Except ε β} {b : β} :
    (x >>= f) = .ok b ↔ ∃ a, x = .ok a ∧ f a = .ok b := by
  cases x <;> simp [bind, Except.bind]

theorem interpretBranches_atom (isAlpha : Char → Bool) (m : Model) (vs : List Str) (var r : Str) (a : Atom)
    (rest : Branches) :
    interpretBranches isAlpha m vs var (.atom r a rest) =
      (branchOut isAlpha m vs var (r, .atom a) >>= fun o =>
        interpretBranches isAlpha m vs var rest >>= fun out => pure (o.combine out)) := by
  simp only [interpretBranches, branchOut, bind_assoc, pure_bind]
  rfl

theorem interpretBranches_sub (isAlpha : Char → Bool) (m : Model) (vs : List Str) (var r : Str) (n : Node)
    (rest : Branches) :
    interpretBranches isAlpha m vs var (.sub r n rest) =
      (branchOut isAlpha m vs var (r, .node n) >>= fun o =>
        interpretBranches isAlpha m vs var rest >>= fun out => pure (o.combine out)) := by
  simp only [interpretBranches, branchOut, bind_assoc]
  cases n.var <;> simp only [bind_assoc, pure_bind] <;> rfl

/-- `interpretBranches` on a branch list given as a `List` -/
def interpList (isAlpha : Char → Bool) (m : Model) (vs : List Str) (var : Str) (l : List Branch) :
    Except PyErr InterpOut :=
  interpretBranches isAlpha m vs var (Branches.ofList l)

theorem interpList_cons (isAlpha : Char → Bool) (m : Model) (vs : List Str) (var : Str) (b : Branch)
    (l : List Branch) :
    interpList isAlpha m vs var (b :: l) =
      (branchOut isAlpha m vs var b >>= fun o =>
        interpList isAlpha m vs var l >>= fun out => pure (o.combine out)) := by
  obtain ⟨r, t⟩ := b
  cases t with
  | atom a => simp only [interpList, Branches.ofList, interpretBranches_atom]
  | node n => simp only [interpList, Branches.ofList, interpretBranches_sub]

theorem interpList_cons_ok {isAlpha : Char → Bool} {m : Model} {vs : List Str} {var : Str} {b : Branch}
    {l : List Branch} {o : InterpOut} :
    interpList isAlpha m vs var (b :: l) = .ok o ↔
      ∃ ob out, branchOut isAlpha m vs var b = .ok ob ∧ interpList isAlpha m vs var l = .ok out ∧
        o = ob.combine out := by
  rw [interpList_cons, Except.bind_eq_ok_iff]
  constructor
  · rintro ⟨ob, h1, h2⟩
    rw [Except.bind_eq_ok_iff] at h2
    obtain ⟨out, h2, h3⟩ := h2
    exact ⟨ob, out, h1, h2, by cases h3; rfl⟩
  · rintro ⟨ob, out, h1, h2, rfl⟩
    exact ⟨ob, h1, by rw [Except.bind_eq_ok_iff]; exact ⟨out, h2, rfl⟩⟩

theorem popless_append (a b : List (Triple × List Epi)) : popless (a ++ b) = popless a ++ popless b := by
  simp [popless]

theorem popless_appendPopLast : ∀ es : List (Triple × List Epi), popless (appendPopLast es) = popless es
  | [] => rfl
  | [(t, e)] => by simp [appendPopLast, popless, Epi.isPop]
  | _ :: y :: r => congrArg (_ :: ·) (popless_appendPopLast (y :: r))

/-- same concept flag, triples permuted, epidata permuted once the `POP`s are taken out -/
structure OutRel (o o' : InterpOut) : Prop where
  hc : o'.hasConcept = o.hasConcept
  tr : o'.triples.Perm o.triples
  ep : (popless o'.epidata).Perm (popless o.epidata)

theorem OutRel.refl (o : InterpOut) : OutRel o o := ⟨rfl, .refl _, .refl _⟩

theorem OutRel.trans {a b c : InterpOut} (h1 : OutRel a b) (h2 : OutRel b c) : OutRel a c :=
  ⟨h2.hc.trans h1.hc, h2.tr.trans h1.tr, h2.ep.trans h1.ep⟩

theorem OutRel.combine {a a' b b' : InterpOut} (h1 : OutRel a a') (h2 : OutRel b b') :
    OutRel (a.combine b) (a'.combine b') := by
  refine ⟨?_, ?_, ?_⟩
  · simp [InterpOut.combine, h1.hc, h2.hc]
  · exact h1.tr.append h2.tr
  · simp only [InterpOut.combine, popless_append]; exact h1.ep.append h2.ep

theorem OutRel.combine_swap (a b c : InterpOut) :
    OutRel (a.combine (b.combine c)) (b.combine (a.combine c)) := by
  refine ⟨?_, ?_, ?_⟩
  · simp only [InterpOut.combine]
    cases a.hasConcept <;> cases b.hasConcept <;> cases c.hasConcept <;> rfl
  · exact List.perm_append_comm_assoc _ _ _
  · simp only [InterpOut.combine, popless_append]; exact List.perm_append_comm_assoc _ _ _

/-- if the first run succeeds so does the second, with a related output -/
def OutSim (x x' : Except PyErr InterpOut) : Prop := ∀ o, x = .ok o → ∃ o', x' = .ok o' ∧ OutRel o o'

theorem OutSim.refl (x : Except PyErr InterpOut) : OutSim x x := fun o ho => ⟨o, ho, .refl o⟩

/-- one more branch in front on both sides -/
theorem OutSim.combine {x x' y y' : Except PyErr InterpOut} (hx : OutSim x x') (hy : OutSim y y') :
    OutSim (x >>= fun a => y >>= fun b => pure (a.combine b))
      (x' >>= fun a => y' >>= fun b => pure (a.combine b)) := by
  intro o ho
  obtain ⟨a, ha, ho⟩ := Except.bind_eq_ok_iff.1 ho
  obtain ⟨b, hb, ho⟩ := Except.bind_eq_ok_iff.1 ho
  cases ho
  obtain ⟨a', ha', ra⟩ := hx a ha
  obtain ⟨b', hb', rb⟩ := hy b hb
  exact ⟨a'.combine b', by rw [ha', hb']; rfl, ra.combine rb⟩

theorem interpList_perm {isAlpha : Char → Bool} {m : Model} {vs : List Str} {var : Str}
    {l1 l2 : List Branch} (h : l1.Perm l2) :
    ∀ o, interpList isAlpha m vs var l1 = .ok o →
      ∃ o', interpList isAlpha m vs var l2 = .ok o' ∧ OutRel o o' := by
  induction h with
  | nil => exact OutSim.refl _
  | cons x _ ih =>
    rw [interpList_cons, interpList_cons]
    exact OutSim.combine (.refl _) ih
  | swap x y l =>
    intro o ho
    obtain ⟨oy, out1, h1, h2, rfl⟩ := interpList_cons_ok.mp ho
    obtain ⟨ox, out, h3, h4, rfl⟩ := interpList_cons_ok.mp h2
    refine ⟨ox.combine (oy.combine out), ?_, OutRel.combine_swap oy ox out⟩
    exact interpList_cons_ok.mpr ⟨ox, _, h3, interpList_cons_ok.mpr ⟨oy, out, h1, h4, rfl⟩, rfl⟩
  | trans _ _ ih1 ih2 =>
    intro o ho
    obtain ⟨o1, h1, r1⟩ := ih1 o ho
    obtain ⟨o2, h2, r2⟩ := ih2 o1 h1
    exact ⟨o2, h2, r1.trans r2⟩

/-- the statement transported along `NodePerm` -/
def NodeInterpRel (isAlpha : Char → Bool) (m : Model) (vs : List Str) (n n' : Node) : Prop :=
  ∀ ts es, interpretNode isAlpha m vs n = .ok (ts, es) →
    ∃ ts' es', interpretNode isAlpha m vs n' = .ok (ts', es') ∧ ts'.Perm ts ∧ (popless es').Perm (popless es)

theorem branchOut_node_rel {isAlpha : Char → Bool} {m : Model} {vs : List Str} (var r : Str) {n n' : Node}
    (hv : n'.var = n.var) (hA : NodeInterpRel isAlpha m vs n n') :
    ∀ o, branchOut isAlpha m vs var (r, .node n) = .ok o →
      ∃ o', branchOut isAlpha m vs var (r, .node n') = .ok o' ∧ OutRel o o' := by
  intro o ho
  obtain ⟨⟨role, repis⟩, hp, ho⟩ := Except.bind_eq_ok_iff.1 ho
  cases hnv : n.var with
  | none => simp only [hnv] at ho; cases ho
  | some nv =>
    simp only [hnv] at ho
    obtain ⟨⟨nt, ne⟩, hn, ho⟩ := Except.bind_eq_ok_iff.1 ho
    cases ho
    obtain ⟨nt', ne', hn', hperm, heperm⟩ := hA nt ne hn
    refine ⟨⟨role = CONCEPT_ROLE, m.deinvert ⟨var, role, .str nv⟩ :: nt',
      (m.deinvert ⟨var, role, .str nv⟩, repis ++ [.push nv]) :: appendPopLast ne'⟩, ?_, ⟨rfl, hperm.cons _, ?_⟩⟩
    · simp only [branchOut, hp, hv, hnv, hn']
      rfl
    · show (_ :: popless (appendPopLast ne')).Perm (_ :: popless (appendPopLast ne))
      rw [popless_appendPopLast, popless_appendPopLast]
      exact heperm.cons _

mutual
theorem _root_.Penman.NodePerm.interp (isAlpha : Char → Bool) (m : Model) (vs : List Str) :
    ∀ (n : Node) {n' : Node}, NodePerm n n' → NodeInterpRel isAlpha m vs n n'
  | .mk v bs, _, h => by
    cases h with
    | @mk _ _ mid bs' hrel hperm =>
      intro ts es ho
      obtain ⟨var, out, rfl, h1, h2⟩ := Interp.interpretNode_ok ho
      obtain ⟨out1, h3, r1⟩ := BranchesRel.interp isAlpha m vs var bs hrel out h1
      rw [← Branches.ofList_toList mid] at h3
      obtain ⟨out2, h4, r2⟩ := interpList_perm hperm out1 h3
      rw [interpList, Branches.ofList_toList] at h4
      have r := r1.trans r2
      simp only [interpretNode, h4, bind, Except.bind, r.hc]
      rcases h2 with ⟨hc, rfl, rfl⟩ | ⟨hc, rfl, rfl⟩
      · rw [hc]
        exact ⟨_, _, rfl, r.tr, r.ep⟩
      · rw [hc]
        exact ⟨_, _, rfl, r.tr.cons _, List.Perm.cons _ r.ep⟩
theorem _root_.Penman.BranchesRel.interp (isAlpha : Char → Bool) (m : Model) (vs : List Str) (var : Str) :
    ∀ (bs : Branches) {mid : Branches}, BranchesRel bs mid →
      ∀ o, interpretBranches isAlpha m vs var bs = .ok o →
        ∃ o', interpretBranches isAlpha m vs var mid = .ok o' ∧ OutRel o o'
  | .nil, _, h => by cases h; exact OutSim.refl _
  | .atom r a rest, _, h => by
    cases h with
    | @atom _ _ _ rest' h =>
      rw [interpretBranches_atom, interpretBranches_atom]
      exact OutSim.combine (.refl _) (BranchesRel.interp isAlpha m vs var rest h)
  | .sub r n rest, _, h => by
    cases h with
    | @sub _ _ n' _ rest' hn h =>
      rw [interpretBranches_sub, interpretBranches_sub]
      exact OutSim.combine (branchOut_node_rel var r hn.var_eq (NodePerm.interp isAlpha m vs n hn))
        (BranchesRel.interp isAlpha m vs var rest h)
end

theorem appendPopLast_keys : ∀ es : List (Triple × List Epi), (appendPopLast es).map (·.1) = es.map (·.1)
  | [] => rfl
  | [_] => rfl
  | _ :: y :: r => congrArg (_ :: ·) (appendPopLast_keys (y :: r))

theorem _root_.Penman.InterpOut.combine_keys {a b : InterpOut} (h1 : a.epidata.map (·.1) = a.triples)
    (h2 : b.epidata.map (·.1) = b.triples) : (a.combine b).epidata.map (·.1) = (a.combine b).triples := by
  simp [InterpOut.combine, h1, h2]

theorem branchOut_atom_keys {isAlpha : Char → Bool} {m : Model} {vs : List Str} {var r : Str} {a : Atom}
    {ob : InterpOut} (h : branchOut isAlpha m vs var (r, .atom a) = .ok ob) :
    ob.epidata.map (·.1) = ob.triples := by
  obtain ⟨⟨role, repis⟩, _, h⟩ := Except.bind_eq_ok_iff.1 h
  obtain ⟨⟨tgt, tepis⟩, _, h⟩ := Except.bind_eq_ok_iff.1 h
  cases h
  rfl

theorem branchOut_node_keys {isAlpha : Char → Bool} {m : Model} {vs : List Str} {var r : Str} {n : Node}
    {ob : InterpOut}
    (hn : ∀ ts es, interpretNode isAlpha m vs n = .ok (ts, es) → es.map (·.1) = ts)
    (h : branchOut isAlpha m vs var (r, .node n) = .ok ob) : ob.epidata.map (·.1) = ob.triples := by
  obtain ⟨⟨role, repis⟩, _, h⟩ := Except.bind_eq_ok_iff.1 h
  cases hnv : n.var with
  | none => simp only [hnv] at h; cases h
  | some nv =>
    simp only [hnv] at h
    obtain ⟨⟨nt, ne⟩, hi, h⟩ := Except.bind_eq_ok_iff.1 h
    cases h
    simp [appendPopLast_keys, hn nt ne hi]

mutual
theorem interpretNode_keys (isAlpha : Char → Bool) (m : Model) (vs : List Str) :
    ∀ (n : Node) (ts : List Triple) (es : List (Triple × List Epi)),
      interpretNode isAlpha m vs n = .ok (ts, es) → es.map (·.1) = ts
  | .mk v bs, ts, es, ho => by
    obtain ⟨var, out, rfl, h1, h⟩ := Interp.interpretNode_ok ho
    have hk := interpretBranches_keys isAlpha m vs var bs out h1
    rcases h with ⟨_, rfl, rfl⟩ | ⟨_, rfl, rfl⟩
    · exact hk
    · exact congrArg (_ :: ·) hk
theorem interpretBranches_keys (isAlpha : Char → Bool) (m : Model) (vs : List Str) (var : Str) :
    ∀ (bs : Branches) (o : InterpOut),
      interpretBranches isAlpha m vs var bs = .ok o → o.epidata.map (·.1) = o.triples
  | .nil, o, ho => by
    cases ho
    rfl
  | .atom r a rest, o, ho => by
    rw [interpretBranches_atom] at ho
    obtain ⟨ob, h1, h2⟩ := Except.bind_eq_ok_iff.1 ho
    obtain ⟨out, hrest, h3⟩ := Except.bind_eq_ok_iff.1 h2
    cases h3
    exact InterpOut.combine_keys (branchOut_atom_keys h1)
      (interpretBranches_keys isAlpha m vs var rest out hrest)
  | .sub r n rest, o, ho => by
    rw [interpretBranches_sub] at ho
    obtain ⟨ob, h1, h2⟩ := Except.bind_eq_ok_iff.1 ho
    obtain ⟨out, hrest, h3⟩ := Except.bind_eq_ok_iff.1 h2
    cases h3
    exact InterpOut.combine_keys (branchOut_node_keys (interpretNode_keys isAlpha m vs n) h1)
      (interpretBranches_keys isAlpha m vs var rest out hrest)
end

theorem epimapOf_of_nodup : ∀ es : List (Triple × List Epi), (es.map (·.1)).Nodup → epimapOf es = es
  | [], _ => rfl
  | (t, e) :: rest, h => by
    simp only [List.map_cons, List.nodup_cons] at h
    simp only [epimapOf, epimapOf_of_nodup rest h.2, List.cons.injEq, true_and, List.filter_eq_self]
    intro p hp
    have : p.1 ≠ t := fun e => h.1 (e ▸ List.mem_map_of_mem hp)
    simpa using this

theorem AList.set_of_not_mem {α β : Type} [DecidableEq α] : ∀ (d : AList α β) (k : α) (v : β),
    k ∉ d.map (·.1) → d.set k v = d ++ [(k, v)]
  | [], _, _, _ => rfl
  | (k', v') :: r, k, v, h => by
    simp only [List.map_cons, List.mem_cons, not_or] at h
    have hne : ¬ k' = k := fun e => h.1 e.symm
    simp only [AList.set, hne, if_false, List.cons_append, AList.set_of_not_mem r k v h.2]

theorem AList.get?_eq_some_iff {α β : Type} [DecidableEq α] : ∀ (l : AList α β) (k : α) (v : β),
    (l.map (·.1)).Nodup → (AList.get? l k = some v ↔ (k, v) ∈ l)
  | [], _, _, _ => by simp [AList.get?]
  | (k', v') :: r, k, v, h => by
    simp only [List.map_cons, List.nodup_cons] at h
    have ih := AList.get?_eq_some_iff r k v h.2
    simp only [AList.get?] at ih ⊢
    by_cases hk : k' = k
    · subst hk
      simp only [List.find?_cons, decide_true, Option.map_some, Option.some.injEq, List.mem_cons,
        Prod.mk.injEq, true_and]
      constructor
      · intro e; exact Or.inl e.symm
      · rintro (e | hm)
        · exact e.symm
        · exact absurd (List.mem_map_of_mem (f := (·.1)) hm) h.1
    · have hk' : ¬ k = k' := fun e => hk e.symm
      simp only [List.find?_cons, hk, decide_false, List.mem_cons, Prod.mk.injEq, hk', false_and,
        false_or]
      exact ih

theorem AList.get?_perm {α β : Type} [DecidableEq α] {l l' : AList α β} (hp : l'.Perm l)
    (h : (l.map (·.1)).Nodup) (k : α) : AList.get? l' k = AList.get? l k := by
  have h' : (l'.map (·.1)).Nodup := ((hp.map (·.1)).nodup_iff).mpr h
  apply Option.ext
  intro v
  rw [AList.get?_eq_some_iff l' k v h', AList.get?_eq_some_iff l k v h, hp.mem_iff]

theorem popless_keys (es : List (Triple × List Epi)) : (popless es).map (·.1) = es.map (·.1) := by
  simp [popless]

theorem get?_popless : ∀ (es : List (Triple × List Epi)) (k : Triple),
    AList.get? (popless es) k = (AList.get? es k).map (·.filter (fun e => !e.isPop))
  | [], _ => rfl
  | (t, e) :: r, k => by
    have ih := get?_popless r k
    simp only [AList.get?, popless, List.map_cons] at ih ⊢
    by_cases h : t = k
    · simp only [List.find?_cons, h, decide_true, Option.map_some]
    · simp only [List.find?_cons, h, decide_false]
      exact ih

/-- with distinct triples, `interpret` stores the raw epidata list as it is -/
theorem mk'_epidata_of_nodup {ts : List Triple} {es : List (Triple × List Epi)} (hk : es.map (·.1) = ts)
    (hnd : ts.Nodup) (top : Option Str) (md : AList Str Str) :
    (Graph.mk' ts top (epimapOf es) md).epidata = es := by
  rw [Graph.mk', epimapOf_of_nodup es (hk ▸ hnd), C02.ofList_nodup es (show (es.map (·.1)).Nodup from hk ▸ hnd)]

theorem interpret_nodePerm (isAlpha : Char → Bool) (m : Model) (t : Tree) (n' : Node) (g : Graph)
    (hn : NodePerm t.node n') (h : interpret isAlpha m t = .ok g) :
    ∃ g', interpret isAlpha m { t with node := n' } = .ok g' ∧ g'.top = g.top ∧
      g'.triples.Perm g.triples ∧ g'.metadata = g.metadata ∧
      (g.triples.Nodup →
        (popless g'.epidata).Perm (popless g.epidata) ∧
        ∀ tr, (AList.get? g'.epidata tr).map (·.filter (fun e => !e.isPop)) =
              (AList.get? g.epidata tr).map (·.filter (fun e => !e.isPop))) := by
  obtain ⟨ts, es, h1, rfl⟩ := Interp.interpret_ok h
  have hmem : ∀ x, x ∈ n'.vars ↔ x ∈ t.node.vars := fun x => (NodePerm.vars_perm t.node hn).mem_iff
  obtain ⟨ts', es', h3, hts, hes⟩ := NodePerm.interp isAlpha m t.node.vars t.node hn ts es h1
  simp only [interpret]
  rw [interpretNode_congr isAlpha m hmem n', h3]
  refine ⟨_, rfl, ?_, ?_, rfl, ?_⟩
  · simp only [Graph.mk', hn.var_eq]
  · simp only [Graph.mk']; exact hts.map _
  · intro hnd
    have hk := interpretNode_keys isAlpha m t.node.vars t.node ts es h1
    have hk' := interpretNode_keys isAlpha m t.node.vars n' ts' es' h3
    have hnd1 : ts.Nodup := by
      simp only [Graph.mk'] at hnd
      exact List.Pairwise.of_map _ (fun a b hab e => hab (e ▸ rfl)) hnd
    rw [mk'_epidata_of_nodup hk hnd1, mk'_epidata_of_nodup hk' (hts.nodup_iff.mpr hnd1)]
    refine ⟨hes, fun tr => ?_⟩
    rw [← get?_popless, ← get?_popless]
    exact AList.get?_perm hes (by rw [popless_keys, hk]; exact hnd1) tr

end Penman.RA
