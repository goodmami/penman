/-
  Penman.Proofs.RearrangeOrder — the sort keys of `rearrange` (namespace `RA`): `strLt`, `KV.lt` and
  `kvLe` are orders (`kvLe` a total order on equally shaped keys), every key of one call has one shape,
  so `sortBranches` is a stable sort (permutation, sorted, keeps sorted sub-lists); what
  `alphanumericOrder` computes, and what the selectable keys mean (numeric suffixes numerically,
  inverted roles last, attributes first).
-/
import Penman.Spec.Rearrange
namespace Penman.RA

theorem strLt_cons (a b : Char) (as bs : Str) :
    strLt (a :: as) (b :: bs) = if a < b then true else if b < a then false else strLt as bs := rfl

theorem strLt_cons_lt {a b : Char} (h : a < b) (as bs : Str) : strLt (a :: as) (b :: bs) = true := by
  rw [strLt_cons, if_pos h]

theorem strLt_cons_gt {a b : Char} (h : b < a) (as bs : Str) : strLt (a :: as) (b :: bs) = false := by
  rw [strLt_cons, if_neg (Char.lt_asymm h), if_pos h]

theorem strLt_cons_self (a : Char) (as bs : Str) : strLt (a :: as) (a :: bs) = strLt as bs := by
  rw [strLt_cons, if_neg (Char.lt_irrefl a), if_neg (Char.lt_irrefl a)]

theorem char_tri (a b : Char) : a < b ∨ a = b ∨ b < a := by
  by_cases h1 : a < b
  · exact Or.inl h1
  · by_cases h2 : b < a
    · exact Or.inr (Or.inr h2)
    · exact Or.inr (Or.inl (Char.le_antisymm (Char.not_lt.mp h2) (Char.not_lt.mp h1)))

theorem strLt_irrefl : ∀ a : Str, strLt a a = false
  | [] => rfl
  | c :: cs => by rw [strLt_cons_self, strLt_irrefl cs]

theorem strLt_trans : ∀ {a b c : Str}, strLt a b = true → strLt b c = true → strLt a c = true
  | [], [], _, h, _ => by cases h
  | [], _ :: _, [], _, h => by cases h
  | [], _ :: _, _ :: _, _, _ => rfl
  | _ :: _, [], _, h, _ => by cases h
  | _ :: _, _ :: _, [], _, h => by cases h
  | x :: xs, y :: ys, z :: zs, h1, h2 => by
    rcases char_tri x y with xy | rfl | yx
    · rcases char_tri y z with yz | rfl | zy
      · exact strLt_cons_lt (Char.lt_trans xy yz) _ _
      · exact strLt_cons_lt xy _ _
      · rw [strLt_cons_gt zy] at h2
        cases h2
    · rcases char_tri x z with xz | rfl | zx
      · exact strLt_cons_lt xz _ _
      · rw [strLt_cons_self] at h1 h2 ⊢
        exact strLt_trans h1 h2
      · rw [strLt_cons_gt zx] at h2
        cases h2
    · rw [strLt_cons_gt yx] at h1
      cases h1

theorem strLt_tri : ∀ {a b : Str}, strLt a b = false → strLt b a = false → a = b
  | [], [], _, _ => rfl
  | [], _ :: _, h, _ => by cases h
  | _ :: _, [], _, h => by cases h
  | x :: xs, y :: ys, h1, h2 => by
    rcases char_tri x y with lt | rfl | gt
    · rw [strLt_cons_lt lt] at h1
      cases h1
    · rw [strLt_cons_self] at h1 h2
      rw [strLt_tri h1 h2]
    · rw [strLt_cons_lt gt] at h2
      cases h2

theorem KV.lt_irrefl (a : KV) : KV.lt a a = false := by
  cases a <;> simp [KV.lt, strLt_irrefl]

-- components of different types are never below one another: `h1`, `h2` reduce to `false = true`
theorem KV.lt_trans {a b c : KV} (h1 : KV.lt a b = true) (h2 : KV.lt b c = true) : KV.lt a c = true := by
  cases a <;> cases b <;> try cases h1
  all_goals cases c <;> try cases h2
  · rename_i x y z
    revert h1 h2
    cases x <;> cases y <;> cases z <;> decide
  · exact strLt_trans h1 h2
  · exact decide_eq_true (Nat.lt_trans (of_decide_eq_true h1) (of_decide_eq_true h2))

theorem KV.lt_asymm {a b : KV} (h : KV.lt a b = true) : KV.lt b a = false := by
  cases h' : KV.lt b a
  · rfl
  · have := KV.lt_trans h h'; simp [KV.lt_irrefl] at this

theorem KV.lt_tri {a b : KV} (ht : a.tag = b.tag) (h1 : KV.lt a b = false) (h2 : KV.lt b a = false) : a = b := by
  cases a <;> cases b <;> try cases ht
  · rename_i x y
    revert h1 h2
    cases x <;> cases y <;> decide
  · exact congrArg _ (strLt_tri h1 h2)
  · exact congrArg _ (Nat.le_antisymm (Nat.not_lt.mp (of_decide_eq_false h2))
      (Nat.not_lt.mp (of_decide_eq_false h1)))

/-- components of one type are comparable -/
theorem KV.tri {a b : KV} (ht : a.tag = b.tag) : KV.lt a b = true ∨ a = b ∨ KV.lt b a = true := by
  cases h1 : KV.lt a b with
  | true => exact Or.inl rfl
  | false =>
    cases h2 : KV.lt b a with
    | true => exact Or.inr (Or.inr rfl)
    | false => exact Or.inr (Or.inl (KV.lt_tri ht h1 h2))

theorem kvLe_cons (a b : KV) (as bs : List KV) :
    kvLe (a :: as) (b :: bs) = if KV.lt a b then true else if KV.lt b a then false else kvLe as bs := rfl

theorem kvLe_cons_self (a : KV) (as bs : List KV) : kvLe (a :: as) (a :: bs) = kvLe as bs := by
  rw [kvLe_cons, KV.lt_irrefl, if_neg Bool.false_ne_true, if_neg Bool.false_ne_true]

/-- `a` sorts strictly before `b` -/
def Below (a b : List KV) : Prop := kvLe a b = true ∧ kvLe b a = false

/-- the first component decides … -/
theorem Below.head {x y : KV} (h : KV.lt x y = true) (xs ys : List KV) : Below (x :: xs) (y :: ys) :=
  ⟨by rw [kvLe_cons, if_pos h],
   by rw [kvLe_cons, KV.lt_asymm h, if_neg Bool.false_ne_true, if_pos h]⟩

/-- … and an equal first component leaves the decision to the rest -/
theorem Below.tail (x : KV) {xs ys : List KV} (h : Below xs ys) : Below (x :: xs) (x :: ys) := by
  unfold Below
  rw [kvLe_cons_self, kvLe_cons_self]
  exact h

theorem kvLe_refl : ∀ a : List KV, kvLe a a = true
  | [] => rfl
  | x :: xs => by rw [kvLe_cons_self, kvLe_refl xs]

theorem kvLe_total : ∀ {a b : List KV}, kvShape a = kvShape b → (kvLe a b || kvLe b a) = true
  | [], _, _ => rfl
  | _ :: _, [], h => nomatch h
  | x :: xs, y :: ys, h => by
    have h := List.cons.inj h
    rcases KV.tri h.1 with lt | rfl | gt
    · rw [(Below.head lt xs ys).1, Bool.true_or]
    · rw [kvLe_cons_self, kvLe_cons_self]
      exact kvLe_total h.2
    · rw [(Below.head gt ys xs).1, Bool.or_true]

theorem kvLe_trans : ∀ {a b c : List KV}, kvShape a = kvShape b → kvShape b = kvShape c →
    kvLe a b = true → kvLe b c = true → kvLe a c = true
  | [], _, _, _, _, _, _ => rfl
  | _ :: _, [], _, h, _, _, _ => nomatch h
  | _ :: _, _ :: _, [], _, h, _, _ => nomatch h
  | x :: xs, y :: ys, z :: zs, s1, s2, h1, h2 => by
    have s1 := List.cons.inj s1
    have s2 := List.cons.inj s2
    rcases KV.tri s1.1 with xy | rfl | yx
    · rcases KV.tri s2.1 with yz | rfl | zy
      · exact (Below.head (KV.lt_trans xy yz) xs zs).1
      · exact (Below.head xy xs zs).1
      · rw [(Below.head zy zs ys).2] at h2
        cases h2
    · rcases KV.tri s2.1 with yz | rfl | zy
      · exact (Below.head yz xs zs).1
      · rw [kvLe_cons_self] at h1 h2 ⊢
        exact kvLe_trans s1.2 s2.2 h1 h2
      · rw [(Below.head zy zs ys).2] at h2
        cases h2
    · rw [(Below.head yx ys xs).2] at h1
      cases h1

theorem kvLe_antisymm : ∀ {a b : List KV}, kvShape a = kvShape b →
    kvLe a b = true → kvLe b a = true → a = b
  | [], [], _, _, _ => rfl
  | [], _ :: _, h, _, _ => nomatch h
  | _ :: _, [], h, _, _ => nomatch h
  | x :: xs, y :: ys, s, h1, h2 => by
    have s := List.cons.inj s
    rcases KV.tri s.1 with lt | rfl | gt
    · rw [(Below.head lt xs ys).2] at h2
      cases h2
    · rw [kvLe_cons_self] at h1 h2
      rw [kvLe_antisymm s.2 h1 h2]
    · rw [(Below.head gt ys xs).2] at h1
      cases h1

def _root_.Penman.KeyFn.shape : KeyFn → List Nat
  | .original => [0]
  | .alphanumeric => [1, 2]
  | .canonical => [0, 1, 2]
  | .invertedLast => [0]

theorem _root_.Penman.KeyFn.eval_shape (m : Model) (k : KeyFn) (r : Str) : kvShape (k.eval m r) = KeyFn.shape k := by
  cases k <;> rfl

theorem evalKeys_shape (m : Model) (ks : List KeyFn) (r : Str) :
    kvShape (evalKeys m ks r) = ks.flatMap KeyFn.shape := by
  induction ks with
  | nil => rfl
  | cons k ks ih =>
    simp only [evalKeys, kvShape, List.flatMap_cons, List.map_append] at ih ⊢
    rw [ih]; congr 1; exact KeyFn.eval_shape m k r

/-- the shape of all sort keys of `rearrange` for a given `key` argument -/
def keyShape : Option (List KeyFn) → List Nat
  | none => [0, 0]
  | some ks => 0 :: ks.flatMap KeyFn.shape

theorem branchKey_shape (m : Model) (vars : List Str) (key : Option (List KeyFn)) (b : Branch) :
    kvShape (branchKey m vars key b) = keyShape key := by
  cases key with
  | none => rfl
  | some ks =>
    simp only [branchKey, keyShape, kvShape, List.map_cons, KV.tag, List.cons.injEq, true_and]
    exact evalKeys_shape m ks b.1

theorem sortBranches_eq (m : Model) (vars : List Str) (key : Option (List KeyFn)) (bs : List Branch) :
    sortBranches m vars key bs = bs.mergeSort (branchLe m vars key) := rfl

theorem branchLe_refl (m : Model) (vars : List Str) (key : Option (List KeyFn)) (a : Branch) :
    branchLe m vars key a a = true := kvLe_refl _

theorem branchLe_total (m : Model) (vars : List Str) (key : Option (List KeyFn)) (a b : Branch) :
    (branchLe m vars key a b || branchLe m vars key b a) = true :=
  kvLe_total ((branchKey_shape m vars key a).trans (branchKey_shape m vars key b).symm)

theorem branchLe_trans (m : Model) (vars : List Str) (key : Option (List KeyFn)) (a b c : Branch) :
    branchLe m vars key a b = true → branchLe m vars key b c = true → branchLe m vars key a c = true :=
  kvLe_trans ((branchKey_shape m vars key a).trans (branchKey_shape m vars key b).symm)
    ((branchKey_shape m vars key b).trans (branchKey_shape m vars key c).symm)

/-- two branches compare as equal exactly when their keys are equal -/
theorem branchLe_antisymm (m : Model) (vars : List Str) (key : Option (List KeyFn)) (a b : Branch) :
    branchLe m vars key a b = true → branchLe m vars key b a = true →
    branchKey m vars key a = branchKey m vars key b :=
  kvLe_antisymm ((branchKey_shape m vars key a).trans (branchKey_shape m vars key b).symm)

theorem sortBranches_perm (m : Model) (vars : List Str) (key : Option (List KeyFn)) (bs : List Branch) :
    (sortBranches m vars key bs).Perm bs := List.mergeSort_perm _ _

theorem sortBranches_pairwise (m : Model) (vars : List Str) (key : Option (List KeyFn)) (bs : List Branch) :
    (sortBranches m vars key bs).Pairwise (fun a b => branchLe m vars key a b = true) :=
  List.pairwise_mergeSort (branchLe_trans m vars key) (branchLe_total m vars key) bs

theorem sortBranches_sublist (m : Model) (vars : List Str) (key : Option (List KeyFn)) {ys bs : List Branch}
    (hp : ys.Pairwise (fun a b => branchLe m vars key a b = true)) (hs : ys.Sublist bs) :
    ys.Sublist (sortBranches m vars key bs) :=
  List.sublist_mergeSort (branchLe_trans m vars key) (branchLe_total m vars key) hp hs

theorem sortBranches_of_pairwise (m : Model) (vars : List Str) (key : Option (List KeyFn)) {bs : List Branch}
    (hp : bs.Pairwise (fun a b => branchLe m vars key a b = true)) : sortBranches m vars key bs = bs :=
  List.mergeSort_of_pairwise hp

theorem sortBranches_nil (m : Model) (vars : List Str) (key : Option (List KeyFn)) :
    sortBranches m vars key [] = [] := by simp [sortBranches]

theorem sortBranches_singleton (m : Model) (vars : List Str) (key : Option (List KeyFn)) (a : Branch) :
    sortBranches m vars key [a] = [a] := by simp [sortBranches]

open List.MergeSort.Internal in
/-- evaluation of the sort on two branches (used for concrete examples) -/
theorem sortBranches_pair (m : Model) (vars : List Str) (key : Option (List KeyFn)) (a b : Branch) :
    sortBranches m vars key [a, b] = if branchLe m vars key a b then [a, b] else [b, a] := by
  simp only [sortBranches_eq, List.mergeSort, splitInTwo]
  simp [List.merge]

/-- stability: the branches with one given key keep their relative order -/
theorem sortBranches_filter_key (m : Model) (vars : List Str) (key : Option (List KeyFn)) (bs : List Branch)
    (k : List KV) :
    (sortBranches m vars key bs).filter (fun b => branchKey m vars key b = k) =
      bs.filter (fun b => branchKey m vars key b = k) := by
  have hpw : (bs.filter (fun b => branchKey m vars key b = k)).Pairwise
      (fun a b => branchLe m vars key a b = true) := by
    rw [List.pairwise_iff_forall_sublist]
    intro a b hab
    have ha := hab.subset (List.mem_cons_self)
    have hb := hab.subset (List.mem_cons_of_mem _ List.mem_cons_self)
    simp only [List.mem_filter, decide_eq_true_eq] at ha hb
    simp only [branchLe, ha.2, hb.2, kvLe_refl]
  have hsub := (sortBranches_sublist m vars key hpw List.filter_sublist).filter
    (fun b => decide (branchKey m vars key b = k))
  rw [List.filter_filter] at hsub
  simp only [Bool.and_self] at hsub
  have hlen := ((sortBranches_perm m vars key bs).filter (fun b => decide (branchKey m vars key b = k))).length_eq
  exact (hsub.eq_of_length hlen.symm).symm

theorem alphanumericSplit_digits (init : Str) (c : Char) (digs : Str)
    (hc : isAsciiDigit c = false) (hd : digs ≠ []) (hall : digs.all isAsciiDigit = true)
    (hnl : init.contains '\n' = false) :
    alphanumericSplit (init ++ c :: digs) = some (init ++ [c], natOfDigits digs) := by
  have htw : ((init ++ c :: digs).reverse.takeWhile isAsciiDigit).reverse = digs := by
    have : (init ++ c :: digs).reverse = digs.reverse ++ (c :: init.reverse) := by simp
    rw [this, List.takeWhile_append_of_pos (by simpa using hall)]
    simp [hc]
  have hpre : (init ++ c :: digs).take ((init ++ c :: digs).length - digs.length) = init ++ [c] := by
    have : (init ++ c :: digs) = (init ++ [c]) ++ digs := by simp
    rw [this, List.length_append, Nat.add_sub_cancel, List.take_left']
    rfl
  unfold alphanumericSplit
  simp only [htw, hpre]
  have h1 : digs.isEmpty = false := by
    cases digs with
    | nil => exact absurd rfl hd
    | cons _ _ => rfl
  have h2 : (init ++ [c]).isEmpty = false := by cases init <;> simp
  have h3 : (init ++ [c]).dropLast = init := by simp
  simp only [h1, h2, h3, hnl]
  simp

/-- a role without a final ASCII digit has no numeric suffix -/
theorem alphanumericSplit_nodigit (init : Str) (c : Char) (hc : isAsciiDigit c = false) :
    alphanumericSplit (init ++ [c]) = none := by
  have htw : ((init ++ [c]).reverse.takeWhile isAsciiDigit) = [] := by simp [hc]
  unfold alphanumericSplit
  simp only [htw]
  simp

theorem endsWith_nl_snoc (init : Str) (c : Char) : endsWith ['\n'] (init ++ [c]) = decide (c = '\n') := by
  simp only [endsWith, List.isSuffixOf, List.reverse_append, List.reverse_cons, List.reverse_nil,
    List.nil_append, List.cons_append, List.isPrefixOf]
  by_cases h : c = '\n'
  · subst h; rfl
  · have h' : ¬ '\n' = c := fun e => h e.symm
    simp [h, h']

/-- `(.*\D)(\d+)$`: name = everything up to the last non-digit, number = the digit suffix -/
theorem alphanumericOrder_digits (init : Str) (c : Char) (digs : Str)
    (hc : isAsciiDigit c = false) (hd : digs ≠ []) (hall : digs.all isAsciiDigit = true)
    (hnl : init.contains '\n' = false) :
    alphanumericOrder (init ++ c :: digs) = (init ++ [c], natOfDigits digs) := by
  simp [alphanumericOrder, alphanumericSplit_digits init c digs hc hd hall hnl]

/-- no trailing digits and no trailing line feed: the role itself, number 0 -/
theorem alphanumericOrder_nodigit (init : Str) (c : Char) (hc : isAsciiDigit c = false) (hn : c ≠ '\n') :
    alphanumericOrder (init ++ [c]) = (init ++ [c], 0) := by
  simp [alphanumericOrder, alphanumericSplit_nodigit init c hc, endsWith_nl_snoc, hn]

theorem alphanumericOrder_nil : alphanumericOrder [] = ([], 0) := by decide

theorem evalKeys_alphanumeric (m : Model) (r : Str) :
    evalKeys m [.alphanumeric] r = [.s (alphanumericOrder r).1, .n (alphanumericOrder r).2] := rfl

theorem evalKeys_canonical (m : Model) (r : Str) :
    evalKeys m [.canonical] r =
      [.b (m.isRoleInverted r), .s (alphanumericOrder r).1, .n (alphanumericOrder r).2] := rfl

theorem evalKeys_invertedLast (m : Model) (r : Str) :
    evalKeys m [.invertedLast] r = [.b (m.isRoleInverted r)] := rfl

/-- same role name, smaller number: strictly smaller alphanumeric key -/
theorem alphanumeric_key_lt (m : Model) {r1 r2 p : Str} {n1 n2 : Nat}
    (h1 : alphanumericOrder r1 = (p, n1)) (h2 : alphanumericOrder r2 = (p, n2)) (hlt : n1 < n2) :
    kvLe (evalKeys m [.alphanumeric] r1) (evalKeys m [.alphanumeric] r2) = true ∧
    kvLe (evalKeys m [.alphanumeric] r2) (evalKeys m [.alphanumeric] r1) = false := by
  rw [evalKeys_alphanumeric, evalKeys_alphanumeric, h1, h2]
  exact Below.tail _ (Below.head (x := .n n1) (y := .n n2) (decide_eq_true hlt) _ _)

/-- … and strictly smaller canonical key when both roles have the same direction -/
theorem canonical_key_lt (m : Model) {r1 r2 p : Str} {n1 n2 : Nat}
    (hi : m.isRoleInverted r1 = m.isRoleInverted r2)
    (h1 : alphanumericOrder r1 = (p, n1)) (h2 : alphanumericOrder r2 = (p, n2)) (hlt : n1 < n2) :
    kvLe (evalKeys m [.canonical] r1) (evalKeys m [.canonical] r2) = true ∧
    kvLe (evalKeys m [.canonical] r2) (evalKeys m [.canonical] r1) = false := by
  rw [evalKeys_canonical, evalKeys_canonical, h1, h2, hi]
  exact Below.tail _ (Below.tail _ (Below.head (x := .n n1) (y := .n n2) (decide_eq_true hlt) _ _))

/-- different role names are ordered by code point, whatever the numbers -/
theorem alphanumeric_key_name_lt (m : Model) {r1 r2 : Str}
    (hlt : strLt (alphanumericOrder r1).1 (alphanumericOrder r2).1 = true) :
    kvLe (evalKeys m [.alphanumeric] r1) (evalKeys m [.alphanumeric] r2) = true ∧
    kvLe (evalKeys m [.alphanumeric] r2) (evalKeys m [.alphanumeric] r1) = false :=
  Below.head (x := .s _) (y := .s _) hlt _ _

/-- the canonical key puts inverted roles last -/
theorem canonical_key_inverted_last (m : Model) {r1 r2 : Str}
    (h1 : m.isRoleInverted r1 = false) (h2 : m.isRoleInverted r2 = true) :
    kvLe (evalKeys m [.canonical] r1) (evalKeys m [.canonical] r2) = true ∧
    kvLe (evalKeys m [.canonical] r2) (evalKeys m [.canonical] r1) = false := by
  rw [evalKeys_canonical, evalKeys_canonical, h1, h2]
  exact Below.head rfl _ _

theorem invertedLast_key_inverted_last (m : Model) {r1 r2 : Str}
    (h1 : m.isRoleInverted r1 = false) (h2 : m.isRoleInverted r2 = true) :
    kvLe (evalKeys m [.invertedLast] r1) (evalKeys m [.invertedLast] r2) = true ∧
    kvLe (evalKeys m [.invertedLast] r2) (evalKeys m [.invertedLast] r1) = false := by
  rw [evalKeys_invertedLast, evalKeys_invertedLast, h1, h2]
  exact Below.head rfl _ _

/-- attributes first: a branch whose target is not a variable of the tree sorts
    strictly before one whose target is, whatever the role key -/
theorem branchLe_attr_first (m : Model) (vars : List Str) (key : Option (List KeyFn)) {a b : Branch}
    (ha : branchTargetInVars vars a.2 = false) (hb : branchTargetInVars vars b.2 = true) :
    branchLe m vars key a b = true ∧ branchLe m vars key b a = false := by
  unfold branchLe branchKey
  rw [ha, hb]
  exact Below.head rfl _ _

/-- when the attribute flag agrees (always, for `attributes_first = False`),
    branches compare by the role key alone -/
theorem branchLe_same_flag (m : Model) (vars : List Str) (ks : List KeyFn) {a b : Branch}
    (h : branchTargetInVars vars a.2 = branchTargetInVars vars b.2) :
    branchLe m vars (some ks) a b = kvLe (evalKeys m ks a.1) (evalKeys m ks b.1) := by
  unfold branchLe branchKey
  rw [h, kvLe_cons_self]

theorem branchTargetInVars_nil (t : Tgt) : branchTargetInVars [] t = false := by
  cases t with
  | atom a => cases a <;> simp [branchTargetInVars]
  | node n => simp only [branchTargetInVars]; split <;> simp

end Penman.RA
