/-
  Penman.Proofs.Reconfigure — lemmas for property C05b: `reconfigure` as a corollary of the
  `configure` theorems `C03`/`C03_tree` (Props/C03; Props/C06 is imported for the examples of C05b).
  The graph `reconfigure` hands to `configure` is a *re-layout* of the original (`Relayout`: triples
  permuted, layout markers stripped, everything else untouched), and every hypothesis and conclusion
  of `C03`/`C03_tree` is invariant under re-layout. `Cfg.Reach` is an equivalence relation, so
  connectivity from one variable is connectivity from every variable (new top). Last: the order in
  which the sorted triples reach `configure`. Namespace `Recfg` = reconfigure.
-/
import Penman.Props.C03
import Penman.Props.C06
import Penman.Spec.Reconfigure
import Penman.Proofs.RearrangeOrder
namespace Penman
namespace Recfg
open Cfg

/-- `reconfigure` (after fix F21) resolves the top on the ORIGINAL graph, then configures the
    sorted, marker-free graph from that top -/
theorem reconfigure_eq (m : Model) (g : Graph) (top : Option Str) (key : Option (List KeyFn)) :
    reconfigure m g top key = configure m (prep m g key) (Cfg.topOf g top) := by
  cases key <;> cases top <;> rfl

theorem sortTriples_perm (m : Model) (ts : List Triple) (key : Option (List KeyFn)) :
    (sortTriples m ts key).Perm ts := by
  cases key with
  | none => exact List.Perm.refl _
  | some ks => exact List.mergeSort_perm _ _

theorem prep_relayout (m : Model) (g : Graph) (key : Option (List KeyFn)) : Relayout g (prep m g key) :=
  ⟨sortTriples_perm m g.triples key, rfl, rfl, rfl⟩

theorem mem_dedup' {l : List Str} {x : Str} : x ∈ dedup l ↔ x ∈ l := by
  induction l with
  | nil => simp [dedup]
  | cons a r ih =>
    simp only [dedup, List.mem_cons, List.mem_filter, ih]
    by_cases e : x = a <;> simp [e]

theorem mem_variables_iff (g : Graph) (v : Str) :
    v ∈ g.variables ↔ (∃ t ∈ g.triples, t.src = v) ∨ g.top = some v := by
  unfold Graph.variables
  cases htop : g.top with
  | none => simp [mem_dedup']
  | some t =>
    by_cases h : t ∈ dedup (g.triples.map (·.src))
    · simp only [h, if_true, mem_dedup', List.mem_map, Option.some.injEq]
      constructor
      · exact Or.inl
      · rintro (h' | rfl)
        · exact h'
        · simpa [mem_dedup'] using h
    · simp only [h, if_false, List.mem_append, mem_dedup', List.mem_map, List.mem_singleton,
        Option.some.injEq]
      constructor
      · rintro (h' | rfl)
        · exact Or.inl h'
        · exact Or.inr rfl
      · rintro (h' | rfl)
        · exact Or.inl h'
        · exact Or.inr rfl

/-- `WfGraph` sees the triples as a multiset, the variables as a set, and the alignments -/
theorem wfGraph_of_perm {m : Model} {g g' : Graph} (hp : g'.triples.Perm g.triples)
    (hv : ∀ x, x ∈ g'.variables ↔ x ∈ g.variables) (ha : NoAlign g → NoAlign g')
    (w : WfGraph m g) : WfGraph m g' :=
  have hm : ∀ t, t ∈ g'.triples → t ∈ g.triples := fun _ => hp.mem_iff.1
  { nonempty := by
      cases h1 : g'.triples with
      | nil =>
        have : g.triples = [] := List.Perm.eq_nil (h1 ▸ hp).symm
        exact absurd w.nonempty (by rw [this]; decide)
      | cons a r => rfl
    labelled := fun v hvv =>
      have ⟨t, ht, e⟩ := w.labelled v ((hv v).1 hvv)
      ⟨t, hp.mem_iff.2 ht, e⟩
    nullNodup := (hp.filter _).nodup_iff.2 w.nullNodup
    nullAlone := fun t ht hn t' ht' => w.nullAlone t (hm t ht) hn t' (hm t' ht')
    instNotEmpty := fun t ht => w.instNotEmpty t (hm t ht)
    roles := fun t ht => w.roles t (hm t ht)
    srcs := fun t ht => w.srcs t (hm t ht)
    tgts := fun t ht => w.tgts t (hm t ht)
    noInstOf := fun t ht => w.noInstOf t (hm t ht)
    noAlign := ha w.noAlign }

theorem reach_mono {g g' : Graph} (h : ∀ b c, Adj g b c → Adj g' b c) {t v : Str}
    (hr : Reach g t v) : Reach g' t v := by
  induction hr with
  | refl => exact Reach.refl
  | step _ ha ih => exact Reach.step ih (h _ _ ha)

namespace Relayout
variable {g g' : Graph}

theorem mem (h : Relayout g g') (t : Triple) : t ∈ g'.triples ↔ t ∈ g.triples := h.perm.mem_iff

theorem variables (h : Relayout g g') (x : Str) : x ∈ g'.variables ↔ x ∈ g.variables := by
  simp only [mem_variables_iff, h.top, h.mem]

theorem isVar (h : Relayout g g') (a : Atom) : g'.isVar a = g.isVar a :=
  C03_edge_status h.variables a

/-- `deinvert1` depends on the graph only through variable membership -/
theorem deinvert1_eq (h : Relayout g g') (m : Model) : deinvert1 m g' = deinvert1 m g := by
  funext t
  simp only [deinvert1, h.isVar]

theorem get?_stripEpi (e : Epidata) (t : Triple) :
    (AList.get? (stripEpi e) t).getD [] = ((AList.get? e t).getD []).filter (!·.isLayout) := by
  induction e with
  | nil => rfl
  | cons p r ih =>
    obtain ⟨t0, es⟩ := p
    by_cases ht : t0 = t
    · simp [stripEpi, AList.get?, ht]
    · simp only [stripEpi, AList.get?, List.map_cons, List.find?_cons, ht, decide_false] at ih ⊢
      exact ih

theorem epis (h : Relayout g g') (t : Triple) :
    (AList.get? g'.epidata t).getD [] = ((AList.get? g.epidata t).getD []).filter (!·.isLayout) := by
  rw [h.epidata, get?_stripEpi]

theorem no_layout (h : Relayout g g') (t : Triple) :
    ∀ e ∈ (AList.get? g'.epidata t).getD [], e.isLayout = false := by
  intro e he
  rw [h.epis] at he
  simpa using (List.mem_filter.1 he).2

theorem pushVars (h : Relayout g g') : PushVars g' := by
  intro t _ e he
  have := h.no_layout t e he
  cases e <;> simp_all [pushIn, Epi.isLayout]

theorem pushSrcOK (h : Relayout g g') : PushSrcOK g' := by
  intro t _
  right; right
  intro hm
  have := h.no_layout t _ hm
  simp [Epi.isLayout] at this

theorem noAlign (h : Relayout g g') : NoAlign g' ↔ NoAlign g := by
  constructor
  · intro hn t ht e he
    by_cases hl : e.isLayout = true
    · cases e <;> simp_all [Epi.isLayout, Epi.mode]
    · have hm : e ∈ (AList.get? g'.epidata t).getD [] := by
        rw [h.epis]; exact List.mem_filter.2 ⟨he, by simpa using hl⟩
      exact hn t ((h.mem t).2 ht) e hm
  · intro hn t ht e he
    rw [h.epis] at he
    exact hn t ((h.mem t).1 ht) e (List.mem_filter.1 he).1

theorem wfGraph (h : Relayout g g') (m : Model) : WfGraph m g' ↔ WfGraph m g :=
  ⟨wfGraph_of_perm h.perm.symm (fun x => (h.variables x).symm) h.noAlign.1,
   wfGraph_of_perm h.perm h.variables h.noAlign.2⟩

theorem noNum (h : Relayout g g') : NoNum g' ↔ NoNum g :=
  ⟨fun w t ht => w t ((h.mem t).2 ht), fun w t ht => w t ((h.mem t).1 ht)⟩

theorem adj (h : Relayout g g') (b c : Str) : Adj g' b c ↔ Adj g b c := by
  simp only [Adj, h.mem, h.variables]

theorem reach (h : Relayout g g') (t v : Str) : Reach g' t v ↔ Reach g t v :=
  ⟨reach_mono fun b c => (h.adj b c).1, reach_mono fun b c => (h.adj b c).2⟩

/-- the implicit top is the source of the FIRST triple: it survives a re-layout only if the
    first triple keeps its source -/
theorem getTop (h : Relayout g g')
    (hx : g.top.isSome = true ∨ g'.triples.head?.map (·.src) = g.triples.head?.map (·.src)) :
    g'.getTop = g.getTop := by
  unfold Graph.getTop
  rw [h.top]
  cases ht : g.top with
  | some t => rfl
  | none =>
    rcases hx with hx | hx
    · simp [ht] at hx
    · cases h1 : g'.triples <;> cases h2 : g.triples <;> simp_all

theorem topOf (h : Relayout g g') (top : Option Str)
    (hx : top.isSome = true ∨ g.top.isSome = true ∨
      g'.triples.head?.map (·.src) = g.triples.head?.map (·.src)) :
    topOf g' top = topOf g top := by
  cases top with
  | some t => rfl
  | none =>
    simp only [Cfg.topOf]
    apply h.getTop
    simpa using hx

end Relayout

theorem Adj.symm {g : Graph} {b c : Str} (h : Adj g b c) : Adj g c b := by
  obtain ⟨t, ht, hr, hb, hc, e⟩ := h
  exact ⟨t, ht, hr, hc, hb, e.symm⟩

theorem Reach.trans' {g : Graph} {a b c : Str} (h1 : Reach g a b) (h2 : Reach g b c) : Reach g a c := by
  induction h2 with
  | refl => exact h1
  | step _ ha ih => exact Reach.step ih ha

theorem Reach.symm' {g : Graph} {a b : Str} (h : Reach g a b) : Reach g b a := by
  induction h with
  | refl => exact Reach.refl
  | step _ ha ih => exact Reach.trans' (Reach.step Reach.refl (Adj.symm ha)) ih

/-- reachability of everything from ONE variable is connectivity -/
theorem connected_of_reach {g : Graph} {t : Str} (h : ∀ v ∈ g.variables, Reach g t v) : Connected g :=
  fun u hu v hv => Reach.trans' (Reach.symm' (h u hu)) (h v hv)

theorem connected_iff {g : Graph} {t : Str} (ht : t ∈ g.variables) :
    Connected g ↔ ∀ v ∈ g.variables, Reach g t v :=
  ⟨fun h => h t ht, connected_of_reach⟩

theorem Relayout.connected {g g' : Graph} (h : Relayout g g') : Connected g' ↔ Connected g :=
  ⟨fun c u hu v hv => (h.reach u v).1 (c u ((h.variables u).2 hu) v ((h.variables v).2 hv)),
   fun c u hu v hv => (h.reach u v).2 (c u ((h.variables u).1 hu) v ((h.variables v).1 hv))⟩

theorem relayout_tree {m : Model} {g g' : Graph} {top : Option Str} {t : Str} (h : Relayout g g')
    (hw : ModelWf m) (hg : WfGraph m g) (ht : Cfg.topOf g' top = some t) (htv : t ∈ g.variables)
    (hc : Connected g) :
    ∃ T, configure m g' top = .ok T ∧ T.metadata = g.metadata ∧ T.node.var = some t ∧
      (∀ x, x ∈ T.node.vars ↔ x ∈ g.variables) ∧ T.node.vars.Nodup ∧
      (T.node.edgeTriples.map (deinvert1 m g)).Perm
        ((g.triples.filter (fun x => !nullB x)).map (deinvert1 m g)) ∧
      ∀ x ∈ T.node.edgeTriples, ∃ t0 ∈ g.triples,
        x = t0 ∨ (x = m.invert t0 ∧ (∃ b, t0.tgt = .str b) ∧ t0.role ≠ CONCEPT_ROLE) := by
  have htv' := (h.variables t).2 htv
  obtain ⟨T, h1, h2, h3, h4, h5, h6, h7⟩ :=
    C03_tree (top := top) hw ((h.wfGraph m).2 hg) h.pushVars h.pushSrcOK ht htv'
      (((h.connected).2 hc) t htv')
  refine ⟨T, h1, h2.trans h.metadata, h3, fun x => (h4 x).trans (h.variables x), h5, ?_, ?_⟩
  · rw [h.deinvert1_eq] at h6
    exact h6.trans ((h.perm.filter _).map _)
  · intro x hx
    obtain ⟨t0, ht0, e⟩ := h7 x hx
    exact ⟨t0, (h.mem t0).1 ht0, e⟩

theorem relayout_graph (isAlpha : Char → Bool) {m : Model} {g g' : Graph} {top : Option Str} {t : Str}
    (h : Relayout g g') (hw : ModelWf m) (hnoop : m.noop = false) (hg : WfGraph m g) (hnum : NoNum g)
    (ht : Cfg.topOf g' top = some t) (htv : t ∈ g.variables) (hc : Connected g) :
    ∃ T g'', configure m g' top = .ok T ∧ interpret isAlpha m T = .ok g'' ∧
      g''.getTop = some t ∧ (∀ x, x ∈ g''.variables ↔ x ∈ g.variables) ∧
      (g''.triples.map (deinvert1 m g)).Perm (g.triples.map (deinvert1 m g)) ∧
      (∀ x ∈ g''.triples, ∃ t0 ∈ g.triples, x = t0 ∨ x = m.invert t0) := by
  have htv' := (h.variables t).2 htv
  obtain ⟨T, g'', h1, h2, h3, h4, h5, h6⟩ :=
    C03 isAlpha (top := top) hw hnoop ((h.wfGraph m).2 hg) (h.noNum.2 hnum) h.pushVars h.pushSrcOK ht htv'
      (((h.connected).2 hc) t htv')
  refine ⟨T, g'', h1, h2, h3, fun x => (h4 x).trans (h.variables x), ?_, ?_⟩
  · rw [h.deinvert1_eq] at h5
    exact h5.trans (h.perm.map _)
  · intro x hx
    obtain ⟨t0, ht0, e⟩ := h6 x hx
    exact ⟨t0, (h.mem t0).1 ht0, e⟩

theorem sortTriples_some (m : Model) (ts : List Triple) (ks : List KeyFn) :
    sortTriples m ts (some ks) = ts.mergeSort (tripleLe m ks) := rfl

theorem tripleLe_total (m : Model) (ks : List KeyFn) (a b : Triple) :
    (tripleLe m ks a b || tripleLe m ks b a) = true :=
  RA.kvLe_total ((RA.evalKeys_shape m ks a.role).trans (RA.evalKeys_shape m ks b.role).symm)

theorem tripleLe_trans (m : Model) (ks : List KeyFn) (a b c : Triple) :
    tripleLe m ks a b = true → tripleLe m ks b c = true → tripleLe m ks a c = true :=
  RA.kvLe_trans ((RA.evalKeys_shape m ks a.role).trans (RA.evalKeys_shape m ks b.role).symm)
    ((RA.evalKeys_shape m ks b.role).trans (RA.evalKeys_shape m ks c.role).symm)

theorem sortTriples_pairwise (m : Model) (ts : List Triple) (ks : List KeyFn) :
    (sortTriples m ts (some ks)).Pairwise (fun a b => tripleLe m ks a b = true) :=
  List.pairwise_mergeSort (tripleLe_trans m ks) (tripleLe_total m ks) ts

theorem sortTriples_sublist (m : Model) (ks : List KeyFn) {ys ts : List Triple}
    (hp : ys.Pairwise (fun a b => tripleLe m ks a b = true)) (hs : ys.Sublist ts) :
    ys.Sublist (sortTriples m ts (some ks)) :=
  List.sublist_mergeSort (tripleLe_trans m ks) (tripleLe_total m ks) hp hs

/-- a strictly minimal triple comes first (used to compute the implicit top of a sorted graph
    without evaluating `mergeSort`) -/
theorem sortTriples_head_of_min (m : Model) (ks : List KeyFn) {ts : List Triple} {x : Triple} (hx : x ∈ ts)
    (hmin : ∀ y ∈ ts, y ≠ x → tripleLe m ks y x = false) :
    (sortTriples m ts (some ks)).head? = some x := by
  have hp := sortTriples_perm m ts (some ks)
  have hs := sortTriples_pairwise m ts ks
  cases hL : sortTriples m ts (some ks) with
  | nil =>
    rw [hL] at hp
    have := hp.mem_iff.2 hx
    simp at this
  | cons h r =>
    rw [hL] at hp hs
    have hxm : x ∈ h :: r := hp.mem_iff.2 hx
    by_cases e : h = x
    · simp [e]
    · have hr : x ∈ r := by
        rcases List.mem_cons.1 hxm with h' | h'
        · exact absurd h'.symm e
        · exact h'
      have hle := (List.pairwise_cons.1 hs).1 x hr
      have := hmin h (hp.mem_iff.1 List.mem_cons_self) e
      rw [this] at hle
      cases hle

theorem prep_getTop_implicit (m : Model) {g : Graph} (key : Option (List KeyFn)) (h : g.top = none) :
    (prep m g key).getTop = (sortTriples m g.triples key).head?.map (·.src) := by
  have e1 : (prep m g key).top = none := h
  have e2 : (prep m g key).triples = sortTriples m g.triples key := rfl
  unfold Graph.getTop
  rw [e1, e2]
  cases sortTriples m g.triples key <;> rfl

theorem interpret_top_explicit {isAlpha : Char → Bool} {m : Model} {T : Tree} {g : Graph}
    (h : interpret isAlpha m T = .ok g) : g.top.isSome = true := by
  obtain ⟨ts, es, hn, rfl⟩ := Interp.interpret_ok h
  cases hT : T.node with
  | mk v bs =>
    rw [hT] at hn
    cases v with
    | none => simp [interpretNode] at hn
    | some var => simp [Graph.mk', Node.var]

end Recfg
end Penman
