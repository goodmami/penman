/-
  Penman.Proofs.ResetVars — `Tree.reset_variables` (property C10; namespace `RV` = reset variables).
  First pass: decimal rendering, which templates are injective in the index, the least free index of a
  collision loop (`LeastFree`, which also serves the fresh variables of `reify_edges`/`reify_attributes`),
  `pickVar`, and the variable map `buildVarmap` builds. Second pass: `partition('~')`, `_map_vars` as
  the total renaming `renNode` (or `KeyError`), and that names from `'~'`/`'"'`-free templates are
  free of them.
-/
import Penman.Tree
namespace Penman.RV

theorem natToStr_eq (n : Nat) : natToStr n = Nat.toDigits 10 n := by
  simp [natToStr]

theorem natToStr_inj {a b : Nat} (h : natToStr a = natToStr b) : a = b := by
  rw [natToStr_eq, natToStr_eq] at h
  have := congrArg (fun l => Nat.ofDigitChars 10 l 0) h
  simpa [Nat.ofDigitChars_ten_toDigits] using this

theorem natToStr_ne_nil (n : Nat) : natToStr n ≠ [] := by
  rw [natToStr_eq]; exact Nat.toDigits_ne_nil

theorem natToStr_length_pos (n : Nat) : 0 < (natToStr n).length := by
  rw [natToStr_eq]; exact Nat.length_toDigits_pos

theorem natToStr_length_mono {a b : Nat} (h : a ≤ b) :
    (natToStr a).length ≤ (natToStr b).length := by
  rw [natToStr_eq, natToStr_eq]
  rw [Nat.length_toDigits_le_iff (by omega) Nat.length_toDigits_pos]
  have := (Nat.length_toDigits_le_iff (b := 10) (n := b) (k := (Nat.toDigits 10 b).length)
    (by omega) Nat.length_toDigits_pos).1 (Nat.le_refl _)
  omega

theorem natToStr_isDigit {n : Nat} {c : Char} (h : c ∈ natToStr n) : c.isDigit = true := by
  rw [natToStr_eq] at h
  exact Nat.isDigit_of_mem_toDigits (by decide) (by decide) h

/-- the function `Fmt.render` maps over the template (`Fmt.render_cons`) -/
def pieceRender (pre : Str) (i : Nat) : FmtPiece → Str
  | .lit s => s
  | .pre => pre
  | .i => natToStr i
  | .j => if i = 0 then [] else natToStr (i + 1)

theorem Fmt.render_nil (pre : Str) (i : Nat) : Fmt.render [] pre i = [] := rfl

theorem Fmt.render_cons (p : FmtPiece) (fmt : Fmt) (pre : Str) (i : Nat) :
    Fmt.render (p :: fmt) pre i = pieceRender pre i p ++ Fmt.render fmt pre i := by
  cases p <;> simp [Fmt.render, pieceRender]

theorem pieceRender_length_mono (p : FmtPiece) (pre : Str) {i j : Nat} (h : i ≤ j) :
    (pieceRender pre i p).length ≤ (pieceRender pre j p).length := by
  cases p with
  | lit s => simp [pieceRender]
  | pre => simp [pieceRender]
  | i => exact natToStr_length_mono h
  | j =>
    simp only [pieceRender]
    split
    · simp
    · rw [if_neg (by omega)]; exact natToStr_length_mono (by omega)

theorem Fmt.render_length_mono (fmt : Fmt) (pre : Str) {i j : Nat} (h : i ≤ j) :
    (Fmt.render fmt pre i).length ≤ (Fmt.render fmt pre j).length := by
  induction fmt with
  | nil => simp [Fmt.render_nil]
  | cons p fmt ih =>
    have := pieceRender_length_mono p pre h
    simp only [Fmt.render_cons, List.length_append]; omega

/-- if two renderings agree (for `i ≤ j`) they agree piece by piece -/
theorem Fmt.render_eq_pieces (fmt : Fmt) (pre : Str) {i j : Nat} (h : i ≤ j)
    (e : Fmt.render fmt pre i = Fmt.render fmt pre j) :
    ∀ p ∈ fmt, pieceRender pre i p = pieceRender pre j p := by
  induction fmt with
  | nil => simp
  | cons q fmt ih =>
    rw [Fmt.render_cons, Fmt.render_cons] at e
    have h1 := pieceRender_length_mono q pre h
    have h2 := Fmt.render_length_mono fmt pre h
    have h3 := congrArg List.length e
    simp only [List.length_append] at h3
    have ⟨e1, e2⟩ := List.append_inj e (by omega)
    intro p hp
    rcases List.mem_cons.1 hp with rfl | hp
    · exact e1
    · exact ih e2 p hp

theorem pieceRender_index_inj {p : FmtPiece} (hp : p = .i ∨ p = .j) (pre : Str) {i j : Nat}
    (e : pieceRender pre i p = pieceRender pre j p) : i = j := by
  rcases hp with rfl | rfl
  · exact natToStr_inj e
  · simp only [pieceRender] at e
    split at e <;> split at e
    · omega
    · exact absurd e.symm (natToStr_ne_nil _)
    · exact absurd e (natToStr_ne_nil _)
    · have := natToStr_inj e; omega

/-- distinct indices render differently (for every prefix) -/
def _root_.Penman.RenderInj (fmt : Fmt) : Prop :=
  ∀ pre i j, fmt.render pre i = fmt.render pre j → i = j

/-- every template that mentions `{i}` or `{j}` — with arbitrary literals,
    prefixes and further index pieces around it — is injective in the index -/
theorem renderInj_of_progressive {fmt : Fmt} (h : fmt.progressive = true) : RenderInj fmt := by
  intro pre i j e
  simp only [Fmt.progressive, List.any_eq_true, Bool.or_eq_true, decide_eq_true_eq] at h
  obtain ⟨p, hp, hp'⟩ := h
  rcases Nat.le_total i j with hij | hij
  · exact pieceRender_index_inj hp' pre (Fmt.render_eq_pieces fmt pre hij e p hp)
  · exact (pieceRender_index_inj hp' pre (Fmt.render_eq_pieces fmt pre hij e.symm p hp)).symm

theorem pieceRender_const {p : FmtPiece} (hi : p ≠ .i) (hj : p ≠ .j) (pre : Str) (i j : Nat) :
    pieceRender pre i p = pieceRender pre j p := by
  cases p with
  | lit s => rfl
  | pre => rfl
  | i => exact absurd rfl hi
  | j => exact absurd rfl hj

/-- conversely a template without index piece renders every index alike -/
theorem render_const_of_not_progressive {fmt : Fmt} (h : fmt.progressive = false) (pre : Str)
    (i j : Nat) : fmt.render pre i = fmt.render pre j := by
  induction fmt with
  | nil => exact (Fmt.render_nil pre i).trans (Fmt.render_nil pre j).symm
  | cons p fmt ih =>
    simp only [Fmt.progressive, List.any_cons, Bool.or_eq_false_iff, decide_eq_false_iff_not] at h
    rw [Fmt.render_cons, Fmt.render_cons, ih h.2, pieceRender_const h.1.1 h.1.2]

theorem renderInj_iff_progressive (fmt : Fmt) : RenderInj fmt ↔ fmt.progressive = true := by
  constructor
  · intro h
    cases hp : fmt.progressive with
    | true => rfl
    | false => exact absurd (h [] 0 1 (render_const_of_not_progressive hp [] 0 1)) (by omega)
  · exact renderInj_of_progressive

/-- `k` is the least index from `i` on with `c k ∉ used`: what the collision loops of
    `reset_variables`, `reify_edges` and `reify_attributes` look for -/
structure LeastFree (c : Nat → Str) (used : List Str) (i k : Nat) : Prop where
  le : i ≤ k
  free : c k ∉ used
  below : ∀ k', i ≤ k' → k' < k → c k' ∈ used

namespace LeastFree
variable {c : Nat → Str} {used : List Str} {i k : Nat}

theorem unique {k' : Nat} (h : LeastFree c used i k) (h' : LeastFree c used i k') : k = k' := by
  rcases Nat.lt_trichotomy k k' with lt | eq | gt
  · exact absurd (h'.below k h.le lt) h.free
  · exact eq
  · exact absurd (h.below k' h'.le gt) h'.free

theorem congr {used' : List Str} (hm : ∀ a, a ∈ used ↔ a ∈ used') (h : LeastFree c used i k) :
    LeastFree c used' i k :=
  ⟨h.le, fun x => h.free ((hm _).mpr x), fun k' a b => (hm _).mp (h.below k' a b)⟩

/-- a loop that finds `c i` taken goes on from `i + 1` … -/
theorem succ (h : LeastFree c used i k) (hi : c i ∈ used) : LeastFree c used (i + 1) k :=
  ⟨Nat.lt_of_le_of_ne h.le fun e => h.free (e ▸ hi), h.free, fun k' a b => h.below k' (Nat.le_of_succ_le a) b⟩

theorem self (hi : c i ∉ used) : LeastFree c used i i :=
  ⟨Nat.le_refl _, hi, fun _ a b => absurd a (Nat.not_le.mpr b)⟩

theorem pred (h : LeastFree c used (i + 1) k) (hi : c i ∈ used) : LeastFree c used i k :=
  ⟨Nat.le_of_succ_le h.le, h.free, fun k' a b =>
    if e : k' = i then e ▸ hi else h.below k' (Nat.lt_of_le_of_ne a (Ne.symm e)) b⟩

/-- … and one that finds it free stops -/
theorem eq_of_free (h : LeastFree c used i k) (hi : c i ∉ used) : k = i :=
  Nat.le_antisymm (Nat.not_lt.mp fun lt => hi (h.below i (Nat.le_refl _) lt)) h.le

end LeastFree

/-- pigeonhole: for injective `c` the least free index exists among the first `|used| + 1` -/
theorem exists_leastFree {c : Nat → Str} (hc : ∀ a b, c a = c b → a = b) (used : List Str) (i : Nat) :
    ∃ k, LeastFree c used i k ∧ k ≤ i + used.length := by
  generalize hn : used.length = n
  induction n generalizing used i with
  | zero =>
    have : used = [] := List.eq_nil_of_length_eq_zero hn
    exact ⟨i, .self (this ▸ List.not_mem_nil), Nat.le_refl _⟩
  | succ n ih =>
    by_cases hi : c i ∈ used
    · obtain ⟨k, hk, hb⟩ := ih (used.erase (c i)) (i + 1)
        (by rw [List.length_erase_of_mem hi, hn]; rfl)
      have hne : c k ≠ c i := fun e => Nat.ne_of_gt hk.le (hc _ _ e)
      have hk' : LeastFree c used (i + 1) k :=
        ⟨hk.le, fun hm => hk.free ((List.mem_erase_of_ne hne).mpr hm),
          fun k' a b => List.mem_of_mem_erase (hk.below k' a b)⟩
      exact ⟨k, hk'.pred hi, by omega⟩
    · exact ⟨i, .self hi, Nat.le_add_right _ _⟩

theorem pickVar_succ (fmt : Fmt) (pre : Str) (used : List Str) (f i : Nat) :
    pickVar fmt pre used (f + 1) i =
      if fmt.render pre i ∈ used then pickVar fmt pre used f (i + 1) else some (fmt.render pre i) := rfl

/-- with the least free index inside the fuel window, the loop returns its rendering -/
theorem pickVar_of_least {fmt : Fmt} {pre : Str} {used : List Str} {k : Nat} :
    ∀ (f i : Nat), LeastFree (fmt.render pre) used i k → k < i + f →
      pickVar fmt pre used f i = some (fmt.render pre k)
  | 0, i, h, hf => by have := h.le; omega
  | f+1, i, h, hf => by
    rw [pickVar_succ]
    by_cases hi : fmt.render pre i ∈ used
    · have := (h.succ hi).le
      rw [if_pos hi]
      exact pickVar_of_least f (i + 1) (h.succ hi) (by omega)
    · rw [if_neg hi, h.eq_of_free hi]

theorem pickVar_some {fmt : Fmt} {pre : Str} {used : List Str} :
    ∀ (f i : Nat) (v : Str), pickVar fmt pre used f i = some v →
      ∃ k, LeastFree (fmt.render pre) used i k ∧ k < i + f ∧ v = fmt.render pre k
  | 0, i, v, h => nomatch h
  | f+1, i, v, h => by
    rw [pickVar_succ] at h
    by_cases hin : fmt.render pre i ∈ used
    · rw [if_pos hin] at h
      obtain ⟨k, hk, hf, hv⟩ := pickVar_some f (i + 1) v h
      exact ⟨k, hk.pred hin, by omega, hv⟩
    · rw [if_neg hin] at h
      cases h
      exact ⟨i, .self hin, by omega, rfl⟩

theorem pickVar_none {fmt : Fmt} {pre : Str} {used : List Str} :
    ∀ (f i : Nat), pickVar fmt pre used f i = none →
      ∀ k, i ≤ k → k < i + f → fmt.render pre k ∈ used := by
  intro f
  induction f with
  | zero => intro i _ k h1 h2; omega
  | succ f ih =>
    intro i h k h1 h2
    rw [pickVar_succ] at h
    by_cases hin : fmt.render pre i ∈ used
    · rw [if_pos hin] at h
      by_cases hk : k = i
      · exact hk ▸ hin
      · exact ih (i + 1) h k (by omega) (by omega)
    · rw [if_neg hin] at h
      cases h

/-- the loop terminates within `used.length + 1` rounds with the first
    non-colliding rendering -/
theorem pickVar_total {fmt : Fmt} (hinj : RenderInj fmt) (pre : Str) (used : List Str) :
    ∃ v k, pickVar fmt pre used (used.length + 1) 0 = some v ∧ v ∉ used ∧
      v = fmt.render pre k ∧ k ≤ used.length ∧ ∀ k', k' < k → fmt.render pre k' ∈ used := by
  obtain ⟨k, hk, hb⟩ := exists_leastFree (hinj pre) used 0
  exact ⟨_, k, pickVar_of_least _ 0 hk (by omega), hk.free, rfl, by omega,
    fun k' h => hk.below k' (Nat.zero_le _) h⟩

theorem mem_dedup {x : Str} : ∀ {l : List Str}, x ∈ dedup l ↔ x ∈ l
  | [] => by simp [dedup]
  | y :: l => by
    have ih := mem_dedup (x := x) (l := l)
    by_cases h : x = y <;> simp [dedup, List.mem_filter, ih, h]

theorem dedup_nodup : ∀ (l : List Str), (dedup l).Nodup
  | [] => by simp [dedup]
  | y :: l => by
    simp only [dedup, List.nodup_cons, List.mem_filter]
    exact ⟨by simp, (dedup_nodup l).filter _⟩

def avals (d : AList Str Str) : List Str := d.map (·.2)

theorem contains_iff_mem_keys {d : AList Str Str} {k : Str} :
    AList.contains d k = true ↔ k ∈ AList.keys d := by
  simp [AList.contains, AList.keys]

theorem get?_cons (k v : Str) {β : Type} (b : β) (d : AList Str β) :
    AList.get? ((k, b) :: d) v = if k = v then some b else AList.get? d v := by
  simp only [AList.get?, List.find?_cons]
  by_cases h : k = v <;> simp [h]

theorem contains_eq_isSome {β : Type} (d : AList Str β) (k : Str) :
    AList.contains d k = (AList.get? d k).isSome := by
  induction d with
  | nil => rfl
  | cons p r ih =>
    rw [AList.contains, List.any_cons, get?_cons p.1 k p.2 r]
    by_cases h : p.1 = k
    · rw [if_pos h, decide_eq_true h]; rfl
    · rw [if_neg h, decide_eq_false h, ← ih]; rfl

theorem get?_isSome_iff {d : AList Str Str} {k : Str} :
    (AList.get? d k).isSome = true ↔ k ∈ AList.keys d := by
  rw [← contains_eq_isSome]
  exact contains_iff_mem_keys

theorem get?_eq_none_iff {d : AList Str Str} {k : Str} :
    AList.get? d k = none ↔ k ∉ AList.keys d := by
  rw [← get?_isSome_iff]; cases AList.get? d k <;> simp

theorem mem_of_get? {d : AList Str Str} {k v : Str} (h : AList.get? d k = some v) : (k, v) ∈ d := by
  induction d with
  | nil => simp [AList.get?] at h
  | cons e d ih =>
    obtain ⟨a, b⟩ := e
    rw [get?_cons] at h
    by_cases e : a = k
    · simp only [if_pos e] at h; injection h with h; subst e; subst h; exact List.mem_cons_self
    · simp only [if_neg e] at h; exact List.mem_cons_of_mem _ (ih h)

theorem get?_of_mem_nodup {d : AList Str Str} {k v : Str} (hn : (AList.keys d).Nodup)
    (h : (k, v) ∈ d) : AList.get? d k = some v := by
  induction d with
  | nil => simp at h
  | cons e d ih =>
    obtain ⟨a, b⟩ := e
    simp only [AList.keys, List.map_cons, List.nodup_cons] at hn
    rw [get?_cons]
    rcases List.mem_cons.1 h with h | h
    · injection h with h1 h2; simp [h1, h2]
    · have : a ≠ k := by
        intro e; subst e
        exact hn.1 (List.mem_map.2 ⟨(a, v), h, rfl⟩)
      simp only [if_neg this]
      exact ih hn.2 h

theorem get?_inj_of_nodup_vals {d : AList Str Str} (hn : (avals d).Nodup) {a b x : Str}
    (ha : AList.get? d a = some x) (hb : AList.get? d b = some x) : a = b := by
  induction d with
  | nil => simp [AList.get?] at ha
  | cons e d ih =>
    obtain ⟨k, v⟩ := e
    simp only [avals, List.map_cons, List.nodup_cons] at hn
    rw [get?_cons] at ha hb
    by_cases h1 : k = a <;> by_cases h2 : k = b
    · exact h1.symm.trans h2
    · simp only [if_pos h1, if_neg h2] at ha hb
      injection ha with ha; subst ha
      exact absurd (List.mem_map.2 ⟨(b, v), mem_of_get? hb, rfl⟩) hn.1
    · simp only [if_neg h1, if_pos h2] at ha hb
      injection hb with hb; subst hb
      exact absurd (List.mem_map.2 ⟨(a, v), mem_of_get? ha, rfl⟩) hn.1
    · simp only [if_neg h1, if_neg h2] at ha hb
      exact ih hn.2 ha hb

/-- what `reset_variables` guarantees about the entry `e` added when the
    map already holds `before`: its name is the rendering, with the prefix of
    the concept of the first node carrying that variable, of the least index
    whose rendering is not yet taken -/
def EntryOk (isAlpha : Char → Bool) (lower : Char → Str) (fmt : Fmt)
    (nodes : List (Str × Branches)) (before : AList Str Str) (e : Str × Str) : Prop :=
  ∃ bs i, AList.get? nodes e.1 = some bs ∧
    e.2 = fmt.render (defaultPrefix isAlpha lower bs.concept) i ∧
    e.2 ∉ avals before ∧
    ∀ i', i' < i → fmt.render (defaultPrefix isAlpha lower bs.concept) i' ∈ avals before

/-- all entries of `ext`, appended one after the other to `vm`, are `EntryOk` -/
def ExtOk (isAlpha : Char → Bool) (lower : Char → Str) (fmt : Fmt)
    (nodes : List (Str × Branches)) : AList Str Str → AList Str Str → Prop
  | _, [] => True
  | vm, e :: ext => EntryOk isAlpha lower fmt nodes vm e ∧ ExtOk isAlpha lower fmt nodes (vm ++ [e]) ext

theorem ExtOk.weaken {isAlpha : Char → Bool} {lower : Char → Str} {fmt : Fmt}
    {nodes : List (Str × Branches)} (v : Str) (bs : Branches) :
    ∀ {ext vm : AList Str Str}, ExtOk isAlpha lower fmt nodes vm ext → v ∉ AList.keys ext →
      ExtOk isAlpha lower fmt ((v, bs) :: nodes) vm ext
  | [], _, _, _ => trivial
  | e :: ext, vm, h, hv => by
    simp only [AList.keys, List.map_cons, List.mem_cons, not_or] at hv
    obtain ⟨⟨bs', i, h1, h2⟩, h3⟩ := h
    refine ⟨⟨bs', i, ?_, h2⟩, ExtOk.weaken v bs h3 hv.2⟩
    rw [get?_cons, if_neg hv.1]; exact h1

theorem dedup_cons (x : Str) (l : List Str) : dedup (x :: l) = x :: (dedup l).filter (· ≠ x) := rfl

/-- the first occurrences outside `ks`, when the head is in `ks` … -/
theorem filter_dedup_cons_of_mem {v : Str} {ks : List Str} (hv : v ∈ ks) (l : List Str) :
    (dedup (v :: l)).filter (fun x => decide (x ∉ ks)) =
      (dedup l).filter (fun x => decide (x ∉ ks)) := by
  rw [dedup_cons, List.filter_cons_of_neg (by simpa using hv), List.filter_filter]
  refine List.filter_congr fun x _ => ?_
  by_cases hx : x ∈ ks
  · simp [hx]
  · have : x ≠ v := fun e => hx (e ▸ hv)
    simp [hx, this]

/-- … and when it is not -/
theorem filter_dedup_cons_of_not_mem {v : Str} {ks : List Str} (hv : v ∉ ks) (l : List Str) :
    (dedup (v :: l)).filter (fun x => decide (x ∉ ks)) =
      v :: (dedup l).filter (fun x => decide (x ∉ ks ++ [v])) := by
  rw [dedup_cons, List.filter_cons_of_pos (by simpa using hv), List.filter_filter]
  congr 1
  refine List.filter_congr fun x _ => ?_
  simp [not_or]

/-- The first pass appends one `EntryOk` entry per first occurrence of a variable that is not yet a
    key; `used` stays equal, as a set, to the values of the map (the hypothesis, re-established at each
    step), which is what turns `pickVar`'s "not in `used`" into "distinct from all earlier names". -/
theorem buildVarmap_spec {isAlpha : Char → Bool} {lower : Char → Str} {fmt : Fmt} :
    ∀ (l : List (Str × Branches)) (vm : AList Str Str) (used : List Str) (vm' : AList Str Str),
      buildVarmap isAlpha lower fmt l vm used = some vm' →
      (∀ x, x ∈ used ↔ x ∈ avals vm) →
      ∃ ext, vm' = vm ++ ext ∧
        AList.keys ext = (dedup (l.map (·.1))).filter (fun x => decide (x ∉ AList.keys vm)) ∧
        ExtOk isAlpha lower fmt l vm ext := by
  intro l
  induction l with
  | nil =>
    intro vm used vm' h _
    cases h
    exact ⟨[], (List.append_nil _).symm, rfl, trivial⟩
  | cons e rest ih =>
    obtain ⟨v, bs⟩ := e
    intro vm used vm' h hu
    simp only [buildVarmap] at h
    by_cases hc : AList.contains vm v = true
    · rw [if_pos hc] at h
      have hc' := contains_iff_mem_keys.1 hc
      obtain ⟨ext, h1, h2, h3⟩ := ih vm used vm' h hu
      refine ⟨ext, h1, h2.trans (filter_dedup_cons_of_mem hc' _).symm, ExtOk.weaken v bs h3 ?_⟩
      rw [h2]
      exact fun hv => of_decide_eq_true (List.mem_filter.1 hv).2 hc'
    · rw [if_neg hc] at h
      have hc' : v ∉ AList.keys vm := fun h => hc (contains_iff_mem_keys.2 h)
      split at h
      · cases h
      · rename_i nv hp
        obtain ⟨k, hk, _, hk3⟩ := pickVar_some _ _ _ hp
        have hkeys : AList.keys (vm ++ [(v, nv)]) = AList.keys vm ++ [v] := List.map_append
        have hu' : ∀ x, x ∈ nv :: used ↔ x ∈ avals (vm ++ [(v, nv)]) := by
          intro x
          rw [avals, List.map_append, List.mem_append, List.mem_cons, hu x, Or.comm]
          exact or_congr Iff.rfl List.mem_singleton.symm
        obtain ⟨ext, h1, h2, h3⟩ := ih _ _ vm' h hu'
        rw [hkeys] at h2
        refine ⟨(v, nv) :: ext, by rw [h1, List.append_assoc]; rfl,
          (congrArg (v :: ·) h2).trans (filter_dedup_cons_of_not_mem hc' _).symm,
          ⟨bs, k, by simp [get?_cons], hk3, fun h => hk.free (hk3 ▸ (hu nv).2 h),
            fun i' hi' => (hu _).1 (hk.below i' (Nat.zero_le _) hi')⟩, ExtOk.weaken v bs h3 ?_⟩
        rw [h2]
        exact fun hv => of_decide_eq_true (List.mem_filter.1 hv).2 (List.mem_append_right _ (List.mem_singleton.2 rfl))

theorem ExtOk.nodup_vals {isAlpha : Char → Bool} {lower : Char → Str} {fmt : Fmt}
    {nodes : List (Str × Branches)} :
    ∀ {ext vm : AList Str Str}, ExtOk isAlpha lower fmt nodes vm ext → (avals vm).Nodup →
      (avals (vm ++ ext)).Nodup
  | [], vm, _, h => by simpa using h
  | e :: ext, vm, ⟨⟨_, _, _, _, h3, _⟩, h'⟩, h => by
    have := ExtOk.nodup_vals h' (by
      simp only [avals, List.map_append, List.map_cons, List.map_nil] at h3 ⊢
      rw [List.nodup_append]
      refine ⟨h, by simp, ?_⟩
      intro a ha b hb
      simp only [List.mem_cons, List.not_mem_nil, or_false] at hb
      subst hb
      intro e; subst e; exact h3 ha)
    simpa using this

theorem ExtOk.index {isAlpha : Char → Bool} {lower : Char → Str} {fmt : Fmt}
    {nodes : List (Str × Branches)} :
    ∀ {ext vm : AList Str Str}, ExtOk isAlpha lower fmt nodes vm ext →
      ∀ (k : Nat) (h : k < ext.length), EntryOk isAlpha lower fmt nodes (vm ++ ext.take k) ext[k]
  | [], _, _, k, h => by simp at h
  | e :: ext, vm, ⟨h1, h2⟩, 0, _ => by simpa using h1
  | e :: ext, vm, ⟨h1, h2⟩, k + 1, h => by
    have := ExtOk.index h2 k (by simpa using h)
    simpa using this

/-- with a template mentioning `{i}` or `{j}` the first pass always succeeds -/
theorem buildVarmap_total {isAlpha : Char → Bool} {lower : Char → Str} {fmt : Fmt}
    (hp : fmt.progressive = true) :
    ∀ (l : List (Str × Branches)) (vm : AList Str Str) (used : List Str),
      (buildVarmap isAlpha lower fmt l vm used).isSome = true := by
  intro l
  induction l with
  | nil => intro vm used; simp [buildVarmap]
  | cons e rest ih =>
    obtain ⟨v, bs⟩ := e
    intro vm used
    simp only [buildVarmap]
    split
    · exact ih _ _
    · obtain ⟨nv, k, h, _⟩ := pickVar_total (renderInj_of_progressive hp)
        (defaultPrefix isAlpha lower bs.concept) used
      rw [h]
      exact ih _ _

/-- the text from the first `'~'` on (empty if there is none) -/
def alnSuffix (s : Str) : Str :=
  let p := partitionStr ['~'] s
  (if p.2.1 then ['~'] else []) ++ p.2.2

/-- the text before the first `'~'` -/
def alnStem (s : Str) : Str := (partitionStr ['~'] s).1

theorem partition_tilde_cons (c : Char) (cs : Str) :
    partitionStr ['~'] (c :: cs) =
      if c = '~' then ([], true, cs)
      else if (partitionStr ['~'] cs).2.1 then
        (c :: (partitionStr ['~'] cs).1, true, (partitionStr ['~'] cs).2.2)
      else (c :: cs, false, []) := by
  by_cases h : c = '~'
  · subst h; simp [partitionStr, List.isPrefixOf]
  · have : (['~'].isPrefixOf (c :: cs)) = false := by
      simp [List.isPrefixOf, Ne.symm h]
    simp [partitionStr, this, h]

/-- `partition('~')` of a text whose stem has no `'~'` -/
theorem partition_tilde_append : ∀ (q rest : Str), '~' ∉ q →
    partitionStr ['~'] (q ++ '~' :: rest) = (q, true, rest)
  | [], rest, _ => by simp [partition_tilde_cons]
  | c :: q, rest, h => by
    simp only [List.mem_cons, not_or] at h
    have ih := partition_tilde_append q rest h.2
    simp only [List.cons_append]
    rw [partition_tilde_cons, if_neg (Ne.symm h.1), ih]
    simp

theorem partition_tilde_none (q : Str) (h : '~' ∉ q) : partitionStr ['~'] q = (q, false, []) := by
  induction q with
  | nil => simp [partitionStr]
  | cons c q ih =>
    simp only [List.mem_cons, not_or] at h
    rw [partition_tilde_cons, if_neg (Ne.symm h.1), ih h.2]
    simp

theorem partition_tilde_spec (s : Str) :
    s = alnStem s ++ alnSuffix s ∧ '~' ∉ alnStem s ∧
    ((partitionStr ['~'] s).2.1 = false → alnStem s = s ∧ (partitionStr ['~'] s).2.2 = []) := by
  by_cases h : '~' ∈ s
  · obtain ⟨q, rest, rfl, hq⟩ := List.eq_append_cons_of_mem h
    simp only [alnStem, alnSuffix, partition_tilde_append q rest hq]
    exact ⟨rfl, hq, fun h => nomatch h⟩
  · simp only [alnStem, alnSuffix, partition_tilde_none s h]
    exact ⟨(List.append_nil s).symm, h, fun _ => ⟨trivial, trivial⟩⟩

theorem alnSuffix_shape (s : Str) : alnSuffix s = [] ∨ ∃ rest, alnSuffix s = '~' :: rest := by
  simp only [alnSuffix]
  cases hb : (partitionStr ['~'] s).2.1 with
  | true => exact Or.inr ⟨(partitionStr ['~'] s).2.2, by simp⟩
  | false => exact Or.inl (by simp [(partition_tilde_spec s).2.2 hb])

/-- the renaming a variable map induces (identity off its keys) -/
def renVar (vm : AList Str Str) (v : Str) : Str := (AList.get? vm v).getD v

/-- what `_map_vars` does to an atomic target under role `r` -/
def renAtom (vm : AList Str Str) (r : Str) (a : Atom) : Atom :=
  match a with
  | .str s =>
    if r ≠ ['/'] then
      match AList.get? vm (alnStem s) with
      | some nv => Atom.str (nv ++ alnSuffix s)
      | none => a
    else a
  | _ => a

mutual
/-- the shape-preserving renaming of a tree -/
def renNode (vm : AList Str Str) : Node → Node
  | .mk v bs => .mk (v.map (renVar vm)) (renBranches vm bs)
def renBranches (vm : AList Str Str) : Branches → Branches
  | .nil => .nil
  | .atom r a rest => .atom r (renAtom vm r a) (renBranches vm rest)
  | .sub r n rest => .sub r (renNode vm n) (renBranches vm rest)
end

mutual
/-- every node has a variable, and it is a key of `vm` -/
def nodeMappable (vm : AList Str Str) : Node → Bool
  | .mk v bs => (match v with | some x => AList.contains vm x | none => false) && branchesMappable vm bs
def branchesMappable (vm : AList Str Str) : Branches → Bool
  | .nil => true
  | .atom _ _ rest => branchesMappable vm rest
  | .sub _ n rest => nodeMappable vm n && branchesMappable vm rest
end

mutual
/-- every node has a variable -/
def nodeAllVars : Node → Bool
  | .mk v bs => v.isSome && branchesAllVars bs
def branchesAllVars : Branches → Bool
  | .nil => true
  | .atom _ _ rest => branchesAllVars rest
  | .sub _ n rest => nodeAllVars n && branchesAllVars rest
end

mutual
theorem nodeMappable_iff (vm : AList Str Str) : ∀ (n : Node),
    nodeMappable vm n = true ↔ nodeAllVars n = true ∧ ∀ v ∈ n.vars, v ∈ AList.keys vm
  | .mk v bs => by
    have ih := branchesMappable_iff vm bs
    cases v with
    | none => simp [nodeMappable, nodeAllVars]
    | some x =>
      simp only [nodeMappable, nodeAllVars, Bool.and_eq_true, ih, contains_iff_mem_keys, Node.vars,
        Node.nodes, Option.isSome_some, true_and, List.map_append, List.map_cons, List.map_nil,
        List.mem_append, List.mem_cons, List.not_mem_nil, or_false]
      constructor
      · rintro ⟨h1, h2, h3⟩
        refine ⟨h2, ?_⟩
        rintro v (rfl | h)
        · exact h1
        · exact h3 v h
      · rintro ⟨h1, h2⟩
        exact ⟨h2 x (Or.inl rfl), h1, fun v hv => h2 v (Or.inr hv)⟩
theorem branchesMappable_iff (vm : AList Str Str) : ∀ (bs : Branches),
    branchesMappable vm bs = true ↔
      branchesAllVars bs = true ∧ ∀ v ∈ bs.nodes.map (·.1), v ∈ AList.keys vm
  | .nil => by simp [branchesMappable, branchesAllVars, Branches.nodes]
  | .atom _ _ rest => branchesMappable_iff vm rest
  | .sub _ n rest => by
    have ih1 := nodeMappable_iff vm n
    have ih2 := branchesMappable_iff vm rest
    simp only [branchesMappable, branchesAllVars, Bool.and_eq_true, ih1, ih2, Branches.nodes,
      List.map_append, List.mem_append, Node.vars]
    constructor
    · rintro ⟨⟨h1, h2⟩, h3, h4⟩
      refine ⟨⟨h1, h3⟩, ?_⟩
      rintro v (h | h)
      · exact h2 v h
      · exact h4 v h
    · rintro ⟨⟨h1, h3⟩, h⟩
      exact ⟨⟨h1, fun v hv => h v (Or.inl hv)⟩, h3, fun v hv => h v (Or.inr hv)⟩
end

theorem mapVars_atom_eq (vm : AList Str Str) (r : Str) (a : Atom) (rest : Branches) :
    Branches.mapVars vm (.atom r a rest) =
      (Branches.mapVars vm rest).bind fun rest' => .ok (.atom r (renAtom vm r a) rest') := by
  cases a <;> simp only [Branches.mapVars, renAtom, alnStem, alnSuffix, List.append_assoc] <;> rfl

theorem except_if_bind {α β : Type} (c : Bool) (x : α) (e : PyErr) (f : α → Except PyErr β) :
    ((if c = true then Except.ok x else Except.error e) >>= f) =
      if c = true then f x else Except.error e := by
  cases c <;> rfl

mutual
/-- `_map_vars` either raises `KeyError` or returns the total renaming -/
theorem node_mapVars_eq (vm : AList Str Str) : ∀ (n : Node),
    n.mapVars vm =
      if nodeMappable vm n then .ok (renNode vm n) else .error (.other "KeyError")
  | .mk v bs => by
    cases v with
    | none => simp only [Node.mapVars, branches_mapVars_eq vm bs]; cases branchesMappable vm bs <;> rfl
    | some x =>
      simp only [Node.mapVars, branches_mapVars_eq vm bs, nodeMappable, renNode, Option.map_some,
        renVar, contains_eq_isSome]
      cases branchesMappable vm bs <;> cases AList.get? vm x <;> rfl
theorem branches_mapVars_eq (vm : AList Str Str) : ∀ (bs : Branches),
    bs.mapVars vm =
      if branchesMappable vm bs then .ok (renBranches vm bs) else .error (.other "KeyError")
  | .nil => rfl
  | .atom r a rest => by
    rw [mapVars_atom_eq, branches_mapVars_eq vm rest]
    show _ = if branchesMappable vm rest then _ else _
    cases branchesMappable vm rest <;> rfl
  | .sub r n rest => by
    simp only [Branches.mapVars, node_mapVars_eq vm n, branches_mapVars_eq vm rest, branchesMappable,
      renBranches, except_if_bind]
    by_cases h1 : nodeMappable vm n = true <;> by_cases h2 : branchesMappable vm rest = true <;>
      simp only [h1, h2, if_true, Bool.and_true, Bool.and_false, Bool.false_eq_true, if_false,
        Bool.and_self] <;> rfl
end

mutual
theorem renNode_vars (vm : AList Str Str) : ∀ (n : Node),
    (renNode vm n).vars = n.vars.map (renVar vm)
  | .mk v bs => by
    have ih := renBranches_vars vm bs
    cases v <;> simp [renNode, Node.vars, Node.nodes, ih]
theorem renBranches_vars (vm : AList Str Str) : ∀ (bs : Branches),
    (renBranches vm bs).nodes.map (·.1) = (bs.nodes.map (·.1)).map (renVar vm)
  | .nil => rfl
  | .atom _ _ rest => by simpa [renBranches, Branches.nodes] using renBranches_vars vm rest
  | .sub _ n rest => by
    have ih1 := renNode_vars vm n
    have ih2 := renBranches_vars vm rest
    simp only [Node.vars] at ih1
    simp [renBranches, Branches.nodes, ih1, ih2]
end

theorem renAtom_concept (vm : AList Str Str) (a : Atom) : renAtom vm ['/'] a = a := by
  cases a <;> simp [renAtom]

theorem renAtom_none (vm : AList Str Str) (r : Str) : renAtom vm r .none = .none := rfl

theorem renAtom_num (vm : AList Str Str) (r t : Str) : renAtom vm r (.num t) = .num t := rfl

theorem renAtom_ref {vm : AList Str Str} {r s nv : Str} (hr : r ≠ ['/'])
    (h : AList.get? vm (alnStem s) = some nv) :
    renAtom vm r (.str s) = .str (nv ++ alnSuffix s) := by
  simp [renAtom, hr, h]

theorem renAtom_other {vm : AList Str Str} {r s : Str} (h : AList.get? vm (alnStem s) = none) :
    renAtom vm r (.str s) = .str s := by
  simp only [renAtom, h]; split <;> rfl

/-- a character that may occur in a variable: neither `'~'` nor `'"'` -/
def cleanChar (c : Char) : Bool := c != '~' && c != '"'

def cleanStr (s : Str) : Bool := s.all cleanChar

def fmtClean : Fmt → Bool
  | [] => true
  | .lit s :: r => cleanStr s && fmtClean r
  | _ :: r => fmtClean r

theorem natToStr_clean (n : Nat) : cleanStr (natToStr n) = true := by
  simp only [cleanStr, List.all_eq_true]
  intro c hc
  have := natToStr_isDigit hc
  simp only [Char.isDigit, Bool.and_eq_true, decide_eq_true_eq] at this
  simp only [cleanChar, Bool.and_eq_true, bne_iff_ne, ne_eq]
  constructor <;> (intro e; subst e; revert this; decide)

theorem cleanStr_append (a b : Str) : cleanStr (a ++ b) = (cleanStr a && cleanStr b) :=
  List.all_append

theorem render_clean {fmt : Fmt} {pre : Str} (hf : fmtClean fmt = true) (hp : cleanStr pre = true)
    (i : Nat) : cleanStr (fmt.render pre i) = true := by
  induction fmt with
  | nil => rfl
  | cons p fmt ih =>
    rw [Fmt.render_cons, cleanStr_append, Bool.and_eq_true]
    cases p with
    | lit s =>
      simp only [fmtClean, Bool.and_eq_true] at hf
      exact ⟨hf.1, ih hf.2⟩
    | pre => exact ⟨hp, ih hf⟩
    | i => exact ⟨natToStr_clean i, ih hf⟩
    | j =>
      refine ⟨?_, ih hf⟩
      show cleanStr (if i = 0 then [] else natToStr (i + 1)) = true
      split
      · rfl
      · exact natToStr_clean _

theorem defaultPrefix_clean {isAlpha : Char → Bool} {lower : Char → Str}
    (hl : ∀ c, isAlpha c = true → cleanStr (lower c) = true) (t : Option Tgt) :
    cleanStr (defaultPrefix isAlpha lower t) = true := by
  unfold defaultPrefix
  split
  · split
    · rename_i c hc
      exact hl c (by simpa using List.find?_some hc)
    · rfl
  · rfl

theorem cleanStr_spec {s : Str} (h : cleanStr s = true) : '~' ∉ s ∧ s.head? ≠ some '"' := by
  simp only [cleanStr, List.all_eq_true, cleanChar, Bool.and_eq_true, bne_iff_ne, ne_eq] at h
  constructor
  · intro hm; exact (h _ hm).1 rfl
  · cases s with
    | nil => simp
    | cons c s =>
      simp only [List.head?_cons]
      intro e; injection e with e
      exact (h c List.mem_cons_self).2 e

end Penman.RV
