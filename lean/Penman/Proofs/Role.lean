/-
  Penman.Proofs.Role — helper lemmas for property C13 (role inversion and
  canonicalisation algebra): suffix arithmetic on `Str`, the three-way case
  analysis of a double inversion, termination of the `_canonicalize_inversion`
  loop for every pattern table, invariants of the loop, `ofCount`/`base`,
  what `ModelWf` gives (`wf_pair`, `wf_norm`), `canonRole`, the split of a role
  token at the first `'~'` (`rolePart`/`alnPart`), and the tree walk `canonNode`.
-/
import Penman.Spec.Role
namespace Penman
namespace Role

theorem endsWith_iff {p s : Str} : endsWith p s = true ↔ ∃ b, s = b ++ p := by
  unfold endsWith
  rw [List.isSuffixOf_iff_suffix]
  constructor
  · rintro ⟨t, h⟩; exact ⟨t, h.symm⟩
  · rintro ⟨t, h⟩; exact ⟨t, h.symm⟩

@[simp] theorem endsWith_append (b p : Str) : endsWith p (b ++ p) = true :=
  endsWith_iff.2 ⟨b, rfl⟩

theorem dropEnd_append (b p : Str) : dropEnd p.length (b ++ p) = b := by
  unfold dropEnd
  rw [List.length_append, Nat.add_sub_cancel]
  exact List.take_left' rfl

@[simp] theorem dropEnd_of (b : Str) : dropEnd 3 (b ++ ofStr) = b :=
  dropEnd_append b ofStr

/-- `dropEnd_of` with `ofStr` unfolded, the form `simp` meets after evaluating `ofStr` -/
@[simp] theorem dropEnd_of' (b : Str) : dropEnd 3 (b ++ ['-', 'o', 'f']) = b :=
  dropEnd_append b ofStr

theorem endsWith_of_eq {r : Str} (h : endsWith ofStr r = true) : r = dropEnd 3 r ++ ofStr := by
  obtain ⟨b, rfl⟩ := endsWith_iff.1 h
  simp

theorem endsWith_false_of_last {p s : Str} {c d : Char} (hp : p.getLast? = some c)
    (hs : s.getLast? = some d) (hcd : c ≠ d) : endsWith p s = false := by
  cases h : endsWith p s with
  | false => rfl
  | true =>
    obtain ⟨b, rfl⟩ := endsWith_iff.1 h
    rw [List.getLast?_append, hp] at hs
    simp at hs
    exact absurd hs hcd

theorem reverse_append_of (r : Str) : (r ++ ofStr).reverse = 'f' :: 'o' :: '-' :: r.reverse :=
  List.reverse_append

theorem getLast?_append_of (r : Str) : (r ++ ofStr).getLast? = some 'f' := by
  rw [List.getLast?_eq_head?_reverse, reverse_append_of]
  rfl

theorem endsWith_nl_append_of (r : Str) : endsWith ['\n'] (r ++ ofStr) = false :=
  endsWith_false_of_last (c := '\n') (d := 'f') rfl (getLast?_append_of r) (by decide)

@[simp] theorem length_ofStr : ofStr.length = 3 := rfl

theorem length_append_of (r : Str) : (r ++ ofStr).length = r.length + 3 := by
  simp

theorem getLast?_of_drop {x : Str} {n : Nat} {d : Char} (h : (x.drop n).getLast? = some d) :
    x.getLast? = some d := by
  have := List.getLast?_drop (i := n) (l := x)
  rw [h] at this
  split at this
  · cases this
  · exact this.symm

/-- a pattern matching `x` is the literal `x`, or `x` ends in an ASCII digit -/
theorem matches_cases {p : RolePat} {x : Str} (h : p.matches x = true) :
    p = .lit x ∨ ∃ d, x.getLast? = some d ∧ isAsciiDigit d = true := by
  cases p with
  | lit s => exact .inl (by rw [eq_of_beq h])
  | digit s =>
    simp only [RolePat.matches, Bool.and_eq_true] at h
    split at h
    · rename_i d hd
      exact .inr ⟨d, getLast?_of_drop (by rw [hd]; rfl), h.2⟩
    · exact absurd h.2 Bool.false_ne_true
  | digits s =>
    simp only [RolePat.matches, Bool.and_eq_true, Bool.not_eq_true', List.isEmpty_eq_false_iff,
      List.all_eq_true] at h
    obtain ⟨d, hd⟩ := Option.isSome_iff_exists.1 (List.getLast?_isSome.2 h.2.1)
    exact .inr ⟨d, getLast?_of_drop hd, h.2.2 d (List.mem_of_getLast? hd)⟩

theorem hasRole1_append_of {m : Model} {r : Str} (h : m.hasRole1 (r ++ ofStr) = true) :
    RolePat.lit (r ++ ofStr) ∈ m.pats := by
  unfold Model.hasRole1 at h
  rw [endsWith_nl_append_of] at h
  simp only [Bool.false_and, Bool.or_false] at h
  unfold Model.matchExact at h
  obtain ⟨p, hp, hm⟩ := List.any_eq_true.1 h
  rcases matches_cases hm with rfl | ⟨d, hd, hdig⟩
  · exact hp
  · rw [getLast?_append_of] at hd
    cases hd
    exact absurd hdig (by decide)

variable {m : Model}

theorem invertRole_inv {r : Str} (h1 : m.hasRole1 r = false) (h2 : endsWith ofStr r = true) :
    m.invertRole r = dropEnd 3 r := by
  simp [Model.invertRole, h1, h2]

theorem invertRole_def {r : Str} (h : m.hasRole1 r = true) : m.invertRole r = r ++ ofStr := by
  simp [Model.invertRole, h]

theorem invertRole_plain {r : Str} (h : endsWith ofStr r = false) : m.invertRole r = r ++ ofStr := by
  simp [Model.invertRole, h]

/-- the condition under which a double inversion removes `-of-of` -/
def Down (m : Model) (r : Str) : Prop :=
  ∃ b, r = b ++ ofStr ++ ofStr ∧ m.hasRole1 r = false ∧ m.hasRole1 (b ++ ofStr) = false

/-- the three possible effects of `invert_role ∘ invert_role` -/
theorem invInv_cases (m : Model) (r : Str) :
    (m.invertRole (m.invertRole r) = r ∧ ¬ Down m r)
    ∨ (∃ b, r = b ++ ofStr ++ ofStr ∧ m.hasRole1 r = false ∧ m.hasRole1 (b ++ ofStr) = false
        ∧ m.invertRole (m.invertRole r) = b)
    ∨ (m.hasRole1 (r ++ ofStr) = true ∧ ¬ Down m r
        ∧ m.invertRole (m.invertRole r) = r ++ ofStr ++ ofStr) := by
  by_cases hA : m.hasRole1 r = false ∧ endsWith ofStr r = true
  · obtain ⟨h1, h2⟩ := hA
    obtain ⟨s, rfl⟩ := endsWith_iff.1 h2
    rw [invertRole_inv h1 h2, dropEnd_of]
    by_cases hB : m.hasRole1 s = false ∧ endsWith ofStr s = true
    · obtain ⟨h3, h4⟩ := hB
      obtain ⟨b, rfl⟩ := endsWith_iff.1 h4
      right; left
      exact ⟨b, rfl, h1, h3, by rw [invertRole_inv h3 h4, dropEnd_of]⟩
    · left
      have hs : m.invertRole s = s ++ ofStr := by
        simp only [Model.invertRole]
        rw [if_neg]
        intro hc
        simp only [Bool.and_eq_true, Bool.not_eq_true'] at hc
        exact hB hc
      refine ⟨hs, ?_⟩
      rintro ⟨b, hb, _, hb2⟩
      have : s = b ++ ofStr := List.append_cancel_right hb
      subst this
      exact hB ⟨hb2, endsWith_append _ _⟩
  · have hr : m.invertRole r = r ++ ofStr := by
      simp only [Model.invertRole]
      rw [if_neg]
      intro hc
      simp only [Bool.and_eq_true, Bool.not_eq_true'] at hc
      exact hA hc
    have hnd : ¬ Down m r := by
      rintro ⟨b, hb, h1, _⟩
      apply hA
      refine ⟨h1, ?_⟩
      rw [hb]; exact endsWith_append _ _
    rw [hr]
    cases hH : m.hasRole1 (r ++ ofStr) with
    | false =>
      left
      refine ⟨?_, hnd⟩
      rw [invertRole_inv hH (endsWith_append _ _), dropEnd_of]
    | true =>
      right; right
      exact ⟨rfl, hnd, invertRole_def hH⟩

/-- number of literal patterns of length at least `n` -/
def litLong (m : Model) (n : Nat) : Nat :=
  m.pats.countP (fun p => match p with | .lit s => decide (n ≤ s.length) | _ => false)

theorem countP_lt_of_witness {α : Type} {p q : α → Bool} {l : List α}
    (hpq : ∀ x, p x = true → q x = true) {a : α} (ha : a ∈ l) (hqa : q a = true)
    (hpa : p a = false) : l.countP p < l.countP q := by
  induction l with
  | nil => cases ha
  | cons x xs ih =>
    have hmono : xs.countP p ≤ xs.countP q := List.countP_mono_left (fun x _ h => hpq x h)
    rw [List.countP_cons, List.countP_cons]
    rcases List.mem_cons.1 ha with rfl | hmem
    · simp [hqa, hpa]; omega
    · have := ih hmem
      by_cases hx : p x = true
      · simp [hx, hpq x hx]; omega
      · simp [hx]; split <;> omega

theorem litLong_step {r : Str} (h : m.hasRole1 (r ++ ofStr) = true) :
    litLong m (r.length + 9) < litLong m (r.length + 3) := by
  unfold litLong
  apply countP_lt_of_witness (a := RolePat.lit (r ++ ofStr))
  · intro p hp
    cases p <;> simp_all
    omega
  · exact hasRole1_append_of h
  · simp
  · simp

/-- once no `-of-of` can be removed, the loop only appends, and each append
    uses up one literal pattern -/
theorem canonLoop_up : ∀ (f : Nat) (r : Str), ¬ Down m r → litLong m (r.length + 3) < f →
    ∃ r', m.canonLoop f r = some r' := by
  intro f
  induction f with
  | zero => intro r _ h; omega
  | succ f ih =>
    intro r hnd hf
    simp only [Model.canonLoop]
    rcases invInv_cases m r with ⟨hfix, _⟩ | ⟨b, hb, h1, h2, _⟩ | ⟨hH, _, hup⟩
    · exact ⟨r, by rw [if_pos hfix]⟩
    · exact absurd ⟨b, hb, h1, h2⟩ hnd
    · rw [hup]
      split
      · exact ⟨_, rfl⟩
      · apply ih
        · rintro ⟨b, hb, _, hb2⟩
          have : r = b := List.append_cancel_right (List.append_cancel_right hb)
          subst this
          rw [hH] at hb2; cases hb2
        · have := litLong_step hH
          simp only [List.length_append, length_ofStr]
          have e : r.length + 3 + 3 + 3 = r.length + 9 := by omega
          rw [e]; omega

theorem canonLoop_terminates : ∀ (f : Nat) (r : Str), r.length + m.pats.length + 2 ≤ f →
    ∃ r', m.canonLoop f r = some r' := by
  intro f
  induction f with
  | zero => intro r h; omega
  | succ f ih =>
    intro r hf
    by_cases hd : Down m r
    · obtain ⟨b, hb, h1, h2⟩ := hd
      rcases invInv_cases m r with ⟨_, hnd⟩ | ⟨b', hb', _, _, hdown⟩ | ⟨_, hnd, _⟩
      · exact absurd ⟨b, hb, h1, h2⟩ hnd
      · simp only [Model.canonLoop]
        rw [hdown]
        split
        · exact ⟨_, rfl⟩
        · apply ih
          have : r.length = b'.length + 6 := by
            rw [hb']; simp
          omega
      · exact absurd ⟨b, hb, h1, h2⟩ hnd
    · apply canonLoop_up _ _ hd
      have : litLong m (r.length + 3) ≤ m.pats.length := List.countP_le_length
      omega

/-- `_canonicalize_inversion` terminates within `canonFuel` for EVERY model -/
theorem canonInversion_terminates (m : Model) (r : Str) : ∃ r', m.canonInversion r = some r' := by
  unfold Model.canonInversion
  split
  · exact ⟨r, rfl⟩
  · apply canonLoop_terminates
    unfold Model.canonFuel
    omega

theorem canonLoop_fix {r : Str} (h : m.invertRole (m.invertRole r) = r) (f : Nat) :
    m.canonLoop (f+1) r = some r := by
  simp [Model.canonLoop, h]

/-- any property preserved by a double inversion is preserved by the loop,
    and the loop ends at a fixed point of the double inversion -/
theorem canonLoop_inv (P : Str → Prop) (hP : ∀ x, P x → P (m.invertRole (m.invertRole x))) :
    ∀ (f : Nat) (r r' : Str), P r → m.canonLoop f r = some r' →
      P r' ∧ m.invertRole (m.invertRole r') = r' := by
  intro f
  induction f with
  | zero => intro r r' _ h; simp [Model.canonLoop] at h
  | succ f ih =>
    intro r r' hr h
    simp only [Model.canonLoop] at h
    split at h
    · rename_i heq
      cases h
      exact ⟨hr, heq⟩
    · exact ih _ _ (hP r hr) h

theorem canonInversion_inv (P : Str → Prop) (hP : ∀ x, P x → P (m.invertRole (m.invertRole x)))
    {r r' : Str} (hr : P r) (h : m.canonInversion r = some r') : P r' := by
  unfold Model.canonInversion at h
  split at h
  · cases h; exact hr
  · exact (canonLoop_inv P hP _ _ _ hr h).1

/-- the result of `_canonicalize_inversion` is defined or a fixed point of the double inversion -/
theorem canonInversion_result {r r' : Str} (h : m.canonInversion r = some r') :
    m.hasRole1 r' = true ∨ m.invertRole (m.invertRole r') = r' := by
  unfold Model.canonInversion at h
  split at h
  · rename_i hH; cases h; exact Or.inl hH
  · exact Or.inr (canonLoop_inv (fun _ => True) (fun _ _ => trivial) _ _ _ trivial h).2

theorem canonInversion_fixed_iff {r : Str} :
    m.canonInversion r = some r ↔ (m.hasRole1 r = true ∨ m.invertRole (m.invertRole r) = r) := by
  constructor
  · exact canonInversion_result
  · intro h
    unfold Model.canonInversion
    split
    · rfl
    · rcases h with h | h
      · contradiction
      · exact canonLoop_fix h _

/-- `_canonicalize_inversion` is idempotent, for every model -/
theorem canonInversion_idem {r r' : Str} (h : m.canonInversion r = some r') :
    m.canonInversion r' = some r' :=
  canonInversion_fixed_iff.2 (canonInversion_result h)

theorem ofStr_append_ofPow (n : Nat) : ofStr ++ ofPow n = ofPow n ++ ofStr := by
  induction n with
  | zero => simp [ofPow]
  | succ n ih => simp only [ofPow]; rw [← List.append_assoc, ih]

theorem ofPow_two_mul_succ (j : Nat) : ofPow (2 * (j+1)) = ofPow (2*j) ++ ofStr ++ ofStr := by
  rw [Nat.mul_succ]; rfl

theorem ofPow_two_mul_succ' (j : Nat) : ofPow (2 * (j+1)) = ofStr ++ ofStr ++ ofPow (2*j) := by
  rw [ofPow_two_mul_succ, List.append_assoc ofStr, ofStr_append_ofPow, ← List.append_assoc,
    ofStr_append_ofPow]

theorem stripOfRev_of (l : List Char) :
    stripOfRev ('f' :: 'o' :: '-' :: l) = ((stripOfRev l).1 + 1, (stripOfRev l).2) := by
  rw [stripOfRev]
  exact if_pos ⟨rfl, rfl, rfl⟩

theorem stripOfRev_of_not : ∀ {l : List Char}, (∀ rest, l ≠ 'f' :: 'o' :: '-' :: rest) →
    stripOfRev l = (0, l)
  | c1 :: c2 :: c3 :: rest, h => by
    rw [stripOfRev]
    exact if_neg fun ⟨h1, h2, h3⟩ => h rest (by rw [h1, h2, h3])
  | [], _ | [_], _ | [_, _], _ => rfl

theorem ofCount_append_of (r : Str) : ofCount (r ++ ofStr) = ofCount r + 1 := by
  rw [ofCount, reverse_append_of, stripOfRev_of]
  rfl

theorem base_append_of (r : Str) : base (r ++ ofStr) = base r := by
  rw [base, reverse_append_of, stripOfRev_of]
  rfl

theorem strip_of_not_endsWith {r : Str} (h : endsWith ofStr r = false) :
    stripOfRev r.reverse = (0, r.reverse) := by
  refine stripOfRev_of_not fun rest hl => ?_
  have : r = rest.reverse ++ ofStr := by
    rw [← List.reverse_reverse r, hl, ← List.reverse_reverse (rest.reverse ++ ofStr), reverse_append_of,
      List.reverse_reverse]
  rw [this, endsWith_append] at h
  cases h

theorem ofCount_of_not_endsWith {r : Str} (h : endsWith ofStr r = false) : ofCount r = 0 := by
  simp [ofCount, strip_of_not_endsWith h]

theorem base_of_not_endsWith {r : Str} (h : endsWith ofStr r = false) : base r = r := by
  simp [base, strip_of_not_endsWith h]

theorem ofCount_append_ofPow (r : Str) (n : Nat) : ofCount (r ++ ofPow n) = ofCount r + n := by
  induction n with
  | zero => simp [ofPow]
  | succ n ih => simp only [ofPow]; rw [← List.append_assoc, ofCount_append_of, ih]; omega

theorem base_append_ofPow (r : Str) (n : Nat) : base (r ++ ofPow n) = base r := by
  induction n with
  | zero => simp [ofPow]
  | succ n ih => simp only [ofPow]; rw [← List.append_assoc, base_append_of, ih]

/-- `base`/`ofCount` really decompose the role -/
theorem base_spec (r : Str) : r = base r ++ ofPow (ofCount r) ∧ endsWith ofStr (base r) = false := by
  generalize hn : r.length = n
  induction n using Nat.strongRecOn generalizing r with
  | _ n ih =>
    cases h : endsWith ofStr r with
    | false =>
      rw [base_of_not_endsWith h, ofCount_of_not_endsWith h]
      simp [ofPow, h]
    | true =>
      obtain ⟨b, rfl⟩ := endsWith_iff.1 h
      have hb := ih b.length (by rw [← hn]; simp) b rfl
      rw [base_append_of, ofCount_append_of]
      refine ⟨?_, hb.2⟩
      simp only [ofPow]
      rw [← List.append_assoc, ← hb.1]

/-- a double inversion adds or removes exactly one `-of-of` or nothing -/
theorem invInv_pair_inv (r : Str) (x : Str)
    (hx : ∃ j, r = x ++ ofPow (2*j) ∨ x = r ++ ofPow (2*j)) :
    ∃ j, r = m.invertRole (m.invertRole x) ++ ofPow (2*j)
      ∨ m.invertRole (m.invertRole x) = r ++ ofPow (2*j) := by
  obtain ⟨j, hj⟩ := hx
  rcases invInv_cases m x with ⟨hfix, _⟩ | ⟨b, hb, _, _, hdown⟩ | ⟨_, _, hup⟩
  · rw [hfix]; exact ⟨j, hj⟩
  · rw [hdown]
    rcases hj with hj | hj
    · refine ⟨j+1, Or.inl ?_⟩
      rw [hj, hb, ofPow_two_mul_succ']
      simp only [List.append_assoc]
    · cases j with
      | zero =>
        refine ⟨1, Or.inl ?_⟩
        simp only [ofPow, List.append_nil] at hj
        rw [← hj, hb]
        simp [ofPow]
      | succ j =>
        refine ⟨j, Or.inr ?_⟩
        rw [hb, ofPow_two_mul_succ, ← List.append_assoc, ← List.append_assoc] at hj
        exact List.append_cancel_right (List.append_cancel_right hj)
  · rw [hup]
    rcases hj with hj | hj
    · cases j with
      | zero =>
        refine ⟨1, Or.inr ?_⟩
        simp only [ofPow, List.append_nil] at hj
        rw [hj]; simp [ofPow]
      | succ j =>
        refine ⟨j, Or.inl ?_⟩
        rw [hj, ofPow_two_mul_succ']
        simp only [List.append_assoc]
    · refine ⟨j+1, Or.inr ?_⟩
      rw [hj, ofPow_two_mul_succ]
      simp only [List.append_assoc]

theorem canonInversion_pairs {r r' : Str} (h : m.canonInversion r = some r') :
    ∃ j, r = r' ++ ofPow (2*j) ∨ r' = r ++ ofPow (2*j) :=
  canonInversion_inv (fun x => ∃ j, r = x ++ ofPow (2*j) ∨ x = r ++ ofPow (2*j))
    (fun x hx => invInv_pair_inv r x hx) ⟨0, Or.inl (by simp [ofPow])⟩ h

/-- if `r ++ "-of"` is not a defined role the loop can only remove pairs -/
theorem canonInversion_removes {r r' : Str} (hno : m.hasRole1 (r ++ ofStr) = false)
    (h : m.canonInversion r = some r') : ∃ j, r = r' ++ ofPow (2*j) := by
  have := canonInversion_inv
    (fun x => m.hasRole1 (x ++ ofStr) = false ∧ ∃ j, r = x ++ ofPow (2*j)) ?_
    ⟨hno, 0, by simp [ofPow]⟩ h
  · exact this.2
  · rintro x ⟨hx, j, hj⟩
    rcases invInv_cases m x with ⟨hfix, _⟩ | ⟨b, hb, _, hb2, hdown⟩ | ⟨hH, _, _⟩
    · rw [hfix]; exact ⟨hx, j, hj⟩
    · rw [hdown]
      refine ⟨hb2, j+1, ?_⟩
      rw [hj, hb, ofPow_two_mul_succ']
      simp only [List.append_assoc]
    · rw [hH] at hx; cases hx

theorem wf_pair (hw : m.noDefinedPair = true) {r : Str} (h : m.hasRole1 r = true) :
    m.hasRole1 (r ++ ofStr) = false := by
  cases hH : m.hasRole1 (r ++ ofStr) with
  | false => rfl
  | true =>
    have hmem := hasRole1_append_of hH
    have := List.all_eq_true.1 hw _ hmem
    simp [h] at this

/-- the decidable check `noDefinedPair` is exactly "no `r` with `r` and `r-of` both defined" -/
theorem noDefinedPair_iff :
    m.noDefinedPair = true ↔ ∀ r, m.hasRole1 r = true → m.hasRole1 (r ++ ofStr) = false := by
  constructor
  · intro hw r h; exact wf_pair hw h
  · intro h
    unfold Model.noDefinedPair
    apply List.all_eq_true.2
    intro p hp
    cases p with
    | digit s => rfl
    | digits s => rfl
    | lit s =>
      cases he : endsWith ofStr s with
      | false => simp [he]
      | true =>
        obtain ⟨b, rfl⟩ := endsWith_iff.1 he
        have hdef : m.hasRole1 (b ++ ofStr) = true := by
          unfold Model.hasRole1 Model.matchExact
          rw [Bool.or_eq_true]; left
          exact List.any_eq_true.2 ⟨_, hp, by simp [RolePat.matches]⟩
        cases hb : m.hasRole1 b with
        | false => simp [hb]
        | true => rw [h b hb] at hdef; cases hdef

theorem startsWith_colon_iff (r : Str) : startsWith [':'] r = true ↔ r.head? = some ':' := by
  cases r with
  | nil => exact ⟨nofun, nofun⟩
  | cons c cs =>
    rw [List.head?_cons, Option.some.injEq]
    exact ⟨fun h => (by simpa [startsWith] using h : ':' = c).symm, fun h => by subst h; rfl⟩

theorem wf_norm (hw : m.normOk = true) {k v : Str} (h : AList.get? m.norm k = some v) :
    (v = ['/'] ∨ v.head? = some ':') ∧ '~' ∉ v ∧ m.canonRole v = some v := by
  unfold AList.get? at h
  cases hf : m.norm.find? (·.1 = k) with
  | none => rw [hf] at h; cases h
  | some kv =>
    rw [hf] at h
    simp only [Option.map_some, Option.some.injEq] at h
    have hmem := List.mem_of_find?_eq_some hf
    have := List.all_eq_true.1 hw _ hmem
    rw [h] at this
    simp only [Bool.and_eq_true, Bool.or_eq_true, beq_iff_eq, Bool.not_eq_true',
      List.contains_eq_mem, decide_eq_false_iff_not] at this
    obtain ⟨⟨h1, h2⟩, h3⟩ := this
    exact ⟨h1.imp id (startsWith_colon_iff v).1, h2, h3⟩

theorem addColon_spec (r : Str) : addColon r = ['/'] ∨ (addColon r).head? = some ':' := by
  unfold addColon
  split
  · exact .inr rfl
  · rename_i h
    by_cases hr : r = ['/']
    · exact .inl hr
    · exact .inr ((startsWith_colon_iff r).1 (by simpa [hr] using h))

theorem addColon_of_ok {r : Str} (h : r = ['/'] ∨ r.head? = some ':') : addColon r = r := by
  unfold addColon
  rw [if_neg]
  rcases h with rfl | h
  · simp
  · simp [(startsWith_colon_iff r).2 h]

theorem addColon_noTilde {r : Str} (h : '~' ∉ r) : '~' ∉ addColon r := by
  unfold addColon
  split
  · simp only [List.mem_cons, not_or]; exact ⟨by decide, h⟩
  · exact h

theorem invInv_head (x : Str) (hx : x.head? = some ':') :
    (m.invertRole (m.invertRole x)).head? = some ':' := by
  have hne : x ≠ [] := by rintro rfl; cases hx
  rcases invInv_cases m x with ⟨hfix, _⟩ | ⟨b, hb, _, _, hdown⟩ | ⟨_, _, hup⟩
  · rw [hfix]; exact hx
  · rw [hdown]
    cases b with
    | nil => rw [hb] at hx; cases hx
    | cons c cs => rw [hb] at hx; simpa using hx
  · rw [hup]
    cases x with
    | nil => exact absurd rfl hne
    | cons c cs => simpa using hx

theorem invInv_noTilde (x : Str) (hx : '~' ∉ x) : '~' ∉ m.invertRole (m.invertRole x) := by
  rcases invInv_cases m x with ⟨hfix, _⟩ | ⟨b, hb, _, _, hdown⟩ | ⟨_, _, hup⟩
  · rw [hfix]; exact hx
  · rw [hdown]
    intro hb'
    apply hx
    rw [hb]
    simp [hb']
  · rw [hup]
    simp only [List.mem_append, not_or]
    exact ⟨⟨hx, by decide⟩, by decide⟩

theorem canonInversion_slash (hw : m.slashOk = true) : m.canonInversion ['/'] = some ['/'] := by
  apply canonInversion_fixed_iff.2
  right
  have h1 : m.hasRole1 ('/' :: ofStr) = false := by simpa [Model.slashOk] using hw
  have e1 : m.invertRole ['/'] = '/' :: ofStr := invertRole_plain (r := ['/']) (by decide)
  have e2 : m.invertRole ('/' :: ofStr) = dropEnd 3 ('/' :: ofStr) :=
    invertRole_inv h1 (endsWith_append ['/'] ofStr)
  rw [e1, e2]
  exact dropEnd_of ['/']

/-- the result of `_canonicalize_inversion` on a coloned role (or `/`) is coloned (or `/`) -/
theorem canonInversion_colon (hw : m.slashOk = true) {r r' : Str}
    (hr : r = ['/'] ∨ r.head? = some ':') (h : m.canonInversion r = some r') :
    r' = ['/'] ∨ r'.head? = some ':' := by
  rcases hr with rfl | hr
  · rw [canonInversion_slash hw] at h; cases h; exact Or.inl rfl
  · exact Or.inr (canonInversion_inv (fun x => x.head? = some ':') invInv_head hr h)

theorem canonInversion_noTilde {r r' : Str} (hr : '~' ∉ r) (h : m.canonInversion r = some r') :
    '~' ∉ r' :=
  canonInversion_inv (fun x => '~' ∉ x) invInv_noTilde hr h

theorem canonRole_eq (m : Model) (r : Str) :
    m.canonRole r = (m.canonInversion (addColon r)).map
      (fun r1 => (AList.get? m.norm r1).getD r1) := by
  unfold Model.canonRole addColon
  dsimp only
  split <;> (rename_i heq; rw [heq]; rfl)

theorem canonRole_terminates (m : Model) (r : Str) : ∃ r', m.canonRole r = some r' := by
  obtain ⟨r1, h1⟩ := canonInversion_terminates m (addColon r)
  exact ⟨_, by rw [canonRole_eq, h1]; rfl⟩

theorem canonRole_iff {r r' : Str} :
    m.canonRole r = some r' ↔
      ∃ r1, m.canonInversion (addColon r) = some r1 ∧ r' = (AList.get? m.norm r1).getD r1 := by
  rw [canonRole_eq]
  cases m.canonInversion (addColon r) with
  | none => simp
  | some r1 => simp [eq_comm]

theorem canonRole_colon (hs : m.slashOk = true) (hn : m.normOk = true) {r r' : Str}
    (h : m.canonRole r = some r') : r' = ['/'] ∨ r'.head? = some ':' := by
  obtain ⟨r1, h1, rfl⟩ := canonRole_iff.1 h
  cases hg : AList.get? m.norm r1 with
  | none => exact canonInversion_colon hs (addColon_spec r) h1
  | some v => exact (wf_norm hn hg).1

theorem canonRole_idem (hs : m.slashOk = true) (hn : m.normOk = true) {r r' : Str}
    (h : m.canonRole r = some r') : m.canonRole r' = some r' := by
  obtain ⟨r1, h1, rfl⟩ := canonRole_iff.1 h
  cases hg : AList.get? m.norm r1 with
  | some v => exact (wf_norm hn hg).2.2
  | none =>
    simp only [Option.getD_none]
    have hc := canonInversion_colon hs (addColon_spec r) h1
    apply canonRole_iff.2
    refine ⟨r1, ?_, by rw [hg]; rfl⟩
    rw [addColon_of_ok hc]
    exact canonInversion_idem h1

theorem canonRole_noTilde (hn : m.normOk = true) {r r' : Str} (hr : '~' ∉ r)
    (h : m.canonRole r = some r') : '~' ∉ r' := by
  obtain ⟨r1, h1, rfl⟩ := canonRole_iff.1 h
  cases hg : AList.get? m.norm r1 with
  | some v => exact (wf_norm hn hg).2.1
  | none => exact canonInversion_noTilde (addColon_noTilde hr) h1

/-- A canonical role is defined, or a fixed point of the double inversion. In the second case
    the inner inversion cannot change direction: a length count excludes both bad branches. -/
theorem inv_involutive (hw : m.noDefinedPair = true) {r : Str} (h : m.canonInversion r = some r) :
    m.invertRole (m.invertRole r) = r ∧ m.isRoleInverted (m.invertRole r) = !m.isRoleInverted r := by
  rcases canonInversion_fixed_iff.1 h with hH | hfix
  · have hno := wf_pair hw hH
    rw [invertRole_def hH, invertRole_inv hno (endsWith_append _ _), dropEnd_of]
    simp [Model.isRoleInverted, hH, hno]
  · refine ⟨hfix, ?_⟩
    cases hH : m.hasRole1 r with
    | true =>
      have hno := wf_pair hw hH
      rw [invertRole_def hH]
      simp [Model.isRoleInverted, hH, hno]
    | false =>
      cases he : endsWith ofStr r with
      | true =>
        obtain ⟨s, rfl⟩ := endsWith_iff.1 he
        rw [invertRole_inv hH he, dropEnd_of] at hfix ⊢
        simp only [Model.isRoleInverted, hH, he, Bool.not_false, Bool.and_self, Bool.not_true]
        -- `s` is not inverted, else the second inversion would have shortened it
        cases hs : (!m.hasRole1 s && endsWith ofStr s) with
        | false => rfl
        | true =>
          simp only [Bool.and_eq_true, Bool.not_eq_true'] at hs
          rw [invertRole_inv hs.1 hs.2] at hfix
          have := congrArg List.length hfix
          obtain ⟨b, rfl⟩ := endsWith_iff.1 hs.2
          simp at this
      | false =>
        rw [invertRole_plain he] at hfix ⊢
        simp only [Model.isRoleInverted, hH, he, Bool.not_false, Bool.and_false, Bool.not_false,
          endsWith_append, Bool.and_true, Bool.not_eq_true']
        cases hs : m.hasRole1 (r ++ ofStr) with
        | false => rfl
        | true =>
          rw [invertRole_def hs] at hfix
          have := congrArg List.length hfix
          simp at this

theorem partition_cons (c : Char) (cs : Str) :
    partitionStr ['~'] (c :: cs) =
      if c = '~' then ([], true, cs)
      else if (partitionStr ['~'] cs).2.1 then
        (c :: (partitionStr ['~'] cs).1, true, (partitionStr ['~'] cs).2.2)
      else (c :: cs, false, []) := by
  rw [partitionStr]
  by_cases hc : c = '~'
  · subst hc; simp [List.isPrefixOf]
  · have : ¬ '~' = c := fun h => hc h.symm
    simp [List.isPrefixOf, hc, this]

theorem partition_spec (s : Str) :
    '~' ∉ (partitionStr ['~'] s).1 ∧
    ((partitionStr ['~'] s).2.1 = true → s = (partitionStr ['~'] s).1 ++ '~' :: (partitionStr ['~'] s).2.2) ∧
    ((partitionStr ['~'] s).2.1 = false → (partitionStr ['~'] s).1 = s ∧ (partitionStr ['~'] s).2.2 = []) := by
  induction s with
  | nil => simp [partitionStr]
  | cons c cs ih =>
    rw [partition_cons]
    by_cases hc : c = '~'
    · subst hc; simp
    · rw [if_neg hc]
      cases hf : (partitionStr ['~'] cs).2.1 with
      | true =>
        simp only [if_true, List.mem_cons, not_or, true_implies]
        refine ⟨⟨fun h => hc h.symm, ih.1⟩, ?_, by simp⟩
        rw [List.cons_append, ← ih.2.1 hf]
      | false =>
        have := ih.2.2 hf
        simp only [Bool.false_eq_true, if_false, List.mem_cons, not_or]
        refine ⟨⟨fun h => hc h.symm, ?_⟩, by simp, by simp⟩
        rw [← this.1]; exact ih.1

theorem partition_of_noTilde {c : Str} (h : '~' ∉ c) : partitionStr ['~'] c = (c, false, []) := by
  induction c with
  | nil => simp [partitionStr]
  | cons x xs ih =>
    simp only [List.mem_cons, not_or] at h
    rw [partition_cons, if_neg (fun e => h.1 e.symm), ih h.2]
    simp

theorem partition_append {c : Str} (h : '~' ∉ c) (rest : Str) :
    partitionStr ['~'] (c ++ '~' :: rest) = (c, true, rest) := by
  induction c with
  | nil => simp [partition_cons]
  | cons x xs ih =>
    simp only [List.mem_cons, not_or] at h
    rw [List.cons_append, partition_cons, if_neg (fun e => h.1 e.symm), ih h.2]
    simp

theorem rolePart_noTilde (role : Str) : '~' ∉ rolePart role := (partition_spec role).1

/-- the alignment part as `partition` delivers it -/
theorem alnPart_eq (role : Str) :
    alnPart role = (if (partitionStr ['~'] role).2.1 then ['~'] else []) ++ (partitionStr ['~'] role).2.2 := by
  have hs := partition_spec role
  have key : ∀ a b : Str, role = a ++ '~' :: b → role.drop a.length = '~' :: b := by
    intro a b h; rw [h]; simp
  unfold alnPart rolePart
  cases hf : (partitionStr ['~'] role).2.1 with
  | true => rw [key _ _ (hs.2.1 hf)]; simp
  | false =>
    have h := hs.2.2 hf
    rw [h.1, h.2]; simp

theorem alnPart_cases (role : Str) : alnPart role = [] ∨ ∃ rest, alnPart role = '~' :: rest := by
  rw [alnPart_eq]
  cases hf : (partitionStr ['~'] role).2.1 with
  | true => right; exact ⟨_, rfl⟩
  | false => left; simp [((partition_spec role).2.2 hf).2]

theorem role_split (role : Str) : role = rolePart role ++ alnPart role := by
  have hs := partition_spec role
  rw [alnPart_eq]
  unfold rolePart
  cases hf : (partitionStr ['~'] role).2.1 with
  | true => simpa using hs.2.1 hf
  | false => have h := hs.2.2 hf; rw [h.2]; simp [h.1]

/-- splitting `c ++ aln` again, when `c` has no `'~'` and `aln` is an alignment part -/
theorem partition_rebuild {c aln : Str} (hc : '~' ∉ c) (ha : aln = [] ∨ ∃ rest, aln = '~' :: rest) :
    rolePart (c ++ aln) = c ∧ alnPart (c ++ aln) = aln := by
  unfold alnPart rolePart
  rcases ha with rfl | ⟨rest, rfl⟩
  · rw [List.append_nil, partition_of_noTilde hc]; simp
  · rw [partition_append hc]; simp

theorem canonRoleText_eq (m : Model) (role : Str) :
    canonBranches.canonRoleText m role =
      match m.canonRole (rolePart role) with
      | some c => .ok (c ++ alnPart role)
      | none => .error (.unmodelled "canonicalize_role does not terminate") := by
  unfold canonBranches.canonRoleText
  dsimp only
  rw [alnPart_eq]
  unfold rolePart
  split <;> simp [*]

theorem canonRoleText_ok {m : Model} {role role' : Str} :
    canonBranches.canonRoleText m role = .ok role' ↔ RoleRewritten m role role' := by
  rw [canonRoleText_eq]
  unfold RoleRewritten
  cases m.canonRole (rolePart role) with
  | none => simp
  | some c => simp [eq_comm]

theorem canonRoleText_total (m : Model) (role : Str) :
    ∃ role', canonBranches.canonRoleText m role = .ok role' := by
  obtain ⟨c, hc⟩ := canonRole_terminates m (rolePart role)
  exact ⟨c ++ alnPart role, canonRoleText_ok.2 ⟨c, hc, rfl⟩⟩

theorem roleRewritten_idem (hs : m.slashOk = true) (hn : m.normOk = true) {role role' : Str}
    (h : RoleRewritten m role role') : RoleRewritten m role' role' := by
  obtain ⟨c, hc, rfl⟩ := h
  have hnt := canonRole_noTilde hn (rolePart_noTilde role) hc
  obtain ⟨h1, h2⟩ := partition_rebuild hnt (alnPart_cases role)
  refine ⟨c, ?_, ?_⟩
  · rw [h1]; exact canonRole_idem hs hn hc
  · rw [h2]

/- the walk never fails, and its result has the shape of its argument, each role rewritten -/
mutual
theorem canonNode_spec (m : Model) : ∀ (n : Node),
    ∃ n', canonNode m n = .ok n' ∧ Node.sameShape (RoleRewritten m) n n'
  | .mk v bs => by
    obtain ⟨bs', hbs, hs⟩ := canonBranches_spec m bs
    exact ⟨.mk v bs', by rw [canonNode, hbs]; rfl, rfl, hs⟩
theorem canonBranches_spec (m : Model) : ∀ (b : Branches),
    ∃ b', canonBranches m b = .ok b' ∧ Branches.sameShape (RoleRewritten m) b b'
  | .nil => ⟨.nil, by rw [canonBranches]; rfl, trivial⟩
  | .atom role a rest => by
    obtain ⟨r', hr⟩ := canonRoleText_total m role
    obtain ⟨rest', hrest, hs⟩ := canonBranches_spec m rest
    exact ⟨.atom r' a rest', by rw [canonBranches, hr, hrest]; rfl, canonRoleText_ok.1 hr, rfl, hs⟩
  | .sub role n rest => by
    obtain ⟨r', hr⟩ := canonRoleText_total m role
    obtain ⟨n', hn, hsn⟩ := canonNode_spec m n
    obtain ⟨rest', hrest, hs⟩ := canonBranches_spec m rest
    exact ⟨.sub r' n' rest', by rw [canonBranches, hr, hn, hrest]; rfl, canonRoleText_ok.1 hr, hsn, hs⟩
end

theorem canonNode_total (m : Model) : ∀ (n : Node), ∃ n', canonNode m n = .ok n' :=
  fun n => (canonNode_spec m n).imp fun _ h => h.1

theorem canonBranches_total (m : Model) : ∀ (b : Branches), ∃ b', canonBranches m b = .ok b' :=
  fun b => (canonBranches_spec m b).imp fun _ h => h.1

theorem canonNode_shape (m : Model) : ∀ (n n' : Node), canonNode m n = .ok n' →
    Node.sameShape (RoleRewritten m) n n' := by
  intro n n' h
  obtain ⟨n'', h', hs⟩ := canonNode_spec m n
  rw [h] at h'
  cases h'
  exact hs

theorem canonBranches_shape (m : Model) : ∀ (b b' : Branches), canonBranches m b = .ok b' →
    Branches.sameShape (RoleRewritten m) b b' := by
  intro b b' h
  obtain ⟨b'', h', hs⟩ := canonBranches_spec m b
  rw [h] at h'
  cases h'
  exact hs

/- a tree whose roles are all fixed by the rewriting is fixed by the walk -/
mutual
theorem canonNode_fixed (m : Model) : ∀ (n : Node),
    Node.sameShape (fun _ r' => RoleRewritten m r' r') n n → canonNode m n = .ok n
  | .mk v bs, h => by
    rw [canonNode, canonBranches_fixed m bs h.2]; rfl
theorem canonBranches_fixed (m : Model) : ∀ (b : Branches),
    Branches.sameShape (fun _ r' => RoleRewritten m r' r') b b → canonBranches m b = .ok b
  | .nil, _ => by rw [canonBranches]; rfl
  | .atom role a rest, h => by
    rw [canonBranches, canonRoleText_ok.2 h.1, canonBranches_fixed m rest h.2.2]; rfl
  | .sub role n rest, h => by
    rw [canonBranches, canonRoleText_ok.2 h.1, canonNode_fixed m n h.2.1,
      canonBranches_fixed m rest h.2.2]; rfl
end

mutual
theorem sameShape_idem_node (hs : m.slashOk = true) (hn : m.normOk = true) : ∀ (n n' : Node),
    Node.sameShape (RoleRewritten m) n n' →
    Node.sameShape (fun _ r' => RoleRewritten m r' r') n' n'
  | .mk _ bs, .mk _ bs', h => ⟨rfl, sameShape_idem_branches hs hn bs bs' h.2⟩
theorem sameShape_idem_branches (hs : m.slashOk = true) (hn : m.normOk = true) : ∀ (b b' : Branches),
    Branches.sameShape (RoleRewritten m) b b' →
    Branches.sameShape (fun _ r' => RoleRewritten m r' r') b' b'
  | .nil, .nil, _ => trivial
  | .atom _ _ rest, .atom _ _ rest', h =>
    ⟨roleRewritten_idem hs hn h.1, rfl, sameShape_idem_branches hs hn rest rest' h.2.2⟩
  | .sub _ n rest, .sub _ n' rest', h =>
    ⟨roleRewritten_idem hs hn h.1, sameShape_idem_node hs hn n n' h.2.1,
      sameShape_idem_branches hs hn rest rest' h.2.2⟩
  | .nil, .atom .., h | .nil, .sub .., h | .atom .., .nil, h | .atom .., .sub .., h
  | .sub .., .nil, h | .sub .., .atom .., h => h.elim
end

theorem canonNode_idem (hs : m.slashOk = true) (hn : m.normOk = true) {n n' : Node}
    (h : canonNode m n = .ok n') : canonNode m n' = .ok n' :=
  canonNode_fixed m n' (sameShape_idem_node hs hn n n' (canonNode_shape m n n' h))

end Role
end Penman
