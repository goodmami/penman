/-
  Penman.Proofs.SortStrs — `strLt` is the lexicographic order of core on
  `List Char` (`strLt_iff`), a strict total order, so `sortStrs` (Python's
  `sorted` on strings) returns THE sorted permutation of its argument: its
  result does not depend on the order in which the argument was enumerated.
-/
import Penman.Transform
namespace Penman

theorem strLt_iff : ∀ a b : Str, strLt a b = true ↔ a < b
  | [], [] => by simp [strLt]
  | [], _ :: _ => by simp [strLt]
  | _ :: _, [] => by simp [strLt]
  | x :: xs, y :: ys => by
    rw [strLt, List.cons_lt_cons_iff, ← strLt_iff xs ys]
    by_cases hxy : x < y
    · simp [hxy]
    · by_cases hyx : y < x
      · have : x ≠ y := fun e => by subst e; exact hxy hyx
        simp [hxy, hyx, this]
      · have : x = y := Char.le_antisymm (Char.not_lt.1 hyx) (Char.not_lt.1 hxy)
        simp [this]

theorem strLt_eq_false_iff (a b : Str) : strLt a b = false ↔ b ≤ a := by
  rw [← Bool.not_eq_true, strLt_iff, List.not_lt]

theorem strLt_irrefl (a : Str) : strLt a a = false :=
  (strLt_eq_false_iff a a).2 (List.le_refl a)

theorem strLt_trans (a b c : Str) (h₁ : strLt a b = true) (h₂ : strLt b c = true) : strLt a c = true := by
  rw [strLt_iff] at *
  exact List.lt_trans h₁ h₂

theorem strLt_tri (a b : Str) (h₁ : strLt a b = false) (h₂ : strLt b a = false) : a = b :=
  List.le_antisymm ((strLt_eq_false_iff b a).1 h₂) ((strLt_eq_false_iff a b).1 h₁)

/-- the comparison `sortStrs` sorts by: `a ≤ b` -/
def strLe (a b : Str) : Bool := !strLt b a

theorem sortStrs_eq (l : List Str) : sortStrs l = l.mergeSort strLe := rfl

theorem strLe_iff (a b : Str) : strLe a b = true ↔ a ≤ b := by
  rw [strLe, Bool.not_eq_true', strLt_eq_false_iff]

theorem strLe_trans (a b c : Str) (h₁ : strLe a b = true) (h₂ : strLe b c = true) : strLe a c = true := by
  rw [strLe_iff] at *
  exact List.le_trans h₁ h₂

theorem strLe_total (a b : Str) : (strLe a b || strLe b a) = true := by
  rw [Bool.or_eq_true, strLe_iff, strLe_iff]
  exact List.le_total a b

theorem strLe_antisymm (a b : Str) (h₁ : strLe a b = true) (h₂ : strLe b a = true) : a = b := by
  rw [strLe_iff] at *
  exact List.le_antisymm h₁ h₂

theorem sortStrs_perm (l : List Str) : (sortStrs l).Perm l := List.mergeSort_perm l _

theorem mem_sortStrs (l : List Str) (x : Str) : x ∈ sortStrs l ↔ x ∈ l := List.mem_mergeSort

theorem sortStrs_sorted (l : List Str) :
    (sortStrs l).Pairwise (fun a b => strLt b a = false) := by
  have := List.pairwise_mergeSort (le := strLe) strLe_trans strLe_total l
  rw [sortStrs_eq]
  refine this.imp ?_
  intro a b h
  simpa [strLe] using h

theorem sortStrs_unique {l s : List Str} (hp : s.Perm l)
    (hs : s.Pairwise (fun a b => strLt b a = false)) : sortStrs l = s := by
  have s₁ := List.pairwise_mergeSort (le := strLe) strLe_trans strLe_total l
  rw [sortStrs_eq]
  refine List.Perm.eq_of_pairwise (le := fun a b => strLe a b = true) ?_ s₁ ?_ ?_
  · intro a b _ _ hab hba
    exact strLe_antisymm a b hab hba
  · refine hs.imp ?_
    intro a b h
    simp [strLe, h]
  · exact (List.mergeSort_perm l _).trans hp.symm

theorem sortStrs_congr {l₁ l₂ : List Str} (h : l₁.Perm l₂) : sortStrs l₁ = sortStrs l₂ :=
  sortStrs_unique ((sortStrs_perm l₂).trans h.symm) (sortStrs_sorted l₂)

/-- the list of unreachable variables that `Model.errors` walks through does
    not depend on the enumeration order of the sources -/
theorem sortStrs_filter_congr {l₁ l₂ : List Str} (p : Str → Bool) (h : l₁.Perm l₂) :
    sortStrs (l₁.filter p) = sortStrs (l₂.filter p) :=
  sortStrs_congr (h.filter p)

end Penman
