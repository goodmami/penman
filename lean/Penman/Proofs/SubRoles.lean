/-
  Penman.Proofs.SubRoles — a readable sufficient condition for `subRoleOk`
  (the hypothesis of `interpret_all_reach`): the role text of a nested-node
  branch, with its alignment stripped, is none of `:instance`, `instance`,
  `:instance-of`, `instance-of`.
-/
import Penman.Proofs.InterpReach
import Penman.Proofs.Role
namespace Penman

/-- the four role texts that end up as the instance role on a nested-node branch -/
def instanceLike : List Str :=
  [":instance".toList, "instance".toList, ":instance-of".toList, "instance-of".toList]

theorem instanceLike_eq : instanceLike =
    [CONCEPT_ROLE, CONCEPT_ROLE.tail, CONCEPT_ROLE ++ ofStr, CONCEPT_ROLE.tail ++ ofStr] := by
  rw [Interp.concept_chars, Interp.of_chars]
  unfold instanceLike
  simp -index only [String.toList_ofList]
  rfl

theorem ensureColon_eq_concept (x : Str) (h : ensureColon x = CONCEPT_ROLE) :
    x = CONCEPT_ROLE ∨ x = CONCEPT_ROLE.tail := by
  unfold ensureColon at h
  split at h
  · exact .inl h
  · exact .inr (congrArg List.tail h)

/-- de-inversion leaves the role as it is or strips a final `-of` -/
theorem deinvRole_cases (m : Model) (r : Str) :
    r = deinvRole m r ∨ r = deinvRole m r ++ ofStr := by
  unfold deinvRole
  split
  · exact .inl rfl
  · split
    · rename_i hi
      have hi : (!m.hasRole1 r && endsWith ofStr r) = true := hi
      rw [Model.invertRole, if_pos hi]
      exact .inr (Role.endsWith_of_eq (Bool.and_eq_true_iff.1 hi).2)
    · exact .inl rfl

/-- if the processed role is not instance-like, the branch is fine for every model -/
theorem subRoleOk_of_not_instanceLike (isAlpha : Char → Bool) (m : Model) (role : Str)
    (h : ∀ r e, processRole isAlpha role = .ok (r, e) → r ∉ instanceLike) :
    subRoleOk isAlpha m role = true := by
  unfold subRoleOk
  split
  · rename_i r e hp
    refine bne_iff_ne.2 fun hc => h r e hp ?_
    rw [instanceLike_eq]
    rcases ensureColon_eq_concept _ hc with hx | hx
    · rcases deinvRole_cases m r with h1 | h1
      · rw [h1, hx]; exact List.mem_cons_self
      · rw [h1, hx]; exact List.mem_cons_of_mem _ (List.mem_cons_of_mem _ List.mem_cons_self)
    · rcases deinvRole_cases m r with h1 | h1
      · rw [h1, hx]; exact List.mem_cons_of_mem _ List.mem_cons_self
      · rw [h1, hx]
        exact List.mem_cons_of_mem _ (List.mem_cons_of_mem _ (List.mem_cons_of_mem _ List.mem_cons_self))
  · rfl

end Penman
