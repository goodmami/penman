/-
  The Boolean well-formedness predicates of `Spec/TextWf.lean` versus the lexical grammar
  of `Spec/LexSpec.lean`, and the two directions of: a tree is `WfTreeText` iff it is the
  abstract tree of a well-formed concrete syntax tree all of whose token texts are good
  (`wfNode_cst`, `cst_wfNode`; put together in `C01.wfTreeText_iff`).
-/
import Penman.Proofs.FormatLex

namespace Penman.FL
open Penman.Spec Penman.Lex

variable {cfg : LexCfg}

theorem noBreakB_iff (s : Str) : noBreakB s = true ↔ NoBreak s := by
  simp [noBreakB, NoBreak]

theorem symbolB_iff (s : Str) :
    symbolB cfg s = true ↔ IsSymbol cfg s ∧ s.head? ≠ some '#' ∧ NoBreak s := by
  simp only [symbolB, Bool.and_eq_true, noBreakB_iff, IsSymbol, Bool.not_eq_true', List.isEmpty_eq_false_iff,
    List.all_eq_true, List.contains_eq_mem, decide_eq_false_iff_not, bne_iff_ne, ne_eq]
  constructor
  · rintro ⟨⟨⟨h1, h2⟩, h3⟩, h4⟩; exact ⟨⟨h1, h2⟩, h3, h4⟩
  · rintro ⟨⟨h1, h2⟩, h3, h4⟩; exact ⟨⟨⟨h1, h2⟩, h3⟩, h4⟩

theorem noBreak_cons {c : Char} {s : Str} (h1 : c ≠ '\n') (h2 : c ≠ '\r') : NoBreak (c :: s) ↔ NoBreak s := by
  simp [NoBreak, h1.symm, h2.symm]

theorem roleB_iff (s : Str) : roleB cfg s = true ↔ IsRole cfg s ∧ NoBreak s := by
  unfold roleB
  split
  · rename_i b
    simp only [Bool.and_eq_true, noBreakB_iff, IsRole, List.all_eq_true, Bool.not_eq_true',
      List.contains_eq_mem, decide_eq_false_iff_not, noBreak_cons (show ':' ≠ '\n' by decide) (show ':' ≠ '\r' by decide)]
    constructor
    · rintro ⟨h1, h2⟩; exact ⟨⟨b, rfl, h1⟩, h2⟩
    · rintro ⟨⟨b', hb, h1⟩, h2⟩; cases hb; exact ⟨h1, h2⟩
  · rename_i hne
    constructor
    · intro h; cases h
    · rintro ⟨⟨b, rfl, -⟩, -⟩; exact absurd rfl (hne b)

theorem stringB_iff (hwf : CfgWfP cfg) (s : Str) : stringB cfg s = true ↔ IsString cfg s ∧ NoBreak s := by
  simp only [stringB, Bool.and_eq_true, noBreakB_iff, beq_iff_eq]
  constructor
  · rintro ⟨h1, h2⟩; exact ⟨(scanString_sound h1).2.1, h2⟩
  · rintro ⟨h1, h2⟩
    exact ⟨scanString_complete hwf.quote_str hwf.bslash_str ⟨List.prefix_refl _, h1, by simp⟩, h2⟩

theorem alignmentB_iff (hwf : CfgWfP cfg) (s : Str) :
    alignmentB cfg s = true ↔ IsAlignment cfg s ∧ NoBreak s := by
  simp only [alignmentB, Bool.and_eq_true, noBreakB_iff, beq_iff_eq]
  constructor
  · rintro ⟨h1, h2⟩; exact ⟨(scanAlignment_sound h1).2.1, h2⟩
  · rintro ⟨h1, h2⟩
    have := scanAlignment_exact hwf h1 (rest := []) (by intro c hc; simp at hc)
    exact ⟨by simpa using this, h2⟩

theorem alignedB_iff (p : Str → Bool) (s : Str) :
    alignedB cfg p s = true ↔
      ∃ m a, s = m ++ a ∧ p m = true ∧ (a = [] ∨ alignmentB cfg a = true) := by
  simp only [alignedB, List.any_eq_true, List.mem_range, Bool.and_eq_true, Bool.or_eq_true,
    List.isEmpty_iff]
  constructor
  · rintro ⟨i, -, h1, h2⟩
    exact ⟨s.take i, s.drop i, (List.take_append_drop i s).symm, h1, h2⟩
  · rintro ⟨m, a, rfl, h1, h2⟩
    exact ⟨m.length, by simp; omega, by simpa using h1, by simpa using h2⟩

theorem aln_tok (hwf : CfgWfP cfg) {a : Str} (h : a = [] ∨ alignmentB cfg a = true) :
    ∃ o : Option Tok, (∀ t, o = some t → t.ty = .ALIGNMENT) ∧ (∀ t, o = some t → TokGood cfg t) ∧ alnText o = a := by
  by_cases ha : a = []
  · exact ⟨none, by simp, by simp, by simp [alnText, ha]⟩
  · have h := (alignmentB_iff hwf a).1 (h.resolve_left ha)
    exact ⟨some ⟨.ALIGNMENT, a, 0, 0⟩, by rintro t ⟨⟩; rfl,
      by rintro t ⟨⟩; exact ⟨h.1, h.2, by simp⟩, rfl⟩

theorem mk_ttext (tok : Tok) (o : Option Tok) (h1 : ∀ t, o = some t → t.ty = .ALIGNMENT)
    (h2 : ∀ t, o = some t → TokGood cfg t) (hg : TokGood cfg tok) :
    (TText.mk tok o).wfAln = true ∧ (TText.mk tok o).text = tok.text ++ alnText o ∧
      GoodToks cfg (TText.mk tok o).toks := by
  cases o with
  | none => exact ⟨rfl, by simp [TText.text, alnText], by simp [TText.toks, GoodToks, hg]⟩
  | some a =>
    exact ⟨by simp [TText.wfAln, h1 a rfl], by simp [TText.text, alnText],
      by simp [TText.toks, GoodToks, hg, h2 a rfl]⟩

theorem role_ttext (hwf : CfgWfP cfg) {s : Str} (h : roleTextB cfg s = true) :
    ∃ x : TText, x.tok.ty = .ROLE ∧ x.wfAln = true ∧ x.text = s ∧ GoodToks cfg x.toks := by
  obtain ⟨m, a, rfl, hm, ha⟩ := (alignedB_iff _ _).1 h
  obtain ⟨o, h1, h2, rfl⟩ := aln_tok hwf ha
  have hm := (roleB_iff m).1 hm
  obtain ⟨e1, e2, e3⟩ := mk_ttext ⟨.ROLE, m, 0, 0⟩ o h1 h2 ⟨hm.1, hm.2, by simp⟩
  exact ⟨_, rfl, e1, e2, e3⟩

theorem atom_ttext (hwf : CfgWfP cfg) {s : Str} (h : atomTextB cfg s = true) :
    ∃ x : TText, isSymOrStr x.tok = true ∧ x.wfAln = true ∧ x.text = s ∧ GoodToks cfg x.toks := by
  obtain ⟨m, a, rfl, hm, ha⟩ := (alignedB_iff _ _).1 h
  obtain ⟨o, h1, h2, rfl⟩ := aln_tok hwf ha
  simp only [Bool.or_eq_true] at hm
  rcases hm with hm | hm
  · have hm := (symbolB_iff m).1 hm
    obtain ⟨e1, e2, e3⟩ := mk_ttext ⟨.SYMBOL, m, 0, 0⟩ o h1 h2 ⟨hm.1, hm.2.2, fun _ => hm.2.1⟩
    exact ⟨_, rfl, e1, e2, e3⟩
  · have hm := (stringB_iff hwf m).1 hm
    obtain ⟨e1, e2, e3⟩ := mk_ttext ⟨.STRING, m, 0, 0⟩ o h1 h2 ⟨hm.1, hm.2, by simp⟩
    exact ⟨_, rfl, e1, e2, e3⟩

theorem aln_of_ttext (hwf : CfgWfP cfg) (x : TText) (ha : x.wfAln = true) (hg : GoodToks cfg x.toks) :
    alnText x.aln = [] ∨ alignmentB cfg (alnText x.aln) = true := by
  obtain ⟨-, h1, h2⟩ := ttParts x ha hg
  cases h : x.aln with
  | none => exact .inl rfl
  | some a =>
    have hg := h2 a h
    have := hg.1; rw [h1 a h] at this
    exact .inr ((alignmentB_iff hwf _).2 ⟨this, hg.2.1⟩)

theorem ttext_role (hwf : CfgWfP cfg) (x : TText) (hty : x.tok.ty = .ROLE) (ha : x.wfAln = true)
    (hg : GoodToks cfg x.toks) : roleTextB cfg x.text = true := by
  obtain ⟨hgt, -, -⟩ := ttParts x ha hg
  have := hgt.1; rw [hty] at this
  exact (alignedB_iff _ _).2 ⟨x.tok.text, alnText x.aln, ttText_eq x,
    (roleB_iff _).2 ⟨this, hgt.2.1⟩, aln_of_ttext hwf x ha hg⟩

theorem ttext_atom (hwf : CfgWfP cfg) (x : TText) (hty : isSymOrStr x.tok = true) (ha : x.wfAln = true)
    (hg : GoodToks cfg x.toks) : atomTextB cfg x.text = true := by
  obtain ⟨hgt, -, -⟩ := ttParts x ha hg
  refine (alignedB_iff _ _).2 ⟨x.tok.text, alnText x.aln, ttText_eq x, ?_, aln_of_ttext hwf x ha hg⟩
  simp only [isSymOrStr, Bool.or_eq_true, decide_eq_true_eq] at hty ⊢
  have := hgt.1
  rcases hty with hty | hty <;> rw [hty] at this
  · exact .inl ((symbolB_iff _).2 ⟨this, hgt.2.2 hty, hgt.2.1⟩)
  · exact .inr ((stringB_iff hwf _).2 ⟨this, hgt.2.1⟩)

def lpT : Tok := ⟨.LPAREN, ['('], 0, 0⟩
def rpT : Tok := ⟨.RPAREN, [')'], 0, 0⟩
def slT : Tok := ⟨.SLASH, ['/'], 0, 0⟩

theorem good_lpT : TokGood cfg lpT := ⟨rfl, ⟨by decide, by decide⟩, by simp [lpT]⟩
theorem good_rpT : TokGood cfg rpT := ⟨rfl, ⟨by decide, by decide⟩, by simp [rpT]⟩
theorem good_slT : TokGood cfg slT := ⟨rfl, ⟨by decide, by decide⟩, by simp [slT]⟩

def CNode.Good (cfg : LexCfg) (k : CNode) : Prop := k.wf = true ∧ GoodToks cfg k.toks
def CEdges.Good (cfg : LexCfg) (es : CEdges) : Prop := es.wf = true ∧ GoodToks cfg es.toks

theorem edge_atom_cst (hwf : CfgWfP cfg) {r : Str} {a : Atom} {es : CEdges} (hr : roleTextB cfg r = true)
    (ha : atomB cfg a = true) (he : CEdges.Good cfg es) :
    ∃ es' : CEdges, CEdges.Good cfg es' ∧ es'.tree = .atom r a es.tree := by
  obtain ⟨x, x1, x2, rfl, x4⟩ := role_ttext hwf hr
  cases a with
  | none =>
    exact ⟨.atom x none es, ⟨by simp [CEdges.wf, x1, x2, he.1],
      by simp only [CEdges.toks]; exact goodToks_append.2 ⟨x4, he.2⟩⟩, rfl⟩
  | str s =>
    obtain ⟨y, y1, y2, rfl, y4⟩ := atom_ttext hwf (by simpa [atomB] using ha)
    exact ⟨.atom x (some y) es, ⟨by simp [CEdges.wf, x1, x2, y1, y2, he.1],
      by simp only [CEdges.toks]; exact goodToks_append.2 ⟨x4, goodToks_append.2 ⟨y4, he.2⟩⟩⟩, rfl⟩
  | num t => simp [atomB] at ha

mutual
theorem wfNode_cst (hwf : CfgWfP cfg) : (t : Node) → wfNodeB cfg t = true →
    ∃ k : CNode, CNode.Good cfg k ∧ k.tree = t
  | .mk none bs, h => by
    cases bs <;> simp [wfNodeB] at h
    exact ⟨.empty lpT rpT, ⟨rfl, by simp [CNode.toks, GoodToks, good_lpT, good_rpT]⟩, rfl⟩
  | .mk (some v) bs, h => by
    simp only [wfNodeB, Bool.and_eq_true] at h
    obtain ⟨hv, hb⟩ := h
    have hv := (symbolB_iff v).1 hv
    have gv : TokGood cfg ⟨.SYMBOL, v, 0, 0⟩ := ⟨hv.1, hv.2.2, fun _ => hv.2.1⟩
    -- whatever the `/` part and the edges are, the node around them is `( v … )`
    have fin : ∀ (sl : Option (Tok × Option TText)) (es : CEdges), slashWf sl = true →
        GoodToks cfg (slashToks sl) → CEdges.Good cfg es →
        CNode.Good cfg (.mk lpT ⟨.SYMBOL, v, 0, 0⟩ sl es rpT) := by
      intro sl es h1 h2 h3
      refine ⟨by simp [CNode.wf, lpT, rpT, h1, h3.1], ?_⟩
      simp only [CNode.toks]
      exact goodToks_cons.2 ⟨good_lpT, goodToks_cons.2 ⟨gv, goodToks_append.2 ⟨h2,
        goodToks_append.2 ⟨h3.2, goodToks_cons.2 ⟨good_rpT, goodToks_nil⟩⟩⟩⟩⟩
    match bs, hb with
    | .nil, _ => exact ⟨_, fin none .nil rfl goodToks_nil ⟨rfl, goodToks_nil⟩, rfl⟩
    | .atom r a rest, hb =>
      simp only [wfTopB, Bool.and_eq_true] at hb
      obtain ⟨hra, hrest⟩ := hb
      obtain ⟨es, he, rfl⟩ := wfEdges_cst hwf rest hrest
      by_cases hr : r = ['/']
      · subst hr
        simp only [if_true] at hra
        cases a with
        | none =>
          exact ⟨_, fin (some (slT, none)) es rfl (by simp [slashToks, GoodToks, good_slT]) he, rfl⟩
        | str s =>
          obtain ⟨y, y1, y2, rfl, y4⟩ := atom_ttext hwf (by simpa [atomB] using hra)
          exact ⟨_, fin (some (slT, some y)) es (by simp [slashWf, slT, y1, y2])
            (by simp only [slashToks]; exact goodToks_cons.2 ⟨good_slT, y4⟩) he, rfl⟩
        | num t => simp [atomB] at hra
      · simp only [hr, if_false, Bool.and_eq_true] at hra
        obtain ⟨es', he', ht'⟩ := edge_atom_cst hwf hra.1 hra.2 he
        exact ⟨_, fin none es' rfl goodToks_nil he', by simp [CNode.tree, ht']⟩
    | .sub r n rest, hb =>
      simp only [wfTopB, Bool.and_eq_true] at hb
      obtain ⟨⟨hr, hn⟩, hrest⟩ := hb
      obtain ⟨es, he, rfl⟩ := wfEdges_cst hwf rest hrest
      obtain ⟨k, hk, rfl⟩ := wfNode_cst hwf n hn
      obtain ⟨x, x1, x2, rfl, x4⟩ := role_ttext hwf hr
      exact ⟨_, fin none (.sub x k es) rfl goodToks_nil ⟨by simp [CEdges.wf, x1, x2, hk.1, he.1],
        by simp only [CEdges.toks]; exact goodToks_append.2 ⟨x4, goodToks_append.2 ⟨hk.2, he.2⟩⟩⟩, rfl⟩
theorem wfEdges_cst (hwf : CfgWfP cfg) : (bs : Branches) → wfEdgesB cfg bs = true →
    ∃ es : CEdges, CEdges.Good cfg es ∧ es.tree = bs
  | .nil, _ => ⟨.nil, ⟨rfl, goodToks_nil⟩, rfl⟩
  | .atom r a rest, h => by
    simp only [wfEdgesB, Bool.and_eq_true] at h
    obtain ⟨⟨hr, ha⟩, hrest⟩ := h
    obtain ⟨es, he, rfl⟩ := wfEdges_cst hwf rest hrest
    exact edge_atom_cst hwf hr ha he
  | .sub r n rest, h => by
    simp only [wfEdgesB, Bool.and_eq_true] at h
    obtain ⟨⟨hr, hn⟩, hrest⟩ := h
    obtain ⟨es, he, rfl⟩ := wfEdges_cst hwf rest hrest
    obtain ⟨k, hk, rfl⟩ := wfNode_cst hwf n hn
    obtain ⟨x, x1, x2, rfl, x4⟩ := role_ttext hwf hr
    exact ⟨.sub x k es, ⟨by simp [CEdges.wf, x1, x2, hk.1, he.1],
      by simp only [CEdges.toks]; exact goodToks_append.2 ⟨x4, goodToks_append.2 ⟨hk.2, he.2⟩⟩⟩, rfl⟩
end

theorem wfTop_of_edges : (bs : Branches) → wfEdgesB cfg bs = true → wfTopB cfg bs = true
  | .nil, _ => rfl
  | .atom r a rest, h => by
    simp only [wfEdgesB, Bool.and_eq_true] at h
    simp only [wfTopB, Bool.and_eq_true]
    refine ⟨?_, h.2⟩
    split
    · exact h.1.2
    · simp [h.1.1, h.1.2]
  | .sub r n rest, h => by simpa [wfEdgesB, wfTopB] using h

mutual
theorem cst_wfNode (hwf : CfgWfP cfg) : (k : CNode) → CNode.Good cfg k → wfNodeB cfg k.tree = true
  | .empty lp rp, _ => rfl
  | .mk lp var sl es rp, ⟨hw, hg⟩ => by
    simp only [CNode.wf, Bool.and_eq_true, decide_eq_true_eq] at hw
    obtain ⟨⟨⟨⟨-, hv⟩, hsl⟩, hes⟩, -⟩ := hw
    simp only [CNode.toks] at hg
    obtain ⟨-, hg⟩ := goodToks_cons.1 hg
    obtain ⟨gv, hg⟩ := goodToks_cons.1 hg
    obtain ⟨gsl, hg⟩ := goodToks_append.1 hg
    obtain ⟨ges, -⟩ := goodToks_append.1 hg
    have hE := cst_wfEdges hwf es ⟨hes, ges⟩
    have hvs : symbolB cfg var.text = true := by
      have := gv.1; rw [hv] at this
      exact (symbolB_iff _).2 ⟨this, gv.2.2 hv, gv.2.1⟩
    simp only [CNode.tree, wfNodeB, Bool.and_eq_true]
    refine ⟨hvs, ?_⟩
    match sl, hsl, gsl with
    | none, _, _ => exact wfTop_of_edges _ hE
    | some (s, none), _, _ => simp [wfTopB, atomB, hE]
    | some (s, some c), hsl, gsl =>
      simp only [slashWf, Bool.and_eq_true, decide_eq_true_eq] at hsl
      simp only [slashToks] at gsl
      have := ttext_atom hwf c hsl.1.2 hsl.2 (goodToks_cons.1 gsl).2
      simp [wfTopB, atomB, hE, this]
theorem cst_wfEdges (hwf : CfgWfP cfg) : (es : CEdges) → CEdges.Good cfg es → wfEdgesB cfg es.tree = true
  | .nil, _ => rfl
  | .atom r none es, ⟨hw, hg⟩ => by
    simp only [CEdges.wf, Bool.and_eq_true, decide_eq_true_eq] at hw
    simp only [CEdges.toks] at hg
    obtain ⟨gr, ges⟩ := goodToks_append.1 hg
    simp [CEdges.tree, wfEdgesB, atomB, ttext_role hwf r hw.1.1 hw.1.2 gr, cst_wfEdges hwf es ⟨hw.2, ges⟩]
  | .atom r (some a) es, ⟨hw, hg⟩ => by
    simp only [CEdges.wf, Bool.and_eq_true, decide_eq_true_eq] at hw
    simp only [CEdges.toks] at hg
    obtain ⟨gr, hg⟩ := goodToks_append.1 hg
    obtain ⟨ga, ges⟩ := goodToks_append.1 hg
    simp [CEdges.tree, wfEdgesB, atomB, ttext_role hwf r hw.1.1.1.1 hw.1.1.1.2 gr,
      ttext_atom hwf a hw.1.1.2 hw.1.2 ga, cst_wfEdges hwf es ⟨hw.2, ges⟩]
  | .sub r n es, ⟨hw, hg⟩ => by
    simp only [CEdges.wf, Bool.and_eq_true, decide_eq_true_eq] at hw
    simp only [CEdges.toks] at hg
    obtain ⟨gr, hg⟩ := goodToks_append.1 hg
    obtain ⟨gn, ges⟩ := goodToks_append.1 hg
    simp [CEdges.tree, wfEdgesB, ttext_role hwf r hw.1.1.1 hw.1.1.2 gr,
      cst_wfNode hwf n ⟨hw.1.2, gn⟩, cst_wfEdges hwf es ⟨hw.2, ges⟩]
end

end Penman.FL
