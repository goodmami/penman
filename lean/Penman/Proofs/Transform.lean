/-
  Penman.Proofs.Transform — proofs about the graph transformations
  (`penman.transform`); the hypotheses live in `Penman.Spec.Transform`. Split into:

  * `Transform.Basic`       : `natToStr` injectivity, pigeonhole, `freshVar`, `attrVarLoop`,
                              association lists, `dedup`, `ensureColon`, `Graph.mk'`.
  * `Transform.Reify`       : totality of `nodeContexts`/`appearsInverted`; `derefLookup`;
                              `reifyEdges` as a `Run` of events.
  * `Transform.Dereify`     : `agendaScan`, `dereifyAgenda`, `dereifyEdges` characterised
                              (`entryRes_cases`, `collapseOf`, `derOut`).
  * `Transform.ReifyProps`  : use of the hypotheses on graphs (`PushVars`, `FreshSafe`),
                              the result of `reifyEdges`, static structure of its triples.
  * `Transform.Inverse`, `Transform.InverseMain` : dereify ∘ reify = id on triples and top;
                              the guard of `dereifyEdges`.
  * `Transform.Epidata`     : dereify ∘ reify on the markers.
  * `Transform.Text`        : `configure` congruence (identical tree / text).
  * `Transform.Attr`        : `reifyAttributes`.
  * `Transform.Branches`    : `indicateBranches`.
  * `Transform.Preserve`    : nodes and top kept by `reifyEdges`/`dereifyEdges`, totality of
                              `dereifyEdges`; `collapseOf_some`, `mem_dereifyEdges`.
  * `Transform.Connected`   : undirected connectivity is preserved.
  * `Transform.Program`     : every step / program preserves well-formedness, connectivity, top.
  * `Transform.Encode`      : the results satisfy C06's hypotheses, hence `configure` succeeds;
                              `TableInvOK` from declared roles.
-/
import Penman.Proofs.Transform.Basic
import Penman.Proofs.Transform.Reify
import Penman.Proofs.Transform.Dereify
import Penman.Proofs.Transform.ReifyProps
import Penman.Proofs.Transform.Inverse
import Penman.Proofs.Transform.InverseMain
import Penman.Proofs.Transform.Attr
import Penman.Proofs.Transform.Branches
import Penman.Proofs.Transform.Preserve
import Penman.Proofs.Transform.Epidata
import Penman.Proofs.Transform.Text
import Penman.Proofs.Transform.Connected
import Penman.Proofs.Transform.Program
import Penman.Proofs.Transform.Encode
