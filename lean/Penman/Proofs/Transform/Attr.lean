/-
  Penman.Proofs.Transform.Attr — `reifyAttributes` as a run of events; its triples, that no attribute is
  left, contraction back to the input, nodes kept.
-/
import Penman.Proofs.Transform.Basic
namespace Penman

abbrev AttrAcc := List Str × Nat × Epidata × List Triple

/-- the variable choice of `reify_attributes` -/
def attrVar (vars : List Str) (i : Nat) : Str × Nat :=
  if ['_'] ∈ vars then attrVarLoop vars (vars.length + 1) i else (['_'], i)

/-- the body of the loop of `reify_attributes` (verbatim) -/
def attrStep (acc : AttrAcc) (t : Triple) : AttrAcc :=
    let (vars, i, ep, ts) := acc
    if t.role ≠ CONCEPT_ROLE ∧ !atomInVars vars t.tgt then
      let (var, i') := if ['_'] ∈ vars then attrVarLoop vars (vars.length + 1) i else (['_'], i)
      let roleT : Triple := ⟨t.src, t.role, .str var⟩
      let nodeT : Triple := ⟨var, CONCEPT_ROLE, t.tgt⟩
      let old := (AList.get? ep t).getD []
      let ep := ep.erase t
      let (roleEpis, nodeEpis) := attrMarkers old
      let ep := (ep.set roleT (roleEpis ++ [.push var])).set nodeT (nodeEpis ++ [.pop])
      (var :: vars, i', ep, nodeT :: roleT :: ts)
    else (vars, i, ep, t :: ts)

theorem reifyAttributes_eq (g : Graph) :
    reifyAttributes g =
      Graph.mk' (g.triples.foldl attrStep (g.variables, 2, g.epidata, [])).2.2.2.reverse g.getTop
        (g.triples.foldl attrStep (g.variables, 2, g.epidata, [])).2.2.1 g.metadata := rfl

theorem attrVar_fresh (vars : List Str) (i : Nat) : (attrVar vars i).1 ∉ vars := by
  unfold attrVar
  split
  · exact attrVarLoop_fresh vars i
  · assumption

/-- events of `reify_attributes` -/
inductive AEv where
  | keep (t : Triple)
  | attr (t : Triple) (v : Str)

def AEv.orig : AEv → Triple
  | .keep t => t
  | .attr t _ => t

def attrRoleT (t : Triple) (v : Str) : Triple := ⟨t.src, t.role, .str v⟩
def attrNodeT (t : Triple) (v : Str) : Triple := ⟨v, CONCEPT_ROLE, t.tgt⟩

def AEv.out : AEv → List Triple
  | .keep t => [t]
  | .attr t v => [attrRoleT t v, attrNodeT t v]

def AEv.newVar : AEv → List Str
  | .keep _ => []
  | .attr _ v => [v]

theorem mem_flatMap_aout {l : List AEv} {t1 : Triple} :
    t1 ∈ l.flatMap AEv.out ↔
      AEv.keep t1 ∈ l ∨ ∃ t v, AEv.attr t v ∈ l ∧ (t1 = attrRoleT t v ∨ t1 = attrNodeT t v) := by
  rw [List.mem_flatMap]
  constructor
  · rintro ⟨e, he, h1⟩
    cases e with
    | keep t => exact Or.inl (List.mem_singleton.mp h1 ▸ he)
    | attr t v => exact Or.inr ⟨t, v, he, by simpa [AEv.out] using h1⟩
  · rintro (he | ⟨t, v, he, h1⟩)
    · exact ⟨_, he, List.mem_singleton.mpr rfl⟩
    · exact ⟨_, he, by simpa [AEv.out] using h1⟩

theorem mem_map_aorig {l : List AEv} {t : Triple} :
    t ∈ l.map AEv.orig ↔ AEv.keep t ∈ l ∨ ∃ v, AEv.attr t v ∈ l := by
  rw [List.mem_map]
  constructor
  · rintro ⟨e, he, rfl⟩
    cases e with
    | keep t => exact Or.inl he
    | attr t v => exact Or.inr ⟨v, he⟩
  · rintro (he | ⟨v, he⟩)
    · exact ⟨_, he, rfl⟩
    · exact ⟨_, he, rfl⟩

theorem mem_flatMap_anewVar {l : List AEv} {v : Str} :
    v ∈ l.flatMap AEv.newVar ↔ ∃ t, AEv.attr t v ∈ l := by
  rw [List.mem_flatMap]
  constructor
  · rintro ⟨e, he, hv⟩
    cases e with
    | keep t => cases hv
    | attr t v' => exact ⟨t, List.mem_singleton.mp hv ▸ he⟩
  · rintro ⟨t, he⟩
    exact ⟨_, he, List.mem_singleton.mpr rfl⟩

def attrSt (acc : AttrAcc) (t : Triple) : AttrAcc :=
  let v := (attrVar acc.1 acc.2.1).1
  let old := (AList.get? acc.2.2.1 t).getD []
  (v :: acc.1, (attrVar acc.1 acc.2.1).2,
    ((acc.2.2.1.erase t).set (attrRoleT t v) ((attrMarkers old).1 ++ [.push v])).set
      (attrNodeT t v) ((attrMarkers old).2 ++ [.pop]),
    attrNodeT t v :: attrRoleT t v :: acc.2.2.2)

theorem attrStep_attr {acc : AttrAcc} {t : Triple}
    (h : t.role ≠ CONCEPT_ROLE ∧ atomInVars acc.1 t.tgt = false) : attrStep acc t = attrSt acc t := by
  obtain ⟨vars, i, ep, ts⟩ := acc
  simp only at h
  simp only [attrStep, h.1, h.2, ne_eq, not_false_eq_true, Bool.not_false, and_self, if_true]
  rfl

theorem attrStep_keep {acc : AttrAcc} {t : Triple}
    (h : ¬ (t.role ≠ CONCEPT_ROLE ∧ atomInVars acc.1 t.tgt = false)) :
    attrStep acc t = (acc.1, acc.2.1, acc.2.2.1, t :: acc.2.2.2) := by
  obtain ⟨vars, i, ep, ts⟩ := acc
  simp only at h
  have : ¬ (t.role ≠ CONCEPT_ROLE ∧ (!atomInVars vars t.tgt) = true) := by
    simpa using h
  simp only [attrStep, this, if_false]

/-- the loop as a relation (latest event first) -/
inductive ARun (g : Graph) : List AEv → AttrAcc → Prop
  | nil : ARun g [] (g.variables, 2, g.epidata, [])
  | keep {rev acc} (t : Triple) : ARun g rev acc → t ∈ g.triples →
      (t.role = CONCEPT_ROLE ∨ atomInVars acc.1 t.tgt = true) →
      ARun g (.keep t :: rev) (acc.1, acc.2.1, acc.2.2.1, t :: acc.2.2.2)
  | attr {rev acc} (t : Triple) : ARun g rev acc → t ∈ g.triples →
      t.role ≠ CONCEPT_ROLE → atomInVars acc.1 t.tgt = false →
      ARun g (.attr t (attrVar acc.1 acc.2.1).1 :: rev) (attrSt acc t)

theorem arun_fold (g : Graph) : ∀ (l : List Triple) (rev : List AEv) (acc : AttrAcc),
    (∀ t ∈ l, t ∈ g.triples) → ARun g rev acc →
    ∃ rev', ARun g rev' (l.foldl attrStep acc) ∧
      rev'.reverse.map AEv.orig = rev.reverse.map AEv.orig ++ l
  | [], rev, acc, _, hr => ⟨rev, hr, by simp⟩
  | t :: l, rev, acc, hl, hr => by
    by_cases h : t.role ≠ CONCEPT_ROLE ∧ atomInVars acc.1 t.tgt = false
    · obtain ⟨rev', h1, h2⟩ := arun_fold g l _ _ (fun x hx => hl x (by simp [hx]))
        (ARun.attr t hr (hl t (by simp)) h.1 h.2)
      refine ⟨rev', ?_, ?_⟩
      · rw [List.foldl_cons, attrStep_attr h]; exact h1
      · rw [h2]; simp [AEv.orig]
    · have h' : t.role = CONCEPT_ROLE ∨ atomInVars acc.1 t.tgt = true := by
        by_cases hc : t.role = CONCEPT_ROLE
        · left; exact hc
        · right
          cases hv : atomInVars acc.1 t.tgt with
          | true => rfl
          | false => exact absurd ⟨hc, hv⟩ h
      obtain ⟨rev', h1, h2⟩ := arun_fold g l _ _ (fun x hx => hl x (by simp [hx]))
        (ARun.keep t hr (hl t (by simp)) h')
      refine ⟨rev', ?_, ?_⟩
      · rw [List.foldl_cons, attrStep_keep h]; exact h1
      · rw [h2]; simp [AEv.orig]

theorem reifyAttributes_run (g : Graph) :
    ∃ rev acc, ARun g rev acc ∧ rev.reverse.map AEv.orig = g.triples ∧
      reifyAttributes g = Graph.mk' acc.2.2.2.reverse g.getTop acc.2.2.1 g.metadata := by
  obtain ⟨rev, h1, h2⟩ := arun_fold g g.triples [] _ (fun _ h => h) ARun.nil
  exact ⟨rev, _, h1, by simpa using h2, reifyAttributes_eq g⟩

theorem arun_triples {g rev acc} (h : ARun g rev acc) :
    acc.2.2.2.reverse = rev.reverse.flatMap AEv.out := by
  induction h with
  | nil => rfl
  | keep t _ _ _ ih => simp [ih, AEv.out]
  | attr t _ _ _ _ ih => simp [attrSt, ih, AEv.out]

theorem arun_vars {g rev acc} (h : ARun g rev acc) :
    acc.1 = rev.flatMap AEv.newVar ++ g.variables := by
  induction h with
  | nil => rfl
  | keep t _ _ _ ih => simp [ih, AEv.newVar]
  | attr t _ _ _ _ ih => simp [attrSt, ih, AEv.newVar]

theorem arun_vars_nodup {g rev acc} (h : ARun g rev acc) : acc.1.Nodup := by
  induction h with
  | nil => exact nodup_variables g
  | keep t _ _ _ ih => exact ih
  | attr t _ _ _ _ ih =>
    simp only [attrSt, List.nodup_cons]
    exact ⟨attrVar_fresh _ _, ih⟩

/-- local facts of the events of a run -/
def AEvOk (g : Graph) (vars : List Str) : AEv → Prop
  | .keep t => t ∈ g.triples ∧ (t.role = CONCEPT_ROLE ∨ atomInVars vars t.tgt = true)
  | .attr t _ => t ∈ g.triples ∧ t.role ≠ CONCEPT_ROLE ∧ atomInVars g.variables t.tgt = false

theorem atomInVars_mono {a b : List Str} (h : ∀ x ∈ a, x ∈ b) {t : Atom}
    (ht : atomInVars a t = true) : atomInVars b t = true := by
  cases t with
  | str s => simp only [atomInVars, decide_eq_true_eq] at ht ⊢; exact h s ht
  | none => simp [atomInVars] at ht
  | num _ => simp [atomInVars] at ht

theorem arun_evOk {g rev acc} (h : ARun g rev acc) : ∀ e ∈ rev, AEvOk g acc.1 e := by
  induction h with
  | nil => simp
  | keep t _ ht hc ih =>
    intro e he
    rcases List.mem_cons.mp he with rfl | he
    · exact ⟨ht, hc⟩
    · exact ih e he
  | @attr rev0 acc0 t hrun' ht hr hv ih =>
    intro e he
    rcases List.mem_cons.mp he with rfl | he
    · refine ⟨ht, hr, ?_⟩
      cases hv' : atomInVars g.variables t.tgt with
      | false => rfl
      | true =>
        have := atomInVars_mono (a := g.variables) (b := acc0.1) (fun x hx => by
          rw [arun_vars hrun']; exact List.mem_append_right _ hx) hv'
        rw [hv] at this; simp at this
    · have := ih e he
      cases e with
      | keep t' =>
        refine ⟨this.1, this.2.imp id (fun h' => ?_)⟩
        exact atomInVars_mono (fun x hx => by simp [attrSt, hx]) h'
      | attr t' v' => exact this

theorem reifyAttributes_getTop (g : Graph) : (reifyAttributes g).getTop = g.getTop := by
  obtain ⟨rev, acc, hrun, ho, he⟩ := reifyAttributes_run g
  rw [he]
  apply mk'_getTop
  intro hnil
  rw [hnil] at ho
  have : rev = [] := by simpa using ho
  subst this
  rw [arun_triples hrun]; rfl

theorem reifyAttributes_top (g : Graph) : (reifyAttributes g).top = g.getTop := by
  obtain ⟨rev, acc, hrun, ho, he⟩ := reifyAttributes_run g
  rw [he]; rfl

/-- the triples of the result: every attribute `(s, r, c)` replaced in place by
    `(s, r, v), (v, :instance, c)` with `v` fresh and pairwise distinct -/
theorem reifyAttributes_triples (g : Graph) :
    ∃ evs : List AEv, evs.map AEv.orig = g.triples ∧
      (reifyAttributes g).triples =
        (evs.flatMap AEv.out).map (fun t => { t with role := ensureColon t.role }) ∧
      (evs.flatMap AEv.newVar).Nodup ∧ (∀ v ∈ evs.flatMap AEv.newVar, v ∉ g.variables) ∧
      (∀ e ∈ evs, AEvOk g (evs.flatMap AEv.newVar ++ g.variables) e) := by
  obtain ⟨rev, acc, hrun, ho, he⟩ := reifyAttributes_run g
  have hn := arun_vars_nodup hrun
  rw [arun_vars hrun, List.nodup_append] at hn
  have hperm := flatMap_reverse_perm rev AEv.newVar
  refine ⟨rev.reverse, ho, ?_, hperm.nodup_iff.mpr hn.1, ?_, ?_⟩
  · rw [he]
    simp only [Graph.mk']
    rw [arun_triples hrun]
  · intro v hv hv'
    exact hn.2.2 v (hperm.mem_iff.mp hv) v hv' rfl
  · intro e he'
    have := arun_evOk hrun e (by simpa using he')
    cases e with
    | keep t =>
      refine ⟨this.1, this.2.imp id (fun h' => atomInVars_mono ?_ h')⟩
      intro x hx
      rw [arun_vars hrun] at hx
      simp only [List.mem_append] at hx ⊢
      exact hx.imp hperm.mem_iff.mpr id
    | attr t v => exact this

/-- the same, by membership: every input triple has its event, and the triples of the result are
    those of the events (with the role normalisation of the `Graph` constructor) -/
theorem reifyAttributes_mem (g : Graph) :
    ∃ evs : List AEv, (∀ e ∈ evs, AEvOk g (evs.flatMap AEv.newVar ++ g.variables) e) ∧
      (∀ t, t ∈ g.triples ↔ AEv.keep t ∈ evs ∨ ∃ v, AEv.attr t v ∈ evs) ∧
      ∀ t1, t1 ∈ (reifyAttributes g).triples ↔
        (∃ t, AEv.keep t ∈ evs ∧ t1 = { t with role := ensureColon t.role }) ∨
        ∃ t v, AEv.attr t v ∈ evs ∧
          (t1 = { attrRoleT t v with role := ensureColon t.role } ∨ t1 = attrNodeT t v) := by
  obtain ⟨evs, ho, ht, _, _, hok⟩ := reifyAttributes_triples g
  refine ⟨evs, hok, fun t => by rw [← ho, mem_map_aorig], fun t1 => ?_⟩
  have hn : ∀ t v, ({ attrNodeT t v with role := ensureColon (attrNodeT t v).role } : Triple) =
      attrNodeT t v := by
    intro t v
    show { attrNodeT t v with role := ensureColon CONCEPT_ROLE } = attrNodeT t v
    rw [ensureColon_concept]
    rfl
  rw [ht, List.mem_map]
  constructor
  · rintro ⟨t0, h0, rfl⟩
    rcases mem_flatMap_aout.mp h0 with he | ⟨t, v, he, rfl | rfl⟩
    · exact Or.inl ⟨t0, he, rfl⟩
    · exact Or.inr ⟨t, v, he, Or.inl rfl⟩
    · exact Or.inr ⟨t, v, he, Or.inr (hn t v)⟩
  · rintro (⟨t, he, rfl⟩ | ⟨t, v, he, rfl | rfl⟩)
    · exact ⟨t, mem_flatMap_aout.mpr (.inl he), rfl⟩
    · exact ⟨_, mem_flatMap_aout.mpr (.inr ⟨t, v, he, .inl rfl⟩), rfl⟩
    · exact ⟨_, mem_flatMap_aout.mpr (.inr ⟨t, v, he, .inr rfl⟩), hn t v⟩

theorem reifyAttributes_vars_mono (g : Graph) {x : Str} (hx : x ∈ g.variables) :
    x ∈ (reifyAttributes g).variables := by
  obtain ⟨evs, _, hin, hout⟩ := reifyAttributes_mem g
  rw [mem_variables] at hx ⊢
  rcases hx with ⟨t, htg, hsrc⟩ | htop
  · rcases (hin t).mp htg with he | ⟨v, he⟩
    · exact Or.inl ⟨_, (hout _).mpr (.inl ⟨t, he, rfl⟩), hsrc⟩
    · exact Or.inl ⟨_, (hout _).mpr (.inr ⟨t, v, he, .inl rfl⟩), hsrc⟩
  · right
    rw [reifyAttributes_top]
    simp [Graph.getTop, htop]

/-- **No attribute is left.** -/
theorem reifyAttributes_no_attributes (g : Graph) : (reifyAttributes g).attributes = [] := by
  obtain ⟨evs, hok, _, hout⟩ := reifyAttributes_mem g
  unfold Graph.attributes Graph.filterTriples
  rw [List.filter_eq_nil_iff]
  intro t1 h1
  have hnewvar : ∀ t v, AEv.attr t v ∈ evs → (reifyAttributes g).isVar (.str v) = true := by
    intro t v he
    simp only [Graph.isVar, decide_eq_true_eq]
    exact src_mem_variables (t := attrNodeT t v) ((hout _).mpr (.inr ⟨t, v, he, .inr rfl⟩))
  rcases (hout t1).mp (List.mem_filter.mp h1).1 with ⟨t, he, rfl⟩ | ⟨t, v, he, rfl | rfl⟩
  · rcases (hok _ he).2 with hc | hv
    · simp [hc, ensureColon_concept]
    · -- a kept relation points to an old or a new variable
      have : (reifyAttributes g).isVar t.tgt = true := by
        cases htg : t.tgt with
        | str s =>
          rw [htg] at hv
          simp only [atomInVars, List.mem_append, decide_eq_true_eq] at hv
          rcases hv with hv | hv
          · obtain ⟨t', he'⟩ := mem_flatMap_anewVar.mp hv
            exact hnewvar t' s he'
          · simp only [Graph.isVar, decide_eq_true_eq]
            exact reifyAttributes_vars_mono g hv
        | none => rw [htg] at hv; simp [atomInVars] at hv
        | num _ => rw [htg] at hv; simp [atomInVars] at hv
      simp [this]
  · simp [attrRoleT, hnewvar t v he]
  · simp [attrNodeT]

/-- contract every pair `(s, r, v), (v, :instance, c)` with `v` new to `(s, r, c)` -/
def contractAttrs (isNew : Str → Bool) : List Triple → List Triple
  | t1 :: t2 :: rest =>
    if t2.role = CONCEPT_ROLE ∧ isNew t2.src = true ∧ t1.tgt = .str t2.src then
      ⟨t1.src, t1.role, t2.tgt⟩ :: contractAttrs isNew rest
    else t1 :: contractAttrs isNew (t2 :: rest)
  | l => l

/-- a triple followed by a triple with an old source is left alone -/
theorem contractAttrs_cons {isNew : Str → Bool} (t : Triple) {rest : List Triple}
    (h : ∀ t2 ∈ rest.head?, isNew t2.src = false) :
    contractAttrs isNew (t :: rest) = t :: contractAttrs isNew rest := by
  cases rest with
  | nil => rfl
  | cons t2 rest =>
    have := h t2 rfl
    rw [contractAttrs, if_neg]
    intro hc
    rw [this] at hc
    cases hc.2.1

/-- the first triple of the events has an old source -/
theorem head_out_src {g : Graph} {vars : List Str} {evs : List AEv}
    (hok : ∀ e ∈ evs, AEvOk g vars e) : ∀ t2 ∈ (evs.flatMap AEv.out).head?, t2.src ∈ g.variables := by
  intro t2 h
  cases evs with
  | nil => cases h
  | cons e r =>
    have hok2 := hok e (by simp)
    cases e with
    | keep t' =>
      cases h
      exact src_mem_variables hok2.1
    | attr t' v' =>
      cases h
      exact src_mem_variables (t := t') hok2.1

theorem contract_flatMap (g : Graph) (isNew : Str → Bool) (hnew : ∀ x ∈ g.variables, isNew x = false)
    (vars : List Str) : ∀ (evs : List AEv), (∀ e ∈ evs, AEvOk g vars e) →
    (∀ v ∈ evs.flatMap AEv.newVar, isNew v = true) →
    contractAttrs isNew (evs.flatMap AEv.out) = evs.map AEv.orig
  | [], _, _ => rfl
  | e :: r, hok, hv => by
    have hokr : ∀ e ∈ r, AEvOk g vars e := fun e he => hok e (by simp [he])
    have ih := contract_flatMap g isNew hnew vars r hokr (fun v hv' => hv v (by simp [hv']))
    cases e with
    | attr t v =>
      have : isNew v = true := hv v (by simp [AEv.newVar])
      simp only [List.flatMap_cons, AEv.out, List.cons_append, List.nil_append, contractAttrs,
        attrNodeT, attrRoleT, this, and_self, if_true, List.map_cons, AEv.orig, ih]
    | keep t =>
      show contractAttrs isNew (t :: r.flatMap AEv.out) = t :: r.map AEv.orig
      rw [contractAttrs_cons t (fun t2 h2 => hnew _ (head_out_src hokr t2 h2)), ih]

/-- **Contracting the new nodes gives back the original triples.** -/
theorem reifyAttributes_contract (g : Graph) (hg : RolesColon g) :
    contractAttrs (fun v => decide (v ∉ g.variables)) (reifyAttributes g).triples = g.triples := by
  obtain ⟨evs, ho, ht, _, hfresh, hok⟩ := reifyAttributes_triples g
  have hid : (evs.flatMap AEv.out).map (fun t => { t with role := ensureColon t.role })
      = evs.flatMap AEv.out := by
    apply map_ensureColon_id
    intro t1 h1
    rcases mem_flatMap_aout.mp h1 with he | ⟨t, v, he, rfl | rfl⟩
    · exact hg _ (hok _ he).1
    · exact hg t (hok _ he).1
    · exact concept_colon
  rw [ht, hid, ← ho]
  exact contract_flatMap g _ (fun x hx => by simp [hx]) _ evs hok
    (fun v hv => by simpa using hfresh v hv)

/-- **Every source still has a node.** -/
theorem reifyAttributes_hasInst (g : Graph) (h : HasInst g) : HasInst (reifyAttributes g) := by
  obtain ⟨evs, hok, hin, hout⟩ := reifyAttributes_mem g
  refine hasInst_transfer ?_ ?_ h
  · -- a node label is never treated as an attribute
    intro t htg hc
    rcases (hin t).mp htg with he | ⟨v, he⟩
    · exact ⟨_, (hout _).mpr (.inl ⟨t, he, rfl⟩), rfl, by simp only [hc, ensureColon_concept]⟩
    · exact absurd hc (hok _ he).2.1
  · intro t1 h1
    rcases (hout t1).mp h1 with ⟨t, he, rfl⟩ | ⟨t, v, he, rfl | rfl⟩
    · exact Or.inl ⟨t, (hok _ he).1, rfl⟩
    · exact Or.inl ⟨t, (hok _ he).1, rfl⟩
    · exact Or.inr ⟨_, (hout _).mpr (.inr ⟨t, v, he, .inr rfl⟩), rfl, rfl⟩

end Penman
