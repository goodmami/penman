/-
  Penman.Proofs.Transform.Basic — helper lemmas shared by the transformation
  proofs: `natToStr` injectivity, pigeonhole, fresh variables, association
  lists, `dedup`, `ensureColon`, the `HasInst` transfer lemma.
-/
import Penman.Spec.Transform
namespace Penman

theorem natToStr_eq (n : Nat) : natToStr n = Nat.toDigits 10 n := by
  simp [natToStr]

theorem natToStr_inj {a b : Nat} (h : natToStr a = natToStr b) : a = b := by
  rw [natToStr_eq, natToStr_eq] at h
  have := congrArg (fun l => Nat.ofDigitChars 10 l 0) h
  simpa using this

theorem natToStr_ne_nil (n : Nat) : natToStr n ≠ [] := by
  rw [natToStr_eq]; exact Nat.toDigits_ne_nil

theorem nodup_subset_length_le {α : Type} [DecidableEq α] :
    ∀ (l vars : List α), l.Nodup → (∀ x ∈ l, x ∈ vars) → l.length ≤ vars.length
  | [], _, _, _ => by simp
  | x :: l, vars, hn, hs => by
    have hx : x ∈ vars := hs x (by simp)
    have hn' := List.nodup_cons.mp hn
    have ih := nodup_subset_length_le l (vars.erase x) hn'.2 (by
      intro y hy
      have hyx : y ≠ x := by rintro rfl; exact hn'.1 hy
      exact (List.mem_erase_of_ne hyx).mpr (hs y (by simp [hy])))
    rw [List.length_erase_of_mem hx] at ih
    have : 0 < vars.length := List.length_pos_of_mem hx
    simp only [List.length_cons]; omega

/-- the candidate names `_i, _(i+1), …` -/
def uName (i : Nat) : Str := '_' :: natToStr i

theorem uName_inj {a b : Nat} (h : uName a = uName b) : a = b := by
  simp only [uName, List.cons.injEq, true_and] at h; exact natToStr_inj h

theorem uName_ne_underscore (i : Nat) : uName i ≠ ['_'] := by
  simp [uName, natToStr_ne_nil]

theorem uNames_nodup (i n : Nat) : ((List.range n).map (fun k => uName (i + k))).Nodup := by
  unfold List.Nodup
  rw [List.pairwise_map]
  refine List.Pairwise.imp ?_ (List.nodup_range (n := n))
  intro a b hab h
  have := uName_inj h
  omega

/-- pigeonhole: `vars` cannot hold more than `|vars|` consecutive candidates -/
theorem uNames_mem_le (vars : List Str) (i n : Nat) (h : ∀ k, i ≤ k → k < i + n → uName k ∈ vars) :
    n ≤ vars.length := by
  have := nodup_subset_length_le _ vars (uNames_nodup i n) (by
    intro x hx
    simp only [List.mem_map, List.mem_range] at hx
    obtain ⟨k, hk, rfl⟩ := hx
    exact h (i + k) (by omega) (by omega))
  simpa using this

/-! the shared-counter loop of `reify_attributes`; `freshVarLoop` is its first component -/

theorem attrVarLoop_spec (vars : List Str) : ∀ (f i : Nat),
    ∃ j, i ≤ j ∧ j ≤ i + f ∧ (attrVarLoop vars f i).1 = uName j ∧
      (j < i + f → uName j ∉ vars ∧ (attrVarLoop vars f i).2 = j + 1) ∧
      (∀ k, i ≤ k → k < j → uName k ∈ vars)
  | 0, i => ⟨i, by omega, by omega, rfl, by omega, by intro k h1 h2; omega⟩
  | f+1, i => by
    by_cases h : uName i ∈ vars
    · obtain ⟨j, h1, h2, h3, h4, h5⟩ := attrVarLoop_spec vars f (i+1)
      have e : attrVarLoop vars (f+1) i = attrVarLoop vars f (i+1) := if_pos h
      refine ⟨j, by omega, by omega, e ▸ h3, fun hj => e ▸ h4 (by omega), ?_⟩
      intro k hk1 hk2
      by_cases hk : k = i
      · exact hk ▸ h
      · exact h5 k (by omega) hk2
    · have e : attrVarLoop vars (f+1) i = (uName i, i+1) := if_neg h
      exact ⟨i, by omega, by omega, by rw [e], fun _ => ⟨h, by rw [e]⟩, by intro k h1 h2; omega⟩

/-- with fuel `|vars| + 1` the loop stops at a free name `_j`, all earlier candidates being taken -/
theorem attrVarLoop_full (vars : List Str) (i : Nat) :
    ∃ j, i ≤ j ∧ j ≤ i + vars.length ∧ attrVarLoop vars (vars.length + 1) i = (uName j, j + 1) ∧
      uName j ∉ vars ∧ ∀ k, i ≤ k → k < j → uName k ∈ vars := by
  obtain ⟨j, h1, h2, h3, h4, h5⟩ := attrVarLoop_spec vars (vars.length + 1) i
  have hj : j < i + (vars.length + 1) := by
    have := uNames_mem_le vars i (j - i) (fun k hk1 hk2 => h5 k hk1 (by omega))
    omega
  exact ⟨j, h1, by omega, Prod.ext h3 (h4 hj).2, (h4 hj).1, h5⟩

theorem attrVarLoop_fresh (vars : List Str) (i : Nat) :
    (attrVarLoop vars (vars.length + 1) i).1 ∉ vars := by
  obtain ⟨j, _, _, h, hj, _⟩ := attrVarLoop_full vars i
  rw [h]
  exact hj

theorem freshVarLoop_eq (vars : List Str) : ∀ (f i : Nat),
    freshVarLoop vars f i = (attrVarLoop vars f i).1
  | 0, _ => rfl
  | f+1, i => by
    show (if uName i ∈ vars then freshVarLoop vars f (i+1) else uName i) =
      (if uName i ∈ vars then attrVarLoop vars f (i+1) else (uName i, i+1)).1
    split
    · exact freshVarLoop_eq vars f (i+1)
    · rfl

theorem freshVar_fresh (vars : List Str) : freshVar vars ∉ vars := by
  unfold freshVar
  split
  · rw [freshVarLoop_eq]
    exact attrVarLoop_fresh vars 2
  · assumption

/-- shape of the fresh variable: `_`, or `_N` with `2 ≤ N ≤ |vars| + 2` and all
    smaller candidates taken. -/
theorem freshVar_shape (vars : List Str) :
    (freshVar vars = ['_'] ∧ ['_'] ∉ vars) ∨
    (['_'] ∈ vars ∧ ∃ n, 2 ≤ n ∧ n ≤ vars.length + 2 ∧ freshVar vars = uName n ∧
      ∀ k, 2 ≤ k → k < n → uName k ∈ vars) := by
  unfold freshVar
  split
  · rename_i h
    obtain ⟨j, h1, h2, h3, _, h5⟩ := attrVarLoop_full vars 2
    exact Or.inr ⟨h, j, h1, by omega, by rw [freshVarLoop_eq, h3], h5⟩
  · exact Or.inl ⟨rfl, by assumption⟩

theorem freshVar_succ_ne (vars : List Str) (extra : List Str) :
    freshVar (extra ++ freshVar vars :: vars) ≠ freshVar vars := by
  intro h
  have := freshVar_fresh (extra ++ freshVar vars :: vars)
  rw [h] at this
  simp at this

namespace AList
variable {α β : Type} [DecidableEq α]

theorem get?_nil (k : α) : get? ([] : AList α β) k = none := rfl

theorem get?_cons (p : α × β) (d : AList α β) (k : α) :
    get? (p :: d) k = if p.1 = k then some p.2 else get? d k := by
  unfold get?
  rw [List.find?_cons]
  by_cases h : p.1 = k
  · rw [if_pos h, decide_eq_true h]
    rfl
  · rw [if_neg h, decide_eq_false h]

theorem get?_set_self (d : AList α β) (k : α) (v : β) : get? (set d k v) k = some v := by
  induction d with
  | nil => simp [set, get?_cons]
  | cons p r ih =>
    obtain ⟨k', v'⟩ := p
    simp only [set]
    by_cases h : k' = k
    · simp [h, get?_cons]
    · simp [h, get?_cons, ih]

theorem get?_set_ne (d : AList α β) {k k' : α} (v : β) (h : k ≠ k') :
    get? (set d k v) k' = get? d k' := by
  induction d with
  | nil => simp [set, get?_cons, h, get?_nil]
  | cons p r ih =>
    obtain ⟨k0, v0⟩ := p
    simp only [set]
    by_cases h0 : k0 = k
    · subst h0; simp [get?_cons, h]
    · simp only [h0, if_false, get?_cons, ih]

theorem erase_cons (p : α × β) (d : AList α β) (k : α) :
    erase (p :: d) k = if p.1 = k then erase d k else p :: erase d k := by
  simp only [erase, List.filter_cons]
  by_cases h : p.1 = k <;> simp [h]

theorem get?_erase_self (d : AList α β) (k : α) : get? (erase d k) k = none := by
  induction d with
  | nil => rfl
  | cons p r ih =>
    rw [erase_cons]
    by_cases h : p.1 = k
    · simp [h, ih]
    · simp [h, get?_cons, ih]

theorem get?_erase_ne (d : AList α β) {k k' : α} (h : k ≠ k') :
    get? (erase d k) k' = get? d k' := by
  induction d with
  | nil => rfl
  | cons p r ih =>
    rw [erase_cons]
    by_cases h0 : p.1 = k
    · have : p.1 ≠ k' := by rw [h0]; exact h
      simp [h0, get?_cons, h, ih]
    · simp [h0, get?_cons, ih]

theorem keys_set (d : AList α β) (k : α) (v : β) :
    keys (set d k v) = if k ∈ keys d then keys d else keys d ++ [k] := by
  induction d with
  | nil => simp [set, keys]
  | cons p r ih =>
    obtain ⟨k0, v0⟩ := p
    simp only [set, keys] at ih ⊢
    by_cases h0 : k0 = k
    · simp [h0]
    · have : ¬ k = k0 := fun e => h0 e.symm
      simp only [h0, if_false, List.map_cons, ih, List.mem_cons, this, false_or]
      by_cases hk : k ∈ List.map (fun x => x.fst) r <;> simp [hk]

theorem mem_keys_set (d : AList α β) (k : α) (v : β) (x : α) :
    x ∈ keys (set d k v) ↔ x ∈ keys d ∨ x = k := by
  rw [keys_set]; split
  · constructor
    · exact Or.inl
    · rintro (h | rfl) <;> assumption
  · simp

theorem nodup_keys_set (d : AList α β) (k : α) (v : β) (h : (keys d).Nodup) :
    (keys (set d k v)).Nodup := by
  rw [keys_set]; split
  · exact h
  · rename_i hk
    rw [List.nodup_append]
    refine ⟨h, by simp, ?_⟩
    intro a ha b hb
    simp only [List.mem_singleton] at hb
    subst hb; rintro rfl; exact hk ha

theorem keys_erase (d : AList α β) (k : α) : keys (erase d k) = (keys d).filter (· ≠ k) := by
  induction d with
  | nil => rfl
  | cons p r ih =>
    rw [erase_cons]
    simp only [keys, List.map_cons, List.filter_cons] at ih ⊢
    by_cases h : p.1 = k <;> simp [h, ih]

theorem nodup_keys_erase (d : AList α β) (k : α) (h : (keys d).Nodup) :
    (keys (erase d k)).Nodup := by
  rw [keys_erase]; exact h.filter _

theorem mem_keys_erase (d : AList α β) (k x : α) :
    x ∈ keys (erase d k) ↔ x ∈ keys d ∧ x ≠ k := by
  rw [keys_erase]; simp

theorem get?_eq_none_iff (d : AList α β) (k : α) : get? d k = none ↔ k ∉ keys d := by
  unfold get? keys
  rw [Option.map_eq_none_iff, List.find?_eq_none, List.mem_map]
  constructor
  · rintro h ⟨p, hp, rfl⟩
    exact h p hp (by simp)
  · intro h p hp hk
    exact h ⟨p, hp, by simpa using hk⟩

theorem mem_of_get? {d : AList α β} {k : α} {v : β} (h : get? d k = some v) : (k, v) ∈ d := by
  induction d with
  | nil => simp [get?_nil] at h
  | cons p r ih =>
    rw [get?_cons] at h
    by_cases h0 : p.1 = k
    · simp only [h0, if_true, Option.some.injEq] at h
      have : p = (k, v) := by rw [← h0, ← h]
      simp [this]
    · simp only [h0, if_false] at h
      exact List.mem_cons_of_mem _ (ih h)

theorem get?_of_mem {d : AList α β} {k : α} {v : β} (hn : (keys d).Nodup) (h : (k, v) ∈ d) :
    get? d k = some v := by
  induction d with
  | nil => simp at h
  | cons p r ih =>
    simp only [keys, List.map_cons, List.nodup_cons] at hn
    rw [get?_cons]
    rcases List.mem_cons.mp h with rfl | h'
    · simp
    · have : p.1 ≠ k := by
        rintro rfl; exact hn.1 (List.mem_map.mpr ⟨_, h', rfl⟩)
      simp only [this, if_false]
      exact ih hn.2 h'

theorem set_of_not_mem_xf (d : AList α β) (k : α) (v : β) (h : k ∉ keys d) :
    set d k v = d ++ [(k, v)] := by
  induction d with
  | nil => rfl
  | cons p r ih =>
    obtain ⟨k0, v0⟩ := p
    simp only [keys, List.map_cons, List.mem_cons, not_or] at h
    have : ¬ k0 = k := fun e => h.1 e.symm
    simp only [set, this, if_false, List.cons_append, List.cons.injEq, true_and]
    exact ih h.2

theorem foldl_set_of_nodup (l acc : AList α β) (h : (keys (acc ++ l)).Nodup) :
    l.foldl (fun d p => d.set p.1 p.2) acc = acc ++ l := by
  induction l generalizing acc with
  | nil => simp
  | cons p r ih =>
    simp only [List.foldl_cons]
    have hp : p.1 ∉ keys acc := by
      intro hm
      simp only [keys, List.map_append, List.map_cons] at h
      rw [List.nodup_append] at h
      exact h.2.2 _ (by simpa [keys] using hm) p.1 (by simp) rfl
    rw [set_of_not_mem_xf _ _ _ hp, ih]
    · simp
    · simpa using h

/-- `dict(pairs)` of pairs with distinct keys is the list itself -/
theorem ofList_of_nodup (l : AList α β) (h : (keys l).Nodup) : ofList l = l := by
  unfold ofList
  rw [foldl_set_of_nodup l [] (by simpa using h)]; rfl

end AList

theorem flatMap_reverse_perm {α β : Type} (l : List α) (f : α → List β) :
    (l.reverse.flatMap f).Perm (l.flatMap f) :=
  (List.reverse_perm l).flatMap_right f

theorem mem_dedup {α : Type} [DecidableEq α] (l : List α) (x : α) : x ∈ dedup l ↔ x ∈ l := by
  induction l with
  | nil => simp [dedup]
  | cons y r ih =>
    simp only [dedup, List.mem_cons, List.mem_filter, ih]
    by_cases h : x = y <;> simp [h]

theorem nodup_dedup {α : Type} [DecidableEq α] (l : List α) : (dedup l).Nodup := by
  induction l with
  | nil => simp [dedup]
  | cons y r ih =>
    simp only [dedup, List.nodup_cons, List.mem_filter]
    exact ⟨by simp, ih.filter _⟩

theorem mem_variables (g : Graph) (x : Str) :
    x ∈ g.variables ↔ (∃ t ∈ g.triples, t.src = x) ∨ g.top = some x := by
  unfold Graph.variables
  cases h : g.top with
  | none => simp [mem_dedup]
  | some t =>
    simp only [Option.some.injEq]
    split
    · rename_i ht
      rw [mem_dedup] at ht ⊢
      constructor
      · intro hx; left; simpa using hx
      · rintro (hx | rfl)
        · simpa using hx
        · exact ht
    · simp only [List.mem_append, mem_dedup, List.mem_map, List.mem_singleton]
      constructor
      · rintro (hx | rfl)
        · left; exact hx
        · right; rfl
      · rintro (hx | rfl)
        · left; exact hx
        · right; rfl

theorem nodup_variables (g : Graph) : g.variables.Nodup := by
  unfold Graph.variables
  cases g.top with
  | none => exact nodup_dedup _
  | some t =>
    simp only
    split
    · exact nodup_dedup _
    · rename_i h
      rw [List.nodup_append]
      refine ⟨nodup_dedup _, by simp, ?_⟩
      intro a ha b hb
      simp only [List.mem_singleton] at hb
      subst hb; rintro rfl; exact h ha

theorem src_mem_variables {g : Graph} {t : Triple} (h : t ∈ g.triples) : t.src ∈ g.variables :=
  (mem_variables g t.src).mpr (Or.inl ⟨t, h, rfl⟩)

theorem getTop_mem_variables {g : Graph} {x : Str} (h : g.getTop = some x) : x ∈ g.variables := by
  unfold Graph.getTop at h
  rw [mem_variables]
  cases ht : g.top with
  | some t => rw [ht] at h; simp only [Option.some.injEq] at h; right; rw [h]
  | none =>
    rw [ht] at h
    left
    cases hl : g.triples with
    | nil => rw [hl] at h; simp at h
    | cons t r =>
      rw [hl] at h; simp only [Option.some.injEq] at h
      exact ⟨t, by simp, h⟩

theorem ensureColon_of_colon {r : Str} (h : startsWith [':'] r = true) : ensureColon r = r := by
  simp [ensureColon, h]

theorem ensureColon_colon (r : Str) : startsWith [':'] (ensureColon r) = true := by
  unfold ensureColon
  split
  · assumption
  · simp [startsWith]

theorem ensureColon_idem (r : Str) : ensureColon (ensureColon r) = ensureColon r :=
  ensureColon_of_colon (ensureColon_colon r)

theorem concept_colon : startsWith [':'] CONCEPT_ROLE = true := by decide

theorem ensureColon_concept : ensureColon CONCEPT_ROLE = CONCEPT_ROLE := if_pos concept_colon

/-- the colon normalisation of `Graph.__init__` does nothing to colon-prefixed roles -/
theorem map_ensureColon_id {l : List Triple} (h : ∀ t ∈ l, startsWith [':'] t.role = true) :
    l.map (fun t => { t with role := ensureColon t.role }) = l := by
  conv => rhs; rw [← List.map_id l]
  apply List.map_congr_left
  intro t ht
  rw [ensureColon_of_colon (h t ht)]
  rfl

theorem mk'_triples_of_colon (ts : List Triple) (top ep md)
    (h : ∀ t ∈ ts, startsWith [':'] t.role = true) : (Graph.mk' ts top ep md).triples = ts :=
  map_ensureColon_id h

theorem rolesColon_of_map {g : Graph} {l : List Triple}
    (h : g.triples = l.map (fun t => { t with role := ensureColon t.role })) : RolesColon g := by
  intro t ht
  rw [h, List.mem_map] at ht
  obtain ⟨t', _, rfl⟩ := ht
  exact ensureColon_colon _

theorem mk'_rolesColon (ts : List Triple) (top ep md) : RolesColon (Graph.mk' ts top ep md) :=
  rolesColon_of_map rfl

theorem mk'_getTop (g : Graph) (ts : List Triple) (ep md)
    (h : g.triples = [] → ts = []) : (Graph.mk' ts g.getTop ep md).getTop = g.getTop := by
  simp only [Graph.getTop, Graph.mk']
  cases ht : g.top with
  | some t => rfl
  | none =>
    cases hl : g.triples with
    | nil => simp [h hl]
    | cons t r => rfl

/-- a transformation that keeps the node labels and gives every new source a label
    preserves `HasInst` -/
theorem hasInst_transfer {g g' : Graph}
    (hkeep : ∀ t ∈ g.triples, t.role = CONCEPT_ROLE →
      ∃ t' ∈ g'.triples, t'.src = t.src ∧ t'.role = CONCEPT_ROLE)
    (hnew : ∀ t' ∈ g'.triples, IsSrc g t'.src ∨
      ∃ t'' ∈ g'.triples, t''.src = t'.src ∧ t''.role = CONCEPT_ROLE)
    (hi : HasInst g) : HasInst g' := by
  intro t' ht'
  rcases hnew t' ht' with ⟨t, ht, hs⟩ | h
  · obtain ⟨t0, ht0, hs0, hc0⟩ := hi t ht
    obtain ⟨t1, h1, hs1, hc1⟩ := hkeep t0 ht0 hc0
    exact ⟨t1, h1, hs1.trans (hs0.trans hs), hc1⟩
  · exact h

theorem foldlM_except_inv {σ α ε : Type} (f : σ → α → Except ε σ) (P : List α → σ → Prop) :
    ∀ (l pre : List α) (s s' : σ), P pre s →
      (∀ pre x s s', P pre s → x ∈ l → f s x = .ok s' → P (pre ++ [x]) s') →
      l.foldlM f s = .ok s' → P (pre ++ l) s'
  | [], pre, s, s', h0, _, h => by
    simp only [List.foldlM, pure, Except.pure, Except.ok.injEq] at h
    subst h; simpa using h0
  | x :: l, pre, s, s', h0, hstep, h => by
    simp only [List.foldlM, bind, Except.bind] at h
    cases hx : f s x with
    | error e => rw [hx] at h; simp at h
    | ok s1 =>
      rw [hx] at h
      have := foldlM_except_inv f P l (pre ++ [x]) s1 s' (hstep pre x s s1 h0 (by simp) hx)
        (fun pre y s s' hp hy hf => hstep pre y s s' hp (by simp [hy]) hf) h
      simpa using this

end Penman
