/-
  Penman.Proofs.Transform.Branches — `indicateBranches`: when it raises, the inserted top-role triples
  (`branchIns`), removing them gives back the input, nodes kept.
-/
import Penman.Proofs.Transform.Attr
namespace Penman

/-- the triples `indicate_branches` inserts directly before `t` -/
def branchIns (m : Model) (g : Graph) (t : Triple) : List Triple :=
  match getPushedVariable g t with
  | some pv =>
    if Atom.str pv = t.tgt then [⟨t.src, m.topRole, t.tgt⟩]
    else if pv = t.src then
      match t.tgt with
      | .str s => [⟨s, m.topRole, .str t.src⟩]
      | _ => []
    else []
  | none => []

/-- the body of the loop of `indicate_branches` (verbatim) -/
def branchStep (m : Model) (g : Graph) (acc : List Triple) (t : Triple) : Except PyErr (List Triple) :=
    match ((AList.get? g.epidata t).getD []).findSome? (fun | .push v => some v | _ => none) with
    | some pv =>
      if Atom.str pv = t.tgt then pure (t :: ⟨t.src, m.topRole, t.tgt⟩ :: acc)
      else if pv = t.src then
        match t.tgt with
        | .str s => pure (t :: ⟨s, m.topRole, .str t.src⟩ :: acc)
        | _ => throw (.other "AssertionError")
      else pure (t :: acc)
    | none => pure (t :: acc)

theorem indicateBranches_eq (m : Model) (g : Graph) :
    indicateBranches m g = (do
      let ts ← g.triples.foldlM (branchStep m g) []
      pure (Graph.mk' ts.reverse g.getTop g.epidata g.metadata)) := rfl

theorem branchStep_eq (m : Model) (g : Graph) (acc : List Triple) (t : Triple) :
    branchStep m g acc t =
      if BranchErr g t then .error (.other "AssertionError")
      else .ok (t :: (branchIns m g t).reverse ++ acc) := by
  have hb : BranchErr g t ↔ ∃ pv, getPushedVariable g t = some pv ∧ Atom.str pv ≠ t.tgt ∧
      pv = t.src ∧ tgtStr? t.tgt = none := by
    unfold BranchErr; cases getPushedVariable g t <;> simp
  have hstep : branchStep m g acc t = match getPushedVariable g t with
    | some pv =>
      if Atom.str pv = t.tgt then pure (t :: ⟨t.src, m.topRole, t.tgt⟩ :: acc)
      else if pv = t.src then
        match t.tgt with
        | .str s => pure (t :: ⟨s, m.topRole, .str t.src⟩ :: acc)
        | _ => throw (.other "AssertionError")
      else pure (t :: acc)
    | none => pure (t :: acc) := rfl
  rw [hstep]
  unfold branchIns
  cases hp : getPushedVariable g t with
  | none => simp [hb, hp, pure, Except.pure]
  | some pv =>
    simp only
    by_cases h1 : Atom.str pv = t.tgt
    · simp [hb, hp, h1, pure, Except.pure]
    · by_cases h2 : pv = t.src
      · cases ht : t.tgt with
        | str s =>
          rw [ht] at h1
          have h1' : ¬ t.src = s := by
            intro e; apply h1; rw [h2, e]
          simp [hb, hp, ht, h1', h2, tgtStr?, pure, Except.pure]
        | none =>
          rw [ht] at h1
          simp [hb, hp, ht, h2, tgtStr?, throw, throwThe, MonadExceptOf.throw]
        | num x =>
          rw [ht] at h1
          simp [hb, hp, ht, h2, tgtStr?, throw, throwThe, MonadExceptOf.throw]
      · simp [hb, hp, h1, h2, pure, Except.pure]

theorem branchFold (m : Model) (g : Graph) : ∀ (l : List Triple) (acc : List Triple),
    l.foldlM (branchStep m g) acc =
      if ∃ t ∈ l, BranchErr g t then .error (.other "AssertionError")
      else .ok ((l.flatMap (fun t => branchIns m g t ++ [t])).reverse ++ acc)
  | [], acc => by simp [List.foldlM, pure, Except.pure]
  | t :: l, acc => by
    simp only [List.foldlM, branchStep_eq]
    by_cases h : BranchErr g t
    · have : ∃ t' ∈ t :: l, BranchErr g t' := ⟨t, by simp, h⟩
      simp only [h, if_true, bind, Except.bind, this]
    · simp only [h, if_false, bind, Except.bind, branchFold m g l, List.mem_cons, exists_eq_or_imp,
        false_or, List.flatMap_cons, List.reverse_append, List.append_assoc]
      split
      · rfl
      · simp

/-- `indicate_branches` raises only the `AssertionError`, and exactly when some
    triple's first `Push` names its source while its target is not a string -/
theorem indicateBranches_error {m : Model} {g : Graph} {e : PyErr}
    (h : indicateBranches m g = .error e) :
    e = .other "AssertionError" ∧ ∃ t ∈ g.triples, BranchErr g t := by
  rw [indicateBranches_eq, branchFold] at h
  split at h
  · rename_i hex
    simp only [bind, Except.bind, Except.error.injEq] at h
    exact ⟨h.symm, hex⟩
  · simp [bind, Except.bind, pure, Except.pure] at h

theorem indicateBranches_ok_iff {m : Model} {g : Graph} :
    (∃ g', indicateBranches m g = .ok g') ↔ ∀ t ∈ g.triples, ¬ BranchErr g t := by
  rw [indicateBranches_eq, branchFold]
  constructor
  · rintro ⟨g', h⟩ t ht hb
    rw [if_pos ⟨t, ht, hb⟩] at h
    simp [bind, Except.bind] at h
  · intro h
    rw [if_neg (by rintro ⟨t, ht, hb⟩; exact h t ht hb)]
    exact ⟨_, rfl⟩

theorem indicateBranches_ok {m : Model} {g g' : Graph} (h : indicateBranches m g = .ok g') :
    g'.triples = (g.triples.flatMap (fun t => branchIns m g t ++ [t])).map
        (fun t => { t with role := ensureColon t.role }) ∧
    g'.top = g.getTop ∧ g'.epidata = AList.ofList g.epidata ∧
    g'.metadata = AList.ofList g.metadata := by
  rw [indicateBranches_eq, branchFold] at h
  split at h
  · simp [bind, Except.bind] at h
  · simp only [bind, Except.bind, pure, Except.pure, Except.ok.injEq] at h
    subst h
    simp [Graph.mk']

theorem indicateBranches_getTop {m : Model} {g g' : Graph} (h : indicateBranches m g = .ok g') :
    g'.getTop = g.getTop := by
  rw [indicateBranches_eq, branchFold] at h
  split at h
  · simp [bind, Except.bind] at h
  · simp only [bind, Except.bind, pure, Except.pure, Except.ok.injEq] at h
    subst h
    apply mk'_getTop
    intro hnil; rw [hnil]; rfl

/-- a graph without markers: nothing is inserted, nothing raises -/
theorem branchIns_markerless {m : Model} {g : Graph} (h : g.epidata = []) (t : Triple) :
    branchIns m g t = [] ∧ ¬ BranchErr g t := by
  simp [branchIns, BranchErr, getPushedVariable, h, AList.get?_nil]

/-- each inserted triple is a top-role triple between the ends of `t` -/
theorem branchIns_spec (m : Model) (g : Graph) (t : Triple) :
    (branchIns m g t = [] ∧
      ¬ (∃ pv, getPushedVariable g t = some pv ∧ (Atom.str pv = t.tgt ∨ (pv = t.src ∧ ∃ s, t.tgt = .str s)))) ∨
    (branchIns m g t = [⟨t.src, m.topRole, t.tgt⟩] ∧
      ∃ pv, getPushedVariable g t = some pv ∧ Atom.str pv = t.tgt) ∨
    (∃ s, t.tgt = .str s ∧ branchIns m g t = [⟨s, m.topRole, .str t.src⟩] ∧
      getPushedVariable g t = some t.src ∧ Atom.str t.src ≠ t.tgt) := by
  unfold branchIns
  cases hp : getPushedVariable g t with
  | none => left; simp
  | some pv =>
    simp only
    by_cases h1 : Atom.str pv = t.tgt
    · right; left; simp [h1]
    · by_cases h2 : pv = t.src
      · subst h2
        cases ht : t.tgt with
        | str s =>
          right; right
          rw [ht] at h1
          exact ⟨s, rfl, by simp [h1], rfl, h1⟩
        | none =>
          left
          rw [ht] at h1
          simp [h1]
        | num x =>
          left
          rw [ht] at h1
          simp [h1]
      · left
        simp only [h1, h2, if_false, Option.some.injEq, true_and]
        rintro ⟨pv', rfl, h | ⟨h, _⟩⟩
        · exact h1 h
        · exact h2 h

theorem mem_branchIns {m : Model} {g : Graph} {t t1 : Triple} (h : t1 ∈ branchIns m g t) :
    (t1 = ⟨t.src, m.topRole, t.tgt⟩ ∧ ∃ pv, getPushedVariable g t = some pv ∧ Atom.str pv = t.tgt) ∨
    (∃ s, t.tgt = .str s ∧ t1 = ⟨s, m.topRole, .str t.src⟩ ∧
      getPushedVariable g t = some t.src ∧ Atom.str t.src ≠ t.tgt) := by
  rcases branchIns_spec m g t with ⟨e0, _⟩ | ⟨e0, hp⟩ | ⟨s, hs, e0, hp⟩
  · rw [e0] at h
    cases h
  · rw [e0] at h
    exact Or.inl ⟨List.mem_singleton.mp h, hp⟩
  · rw [e0] at h
    exact Or.inr ⟨s, hs, List.mem_singleton.mp h, hp⟩

/-- the triples of the result: the input triples and the inserted ones (with the role
    normalisation of the `Graph` constructor) -/
theorem mem_indicateBranches {m : Model} {g g' : Graph} (h : indicateBranches m g = .ok g')
    {t1 : Triple} :
    t1 ∈ g'.triples ↔ ∃ t ∈ g.triples, t1 = { t with role := ensureColon t.role } ∨
      ∃ t0 ∈ branchIns m g t, t1 = { t0 with role := ensureColon t0.role } := by
  rw [(indicateBranches_ok h).1, List.mem_map]
  constructor
  · rintro ⟨t0, h0, rfl⟩
    rw [List.mem_flatMap] at h0
    obtain ⟨t, htg, h0⟩ := h0
    rcases List.mem_append.mp h0 with h0 | h0
    · exact ⟨t, htg, Or.inr ⟨t0, h0, rfl⟩⟩
    · exact ⟨t, htg, Or.inl (by rw [List.mem_singleton.mp h0])⟩
  · rintro ⟨t, htg, rfl | ⟨t0, h0, rfl⟩⟩
    · exact ⟨t, List.mem_flatMap.mpr ⟨t, htg, by simp⟩, rfl⟩
    · exact ⟨t0, List.mem_flatMap.mpr ⟨t, htg, by simp [h0]⟩, rfl⟩

/-- under `PushWf`, a triple gets a top-role triple exactly when it carries a `Push` -/
theorem branchIns_ne_nil_iff {m : Model} {g : Graph} {t : Triple} (hw : PushWf g)
    (ht : t ∈ g.triples) (hb : ¬ BranchErr g t) :
    branchIns m g t ≠ [] ↔ (getPushedVariable g t).isSome = true := by
  have hw' := hw t ht
  unfold PushWfAt at hw'
  rcases branchIns_spec m g t with ⟨h0, hn⟩ | ⟨h0, pv, hp, _⟩ | ⟨s, _, h0, hp, _⟩
  · rw [h0]
    simp only [ne_eq, not_true_eq_false, false_iff]
    cases hp : getPushedVariable g t with
    | none => simp
    | some pv =>
      exfalso
      rw [hp] at hw'
      simp only at hw'
      rcases hw'.2 with h1 | h1
      · exact hn ⟨pv, hp, Or.inl h1⟩
      · by_cases h2 : Atom.str pv = t.tgt
        · exact hn ⟨pv, hp, Or.inl h2⟩
        · cases htg : t.tgt with
          | str s => exact hn ⟨pv, hp, Or.inr ⟨h1, s, htg⟩⟩
          | none =>
            apply hb; unfold BranchErr; rw [hp]; exact ⟨h2, h1, by rw [htg]; rfl⟩
          | num x =>
            apply hb; unfold BranchErr; rw [hp]; exact ⟨h2, h1, by rw [htg]; rfl⟩
  · rw [h0, hp]; simp
  · rw [h0, hp]; simp

theorem branchIns_role {m : Model} {g : Graph} {t t1 : Triple} (h : t1 ∈ branchIns m g t) :
    t1.role = m.topRole := by
  rcases mem_branchIns h with ⟨rfl, _⟩ | ⟨s, _, rfl, _⟩ <;> rfl

theorem branchIns_length_le (m : Model) (g : Graph) (t : Triple) : (branchIns m g t).length ≤ 1 := by
  rcases branchIns_spec m g t with ⟨h0, _⟩ | ⟨h0, _⟩ | ⟨s, _, h0, _⟩ <;> rw [h0] <;> simp

theorem filter_branch_aux (m : Model) (g : Graph) : ∀ (l : List Triple),
    (∀ t ∈ l, t.role ≠ m.topRole) →
    (l.flatMap (fun t => branchIns m g t ++ [t])).filter (fun t => t.role ≠ m.topRole) = l ∧
    ((l.flatMap (fun t => branchIns m g t ++ [t])).filter (fun t => t.role = m.topRole)).length =
      (l.filter (fun t => branchIns m g t ≠ [])).length
  | [], _ => by simp
  | t :: r, hno => by
    have ih' := filter_branch_aux m g r (fun t ht => hno t (by simp [ht]))
    have ht := hno t (by simp)
    simp only [List.flatMap_cons, List.filter_append, List.length_append]
    rw [ih'.1, ih'.2]
    have h1 : (branchIns m g t).filter (fun t => t.role ≠ m.topRole) = [] := by
      rw [List.filter_eq_nil_iff]
      intro t1 h1; simp [branchIns_role h1]
    have h2 : (branchIns m g t).filter (fun t => t.role = m.topRole) = branchIns m g t := by
      rw [List.filter_eq_self]
      intro t1 h1; simp [branchIns_role h1]
    rw [h1, h2]
    constructor
    · simp [ht]
    · simp only [List.filter_cons, ht, decide_false, Bool.false_eq_true, if_false, List.filter_nil,
        List.length_nil, Nat.add_zero]
      have := branchIns_length_le m g t
      cases hb : branchIns m g t with
      | nil => simp
      | cons a l =>
        rw [hb] at this
        cases l with
        | nil => simp; omega
        | cons b l' => simp at this

/-- **Removing the top-role triples gives back the original**, when the input
    had none and roles carry their colon. -/
theorem indicateBranches_filter {m : Model} {g g' : Graph} (h : indicateBranches m g = .ok g')
    (hc : startsWith [':'] m.topRole = true) (hg : RolesColon g)
    (hno : ∀ t ∈ g.triples, t.role ≠ m.topRole) :
    g'.triples.filter (fun t => t.role ≠ m.topRole) = g.triples ∧
    (g'.triples.filter (fun t => t.role = m.topRole)).length =
      (g.triples.filter (fun t => branchIns m g t ≠ [])).length := by
  have hid : (g.triples.flatMap (fun t => branchIns m g t ++ [t])).map
      (fun t => { t with role := ensureColon t.role }) =
      g.triples.flatMap (fun t => branchIns m g t ++ [t]) := by
    apply map_ensureColon_id
    intro t1 h1
    rw [List.mem_flatMap] at h1
    obtain ⟨t, ht, h1⟩ := h1
    rcases List.mem_append.mp h1 with h1 | h1
    · rw [branchIns_role h1]
      exact hc
    · simp only [List.mem_singleton] at h1
      subst h1
      exact hg _ ht
  rw [(indicateBranches_ok h).1, hid]
  exact filter_branch_aux m g g.triples hno

/-- under `PushSrcOk` the assertion cannot fail -/
theorem pushSrcOk_noErr {g : Graph} (h : PushSrcOk g) : ∀ t ∈ g.triples, ¬ BranchErr g t := by
  intro t ht hb
  unfold BranchErr at hb
  split at hb
  · rename_i pv hp
    obtain ⟨h1, h2, h3⟩ := hb
    subst h2
    obtain ⟨t', _, hs, _⟩ := h t ht hp h1
    rw [← hs] at h3
    simp [tgtStr?] at h3
  · exact hb

/-- **Every source still has a node** (under `PushSrcOk`). -/
theorem indicateBranches_hasInst {m : Model} {g g' : Graph} (h : indicateBranches m g = .ok g')
    (hi : HasInst g) (hp : PushSrcOk g) : HasInst g' := by
  have hmem := @mem_indicateBranches m g g' h
  refine hasInst_transfer (fun t htg hc =>
    ⟨_, hmem.mpr ⟨t, htg, .inl rfl⟩, rfl, by simp only [hc, ensureColon_concept]⟩) ?_ hi
  intro t1 h1
  left
  obtain ⟨t, htg, rfl | ⟨t0, h0, rfl⟩⟩ := hmem.mp h1
  · exact ⟨t, htg, rfl⟩
  · rcases mem_branchIns h0 with ⟨rfl, _⟩ | ⟨s, hs, rfl, hpv, hne⟩
    · exact ⟨t, htg, rfl⟩
    · -- the inserted triple starts at the target of `t`, a node by `PushSrcOk`
      obtain ⟨t', ht', hsrc, _⟩ := hp t htg hpv hne
      rw [hs] at hsrc
      exact ⟨t', ht', Atom.str.inj hsrc⟩

end Penman
