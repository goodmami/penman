/-
  Penman.Proofs.Transform.Connected — undirected connectivity (all sources
  reachable from the top through relations between sources, the relation
  `Model.errors`/`_dfs` explores) is preserved by the transformations.
-/
import Penman.Proofs.Transform.Preserve
namespace Penman

theorem Adj.symm {g : Graph} {a b : Str} (h : Adj g a b) : Adj g b a := by
  obtain ⟨t, ht, hr, h⟩ := h
  exact ⟨t, ht, hr, h.symm⟩

theorem Reach.trans {g : Graph} {a b c : Str} (h1 : Reach g a b) (h2 : Reach g b c) : Reach g a c := by
  induction h2 with
  | refl => exact h1
  | step _ hadj hsrc ih => exact Reach.step ih hadj hsrc

theorem Reach.isSrc {g : Graph} {a b : Str} (h : Reach g a b) (ha : IsSrc g a) : IsSrc g b := by
  cases h with
  | refl => exact ha
  | step _ _ hs => exact hs

theorem Reach.single {g : Graph} {a b : Str} (h : Adj g a b) (hb : IsSrc g b) : Reach g a b :=
  Reach.step Reach.refl h hb

theorem Connected.topSrc {g : Graph} (hc : Connected g) : ∀ x, g.getTop = some x → IsSrc g x := by
  obtain ⟨top, hgt, htsrc, _⟩ := hc
  intro x hx
  rw [hgt] at hx
  exact Option.some.inj hx ▸ htsrc

/-- a transformation that keeps the top and the sources, turns every link
    into a path, and attaches every new source to an old one, preserves
    connectivity -/
theorem connected_transfer {g g' : Graph} (htop : g'.getTop = g.getTop)
    (hsrc : ∀ a, IsSrc g a → IsSrc g' a)
    (hadj : ∀ b c, IsSrc g b → IsSrc g c → Adj g b c → Reach g' b c)
    (hnew : ∀ t' ∈ g'.triples, IsSrc g t'.src ∨ ∃ b, IsSrc g b ∧ Reach g' b t'.src)
    (hc : Connected g) : Connected g' := by
  obtain ⟨top, hgt, htsrc, hall⟩ := hc
  have hmap : ∀ x, Reach g top x → Reach g' top x := by
    intro x hx
    induction hx with
    | refl => exact Reach.refl
    | step hb hadj' hcs ih => exact ih.trans (hadj _ _ (hb.isSrc htsrc) hcs hadj')
  have hold : ∀ x, IsSrc g x → Reach g' top x := by
    rintro x ⟨t, ht, rfl⟩
    exact hmap _ (hall t ht)
  refine ⟨top, htop.trans hgt, hsrc top htsrc, ?_⟩
  intro t' ht'
  rcases hnew t' ht' with h | ⟨b, hb, hr⟩
  · exact hold _ h
  · exact (hold b hb).trans hr

theorem reifyEdges_connected {m : Model} {g : Graph} {rev : List Ev} {st : RState}
    (hm : ReifWf m) (hg : RolesColon g) (hrun : Run m g rev st)
    (ho : rev.reverse.map Ev.orig = g.triples) (hi : HasInst g) (hc : Connected g) :
    Connected (reifyResult g st) := by
  have hmem := @mem_reifyResult_triples m g rev st hm hg hrun
  have hok := run_evOk hrun
  have hsrc : ∀ a, IsSrc g a → IsSrc (reifyResult g st) a := by
    rintro a ⟨t, htg, rfl⟩
    obtain ⟨t', ht', hs, hcpt⟩ := hi t htg
    exact ⟨t', inst_kept hm hg hrun ho ht' hcpt, hs⟩
  -- the two relations that replace a reified one, and their new source
  have hpath : ∀ {t rf v inv}, Ev.reif t rf v inv ∈ rev →
      inTriple t rf v ∈ (reifyResult g st).triples ∧ outTriple t rf v ∈ (reifyResult g st).triples ∧
        rf.source ≠ CONCEPT_ROLE ∧ rf.target ≠ CONCEPT_ROLE := by
    intro t rf v inv he
    have hrf := hm.1 rf (evOk_reif (hok _ he)).2.1
    exact ⟨hmem.mpr (.inr ⟨t, rf, v, inv, he, .inl rfl⟩),
      hmem.mpr (.inr ⟨t, rf, v, inv, he, .inr (.inr rfl)⟩), hrf.2.2.1, hrf.2.2.2.1⟩
  apply connected_transfer (reifyResult_getTop hrun ho) hsrc _ _ hc
  · -- links become paths
    intro b c hb hcs ⟨t, htg, hr, hbc⟩
    rcases (mem_triples_run ho).mp htg with he | ⟨rf, v, inv, he⟩
    · exact Reach.single ⟨t, hmem.mpr (.inl he), hr, hbc⟩ (hsrc c hcs)
    · -- the path goes through the new node `v`: `t.src — v — t.tgt`
      obtain ⟨hin, hout, hr1, hr2⟩ := hpath he
      have hv : IsSrc (reifyResult g st) v := ⟨_, hin, rfl⟩
      have a1 : Adj (reifyResult g st) t.src v := ⟨_, hin, hr1, Or.inr ⟨rfl, rfl⟩⟩
      rcases hbc with ⟨h1, h2⟩ | ⟨h1, h2⟩
      · have a2 : Adj (reifyResult g st) v c := ⟨_, hout, hr2, Or.inl ⟨rfl, h2⟩⟩
        exact (Reach.single (h1 ▸ a1) hv).trans (Reach.single a2 (hsrc c hcs))
      · have a2 : Adj (reifyResult g st) v b := ⟨_, hout, hr2, Or.inl ⟨rfl, h2⟩⟩
        exact (Reach.single a2.symm hv).trans (Reach.single (h1 ▸ a1).symm (hsrc c hcs))
  · -- new sources hang off the source of their reified relation
    intro t1 h1
    rcases hmem.mp h1 with he | ⟨t, rf, v, inv, he, h⟩
    · exact Or.inl ⟨t1, (hok _ he).1, rfl⟩
    · obtain ⟨hin, _, hr1, _⟩ := hpath he
      have hsv : t1.src = v := by
        rcases h with rfl | rfl | rfl <;> rfl
      refine Or.inr ⟨t.src, ⟨t, (hok _ he).1, rfl⟩, ?_⟩
      rw [hsv]
      exact Reach.single ⟨_, hin, hr1, Or.inr ⟨rfl, rfl⟩⟩ ⟨_, hin, rfl⟩

theorem reifyAttributes_connected (g : Graph) (hg : RolesColon g) (hc : Connected g) :
    Connected (reifyAttributes g) := by
  obtain ⟨evs, hok, hin, hout⟩ := reifyAttributes_mem g
  -- with colon-prefixed roles the constructor leaves the triples of the events as they are
  have hkept : ∀ t, AEv.keep t ∈ evs → t ∈ (reifyAttributes g).triples := by
    intro t he
    refine (hout _).mpr (.inl ⟨t, he, ?_⟩)
    rw [ensureColon_of_colon (hg t (hok _ he).1)]
  have hrole : ∀ t v, AEv.attr t v ∈ evs → attrRoleT t v ∈ (reifyAttributes g).triples := by
    intro t v he
    refine (hout _).mpr (.inr ⟨t, v, he, .inl ?_⟩)
    rw [ensureColon_of_colon (hg t (hok _ he).1)]
    rfl
  have hsrc : ∀ a, IsSrc g a → IsSrc (reifyAttributes g) a := by
    rintro a ⟨t, htg, rfl⟩
    rcases (hin t).mp htg with he | ⟨v, he⟩
    · exact ⟨t, hkept t he, rfl⟩
    · exact ⟨attrRoleT t v, hrole t v he, rfl⟩
  apply connected_transfer (reifyAttributes_getTop g) hsrc _ _ hc
  · intro b c hb hcs ⟨t, htg, hr, hbc⟩
    rcases (hin t).mp htg with he | ⟨v, he⟩
    · exact Reach.single ⟨t, hkept t he, hr, hbc⟩ (hsrc c hcs)
    · -- an edge is never treated as an attribute
      have hvar : ∀ a, IsSrc g a → atomInVars g.variables (.str a) = true := by
        rintro a ⟨t2, ht2, rfl⟩
        simp only [atomInVars, decide_eq_true_eq]
        exact src_mem_variables ht2
      have htgt : atomInVars g.variables t.tgt = true := by
        rcases hbc with ⟨_, h2⟩ | ⟨_, h2⟩
        · exact h2 ▸ hvar c hcs
        · exact h2 ▸ hvar b hb
      have := (hok _ he).2.2
      rw [htgt] at this
      cases this
  · intro t1 h1
    rcases (hout t1).mp h1 with ⟨t, he, rfl⟩ | ⟨t, v, he, rfl | rfl⟩
    · exact Or.inl ⟨t, (hok _ he).1, rfl⟩
    · exact Or.inl ⟨t, (hok _ he).1, rfl⟩
    · refine Or.inr ⟨t.src, ⟨t, (hok _ he).1, rfl⟩, ?_⟩
      exact Reach.single ⟨_, hrole t v he, (hok _ he).2.1, Or.inl ⟨rfl, rfl⟩⟩
        ⟨_, (hout _).mpr (.inr ⟨t, v, he, .inr rfl⟩), rfl⟩

theorem indicateBranches_connected {m : Model} {g g' : Graph} (h : indicateBranches m g = .ok g')
    (hct : startsWith [':'] m.topRole = true) (htc : m.topRole ≠ CONCEPT_ROLE) (hg : RolesColon g)
    (hc : Connected g) : Connected g' := by
  have hmem := @mem_indicateBranches m g g' h
  have hkeep : ∀ t ∈ g.triples, t ∈ g'.triples := by
    intro t htg
    refine hmem.mpr ⟨t, htg, .inl ?_⟩
    rw [ensureColon_of_colon (hg t htg)]
  have hsrc : ∀ a, IsSrc g a → IsSrc g' a := by
    rintro a ⟨t, htg, rfl⟩
    exact ⟨t, hkeep t htg, rfl⟩
  apply connected_transfer (indicateBranches_getTop h) hsrc _ _ hc
  · intro b c hb hcs ⟨t, htg, hr, hbc⟩
    exact Reach.single ⟨t, hkeep t htg, hr, hbc⟩ (hsrc c hcs)
  · intro t1 h1
    obtain ⟨t, htg, rfl | ⟨t0, h0, rfl⟩⟩ := hmem.mp h1
    · exact Or.inl ⟨t, htg, rfl⟩
    · rcases mem_branchIns h0 with ⟨rfl, _⟩ | ⟨s, hs, rfl, hpv, hne⟩
      · exact Or.inl ⟨t, htg, rfl⟩
      · -- a new source `s` hangs off `t.src` by the inserted triple itself
        refine Or.inr ⟨t.src, ⟨t, htg, rfl⟩, ?_⟩
        have hin : (⟨s, m.topRole, .str t.src⟩ : Triple) ∈ g'.triples := by
          have := h1
          simp only [ensureColon_of_colon hct] at this
          exact this
        exact Reach.single ⟨_, hin, htc, Or.inr ⟨rfl, rfl⟩⟩ ⟨_, hin, rfl⟩

theorem collapse_not_referenced {m : Model} {g : Graph} {x : Str} {ag : Agenda}
    (h : collapseOf m g x = some ag) :
    g.getTop ≠ some x ∧ ∀ t ∈ g.triples, t.role ≠ CONCEPT_ROLE → t.tgt ≠ .str x := by
  refine ⟨fun h1 => ?_, fun t ht hr htg => ?_⟩
  · rw [collapseOf_guard m g x (Or.inl h1)] at h; simp at h
  · rw [collapseOf_guard m g x (Or.inr (Or.inl ⟨t, ht, hr, htg⟩))] at h; simp at h

/-- a neighbour of a collapsed node is the target of one of its relations, hence not collapsed -/
theorem collapse_neighbour_kept {m : Model} {g : Graph} {x y : Str} {ag : Agenda}
    (h : collapseOf m g x = some ag) (hy : Adj g x y) : collapseOf m g y = none := by
  obtain ⟨t, htg, hr, hxy | hxy⟩ := hy
  · exact collapseOf_guard m g y (Or.inr (Or.inl ⟨t, htg, hr, hxy.2⟩))
  · exact absurd hxy.2 ((collapse_not_referenced h).2 t htg hr)

/-- the dereified triple links any two distinct neighbours of the collapsed node -/
theorem collapse_links {m : Model} {g : Graph} {x b c : Str} {ag : Agenda}
    (h : collapseOf m g x = some ag) (hb : Adj g x b) (hc : Adj g x c) (hne : c ≠ b) :
    (ag.dereified.src = b ∧ ag.dereified.tgt = .str c) ∨
    (ag.dereified.src = c ∧ ag.dereified.tgt = .str b) := by
  obtain ⟨_, _, ⟨a1, b1, hl, hab⟩, _, _⟩ := collapseOf_some h
  -- a relation to a neighbour leaves `x`, which is not referenced
  have out : ∀ {y}, Adj g x y → ∃ t ∈ otherOf g.triples x, t.tgt = .str y := by
    rintro y ⟨t, htg, hr, hxy | hxy⟩
    · exact ⟨t, List.mem_filter.mpr ⟨htg, by simpa using ⟨hr, hxy.1⟩⟩, hxy.2⟩
    · exact absurd hxy.2 ((collapse_not_referenced h).2 t htg hr)
  obtain ⟨t, hm1, ht1⟩ := out hb
  obtain ⟨t', hm2, ht2⟩ := out hc
  rw [hl] at hm1 hm2
  simp only [List.mem_cons, List.not_mem_nil, or_false] at hm1 hm2
  -- different targets: the two relations are the two of `x`, in one of the two orders
  have : (Atom.str ag.dereified.src = .str b ∧ ag.dereified.tgt = .str c) ∨
      (Atom.str ag.dereified.src = .str c ∧ ag.dereified.tgt = .str b) := by
    rcases hm1 with rfl | rfl <;> rcases hm2 with rfl | rfl
    · exact absurd (Atom.str.inj (ht2.symm.trans ht1)) hne
    · rw [← ht1, ← ht2]
      exact hab
    · rw [← ht1, ← ht2]
      exact hab.symm
    · exact absurd (Atom.str.inj (ht2.symm.trans ht1)) hne
  exact this.imp (fun h => ⟨Atom.str.inj h.1, h.2⟩) (fun h => ⟨Atom.str.inj h.1, h.2⟩)

theorem dereifyEdges_connected {m : Model} {g g' : Graph} (h : dereifyEdges m g = .ok g')
    (hm : ReifWf m) (hg : RolesColon g) (hc : Connected g) : Connected g' := by
  obtain ⟨top, hgt, htsrc, hall⟩ := hc
  have hsrc : ∀ x ag, collapseOf m g x = some ag → IsSrc g ag.dereified.src := by
    intro x ag hx
    apply isSrc_of_mem_variables _ (collapseOf_some hx).2.2.2.2
    intro y hy
    rw [hgt] at hy
    simp only [Option.some.injEq] at hy
    exact hy ▸ htsrc
  have hmem := @mem_dereifyEdges m g g' h
  have hkept : ∀ t ∈ g.triples, collapseOf m g t.src = none → t ∈ g'.triples := by
    intro t htg hn
    refine hmem.mpr (.inl ⟨t, htg, hn, ?_⟩)
    rw [ensureColon_of_colon (hg t htg)]
  have hsrc' : ∀ a, IsSrc g a → collapseOf m g a = none → IsSrc g' a := by
    rintro a ⟨t, htg, rfl⟩ hn
    exact ⟨t, hkept t htg hn, rfl⟩
  have hder : ∀ x ag, collapseOf m g x = some ag →
      ag.dereified ∈ g'.triples ∧ ag.dereified.role ≠ CONCEPT_ROLE := by
    intro x ag hx
    obtain ⟨_, _, _, ⟨rf, hrf, hrole⟩, _⟩ := collapseOf_some hx
    refine ⟨hmem.mpr (.inr ⟨x, ag, hx, ?_⟩), ?_⟩
    · rw [ensureColon_of_colon (hrole ▸ (hm.1 rf hrf).2.2.2.2.2.2.2)]
    · intro hcpt
      have : m.isReifiable rf.role = true := by
        simp only [Model.isReifiable, List.any_eq_true]
        exact ⟨rf, hrf, by simp⟩
      rw [hrole, hcpt, hm.2] at this
      cases this
  -- along a path of `g` from the top: a node that is not collapsed is reached in `g'`, and so is
  -- every neighbour of a collapsed one
  have hQ : ∀ b, Reach g top b →
      (collapseOf m g b = none → Reach g' top b) ∧
      (∀ ag, collapseOf m g b = some ag → ∀ c, Adj g b c → IsSrc g c → Reach g' top c) := by
    intro b hb
    induction hb with
    | refl =>
      refine ⟨fun _ => Reach.refl, fun ag hag => ?_⟩
      exact absurd hgt (collapse_not_referenced hag).1
    | @step b c hb hadj hcs ih =>
      have hbs := hb.isSrc htsrc
      cases hcb : collapseOf m g b with
      | some agb =>
        -- `b` is collapsed: `c` is one of its two neighbours, reached by the invariant
        have hrc := ih.2 agb hcb c hadj hcs
        have hnc := collapse_neighbour_kept hcb hadj
        exact ⟨fun _ => hrc, fun ag hag => by rw [hnc] at hag; simp at hag⟩
      | none =>
        have hrb := ih.1 hcb
        cases hcc : collapseOf m g c with
        | none =>
          refine ⟨fun _ => ?_, fun ag hag => by simp at hag⟩
          obtain ⟨t, htg, hr, hbc⟩ := hadj
          have hts : collapseOf m g t.src = none := by
            rcases hbc with ⟨h1, _⟩ | ⟨h1, _⟩ <;> rw [h1] <;> assumption
          exact Reach.step hrb ⟨t, hkept t htg hts, hr, hbc⟩ (hsrc' c hcs hcc)
        | some agc =>
          refine ⟨fun hn => by simp at hn, fun ag hag c' hadj' hcs' => ?_⟩
          cases hag
          by_cases hsame : c' = b
          · rw [hsame]
            exact hrb
          · -- `b` and `c'` are two distinct neighbours of `c`: the dereified triple links them
            obtain ⟨hd1, hd2⟩ := hder c agc hcc
            exact Reach.step hrb ⟨agc.dereified, hd1, hd2, collapse_links hcc hadj.symm hadj' hsame⟩
              (hsrc' c' hcs' (collapse_neighbour_kept hcc hadj'))
  have htopn : collapseOf m g top = none := collapseOf_guard m g top (Or.inl hgt)
  refine ⟨top, (dereifyEdges_getTop h).trans hgt, hsrc' top htsrc htopn, ?_⟩
  intro t1 h1
  rcases hmem.mp h1 with ⟨t, htg, hcol, rfl⟩ | ⟨x, ag, hcol, rfl⟩
  · exact (hQ _ (hall t htg)).1 hcol
  · -- the source of the dereified triple is a neighbour of the collapsed node
    obtain ⟨a, _, ha, _, hta, _⟩ := collapseOf_ends hcol
    have ha' := mem_otherOf ha
    exact (hQ _ (ha'.2.2 ▸ hall a ha'.1)).2 ag hcol _ ⟨a, ha'.1, ha'.2.1, Or.inl ⟨ha'.2.2, hta⟩⟩
      (hsrc _ _ hcol)

end Penman
