/-
  Penman.Proofs.Transform.Dereify — `agendaScan`, `dereifyAgenda`,
  `dereifyEdges` characterised extensionally, for an arbitrary graph.
  The decision for one variable is `entryRes`; every proof about it goes
  through `entryRes_eq` / `entryRes_cases` and the inner decision `entryOf`.
-/
import Penman.Proofs.Transform.Reify
namespace Penman

abbrev ScanAcc := List Atom × AList Str Triple × AList Str (List Triple)

def scanStep (acc : ScanAcc) (t : Triple) : ScanAcc :=
    if t.role = CONCEPT_ROLE then (acc.1, acc.2.1.set t.src t, acc.2.2)
    else (t.tgt :: acc.1, acc.2.1, acc.2.2.set t.src ((AList.get? acc.2.2 t.src).getD [] ++ [t]))

/-- `g.top` as a member of the `fixed` set -/
def topAtom (g : Graph) : Atom := match g.getTop with | some t => Atom.str t | none => Atom.none

theorem agendaScan_eq (g : Graph) :
    agendaScan g = g.triples.foldl scanStep ([topAtom g], [], []) := by
  unfold agendaScan topAtom
  congr 1
  cases g.getTop <;> rfl

theorem scan_fixed (l : List Triple) (acc : ScanAcc) (a : Atom) :
    a ∈ (l.foldl scanStep acc).1 ↔ a ∈ acc.1 ∨ ∃ t ∈ l, t.role ≠ CONCEPT_ROLE ∧ t.tgt = a := by
  induction l generalizing acc with
  | nil => simp
  | cons t r ih =>
    simp only [List.foldl_cons, ih, List.mem_cons, exists_eq_or_imp]
    unfold scanStep
    by_cases h : t.role = CONCEPT_ROLE
    · simp [h]
    · simp only [h, if_false, List.mem_cons, ne_eq, not_false_eq_true, true_and]
      constructor
      · rintro ((h1 | h1) | h1)
        · right; left; exact h1.symm
        · left; exact h1
        · right; right; exact h1
      · rintro (h1 | h1 | h1)
        · left; right; exact h1
        · left; left; exact h1.symm
        · right; exact h1

theorem scan_other (l : List Triple) (acc : ScanAcc) (v : Str) :
    (AList.get? (l.foldl scanStep acc).2.2 v).getD [] = (AList.get? acc.2.2 v).getD [] ++ otherOf l v := by
  induction l generalizing acc with
  | nil => simp [otherOf]
  | cons t r ih =>
    simp only [List.foldl_cons, ih]
    unfold scanStep otherOf
    by_cases h : t.role = CONCEPT_ROLE
    · simp [h]
    · simp only [h, if_false, AList.get?_set, List.filter_cons, ne_eq, not_false_eq_true, true_and]
      by_cases hv : t.src = v
      · subst hv; simp
      · simp [hv]

theorem scan_inst (l : List Triple) (acc : ScanAcc) (v : Str) :
    AList.get? (l.foldl scanStep acc).2.1 v =
      match (instOf l v).getLast? with
      | some t => some t
      | none => AList.get? acc.2.1 v := by
  induction l generalizing acc with
  | nil => simp [instOf]
  | cons t r ih =>
    have hstep : AList.get? (scanStep acc t).2.1 v =
        if t.role = CONCEPT_ROLE ∧ t.src = v then some t else AList.get? acc.2.1 v := by
      unfold scanStep
      by_cases hc : t.role = CONCEPT_ROLE
      · simp only [hc, if_true, true_and, AList.get?_set]
      · simp only [hc, if_false, false_and]
    rw [List.foldl_cons, ih, hstep]
    unfold instOf
    rw [List.filter_cons]
    by_cases h : t.role = CONCEPT_ROLE ∧ t.src = v
    · rw [if_pos h, if_pos (by simpa using h), List.getLast?_cons]
      cases (List.filter _ r).getLast? <;> rfl
    · rw [if_neg h, if_neg (by simpa using h)]

theorem scan_inst_nodup (l : List Triple) (acc : ScanAcc) (h : (AList.keys acc.2.1).Nodup) :
    (AList.keys (l.foldl scanStep acc).2.1).Nodup := by
  induction l generalizing acc with
  | nil => exact h
  | cons t r ih =>
    simp only [List.foldl_cons]
    apply ih
    unfold scanStep
    split
    · exact AList.nodup_keys_set _ _ _ h
    · exact h

theorem agendaScan_fixed (g : Graph) (a : Atom) :
    a ∈ (agendaScan g).1 ↔ a = topAtom g ∨ ∃ t ∈ g.triples, t.role ≠ CONCEPT_ROLE ∧ t.tgt = a := by
  rw [agendaScan_eq, scan_fixed]; simp

theorem agendaScan_other (g : Graph) (v : Str) :
    (AList.get? (agendaScan g).2.2 v).getD [] = otherOf g.triples v := by
  rw [agendaScan_eq, scan_other]; simp [AList.get?_nil]

theorem agendaScan_inst (g : Graph) (v : Str) :
    AList.get? (agendaScan g).2.1 v = (instOf g.triples v).getLast? := by
  rw [agendaScan_eq, scan_inst]
  cases (instOf g.triples v).getLast? <;> simp [AList.get?_nil]

theorem agendaScan_inst_nodup (g : Graph) : (AList.keys (agendaScan g).2.1).Nodup := by
  rw [agendaScan_eq]; exact scan_inst_nodup _ _ (by simp [AList.keys])

theorem instOf_getLast {ts : List Triple} {v : Str} {t : Triple}
    (h : (instOf ts v).getLast? = some t) : t ∈ ts ∧ t.role = CONCEPT_ROLE ∧ t.src = v := by
  have := List.mem_of_getLast? h
  simpa [instOf] using this

/-- the body of the second loop, once the two relations are ordered -/
def agendaInner (m : Model) (g : Graph) (alns : AList Triple Epi) (acc : List Agenda) (var : Str)
    (inst0 tFirst tSecond : Triple) : Except PyErr (List Agenda) :=
    match m.dereify inst0 tFirst tSecond with
    | .error .model => pure acc
    | .error e => throw e
    | .ok (src, role, tgt) =>
      match src with
      | .str s =>
        -- fix F20: `if dereified[0] not in variables: continue`
        if s ∈ g.variables then
          let e1 : List Epi := match AList.get? alns inst0 with
            | some (.aln p i) => [.roleAln p i]
            | _ => []
          let e2 := ((AList.get? g.epidata tSecond).getD []).filter fun | .roleAln _ _ => false | _ => true
          pure (acc ++ [⟨var, tFirst, ⟨s, role, tgt⟩, e1 ++ e2⟩])
        else pure acc
      | _ => pure acc     -- a non-string source is never a variable

/-- the body of the second loop -/
def agendaStep (m : Model) (g : Graph) (alns : AList Triple Epi) (fixed : List Atom)
    (other : AList Str (List Triple)) (acc : List Agenda) (p : Str × Triple) :
    Except PyErr (List Agenda) :=
    let (var, inst0) := p
    match (AList.get? other var).getD [] with
    | [a, b] =>
      if Atom.str var ∉ fixed ∧ m.isDereifiable inst0.tgt then
        let (tFirst, tSecond) := if getPushedVariable g b = some var then (b, a) else (a, b)
        agendaInner m g alns acc var inst0 tFirst tSecond
      else pure acc
    | _ => pure acc

theorem dereifyAgenda_eq (m : Model) (g : Graph) :
    dereifyAgenda m g = (agendaScan g).2.1.foldlM
      (agendaStep m g (getAlignments g false) (agendaScan g).1 (agendaScan g).2.2) [] := rfl

/-- an alignment of the reified node's concept goes back onto the role -/
def alnBack : Option Epi → List Epi
  | some (.aln p i) => [Epi.roleAln p i]
  | _ => []

def notRoleAln : Epi → Bool
  | .roleAln _ _ => false
  | _ => true

/-- the marker list the agenda builds for a dereified triple -/
def agendaEpis (g : Graph) (inst0 second : Triple) : List Epi :=
  alnBack (AList.get? (getAlignments g false) inst0) ++
  ((AList.get? g.epidata second).getD []).filter notRoleAln

/-- outcome of the second loop for one variable -/
inductive EntryRes where
  | skip
  | err (e : PyErr)
  | add (ag : Agenda)

/-- the decision for one `(var, instance)` entry, as a function of the facts
    the first loop collected -/
def entryRes (m : Model) (g : Graph) (var : Str) (inst0 : Triple) : EntryRes :=
  match otherOf g.triples var with
  | [a, b] =>
    if Atom.str var ∉ (agendaScan g).1 ∧ m.isDereifiable inst0.tgt then
      let tFirst := if getPushedVariable g b = some var then b else a
      let tSecond := if getPushedVariable g b = some var then a else b
      match m.dereify inst0 tFirst tSecond with
      | .error .model => .skip
      | .error e => .err e
      | .ok (.str s, role, tgt) =>
        if s ∈ g.variables then .add ⟨var, tFirst, ⟨s, role, tgt⟩, agendaEpis g inst0 tSecond⟩
        else .skip
      | .ok _ => .skip
    else .skip
  | _ => .skip

def EntryRes.toList : EntryRes → List Agenda
  | .add ag => [ag]
  | _ => []

/-- what the answer of `Model.dereify` on `(inst0, first, second)` is turned into -/
def entryOf (m : Model) (g : Graph) (var : Str) (inst0 first second : Triple) : EntryRes :=
  match m.dereify inst0 first second with
  | .error .model => .skip
  | .error e => .err e
  | .ok (.str s, role, tgt) =>
    if s ∈ g.variables then .add ⟨var, first, ⟨s, role, tgt⟩, agendaEpis g inst0 second⟩ else .skip
  | .ok _ => .skip

theorem entryRes_eq (m : Model) (g : Graph) (var : Str) (inst0 : Triple) :
    entryRes m g var inst0 =
      match otherOf g.triples var with
      | [a, b] =>
        if Atom.str var ∉ (agendaScan g).1 ∧ m.isDereifiable inst0.tgt then
          if getPushedVariable g b = some var then entryOf m g var inst0 b a
          else entryOf m g var inst0 a b
        else .skip
      | _ => .skip := by
  unfold entryRes entryOf
  generalize otherOf g.triples var = l
  match l with
  | [] => rfl
  | [_] => rfl
  | _ :: _ :: _ :: _ => rfl
  | [a, b] =>
    simp only
    by_cases hp : getPushedVariable g b = some var
    · simp only [hp, if_true]
    · simp only [hp, if_false]

/-- the case analysis of `entryRes`: an entry that is not skipped belongs to an unreferenced variable
    with exactly two relations, and is `entryOf` of these in one of the two orders -/
theorem entryRes_cases (m : Model) (g : Graph) (x : Str) (i0 : Triple) :
    entryRes m g x i0 = .skip ∨
    ∃ f s2, (otherOf g.triples x = [f, s2] ∨ otherOf g.triples x = [s2, f]) ∧
      Atom.str x ∉ (agendaScan g).1 ∧ entryRes m g x i0 = entryOf m g x i0 f s2 := by
  rw [entryRes_eq]
  split
  · rename_i a b hl
    by_cases hc : Atom.str x ∉ (agendaScan g).1 ∧ m.isDereifiable i0.tgt
    · rw [if_pos hc]
      by_cases hp : getPushedVariable g b = some x
      · rw [if_pos hp]
        exact Or.inr ⟨b, a, Or.inr hl, hc.1, rfl⟩
      · rw [if_neg hp]
        exact Or.inr ⟨a, b, Or.inl hl, hc.1, rfl⟩
    · rw [if_neg hc]
      exact Or.inl rfl
  · exact Or.inl rfl

theorem entryOf_add {m : Model} {g : Graph} {x : Str} {i0 f s2 : Triple} {ag : Agenda}
    (h : entryOf m g x i0 f s2 = .add ag) :
    ∃ s role tgt, m.dereify i0 f s2 = .ok (.str s, role, tgt) ∧ s ∈ g.variables ∧
      ag = ⟨x, f, ⟨s, role, tgt⟩, agendaEpis g i0 s2⟩ := by
  unfold entryOf at h
  split at h
  · cases h
  · cases h
  · rename_i s role tgt hd
    split at h
    · rename_i hs
      cases h
      exact ⟨s, role, tgt, hd, hs, rfl⟩
    · cases h
  · cases h

theorem entryOf_err {m : Model} {g : Graph} {x : Str} {i0 f s2 : Triple} {e : PyErr}
    (h : entryOf m g x i0 f s2 = .err e) : m.dereify i0 f s2 = .error e ∧ e ≠ .model := by
  unfold entryOf at h
  split at h
  · cases h
  · rename_i e' hne hd
    cases h
    exact ⟨hd, fun h => hne (by rw [h])⟩
  · split at h <;> cases h
  · cases h

theorem agendaInner_eq (m : Model) (g : Graph) (acc : List Agenda) (var : Str) (inst0 f s2 : Triple) :
    agendaInner m g (getAlignments g false) acc var inst0 f s2 =
      match entryOf m g var inst0 f s2 with
      | .skip => .ok acc
      | .err e => .error e
      | .add ag => .ok (acc ++ [ag]) := by
  unfold agendaInner entryOf
  cases m.dereify inst0 f s2 with
  | error e => cases e <;> rfl
  | ok r =>
    obtain ⟨src, role, tgt⟩ := r
    cases src with
    | str s => by_cases hs : s ∈ g.variables <;> simp only [hs, if_true, if_false] <;> rfl
    | none => rfl
    | num x => rfl

theorem agendaStep_eq (m : Model) (g : Graph) (acc : List Agenda) (var : Str) (inst0 : Triple) :
    agendaStep m g (getAlignments g false) (agendaScan g).1 (agendaScan g).2.2 acc (var, inst0) =
      match entryRes m g var inst0 with
      | .skip => .ok acc
      | .err e => .error e
      | .add ag => .ok (acc ++ [ag]) := by
  unfold agendaStep
  rw [entryRes_eq]
  simp only [agendaScan_other]
  generalize otherOf g.triples var = l
  match l with
  | [] => rfl
  | [_] => rfl
  | _ :: _ :: _ :: _ => rfl
  | [a, b] =>
    simp only
    by_cases hc : Atom.str var ∉ (agendaScan g).1 ∧ m.isDereifiable inst0.tgt
    · rw [if_pos hc, if_pos hc]
      by_cases hp : getPushedVariable g b = some var
      · simp only [hp, if_true]
        exact agendaInner_eq m g acc var inst0 b a
      · simp only [hp, if_false]
        exact agendaInner_eq m g acc var inst0 a b
    · rw [if_neg hc, if_neg hc]
      rfl

theorem entryRes_var {m g var inst0 ag} (h : entryRes m g var inst0 = .add ag) : ag.var = var := by
  rcases entryRes_cases m g var inst0 with hs | ⟨f, s2, _, _, he⟩
  · rw [hs] at h
    cases h
  · obtain ⟨s, role, tgt, _, _, rfl⟩ := entryOf_add (he ▸ h)
    rfl

theorem agendaFold (m : Model) (g : Graph) : ∀ (l : List (Str × Triple)) (acc r : List Agenda),
    l.foldlM (agendaStep m g (getAlignments g false) (agendaScan g).1 (agendaScan g).2.2) acc = .ok r ↔
      (∀ p ∈ l, ∀ e, entryRes m g p.1 p.2 ≠ .err e) ∧
      r = acc ++ l.flatMap (fun p => (entryRes m g p.1 p.2).toList)
  | [], acc, r => by simp [List.foldlM, pure, Except.pure, eq_comm]
  | (var, inst0) :: l, acc, r => by
    rw [List.foldlM_cons, agendaStep_eq, List.forall_mem_cons, List.flatMap_cons]
    cases he : entryRes m g var inst0 with
    | skip =>
      show l.foldlM _ acc = Except.ok r ↔ _
      rw [agendaFold m g l acc r]
      simp only [EntryRes.toList, List.nil_append, ne_eq, reduceCtorEq, not_false_eq_true,
        implies_true, true_and]
    | err e =>
      show Except.error e = .ok r ↔ _
      constructor
      · intro h
        cases h
      · rintro ⟨h, _⟩
        exact absurd rfl (h.1 e)
    | add ag =>
      show l.foldlM _ (acc ++ [ag]) = Except.ok r ↔ _
      rw [agendaFold m g l (acc ++ [ag]) r]
      simp only [EntryRes.toList, List.append_assoc, ne_eq, reduceCtorEq, not_false_eq_true,
        implies_true, true_and]

theorem find?_entry_toList (m : Model) (g : Graph) (x : Str) (p : Str × Triple) :
    (entryRes m g p.1 p.2).toList.find? (·.var = x) =
      if p.1 = x then (match entryRes m g p.1 p.2 with | .add ag => some ag | _ => none) else none := by
  cases he : entryRes m g p.1 p.2 with
  | add ag => simp [EntryRes.toList, entryRes_var he]
  | skip => simp [EntryRes.toList]
  | err e => simp [EntryRes.toList]

theorem find?_flatMap_entries {m g} : ∀ (l : List (Str × Triple)), (AList.keys l).Nodup → ∀ (x : Str),
    (l.flatMap (fun p => (entryRes m g p.1 p.2).toList)).find? (·.var = x) =
      match AList.get? l x with
      | some i0 => (match entryRes m g x i0 with | .add ag => some ag | _ => none)
      | none => none
  | [], _, x => by simp [AList.get?_nil]
  | p :: l, hn, x => by
    simp only [AList.keys, List.map_cons, List.nodup_cons] at hn
    rw [List.flatMap_cons, List.find?_append, find?_entry_toList, AList.get?_cons,
      find?_flatMap_entries l hn.2 x]
    by_cases hx : p.1 = x
    · subst hx
      -- the key occurs in no later entry
      rw [if_pos rfl, if_pos rfl, (AList.get?_eq_none_iff l p.1).mpr hn.1]
      dsimp only
      cases entryRes m g p.1 p.2 <;> rfl
    · rw [if_neg hx, if_neg hx, Option.none_or]

/-- the decision `dereify_edges` takes for the variable `x` -/
def collapseOf (m : Model) (g : Graph) (x : Str) : Option Agenda :=
  match (instOf g.triples x).getLast? with
  | some i0 => (match entryRes m g x i0 with | .add ag => some ag | _ => none)
  | none => none

/-- a collapsed variable is unreferenced, has exactly two relations, and its agenda entry is
    `entryOf` of these in one of the two orders -/
theorem collapseOf_entry {m : Model} {g : Graph} {x : Str} {ag : Agenda}
    (h : collapseOf m g x = some ag) :
    ∃ i0 f s2, (otherOf g.triples x = [f, s2] ∨ otherOf g.triples x = [s2, f]) ∧
      Atom.str x ∉ (agendaScan g).1 ∧ entryOf m g x i0 f s2 = .add ag := by
  unfold collapseOf at h
  split at h
  case h_2 => cases h
  rename_i i0 _
  split at h
  case h_2 => cases h
  rename_i ag' he
  cases h
  rcases entryRes_cases m g x i0 with hs | ⟨f, s2, hl, hfix, he'⟩
  · rw [hs] at he
    cases he
  · exact ⟨i0, f, s2, hl, hfix, he' ▸ he⟩

/-- `_dereify_agenda` succeeds iff no entry raises; then looking a variable up
    in the agenda is `collapseOf`. -/
theorem dereifyAgenda_ok {m : Model} {g : Graph} {agenda : List Agenda}
    (h : dereifyAgenda m g = .ok agenda) :
    (∀ p ∈ (agendaScan g).2.1, ∀ e, entryRes m g p.1 p.2 ≠ .err e) ∧
    ∀ x, agenda.find? (·.var = x) = collapseOf m g x := by
  rw [dereifyAgenda_eq, agendaFold] at h
  refine ⟨h.1, ?_⟩
  intro x
  rw [h.2, List.nil_append, find?_flatMap_entries _ (agendaScan_inst_nodup g), agendaScan_inst]
  rfl

theorem dereifyAgenda_of_noErr {m : Model} {g : Graph}
    (h : ∀ p ∈ (agendaScan g).2.1, ∀ e, entryRes m g p.1 p.2 ≠ .err e) :
    ∃ agenda, dereifyAgenda m g = .ok agenda :=
  ⟨_, by rw [dereifyAgenda_eq, agendaFold]; exact ⟨h, rfl⟩⟩

/-- members of `inst` are last instance triples -/
theorem agendaScan_inst_mem {g : Graph} {p : Str × Triple} (h : p ∈ (agendaScan g).2.1) :
    (instOf g.triples p.1).getLast? = some p.2 := by
  rw [← agendaScan_inst]
  exact AList.get?_of_mem (agendaScan_inst_nodup g) h

/-- `NoCollapsible`: the agenda is empty, i.e. every entry is skipped -/
theorem dereifyAgenda_nil_iff {m : Model} {g : Graph} :
    dereifyAgenda m g = .ok [] ↔ ∀ p ∈ (agendaScan g).2.1, entryRes m g p.1 p.2 = .skip := by
  rw [dereifyAgenda_eq, agendaFold]
  constructor
  · rintro ⟨h1, h2⟩ p hp
    cases he : entryRes m g p.1 p.2 with
    | skip => rfl
    | err e => exact absurd he (h1 p hp e)
    | add ag =>
      exfalso
      have : ag ∈ ([] : List Agenda) := by
        rw [h2]
        simp only [List.nil_append, List.mem_flatMap]
        exact ⟨p, hp, by simp [he, EntryRes.toList]⟩
      simp at this
  · intro h
    refine ⟨fun p hp e => by rw [h p hp]; simp, ?_⟩
    symm
    simp only [List.nil_append, List.flatMap_eq_nil_iff]
    intro p hp
    rw [h p hp]; rfl

/-- the body of the loop of `dereify_edges` (verbatim) -/
def derStep (agenda : List Agenda) (acc : List Triple × Epidata) (t : Triple) : List Triple × Epidata :=
    let (ts, ep) := acc
    match agenda.find? (·.var = t.src) with
    | some ag =>
      let (ts, ep) := if t = ag.first then (ag.dereified :: ts, ep.set ag.dereified ag.epidata) else (ts, ep)
      (ts, ep.erase t)
    | none => (t :: ts, ep)

theorem dereifyEdges_eq (m : Model) (g : Graph) :
    dereifyEdges m g = (do
      let agenda ← dereifyAgenda m g
      let r := g.triples.foldl (derStep agenda) ([], g.epidata)
      pure (Graph.mk' r.1.reverse g.getTop r.2 g.metadata)) := rfl

/-- what one input triple contributes to the output triples -/
def derOut (look : Str → Option Agenda) (t : Triple) : List Triple :=
  match look t.src with
  | some ag => if t = ag.first then [ag.dereified] else []
  | none => [t]

theorem derFold_triples (agenda : List Agenda) (l : List Triple) (acc : List Triple × Epidata) :
    (l.foldl (derStep agenda) acc).1 =
      (l.flatMap (derOut (fun x => agenda.find? (·.var = x)))).reverse ++ acc.1 := by
  induction l generalizing acc with
  | nil => simp
  | cons t r ih =>
    simp only [List.foldl_cons, ih, List.flatMap_cons, List.reverse_append, List.append_assoc]
    congr 1
    obtain ⟨ts, ep⟩ := acc
    simp only [derStep, derOut]
    cases hf : agenda.find? (·.var = t.src) with
    | none => simp
    | some ag =>
      simp only
      by_cases h : t = ag.first <;> simp [h]

/-- what one input triple does to the marker table in the loop of `dereify_edges` -/
def derEp (look : Str → Option Agenda) (t : Triple) (ep : Epidata) : Epidata :=
  match look t.src with
  | some ag => (if t = ag.first then ep.set ag.dereified ag.epidata else ep).erase t
  | none => ep

theorem derFold_ep (agenda : List Agenda) (l : List Triple) (acc : List Triple × Epidata) :
    (l.foldl (derStep agenda) acc).2 =
      l.foldl (fun ep t => derEp (fun x => agenda.find? (·.var = x)) t ep) acc.2 := by
  induction l generalizing acc with
  | nil => simp
  | cons t r ih =>
    simp only [List.foldl_cons, ih]
    congr 1
    obtain ⟨ts, ep⟩ := acc
    simp only [derStep, derEp]
    cases hf : agenda.find? (·.var = t.src) with
    | none => simp
    | some ag =>
      simp only
      by_cases h : t = ag.first <;> simp [h]

/-- `dereify_edges` succeeds exactly when the agenda does, and then its triples
    are the input triples with every collapsible node's first relation replaced
    by the dereified triple and its other triples dropped. -/
theorem dereifyEdges_ok {m : Model} {g g' : Graph} (h : dereifyEdges m g = .ok g') :
    g'.triples = (g.triples.flatMap (derOut (collapseOf m g))).map
        (fun t => { t with role := ensureColon t.role }) ∧
    g'.top = g.getTop ∧ g'.metadata = AList.ofList g.metadata ∧
    g'.epidata = AList.ofList (g.triples.foldl (fun ep t => derEp (collapseOf m g) t ep) g.epidata) := by
  rw [dereifyEdges_eq] at h
  cases ha : dereifyAgenda m g with
  | error e => rw [ha] at h; simp [bind, Except.bind] at h
  | ok agenda =>
    rw [ha] at h
    simp only [bind, Except.bind, pure, Except.pure, Except.ok.injEq] at h
    have hl := (dereifyAgenda_ok ha).2
    have hl' : (fun x => agenda.find? (·.var = x)) = collapseOf m g := funext hl
    subst h
    simp only [Graph.mk', derFold_triples, derFold_ep, hl', List.append_nil, List.reverse_reverse,
      and_self]

theorem dereifyEdges_of_agenda {m : Model} {g : Graph} {agenda : List Agenda}
    (h : dereifyAgenda m g = .ok agenda) : ∃ g', dereifyEdges m g = .ok g' := by
  rw [dereifyEdges_eq, h]; exact ⟨_, rfl⟩

end Penman
