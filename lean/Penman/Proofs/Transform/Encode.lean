/-
  Penman.Proofs.Transform.Encode — the results of the transformations satisfy
  the hypotheses of C06's `configure_complete`, hence they encode without error.
-/
import Penman.Proofs.Transform.Program
import Penman.Props.C06
namespace Penman

theorem connected_cfgReach {g : Graph} (hc : Connected g) :
    ∃ t, g.getTop = some t ∧ t ∈ g.variables ∧ ∀ v ∈ g.variables, Cfg.Reach g t v := by
  obtain ⟨top, hgt, htsrc, hall⟩ := hc
  have hvar : ∀ x, IsSrc g x → x ∈ g.variables := by
    rintro x ⟨t, ht, rfl⟩; exact src_mem_variables ht
  have conv : ∀ x, Reach g top x → Cfg.Reach g top x := by
    intro x hx
    induction hx with
    | refl => exact Cfg.Reach.refl
    | step hb hadj hcs ih =>
      obtain ⟨t, ht, hr, hbc⟩ := hadj
      exact Cfg.Reach.step ih ⟨t, ht, hr, hvar _ (hb.isSrc htsrc), hvar _ hcs, hbc⟩
  refine ⟨top, hgt, getTop_mem_variables hgt, ?_⟩
  intro v hv
  rw [mem_variables] at hv
  rcases hv with ⟨t, ht, rfl⟩ | htop
  · exact conv _ (hall t ht)
  · have : g.getTop = some v := by simp [Graph.getTop, htop]
    rw [hgt] at this
    simp only [Option.some.injEq] at this
    subst this; exact Cfg.Reach.refl

theorem strTargets_pushSrcOK {g : Graph} (h : StrTargets g) : Cfg.PushSrcOK g := by
  intro t ht
  by_cases hc : t.role = CONCEPT_ROLE
  · right; left; exact hc
  · left; exact h t ht hc

/-- **a graph satisfying `EncOK` encodes**: `configure` succeeds (C06) -/
theorem encOK_configure {m : Model} {g : Graph} (h : EncOK m g) :
    ∃ T, configure m g none = .ok T := by
  obtain ⟨⟨_, _, hc⟩, hs, hn⟩ := h
  obtain ⟨t, hgt, htv, hr⟩ := connected_cfgReach hc
  exact configure_complete hn (strTargets_pushSrcOK hs) (by simpa [Cfg.topOf] using hgt) htv hr

/-- what `EncOK` asks of one relation: a string target and a role that never inverts to
    `:instance` -/
def RelOK (m : Model) (t : Triple) : Prop :=
  t.role ≠ CONCEPT_ROLE → (tgtStr? t.tgt).isSome = true ∧ RoleInvOK m t.role

theorem encOK_iff {m : Model} {g : Graph} : EncOK m g ↔ WfC g ∧ ∀ t ∈ g.triples, RelOK m t :=
  ⟨fun h => ⟨h.1, fun t ht hr => ⟨h.2.1 t ht hr, h.2.2 t ht hr⟩⟩,
    fun h => ⟨h.1, fun t ht hr => (h.2 t ht hr).1, fun t ht hr => (h.2 t ht hr).2⟩⟩

theorem mem_attrResult {g : Graph} (hg : RolesColon g) {t1 : Triple}
    (h1 : t1 ∈ (reifyAttributes g).triples) :
    t1 ∈ g.triples ∨ t1.role = CONCEPT_ROLE ∨
    (∃ t ∈ g.triples, t.role ≠ CONCEPT_ROLE ∧ t1.role = t.role ∧ ∃ v, t1.tgt = .str v) := by
  obtain ⟨evs, hok, _, hout⟩ := reifyAttributes_mem g
  rcases (hout t1).mp h1 with ⟨t, he, rfl⟩ | ⟨t, v, he, rfl | rfl⟩
  · left
    rw [ensureColon_of_colon (hg t (hok _ he).1)]
    exact (hok _ he).1
  · exact .inr (.inr ⟨t, (hok _ he).1, (hok _ he).2.1, ensureColon_of_colon (hg t (hok _ he).1),
      v, rfl⟩)
  · exact .inr (.inl rfl)

theorem step_encOK {m : Model} (hm : ReifWf m) (htr : TopRoleOk m) (hti : TableInvOK m) (x : Xf)
    (g : Graph) (he : EncOK m g) (hs : x.Side g) :
    ∃ g', x.run m g = .ok g' ∧ EncOK m g' ∧ g'.getTop = g.getTop := by
  obtain ⟨hw, hrel⟩ := encOK_iff.mp he
  obtain ⟨g', hrun', hw', htop'⟩ := step_wfc hm htr x g hw hs
  refine ⟨g', hrun', encOK_iff.mpr ⟨hw', ?_⟩, htop'⟩
  -- an old triple keeps its role: the constructor leaves colon-prefixed roles alone
  have hold : ∀ t ∈ g.triples, RelOK m { t with role := ensureColon t.role } := by
    intro t htg
    rw [ensureColon_of_colon (hw.1 t htg)]
    exact hrel t htg
  intro t1 h1
  cases x with
  | reifyEdges =>
    obtain ⟨rev, st, hrun, _, rfl⟩ := reifyEdges_ok hrun'
    rcases (mem_reifyResult_triples hm hw.1 hrun).mp h1 with he | ⟨t, rf, v, inv, he, h⟩
    · exact hrel t1 (run_evOk hrun _ he).1
    · have hok := run_evOk hrun _ he
      have hrf := hti.1 rf (evOk_reif hok).2.1
      rcases h with rfl | rfl | rfl
      · exact fun _ => ⟨rfl, hrf.2.1⟩
      · exact fun hr => absurd rfl hr
      · exact fun _ => ⟨(hrel t (evOk_reif hok).1 (evOk_reif_role hm hok)).1, hrf.2.2⟩
  | dereifyEdges =>
    rcases (mem_dereifyEdges hrun').mp h1 with ⟨t, htg, _, rfl⟩ | ⟨x, ag, hcol, rfl⟩
    · exact hold t htg
    · obtain ⟨_, _, _, ⟨rf, hrf, hrole⟩, _⟩ := collapseOf_some hcol
      obtain ⟨_, b, _, hb, _, htb⟩ := collapseOf_ends hcol
      have hb' := mem_otherOf hb
      intro _
      refine ⟨htb ▸ (hrel b hb'.1 hb'.2.1).1, ?_⟩
      show RoleInvOK m (ensureColon ag.dereified.role)
      rw [← hrole, ensureColon_of_colon (hm.1 rf hrf).2.2.2.2.2.2.2]
      exact (hti.1 rf hrf).1
  | reifyAttributes =>
    cases hrun'
    obtain ⟨evs, hok, _, hout⟩ := reifyAttributes_mem g
    rcases (hout t1).mp h1 with ⟨t, he, rfl⟩ | ⟨t, v, he, rfl | rfl⟩
    · exact hold t (hok _ he).1
    · exact fun hr => ⟨rfl, (hold t (hok _ he).1 hr).2⟩
    · exact fun hr => absurd rfl hr
  | indicateBranches =>
    obtain ⟨t, htg, rfl | ⟨t0, h0, rfl⟩⟩ := (mem_indicateBranches hrun').mp h1
    · exact hold t htg
    · intro _
      have hrole : RoleInvOK m (ensureColon m.topRole) := by
        rw [ensureColon_of_colon htr.1]
        exact hti.2
      rcases mem_branchIns h0 with ⟨rfl, pv, _, hpv⟩ | ⟨s, _, rfl, _⟩
      · exact ⟨hpv ▸ rfl, hrole⟩
      · exact ⟨rfl, hrole⟩

/-- the roles the transformations can introduce, without duplicates -/
def C12dec.tableRoles (m : Model) : List Str :=
  dedup (m.reifs.flatMap (fun rf => [rf.role, rf.source, rf.target]) ++ [m.topRole])


theorem C12dec.mem_tableRoles {m : Model} {rf : Reif} (h : rf ∈ m.reifs) :
    rf.role ∈ C12dec.tableRoles m ∧ rf.source ∈ C12dec.tableRoles m ∧
      rf.target ∈ C12dec.tableRoles m := by
  have : ∀ r ∈ [rf.role, rf.source, rf.target], r ∈ C12dec.tableRoles m := fun r hr =>
    (mem_dedup _ r).mpr (List.mem_append_left _ (List.mem_flatMap.mpr ⟨rf, h, hr⟩))
  exact ⟨this _ (by simp), this _ (by simp), this _ (by simp)⟩

theorem C12dec.topRole_mem_tableRoles (m : Model) : m.topRole ∈ C12dec.tableRoles m :=
  (mem_dedup _ _).mpr (by simp)

theorem append_of_ne_concept (r : Str) : r ++ ofStr ≠ CONCEPT_ROLE := by
  intro h
  have h1 : (r ++ ofStr).getLast? = some 'f' := by
    rw [List.getLast?_append]; simp [ofStr]
  have h2 : CONCEPT_ROLE.getLast? = some 'e' := rfl
  rw [h, h2] at h1
  simp at h1

theorem dropEnd_append_of (r : Str) : dropEnd 3 (r ++ ofStr) = r := by
  have : (r ++ ofStr).length - 3 = r.length := by simp [ofStr]
  rw [dropEnd, this, List.take_left']
  rfl

/-- a declared role inverts to `role-of` and back: never to `:instance` -/
theorem roleInvOK_of_declared {m : Model} {r : Str} (h : m.hasRole1 r = true)
    (hne : r ≠ CONCEPT_ROLE) : RoleInvOK m r := by
  have hinv : m.invertRole r = r ++ ofStr := by simp [Model.invertRole, h]
  refine ⟨?_, ?_⟩
  · rw [hinv]
    exact append_of_ne_concept r
  · rw [hinv]
    unfold Model.invertRole
    split
    · rw [dropEnd_append_of]
      exact hne
    · exact append_of_ne_concept _

/-- a table whose roles are all declared in the model never inverts to `:instance` -/
theorem tableInvOK_of_declared {m : Model}
    (h : ∀ r ∈ C12dec.tableRoles m, m.hasRole1 r = true ∧ r ≠ CONCEPT_ROLE) : TableInvOK m :=
  have hr : ∀ r ∈ C12dec.tableRoles m, RoleInvOK m r := fun r hr =>
    roleInvOK_of_declared (h r hr).1 (h r hr).2
  ⟨fun _ hrf => ⟨hr _ (C12dec.mem_tableRoles hrf).1, hr _ (C12dec.mem_tableRoles hrf).2.1,
    hr _ (C12dec.mem_tableRoles hrf).2.2⟩, hr _ (C12dec.topRole_mem_tableRoles m)⟩

theorem prog_encOK {m : Model} (hm : ReifWf m) (htr : TopRoleOk m) (hti : TableInvOK m)
    (p : List Xf) (g : Graph) : EncOK m g → SideAlong m p g →
      ∃ g', runProg m p g = .ok g' ∧ EncOK m g' ∧ g'.getTop = g.getTop :=
  prog_inv (fun _ _ _ h => h) (step_encOK hm htr hti) p g

end Penman
