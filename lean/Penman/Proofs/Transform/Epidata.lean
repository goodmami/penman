/-
  Penman.Proofs.Transform.Epidata — dereify ∘ reify on the epigraphical
  markers: every original triple gets its markers back, in the normal form
  `normEpis` (identity on marker lists of the shape `interpret` produces).
-/
import Penman.Proofs.Transform.InverseMain
namespace Penman

theorem filter_replicate_pop (n : Nat) (p : Epi → Bool) :
    (List.replicate n Epi.pop).filter p = if p .pop then List.replicate n .pop else [] := by
  induction n with
  | zero => simp
  | succ n ih =>
    rw [List.replicate_succ, List.filter_cons, ih]
    cases p .pop <;> simp

theorem normEpis_decoded {l : List Epi} (h : DecodedShape l) : normEpis l = l := by
  obtain ⟨ra, al, pu, n, rfl, hra, hal, hpu⟩ := h
  unfold normEpis
  simp only [List.filter_append, filter_replicate_pop]
  rcases hra with rfl | ⟨p, i, rfl⟩ <;> rcases hal with rfl | ⟨p', i', rfl⟩ <;>
    rcases hpu with rfl | ⟨v, rfl⟩ <;> rfl

theorem filterMap_congr' {α β : Type} {l : List α} {f h : α → Option β} (hfh : ∀ a ∈ l, f a = h a) :
    l.filterMap f = l.filterMap h := by
  induction l with
  | nil => rfl
  | cons a r ih =>
    rw [List.filterMap_cons, List.filterMap_cons, hfh a (by simp),
      ih (fun b hb => hfh b (by simp [hb]))]

theorem roleEpis_eq (old : List Epi) :
    old.filter (fun e => !e.isPush && !e.isPop && e.mode = 1) = old.filter (fun e => e.mode = 1) := by
  apply List.filter_congr
  intro e _
  cases e <;> rfl

theorem otherEpis_eq (old : List Epi) :
    old.filter (fun e => !e.isPush && !e.isPop && e.mode ≠ 1) = old.filter (fun e => e.mode = 2) := by
  apply List.filter_congr
  intro e _
  cases e <;> rfl

/-- a marker of mode 1 is a role alignment -/
theorem mode_one {e : Epi} (h : e.mode = 1) : ∃ p i, e = .roleAln p i := by
  cases e with
  | roleAln p i => exact ⟨p, i, rfl⟩
  | aln p i => cases h
  | push v => cases h
  | pop => cases h

def roleToAln : Epi → Epi
  | .roleAln p i => .aln p i
  | e => e

theorem edgeMarkers_fst (old : List Epi) :
    (edgeMarkers old).1 = (old.filter (fun e => e.mode = 1)).map roleToAln := by
  simp only [edgeMarkers, reifiedMarkers, roleEpis_eq]
  rw [← List.filterMap_eq_map]
  apply filterMap_congr'
  intro e he
  obtain ⟨p, i, rfl⟩ := mode_one (by simpa using (List.mem_filter.mp he).2)
  rfl

theorem edgeMarkers_snd (old : List Epi) :
    (edgeMarkers old).2 = old.filter (fun e => e.mode = 2) ++
      (match (old.filter (·.isPush)).getLast? with | some p => [p] | none => []) ++
      old.filter (·.isPop) := by
  simp only [edgeMarkers, reifiedMarkers, otherEpis_eq]
  rfl

theorem edgeMarkers_snd_noRole (old : List Epi) :
    (edgeMarkers old).2.filter notRoleAln = (edgeMarkers old).2 := by
  rw [List.filter_eq_self]
  intro e he
  -- a role alignment has mode 1 and is neither a `Push` nor a `POP`
  cases e with
  | roleAln p i =>
    rw [edgeMarkers_snd] at he
    simp only [List.mem_append, List.mem_filter] at he
    rcases he with (he | he) | he
    · cases he.2
    · cases hl : (old.filter (·.isPush)).getLast? with
      | none =>
        rw [hl] at he
        cases he
      | some q =>
        rw [hl] at he
        cases List.mem_singleton.mp he
        cases (List.mem_filter.mp (List.mem_of_getLast? hl)).2
    · cases he.2
  | aln p i => rfl
  | push v => rfl
  | pop => rfl

theorem edgeMarkers_fst_last (old : List Epi) :
    alnBack (((edgeMarkers old).1.filter (fun e => e.mode = 2)).getLast?) =
    (match (old.filter (fun e => e.mode = 1)).getLast? with | some e => [e] | none => []) := by
  rw [edgeMarkers_fst]
  have hmode : ∀ e ∈ old.filter (fun e => e.mode = 1), ∃ p i, e = .roleAln p i :=
    fun e he => mode_one (by simpa using (List.mem_filter.mp he).2)
  have hall : ((old.filter (fun e => e.mode = 1)).map roleToAln).filter (fun e => e.mode = 2)
      = (old.filter (fun e => e.mode = 1)).map roleToAln := by
    rw [List.filter_eq_self]
    intro e he
    obtain ⟨e0, he0, rfl⟩ := List.mem_map.mp he
    obtain ⟨p, i, rfl⟩ := hmode e0 he0
    rfl
  rw [hall, List.getLast?_map]
  cases hl : (old.filter (fun e => e.mode = 1)).getLast? with
  | none => rfl
  | some e =>
    obtain ⟨p, i, rfl⟩ := hmode e (List.mem_of_getLast? hl)
    rfl

theorem get?_filterMap_val {α β γ : Type} [DecidableEq α] (f : β → Option γ) :
    ∀ (d : AList α β), (AList.keys d).Nodup → ∀ k,
    AList.get? (d.filterMap (fun p => (f p.2).map (fun c => (p.1, c)))) k = (AList.get? d k).bind f
  | [], _, k => rfl
  | p :: r, hn, k => by
    simp only [AList.keys, List.map_cons, List.nodup_cons] at hn
    have ih := get?_filterMap_val f r hn.2 k
    rw [List.filterMap_cons, AList.get?_cons]
    by_cases hk : p.1 = k
    · subst hk
      simp only [if_true, Option.bind_some]
      cases hf : f p.2 with
      | none =>
        simp only [Option.map_none]
        rw [ih]
        have : AList.get? r p.1 = none := (AList.get?_eq_none_iff r p.1).mpr hn.1
        rw [this]; rfl
      | some c => simp [AList.get?_cons]
    · simp only [hk, if_false]
      cases hf : f p.2 with
      | none => simpa using ih
      | some c => simp [AList.get?_cons, hk, ih]

theorem getAlignments_get? (g : Graph) (hk : (AList.keys g.epidata).Nodup) (k : Triple) :
    AList.get? (getAlignments g false) k =
      (AList.get? g.epidata k).bind (fun epis => (epis.filter (fun e => e.mode = 2)).getLast?) := by
  rw [← get?_filterMap_val _ g.epidata hk k]
  unfold getAlignments
  congr 1
  apply filterMap_congr'
  intro p _
  obtain ⟨t, epis⟩ := p
  simp only [Bool.false_eq_true, if_false]
  cases (epis.filter (fun e => e.mode = 2)).getLast? <;> rfl

/-- pointwise effect of the loop of `dereify_edges` on the lookup of key `k` -/
def epAfter (look : Str → Option Agenda) : List Triple → Triple → Option (List Epi) → Option (List Epi)
  | [], _, init => init
  | t :: r, k, init =>
    epAfter look r k (match look t.src with
      | some ag =>
        if t = k then none
        else if t = ag.first ∧ ag.dereified = k then some ag.epidata else init
      | none => init)

theorem get?_derEp (look : Str → Option Agenda) (t k : Triple) (ep : Epidata) :
    AList.get? (derEp look t ep) k = (match look t.src with
      | some ag =>
        if t = k then none
        else if t = ag.first ∧ ag.dereified = k then some ag.epidata else AList.get? ep k
      | none => AList.get? ep k) := by
  unfold derEp
  cases look t.src with
  | none => rfl
  | some ag =>
    simp only [AList.get?_erase]
    by_cases h1 : t = k
    · simp [h1]
    · simp only [h1, if_false]
      by_cases h2 : t = ag.first
      · simp only [h2, if_true, AList.get?_set, true_and]
      · simp [h2]

theorem get?_derFold (look : Str → Option Agenda) (l : List Triple) (k : Triple) (ep : Epidata) :
    AList.get? (l.foldl (fun ep t => derEp look t ep) ep) k = epAfter look l k (AList.get? ep k) := by
  induction l generalizing ep with
  | nil => rfl
  | cons t r ih => rw [List.foldl_cons, ih, get?_derEp]; rfl

theorem epAfter_append (look : Str → Option Agenda) (a b : List Triple) (k : Triple)
    (init : Option (List Epi)) :
    epAfter look (a ++ b) k init = epAfter look b k (epAfter look a k init) := by
  induction a generalizing init with
  | nil => rfl
  | cons t r ih => simp only [List.cons_append, epAfter, ih]

theorem derFold_keys_nodup (look : Str → Option Agenda) (l : List Triple) (ep : Epidata)
    (h : (AList.keys ep).Nodup) : (AList.keys (l.foldl (fun ep t => derEp look t ep) ep)).Nodup := by
  induction l generalizing ep with
  | nil => exact h
  | cons t r ih =>
    rw [List.foldl_cons]
    apply ih
    unfold derEp
    split
    · apply AList.nodup_keys_erase
      split
      · exact AList.nodup_keys_set _ _ _ h
      · exact h
    · exact h

section Epi
variable {m : Model} {g : Graph} {rev : List Ev} {st : RState}

/-- events that do not touch the key `k` -/
theorem epAfter_untouched {look : Str → Option Agenda} {l : List Ev} {k : Triple}
    (hkeep : ∀ t, Ev.keep t ∈ l → look t.src = none)
    (hreif : ∀ t rf v inv, Ev.reif t rf v inv ∈ l →
      v ≠ k.src ∧ ∃ ag, look v = some ag ∧ (ag.dereified = k → ag.first.src ≠ v))
    (init : Option (List Epi)) :
    epAfter look (l.flatMap Ev.out) k init = init := by
  induction l generalizing init with
  | nil => rfl
  | cons e r ih =>
    have ih' := ih (fun t ht => hkeep t (by simp [ht]))
      (fun t rf v inv h' => hreif t rf v inv (by simp [h']))
    rw [List.flatMap_cons, epAfter_append, ih']
    cases e with
    | keep t => simp [Ev.out, epAfter, hkeep t (by simp)]
    | reif t rf v inv =>
      obtain ⟨hv, ag, hag, hne⟩ := hreif t rf v inv (by simp)
      obtain ⟨h1, h2, h3⟩ := reif_out_ne t rf v inv hv
      have hx : ∀ (x : Triple), x.src = v → ¬ (x = ag.first ∧ ag.dereified = k) := by
        rintro x hx ⟨rfl, hd⟩; exact hne hd hx
      have h4 := hx (firstTriple t rf v inv) (by simp)
      have h5 := hx (nodeTriple rf v) (by simp)
      have h6 := hx (lastTriple t rf v inv) (by simp)
      simp only [Ev.out, epAfter, firstTriple_src, nodeTriple_src, lastTriple_src, hag, h1, h2, h3,
        h4, h5, h6, if_false]

/-- the block of a reification event sets the markers of its original triple -/
theorem epAfter_block {look : Str → Option Agenda} {t : Triple} {rf : Reif} {v : Str} {inv : Bool}
    {E : List Epi} (hm : ReifEntryOk m rf) (hv : v ≠ t.src)
    (hag : look v = some ⟨v, firstTriple t rf v inv, t, E⟩) (init : Option (List Epi)) :
    epAfter look (Ev.reif t rf v inv).out t init = some E := by
  obtain ⟨h1, h2, h3⟩ := reif_out_ne t rf v inv hv
  obtain ⟨h4, h5, _⟩ := reif_out_distinct hm t v inv
  simp [Ev.out, epAfter, hag, h1, h2, h3, h4, h5]

/-- the markers the agenda rebuilds for a reified triple -/
theorem agendaEpis_new (hm : ReifWf m) (hk : EpiKeysNodup g) (hrun : Run m g rev st)
    {post pre : List Ev} {t rf v inv} (hrev : rev = post ++ .reif t rf v inv :: pre)
    (hnot : t ∉ pre.flatMap Ev.reified) :
    agendaEpis (reifyResult g st) (nodeTriple rf v) (lastTriple t rf v inv) =
      normEpis ((AList.get? g.epidata t).getD []) := by
  obtain ⟨hlast, hnode, hold⟩ := new_markers hm hk hrun hrev
  rw [hold, if_neg hnot] at hlast hnode
  have hk1 : (AList.keys (reifyResult g st).epidata).Nodup := by
    rw [reifyResult_epidata hk hrun]; exact run_keys_nodup hrun hk
  unfold agendaEpis
  rw [getAlignments_get? _ hk1, hnode, hlast]
  simp only [Option.bind_some, Option.getD_some, edgeMarkers_snd_noRole]
  rw [edgeMarkers_fst_last, edgeMarkers_snd]
  unfold normEpis
  simp only [List.append_assoc]
  rfl

/-- **Inverse, marker level.** After reify → dereify every non-reifiable
    triple has its marker entry unchanged and every reified triple has its
    marker list back in normal form. -/
theorem reify_dereify_epidata (hm : ReifWf m) (hg : RolesColon g) (hk : EpiKeysNodup g)
    (hp : PushVars g) (hf : FreshSafe g) (hi : HasInst g) (hrun : Run m g rev st)
    (ho : rev.reverse.map Ev.orig = g.triples) (hnc : dereifyAgenda m g = .ok [])
    (hu : ∀ t ∈ g.triples, m.isReifiable t.role = true → Unambiguous m t.role)
    (hnd : (g.triples.filter (fun t => m.isReifiable t.role)).Nodup)
    {g2 : Graph} (h2 : dereifyEdges m (reifyResult g st) = .ok g2) :
    ∀ k ∈ g.triples, AList.get? g2.epidata k =
      if m.isReifiable k.role then some (normEpis ((AList.get? g.epidata k).getD []))
      else AList.get? g.epidata k := by
  intro k hkg
  have hk1 : (AList.keys (reifyResult g st).epidata).Nodup := by
    rw [reifyResult_epidata hk hrun]; exact run_keys_nodup hrun hk
  have hksrc : k.src ∈ g.variables := src_mem_variables hkg
  have hknew : ∀ e ∈ rev, k.src ∉ e.newVar := old_var_not_new hrun hksrc
  rw [(dereifyEdges_ok h2).2.2.2, AList.ofList_of_nodup _ (derFold_keys_nodup _ _ _ hk1),
    get?_derFold, reifyResult_triples hm hg hrun]
  have hkeep : ∀ t, Ev.keep t ∈ rev → collapseOf m (reifyResult g st) t.src = none := by
    intro t ht
    exact collapseOf_old_none hm hg hk hf hrun ho hnc
      (old_var_not_new hrun (src_mem_variables (run_evOk hrun (.keep t) ht).1))
  have hreif : ∀ t rf v inv, Ev.reif t rf v inv ∈ rev → t ≠ k →
      v ≠ k.src ∧ ∃ ag, collapseOf m (reifyResult g st) v = some ag ∧
        (ag.dereified = k → ag.first.src ≠ v) := by
    intro t rf v inv he hne
    refine ⟨fun h => hknew _ he (by simp [Ev.newVar, h]), _,
      collapse_new hm hg hk hp hf hi hrun ho hu he, fun h => absurd h hne⟩
  by_cases hre : m.isReifiable k.role = true
  · rw [if_pos hre]
    rcases (mem_triples_run ho).mp hkg with he | ⟨rf, v, inv, he'⟩
    · have := (run_evOk hrun _ he).2
      rw [hre] at this
      cases this
    · obtain ⟨post, pre, hrev⟩ := List.append_of_mem he'
      -- `k` occurs once among the reifiable triples, so no other event reifies it
      have hsplit : g.triples = pre.reverse.map Ev.orig ++ k :: post.reverse.map Ev.orig := by
        rw [← ho, hrev]
        simp [Ev.orig]
      rw [hsplit, List.filter_append, List.filter_cons, if_pos (by simpa using hre),
        List.nodup_append] at hnd
      have hmemf : ∀ (l : List Ev) rf' v' inv', Ev.reif k rf' v' inv' ∈ l →
          k ∈ (l.reverse.map Ev.orig).filter (fun t => m.isReifiable t.role) := by
        intro l rf' v' inv' h'
        rw [List.mem_filter]
        exact ⟨List.mem_map.mpr ⟨_, by simpa using h', rfl⟩, by simpa using hre⟩
      have hnot : k ∉ pre.flatMap Ev.reified := by
        intro hmem
        obtain ⟨rf', v', inv', he''⟩ := mem_flatMap_reified.mp hmem
        exact hnd.2.2 k (hmemf pre rf' v' inv' he'') k (by simp) rfl
      have hvt : v ≠ k.src := fun h => hknew _ he' (by simp [Ev.newVar, h])
      rw [hrev]
      simp only [List.reverse_append, List.reverse_cons, List.append_assoc, List.singleton_append,
        List.flatMap_append, List.flatMap_cons, epAfter_append]
      -- the block of `k`'s own event overwrites whatever the earlier events left
      rw [epAfter_block (hm.1 rf (evOk_reif (run_evOk hrun _ he')).2.1) hvt
        (collapse_new hm hg hk hp hf hi hrun ho hu he')]
      rw [epAfter_untouched]
      · rw [agendaEpis_new hm hk hrun hrev hnot]
      · intro t' ht'
        exact hkeep t' (by rw [hrev]; simp at ht' ⊢; left; exact ht')
      · intro t' rf' v' inv' h'
        have hmem : Ev.reif t' rf' v' inv' ∈ post := by simpa using h'
        refine hreif t' rf' v' inv' (by rw [hrev]; simp [hmem]) ?_
        rintro rfl
        exact (List.nodup_cons.mp hnd.2.1).1 (hmemf post rf' v' inv' hmem)
  · rw [if_neg hre]
    rw [epAfter_untouched]
    · rw [reifyResult_get? hk hrun, expEp_old hknew, if_neg (not_mem_reified hrun hre)]
    · intro t' ht'
      exact hkeep t' (by simpa using ht')
    · intro t' rf' v' inv' h'
      have hmem : Ev.reif t' rf' v' inv' ∈ rev := by simpa using h'
      refine hreif t' rf' v' inv' hmem ?_
      rintro rfl
      exact hre (evOk_reif (run_evOk hrun _ hmem)).2.2.2

end Epi

end Penman
