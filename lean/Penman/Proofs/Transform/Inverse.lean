/-
  Penman.Proofs.Transform.Inverse — dereifying a reified graph restores the
  triples and the top (C11, triples level).
-/
import Penman.Proofs.Transform.ReifyProps
namespace Penman

theorem findSome_push_mem {l : List Epi} {p : Str}
    (h : l.findSome? (fun | .push v => some v | _ => none) = some p) : Epi.push p ∈ l := by
  induction l with
  | nil => simp at h
  | cons e r ih =>
    rw [List.findSome?_cons] at h
    cases e with
    | push v => simp only [Option.some.injEq] at h; subst h; simp
    | pop => exact List.mem_cons_of_mem _ (ih h)
    | roleAln a b => exact List.mem_cons_of_mem _ (ih h)
    | aln a b => exact List.mem_cons_of_mem _ (ih h)

theorem mem_edgeMarkers_snd {old : List Epi} {e : Epi} (h : e ∈ (edgeMarkers old).2) : e ∈ old := by
  simp only [edgeMarkers, reifiedMarkers, List.mem_append, List.mem_filter] at h
  rcases h with (h | h) | h
  · exact h.1
  · cases hl : (old.filter (·.isPush)).getLast? with
    | none => rw [hl] at h; simp at h
    | some q =>
      rw [hl] at h
      simp only [List.mem_singleton] at h
      subst h
      exact (List.mem_filter.mp (List.mem_of_getLast? hl)).1
  · exact h.1

theorem pushesIn_nil (vars : List Str) : pushesIn vars [] = true := rfl

theorem dereify_reified {m : Model} (hm : ReifWf m) {t : Triple} {rf : Reif} (v : Str) (inv : Bool)
    (hf : m.reifs.find? (·.role = t.role) = some rf) (hu : Unambiguous m t.role) :
    m.dereify (nodeTriple rf v) (firstTriple t rf v inv) (lastTriple t rf v inv) =
      .ok (.str t.src, t.role, t.tgt) := by
  have hrf := hm.1 rf (List.mem_of_find?_eq_some hf)
  unfold Unambiguous at hu
  rw [hf] at hu
  have hu' : derefLookup rf.source rf.target (m.reifs.filter (·.concept = (nodeTriple rf v).tgt))
      = some (false, t.role) := hu
  rw [dereify_eq m rfl (by simp) (by simp)]
  cases inv
  · show (match derefLookup rf.source rf.target _ with | some p => _ | none => _) = _
    rw [hu']
    rfl
  · show (match derefLookup rf.target rf.source _ with | some p => _ | none => _) = _
    rw [derefLookup_swap hrf.2.2.2.2.1, hu']
    rfl

theorem entryOf_skip_transfer {m : Model} {g g' : Graph} {x : Str} {i0 f s2 : Triple}
    (h4 : ∀ s, s ∈ g'.variables → (Atom.str s = f.tgt ∨ Atom.str s = s2.tgt) → s ∈ g.variables)
    (hs : entryOf m g x i0 f s2 = .skip) : entryOf m g' x i0 f s2 = .skip := by
  unfold entryOf at hs ⊢
  cases hd : m.dereify i0 f s2 with
  | error e =>
    rw [hd] at hs
    cases e <;> exact hs
  | ok r =>
    rw [hd] at hs
    obtain ⟨src, role, tgt⟩ := r
    cases src with
    | none => rfl
    | num n => rfl
    | str s =>
      simp only at hs ⊢
      have hsg : s ∉ g.variables := by
        intro hin
        rw [if_pos hin] at hs
        cases hs
      -- the new source is one of the two targets
      have hsp := (dereify_ok_spec hd).1
      rw [if_neg (fun hin => hsg (h4 s hin (hsp.imp (·.1) (·.1))))]

/-- a skipped entry stays skipped in a graph where the variable has the same relations with the
    same `Push` markers, was unreferenced, and no target of these relations became a variable -/
theorem entryRes_skip_transfer {m : Model} {g g' : Graph} {x : Str} {i0 : Triple}
    (h1 : otherOf g'.triples x = otherOf g.triples x) (h2 : Atom.str x ∉ (agendaScan g).1)
    (h3 : ∀ b ∈ otherOf g.triples x, getPushedVariable g' b = getPushedVariable g b)
    (h4 : ∀ s, s ∈ g'.variables → (∃ t ∈ otherOf g.triples x, Atom.str s = t.tgt) → s ∈ g.variables)
    (hs : entryRes m g x i0 = .skip) : entryRes m g' x i0 = .skip := by
  rw [entryRes_eq] at hs ⊢
  rw [h1]
  generalize otherOf g.triples x = l at hs h3 h4 ⊢
  match l with
  | [] => rfl
  | [_] => rfl
  | _ :: _ :: _ :: _ => rfl
  | [a, b] =>
    simp only at hs ⊢
    by_cases hc : Atom.str x ∉ (agendaScan g').1 ∧ m.isDereifiable i0.tgt = true
    · rw [if_pos hc, h3 b (by simp)]
      rw [if_pos ⟨h2, hc.2⟩] at hs
      by_cases hp : getPushedVariable g b = some x
      · rw [if_pos hp] at hs ⊢
        refine entryOf_skip_transfer (fun s hs' h => h4 s hs' ?_) hs
        rcases h with h | h
        · exact ⟨b, by simp, h⟩
        · exact ⟨a, by simp, h⟩
      · rw [if_neg hp] at hs ⊢
        refine entryOf_skip_transfer (fun s hs' h => h4 s hs' ?_) hs
        rcases h with h | h
        · exact ⟨a, by simp, h⟩
        · exact ⟨b, by simp, h⟩
    · rw [if_neg hc]

section Inv
variable {m : Model} {g : Graph} {rev : List Ev} {st : RState}

theorem fixed_reify_iff (hrun : Run m g rev st) (ho : rev.reverse.map Ev.orig = g.triples)
    (a : Atom) :
    a ∈ (agendaScan (reifyResult g st)).1 ↔
      a = topAtom g ∨ ∃ t1 ∈ (reifyResult g st).triples, t1.role ≠ CONCEPT_ROLE ∧ t1.tgt = a := by
  rw [agendaScan_fixed]
  unfold topAtom
  rw [reifyResult_getTop hrun ho]

theorem evOk_rev (hrun : Run m g rev st) : ∀ e ∈ rev.reverse, EvOk m g e :=
  fun e he => run_evOk hrun e (by simpa using he)

/-- a new variable is not referenced and is not the top -/
theorem new_not_fixed (hm : ReifWf m) (hg : RolesColon g) (hf : FreshSafe g) (hrun : Run m g rev st)
    (ho : rev.reverse.map Ev.orig = g.triples) {v : Str} (hv : v ∈ rev.flatMap Ev.newVar) :
    Atom.str v ∉ (agendaScan (reifyResult g st)).1 := by
  obtain ⟨hnv, hgen⟩ := (run_newVars hrun).2 v hv
  rw [fixed_reify_iff hrun ho]
  rintro (h | ⟨t1, h1, hr, htgt⟩)
  · unfold topAtom at h
    cases ht : g.getTop with
    | none => rw [ht] at h; simp at h
    | some x =>
      rw [ht] at h
      exact hnv (Atom.str.inj h ▸ getTop_mem_variables ht)
  · -- a relation target is an old target or the source of a reified relation
    rcases (mem_reifyResult_triples hm hg hrun).mp h1 with he | ⟨t, rf, v', inv, he, rfl | rfl | rfl⟩
    · exact hnv (freshSafe_tgt hf (run_evOk hrun _ he).1 hr htgt hgen)
    · exact hnv (Atom.str.inj htgt ▸ src_mem_variables (run_evOk hrun _ he).1)
    · exact hr rfl
    · have hok := run_evOk hrun _ he
      exact hnv (freshSafe_tgt hf hok.1 (evOk_reif_role hm hok) htgt hgen)

/-- what was referenced (or the top) stays so -/
theorem old_fixed_stays (hm : ReifWf m) (hg : RolesColon g) (hrun : Run m g rev st)
    (ho : rev.reverse.map Ev.orig = g.triples) {a : Atom} (h : a ∈ (agendaScan g).1) :
    a ∈ (agendaScan (reifyResult g st)).1 := by
  have hmem := @mem_reifyResult_triples m g rev st hm hg hrun
  rw [fixed_reify_iff hrun ho]
  rw [agendaScan_fixed] at h
  rcases h with h | ⟨t, ht, hr, htgt⟩
  · exact Or.inl h
  · rcases (mem_triples_run ho).mp ht with he | ⟨rf, v, inv, he⟩
    · exact Or.inr ⟨t, hmem.mpr (.inl he), hr, htgt⟩
    · exact Or.inr ⟨outTriple t rf v, hmem.mpr (.inr ⟨t, rf, v, inv, he, .inr (.inr rfl)⟩),
        (hm.1 rf (evOk_reif (run_evOk hrun _ he)).2.1).2.2.2.1, htgt⟩

/-- the source of a reified relation is referenced afterwards -/
theorem reified_src_fixed (hm : ReifWf m) (hg : RolesColon g) (hrun : Run m g rev st)
    (ho : rev.reverse.map Ev.orig = g.triples) {t rf v inv} (he : Ev.reif t rf v inv ∈ rev) :
    Atom.str t.src ∈ (agendaScan (reifyResult g st)).1 :=
  (fixed_reify_iff hrun ho _).mpr (Or.inr ⟨inTriple t rf v,
    (mem_reifyResult_triples hm hg hrun).mpr (.inr ⟨t, rf, v, inv, he, .inl rfl⟩),
    (hm.1 rf (evOk_reif (run_evOk hrun _ he)).2.1).2.2.1, rfl⟩)

/-- position of a reification event: its variable occurs in no other event -/
theorem reif_split_of (hrun : Run m g rev st) {post pre : List Ev} {t rf v inv}
    (hrev : rev = post ++ .reif t rf v inv :: pre) :
    (∀ e ∈ post, v ∉ e.newVar) ∧ (∀ e ∈ pre, v ∉ e.newVar) := by
  have hn := (run_newVars hrun).1
  rw [hrev] at hn
  simp only [List.flatMap_append, List.flatMap_cons, Ev.newVar, List.singleton_append] at hn
  rw [List.nodup_append, List.nodup_cons] at hn
  exact ⟨fun e he hv => hn.2.2 v (List.mem_flatMap.mpr ⟨e, he, hv⟩) v (by simp) rfl,
    fun e he hv => hn.2.1.1 (List.mem_flatMap.mpr ⟨e, he, hv⟩)⟩

theorem new_not_var (hrun : Run m g rev st) {t rf v inv} (he : Ev.reif t rf v inv ∈ rev) :
    v ∉ g.variables ∧ isGenName v = true :=
  (run_newVars hrun).2 v (mem_flatMap_newVar.mpr ⟨t, rf, inv, he⟩)

/-- the relations and the instance triple of a new variable -/
theorem new_triples (hm : ReifWf m) (hg : RolesColon g) (hrun : Run m g rev st)
    {t rf v inv} (he : Ev.reif t rf v inv ∈ rev) :
    otherOf (reifyResult g st).triples v = [firstTriple t rf v inv, lastTriple t rf v inv] ∧
    instOf (reifyResult g st).triples v = [nodeTriple rf v] := by
  obtain ⟨post, pre, hrev⟩ := List.append_of_mem he
  obtain ⟨hpost, hpre⟩ := reif_split_of hrun hrev
  have hnv := (new_not_var hrun he).1
  have hok := run_evOk hrun
  rw [reifyResult_triples hm hg hrun, hrev]
  simp only [List.reverse_append, List.reverse_cons, List.append_assoc, List.singleton_append,
    List.flatMap_append, List.flatMap_cons, otherOf_append, instOf_append]
  have hokpre : ∀ e ∈ pre.reverse, EvOk m g e := fun e h' => hok e (by
    rw [hrev]; simp only [List.mem_append, List.mem_cons]; right; right; simpa using h')
  have hokpost : ∀ e ∈ post.reverse, EvOk m g e := fun e h' => hok e (by
    rw [hrev]; simp only [List.mem_append]; left; simpa using h')
  have hpre' := src_ne_of_flatMap_out hokpre hnv (fun e h' => hpre e (by simpa using h'))
  have hpost' := src_ne_of_flatMap_out hokpost hnv (fun e h' => hpost e (by simpa using h'))
  have e1 : otherOf (pre.reverse.flatMap Ev.out) v = [] := filter_src_nil hpre' _
  have e2 : otherOf (post.reverse.flatMap Ev.out) v = [] := filter_src_nil hpost' _
  have e3 : instOf (pre.reverse.flatMap Ev.out) v = [] := filter_src_nil hpre' _
  have e4 : instOf (post.reverse.flatMap Ev.out) v = [] := filter_src_nil hpost' _
  have heok := hok _ he
  rw [e1, e2, e3, e4, (otherOf_instOf_reif hm heok).1, (otherOf_instOf_reif hm heok).2]
  simp

theorem old_var_not_new (hrun : Run m g rev st) {x : Str} (hx : x ∈ g.variables) :
    ∀ e ∈ rev, x ∉ e.newVar :=
  fun e he hv => ((run_newVars hrun).2 x (List.mem_flatMap.mpr ⟨e, he, hv⟩)).1 hx

/-- the marker entries of the node triple and the last triple of a reification event in the
    result: the migrated markers of the original triple, as they were before the event -/
theorem new_markers (hm : ReifWf m) (hk : EpiKeysNodup g) (hrun : Run m g rev st)
    {post pre : List Ev} {t rf v inv} (hrev : rev = post ++ .reif t rf v inv :: pre) :
    AList.get? (reifyResult g st).epidata (lastTriple t rf v inv) =
      some (edgeMarkers ((expEp g pre t).getD [])).2 ∧
    AList.get? (reifyResult g st).epidata (nodeTriple rf v) =
      some (edgeMarkers ((expEp g pre t).getD [])).1 ∧
    expEp g pre t = if t ∈ pre.flatMap Ev.reified then none else AList.get? g.epidata t := by
  have hmem : ∀ e ∈ post ++ .reif t rf v inv :: pre, e ∈ rev := fun e he => hrev ▸ he
  have he : Ev.reif t rf v inv ∈ rev := hmem _ (by simp)
  have hnv := (new_not_var hrun he).1
  have hok := run_evOk hrun
  have ht := (hok _ he).1
  have hts : t.src ≠ v := fun h => hnv (h ▸ src_mem_variables ht)
  have hpost := (reif_split_of hrun hrev).1
  have hsrc : ∀ e ∈ post, e.orig.src ≠ v := by
    intro e hepost h
    have : e.orig ∈ g.triples := by
      have := hok e (hmem e (by simp [hepost]))
      cases e with
      | keep t => exact this.1
      | reif t rf v inv => exact this.1
    exact hnv (h ▸ src_mem_variables this)
  have hnl := (reif_out_distinct (hm.1 rf (evOk_reif (hok _ he)).2.1) t v inv).2.2
  refine ⟨?_, ?_, expEp_old fun e hepre =>
    old_var_not_new hrun (src_mem_variables ht) e (hmem e (by simp [hepre]))⟩
  · rw [reifyResult_get? hk hrun, hrev, expEp_last hpost hsrc hts]
  · rw [reifyResult_get? hk hrun, hrev, expEp_node hpost hsrc hts hnl]

/-- the migrated markers on the last triple do not push the new variable -/
theorem last_not_pushed (hm : ReifWf m) (hk : EpiKeysNodup g) (hp : PushVars g)
    (hrun : Run m g rev st) {t rf v inv} (he : Ev.reif t rf v inv ∈ rev) :
    getPushedVariable (reifyResult g st) (lastTriple t rf v inv) ≠ some v := by
  obtain ⟨post, pre, hrev⟩ := List.append_of_mem he
  obtain ⟨hlast, _, hold⟩ := new_markers hm hk hrun hrev
  have ht := (run_evOk hrun _ he).1
  have hpush : pushesIn g.variables ((expEp g pre t).getD []) = true := by
    rw [hold]
    split
    · rfl
    · exact hp t ht
  unfold getPushedVariable
  rw [hlast]
  intro h
  exact (new_not_var hrun he).1 (pushesIn_mem hpush (mem_edgeMarkers_snd (findSome_push_mem h)))

theorem inst_kept (hm : ReifWf m) (hg : RolesColon g) (hrun : Run m g rev st)
    (ho : rev.reverse.map Ev.orig = g.triples) {t : Triple} (htg : t ∈ g.triples)
    (hc : t.role = CONCEPT_ROLE) : t ∈ (reifyResult g st).triples := by
  rcases (mem_triples_run ho).mp htg with he | ⟨rf, v, inv, he⟩
  · exact (mem_reifyResult_triples hm hg hrun).mpr (.inl he)
  · exact absurd hc (evOk_reif_role hm (run_evOk hrun _ he))

/-- with a node for every source, the sources of `g` stay variables -/
theorem old_src_var (hm : ReifWf m) (hg : RolesColon g) (hrun : Run m g rev st)
    (ho : rev.reverse.map Ev.orig = g.triples) (hi : HasInst g) :
    ∀ t ∈ g.triples, t.src ∈ (reifyResult g st).variables := by
  intro t ht
  obtain ⟨t', ht', hs, hc⟩ := hi t ht
  rw [← hs]
  exact src_mem_variables (inst_kept hm hg hrun ho ht' hc)

theorem reify_vars_subset (hm : ReifWf m) (hg : RolesColon g) (hrun : Run m g rev st)
    (_ho : rev.reverse.map Ev.orig = g.triples) {x : Str} (hx : x ∈ (reifyResult g st).variables) :
    x ∈ g.variables ∨ x ∈ rev.flatMap Ev.newVar := by
  rw [mem_variables] at hx
  rcases hx with ⟨t1, h1, rfl⟩ | htop
  · rw [reifyResult_triples hm hg hrun] at h1
    exact (mem_variables_flatMap_out (evOk_rev hrun) h1).imp_right
      (flatMap_reverse_perm rev Ev.newVar).mem_iff.mp
  · rw [reifyResult_top] at htop
    exact Or.inl (getTop_mem_variables htop)

/-- the agenda entry of a new variable: collapse it back to the original -/
theorem collapse_new (hm : ReifWf m) (hg : RolesColon g) (hk : EpiKeysNodup g) (hp : PushVars g)
    (hf : FreshSafe g) (hi : HasInst g) (hrun : Run m g rev st)
    (ho : rev.reverse.map Ev.orig = g.triples)
    (hu : ∀ t ∈ g.triples, m.isReifiable t.role = true → Unambiguous m t.role)
    {t rf v inv} (he : Ev.reif t rf v inv ∈ rev) :
    collapseOf m (reifyResult g st) v = some ⟨v, firstTriple t rf v inv, t,
      agendaEpis (reifyResult g st) (nodeTriple rf v) (lastTriple t rf v inv)⟩ := by
  have heok := run_evOk hrun _ he
  have hre := evOk_reif heok
  obtain ⟨hother, hinst⟩ := new_triples hm hg hrun he
  have hnf := new_not_fixed hm hg hf hrun ho (mem_flatMap_newVar.mpr ⟨t, rf, inv, he⟩)
  have hnp := last_not_pushed hm hk hp hrun he
  have hder : m.isDereifiable (nodeTriple rf v).tgt = true := by
    simp only [Model.isDereifiable, nodeTriple, List.any_eq_true]
    exact ⟨rf, hre.2.1, by simp⟩
  unfold collapseOf
  rw [hinst]
  simp only [List.getLast?_singleton]
  rw [entryRes_eq, hother]
  simp only
  rw [if_pos ⟨hnf, hder⟩, if_neg hnp]
  unfold entryOf
  rw [dereify_reified hm v inv heok.2.1 (hu t hre.1 hre.2.2.2)]
  simp only
  rw [if_pos (old_src_var hm hg hrun ho hi t hre.1)]

/-- an old variable does not become collapsible -/
theorem collapse_old (hm : ReifWf m) (hg : RolesColon g) (hk : EpiKeysNodup g) (hf : FreshSafe g)
    (hrun : Run m g rev st) (ho : rev.reverse.map Ev.orig = g.triples)
    (hnc : dereifyAgenda m g = .ok []) {x : Str} (hx : ∀ e ∈ rev, x ∉ e.newVar) :
    ∀ i0, (instOf (reifyResult g st).triples x).getLast? = some i0 →
      entryRes m (reifyResult g st) x i0 = .skip := by
  intro i0 hi0
  have hok := evOk_rev hrun
  have hx' : ∀ e ∈ rev.reverse, x ∉ e.newVar := fun e h' => hx e (by simpa using h')
  have hinst : instOf (reifyResult g st).triples x = instOf g.triples x := by
    rw [reifyResult_triples hm hg hrun, instOf_flatMap_old hm hok hx', ho]
  have hother : otherOf (reifyResult g st).triples x =
      (otherOf g.triples x).filter (fun t => !m.isReifiable t.role) := by
    rw [reifyResult_triples hm hg hrun, otherOf_flatMap_old hok hx', ho]
  rw [hinst] at hi0
  have hskip : entryRes m g x i0 = .skip := by
    have hmem : (x, i0) ∈ (agendaScan g).2.1 :=
      AList.mem_of_get? (by rw [agendaScan_inst]; exact hi0)
    exact dereifyAgenda_nil_iff.mp hnc (x, i0) hmem
  rcases entryRes_cases m (reifyResult g st) x i0 with hsk | ⟨_, _, _, hfix, _⟩
  · exact hsk
  · -- `x` is unreferenced after reification: no relation of `x` was reified
    have hnone : ∀ t ∈ otherOf g.triples x, m.isReifiable t.role = false := by
      intro t ht
      have htg := mem_otherOf ht
      rcases (mem_triples_run ho).mp htg.1 with he | ⟨rf, v, inv, he⟩
      · exact (run_evOk hrun _ he).2
      · exact absurd (htg.2.2 ▸ reified_src_fixed hm hg hrun ho he) hfix
    have hother' : otherOf (reifyResult g st).triples x = otherOf g.triples x := by
      rw [hother, List.filter_eq_self]
      intro t ht
      simp [hnone t ht]
    refine entryRes_skip_transfer hother' (fun h => hfix (old_fixed_stays hm hg hrun ho h)) ?_ ?_ hskip
    · intro b hb
      have hbg := mem_otherOf hb
      unfold getPushedVariable
      rw [reifyResult_get? hk hrun, expEp_old (by rw [hbg.2.2]; exact hx),
        if_neg (not_mem_reified hrun (by simp [hnone b hb]))]
    · rintro s hs ⟨t, ht, hst⟩
      rcases reify_vars_subset hm hg hrun ho hs with h | h
      · exact h
      · have htg := mem_otherOf ht
        exact freshSafe_tgt hf htg.1 htg.2.1 hst.symm ((run_newVars hrun).2 s h).2

end Inv

end Penman
