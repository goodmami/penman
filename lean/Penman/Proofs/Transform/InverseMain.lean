/-
  Penman.Proofs.Transform.InverseMain — assembling the inverse theorem
  (triples level) and the guard theorem of `dereify_edges`.
-/
import Penman.Proofs.Transform.Inverse
namespace Penman

theorem flatMap_congr' {α β : Type} {l : List α} {f h : α → List β} (hfh : ∀ a ∈ l, f a = h a) :
    l.flatMap f = l.flatMap h := by
  induction l with
  | nil => rfl
  | cons a r ih =>
    rw [List.flatMap_cons, List.flatMap_cons, hfh a (by simp), ih (fun b hb => hfh b (by simp [hb]))]

theorem getTop_of_top {g g' : Graph} (h1 : g'.top = g.getTop) (h2 : g.triples = [] → g'.triples = []) :
    g'.getTop = g.getTop := by
  cases hgt : g.getTop with
  | some x => rw [hgt] at h1; unfold Graph.getTop; rw [h1]
  | none =>
    rw [hgt] at h1
    have : g.triples = [] := by
      unfold Graph.getTop at hgt
      cases htop : g.top with
      | some y => rw [htop] at hgt; simp at hgt
      | none =>
        rw [htop] at hgt
        cases hl : g.triples with
        | nil => rfl
        | cons a r => rw [hl] at hgt; simp at hgt
    unfold Graph.getTop; rw [h1, h2 this]

section
variable {m : Model} {g : Graph} {rev : List Ev} {st : RState}

theorem collapseOf_old_none (hm : ReifWf m) (hg : RolesColon g) (hk : EpiKeysNodup g)
    (hf : FreshSafe g) (hrun : Run m g rev st) (ho : rev.reverse.map Ev.orig = g.triples)
    (hnc : dereifyAgenda m g = .ok []) {x : Str} (hx : ∀ e ∈ rev, x ∉ e.newVar) :
    collapseOf m (reifyResult g st) x = none := by
  unfold collapseOf
  cases hl : (instOf (reifyResult g st).triples x).getLast? with
  | none => rfl
  | some i0 =>
    simp only
    rw [collapse_old hm hg hk hf hrun ho hnc hx i0 hl]

/-- every event's triples collapse back to its original triple -/
theorem derOut_event (hm : ReifWf m) (hg : RolesColon g) (hk : EpiKeysNodup g) (hp : PushVars g)
    (hf : FreshSafe g) (hi : HasInst g) (hrun : Run m g rev st)
    (ho : rev.reverse.map Ev.orig = g.triples)
    (hnc : dereifyAgenda m g = .ok [])
    (hu : ∀ t ∈ g.triples, m.isReifiable t.role = true → Unambiguous m t.role)
    {e : Ev} (he : e ∈ rev) :
    e.out.flatMap (derOut (collapseOf m (reifyResult g st))) = [e.orig] := by
  have heok := run_evOk hrun e he
  cases e with
  | keep t =>
    have := collapseOf_old_none hm hg hk hf hrun ho hnc
      (old_var_not_new hrun (src_mem_variables heok.1))
    simp [Ev.out, Ev.orig, derOut, this]
  | reif t rf v inv =>
    have hc := collapse_new hm hg hk hp hf hi hrun ho hu he
    obtain ⟨h1, h2, _⟩ := reif_out_distinct (hm.1 rf (evOk_reif heok).2.1) t v inv
    simp [Ev.out, Ev.orig, derOut, hc, h1, h2]

/-- **Inverse, triples level.** -/
theorem reify_dereify_triples (hm : ReifWf m) (hg : RolesColon g) (hk : EpiKeysNodup g)
    (hp : PushVars g) (hf : FreshSafe g) (hi : HasInst g) (hrun : Run m g rev st)
    (ho : rev.reverse.map Ev.orig = g.triples) (hnc : dereifyAgenda m g = .ok [])
    (hu : ∀ t ∈ g.triples, m.isReifiable t.role = true → Unambiguous m t.role) :
    ∃ g2, dereifyEdges m (reifyResult g st) = .ok g2 ∧ g2.triples = g.triples ∧
      g2.getTop = g.getTop ∧ g2.top = g.getTop := by
  -- no agenda entry raises
  have hnoerr : ∀ p ∈ (agendaScan (reifyResult g st)).2.1, ∀ e,
      entryRes m (reifyResult g st) p.1 p.2 ≠ .err e := by
    intro p hp' e
    have hlast := agendaScan_inst_mem hp'
    by_cases hnew : p.1 ∈ rev.flatMap Ev.newVar
    · obtain ⟨t, rf, inv, hev⟩ := mem_flatMap_newVar.mp hnew
      have hc := collapse_new hm hg hk hp hf hi hrun ho hu hev
      unfold collapseOf at hc
      rw [hlast] at hc
      simp only at hc
      intro h
      rw [h] at hc
      cases hc
    · have hx : ∀ e ∈ rev, p.1 ∉ e.newVar :=
        fun e he hv => hnew (List.mem_flatMap.mpr ⟨e, he, hv⟩)
      rw [collapse_old hm hg hk hf hrun ho hnc hx p.2 hlast]
      simp
  obtain ⟨agenda, hag⟩ := dereifyAgenda_of_noErr hnoerr
  obtain ⟨g2, hg2⟩ := dereifyEdges_of_agenda hag
  obtain ⟨ht, htop, _, _⟩ := dereifyEdges_ok hg2
  have htr : g2.triples = g.triples := by
    rw [ht, reifyResult_triples hm hg hrun, List.flatMap_assoc]
    have : (rev.reverse.flatMap fun e => e.out.flatMap (derOut (collapseOf m (reifyResult g st))))
        = rev.reverse.flatMap fun e => [e.orig] := by
      apply flatMap_congr'
      intro e he
      exact derOut_event hm hg hk hp hf hi hrun ho hnc hu (by simpa using he)
    rw [this, ← List.map_eq_flatMap, ho]
    exact map_ensureColon_id hg
  have htop' : g2.top = g.getTop := by rw [htop, reifyResult_getTop hrun ho]
  exact ⟨g2, hg2, htr, getTop_of_top htop' (fun h => htr ▸ h), htop'⟩

end

/-- `collapseOf` refuses the top, referenced variables, and variables that do
    not have exactly two relations. -/
theorem collapseOf_guard (m : Model) (g : Graph) (x : Str)
    (h : g.getTop = some x ∨ (∃ t ∈ g.triples, t.role ≠ CONCEPT_ROLE ∧ t.tgt = .str x) ∨
      (otherOf g.triples x).length ≠ 2) : collapseOf m g x = none := by
  cases hc : collapseOf m g x with
  | none => rfl
  | some ag =>
    obtain ⟨_, f, s2, hl, hfix, _⟩ := collapseOf_entry hc
    rcases h with h | h | h
    · refine absurd ((agendaScan_fixed g _).mpr (Or.inl ?_)) hfix
      unfold topAtom
      rw [h]
    · exact absurd ((agendaScan_fixed g _).mpr (Or.inr h)) hfix
    · rcases hl with hl | hl <;> simp [hl] at h

/-- **Guard.** A variable that is the top, or the target of a relation, or
    does not have exactly two relations, is never collapsed: all its triples are
    kept (with the role normalisation of the `Graph` constructor). -/
theorem dereify_guard {m : Model} {g g' : Graph} (h : dereifyEdges m g = .ok g') (x : Str)
    (hx : g.getTop = some x ∨ (∃ t ∈ g.triples, t.role ≠ CONCEPT_ROLE ∧ t.tgt = .str x) ∨
      (otherOf g.triples x).length ≠ 2) :
    ∀ t ∈ g.triples, t.src = x → { t with role := ensureColon t.role } ∈ g'.triples := by
  intro t ht hsrc
  rw [(dereifyEdges_ok h).1, List.mem_map]
  refine ⟨t, ?_, rfl⟩
  rw [List.mem_flatMap]
  refine ⟨t, ht, ?_⟩
  unfold derOut
  rw [hsrc, collapseOf_guard m g x hx]
  simp

/-- conversely, every triple that disappears belongs to a collapsed variable:
    not the top, not referenced, exactly two relations, dereifiable concept -/
theorem dereify_removed {m : Model} {g g' : Graph} (h : dereifyEdges m g = .ok g') (t : Triple)
    (ht : t ∈ g.triples) (hgone : { t with role := ensureColon t.role } ∉ g'.triples) :
    g.getTop ≠ some t.src ∧ (∀ t' ∈ g.triples, t'.role ≠ CONCEPT_ROLE → t'.tgt ≠ .str t.src) ∧
      (otherOf g.triples t.src).length = 2 := by
  refine ⟨?_, ?_, ?_⟩
  · intro h1
    exact hgone (dereify_guard h t.src (Or.inl h1) t ht rfl)
  · intro t' ht' hr' htg
    exact hgone (dereify_guard h t.src (Or.inr (Or.inl ⟨t', ht', hr', htg⟩)) t ht rfl)
  · by_cases hl : (otherOf g.triples t.src).length = 2
    · exact hl
    · exact absurd (dereify_guard h t.src (Or.inr (Or.inr hl)) t ht rfl) hgone

end Penman
