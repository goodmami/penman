/-
  Penman.Proofs.Transform.Preserve — `reifyEdges` and `dereifyEdges` keep the top and
  the node of every source; `dereifyEdges` is total; what a collapsed node is (`collapseOf_some`) and
  where the triples of the result come from (`mem_dereifyEdges`).
-/
import Penman.Proofs.Transform.InverseMain
import Penman.Proofs.Transform.Branches
namespace Penman

theorem reifyEdges_hasInst {m : Model} {g : Graph} {rev : List Ev} {st : RState}
    (hm : ReifWf m) (hg : RolesColon g) (hrun : Run m g rev st)
    (ho : rev.reverse.map Ev.orig = g.triples) (hi : HasInst g) : HasInst (reifyResult g st) := by
  have hmem := @mem_reifyResult_triples m g rev st hm hg hrun
  refine hasInst_transfer (fun t htg hc => ⟨t, inst_kept hm hg hrun ho htg hc, rfl, hc⟩) ?_ hi
  intro t1 h1
  rcases hmem.mp h1 with he | ⟨t, rf, v, inv, he, h⟩
  · exact Or.inl ⟨t1, (run_evOk hrun _ he).1, rfl⟩
  · refine Or.inr ⟨nodeTriple rf v, hmem.mpr (.inr ⟨t, rf, v, inv, he, .inr (.inl rfl)⟩), ?_, rfl⟩
    rcases h with rfl | rfl | rfl <;> rfl

theorem dereifyEdges_getTop {m : Model} {g g' : Graph} (h : dereifyEdges m g = .ok g') :
    g'.getTop = g.getTop := by
  obtain ⟨ht, htop, _, _⟩ := dereifyEdges_ok h
  apply getTop_of_top htop
  intro hnil
  rw [ht, hnil]; rfl

/-- `Model.dereify` on an instance triple and two relations of the same
    variable never raises the `ValueError` -/
theorem dereify_no_valueError (m : Model) {i0 a b : Triple} (hc : i0.role = CONCEPT_ROLE)
    (ha : i0.src = a.src) (hb : a.src = b.src) :
    (∃ r, m.dereify i0 a b = .ok r) ∨ m.dereify i0 a b = .error .model := by
  rw [dereify_eq m hc ha hb]
  cases derefLookup a.role b.role (m.reifs.filter (·.concept = i0.tgt)) with
  | none => exact Or.inr rfl
  | some p => exact Or.inl ⟨_, rfl⟩

/-- an agenda entry never raises (after fix F20 a dereified triple whose source
    is not a variable is skipped) -/
theorem entryRes_no_err {m : Model} {g : Graph} {x : Str} {i0 : Triple} {e : PyErr}
    (hi : i0.role = CONCEPT_ROLE ∧ i0.src = x) : entryRes m g x i0 ≠ .err e := by
  intro h
  rcases entryRes_cases m g x i0 with hs | ⟨f, s2, hl, _, he⟩
  · rw [hs] at h
    cases h
  · obtain ⟨hd, hne⟩ := entryOf_err (he ▸ h)
    have hf : f ∈ otherOf g.triples x := by rcases hl with hl | hl <;> simp [hl]
    have hs2 : s2 ∈ otherOf g.triples x := by rcases hl with hl | hl <;> simp [hl]
    have hfx := (mem_otherOf hf).2.2
    rcases dereify_no_valueError m hi.1 (hi.2.trans hfx.symm) (hfx.trans (mem_otherOf hs2).2.2.symm)
      with ⟨r, hr⟩ | hr
    · rw [hr] at hd
      cases hd
    · rw [hr] at hd
      cases hd
      exact hne rfl

/-- **`dereify_edges` is total** (after fix F20): it never raises, for any
    graph and model. -/
theorem dereifyEdges_total (m : Model) (g : Graph) : ∃ g', dereifyEdges m g = .ok g' := by
  have : ∀ p ∈ (agendaScan g).2.1, ∀ e, entryRes m g p.1 p.2 ≠ .err e := by
    intro p hp e
    have := instOf_getLast (agendaScan_inst_mem hp)
    exact entryRes_no_err ⟨this.2.1, this.2.2⟩
  obtain ⟨agenda, hag⟩ := dereifyAgenda_of_noErr this
  exact dereifyEdges_of_agenda hag

/-- the dereified triple of a collapsed variable: source and target are the
    two targets of its relations, the markers are those the agenda builds -/
theorem collapseOf_some {m : Model} {g : Graph} {x : Str} {ag : Agenda}
    (h : collapseOf m g x = some ag) :
    ag.var = x ∧ ag.first ∈ otherOf g.triples x ∧
    (∃ a b, otherOf g.triples x = [a, b] ∧
      ((Atom.str ag.dereified.src = a.tgt ∧ ag.dereified.tgt = b.tgt) ∨
       (Atom.str ag.dereified.src = b.tgt ∧ ag.dereified.tgt = a.tgt))) ∧
    (∃ rf ∈ m.reifs, rf.role = ag.dereified.role) ∧ ag.dereified.src ∈ g.variables := by
  obtain ⟨i0, f, s2, hl, _, he⟩ := collapseOf_entry h
  obtain ⟨s, role, tgt, hd, hsv, rfl⟩ := entryOf_add he
  obtain ⟨hst, hrole⟩ := dereify_ok_spec hd
  refine ⟨rfl, ?_, ?_, hrole, hsv⟩
  · rcases hl with hl | hl <;> simp [hl]
  · rcases hl with hl | hl
    · exact ⟨f, s2, hl, hst⟩
    · exact ⟨s2, f, hl, hst.symm⟩

/-- the dereified triple of a collapsed node goes from the target of one of its two relations to
    the target of the other -/
theorem collapseOf_ends {m : Model} {g : Graph} {x : Str} {ag : Agenda}
    (h : collapseOf m g x = some ag) :
    ∃ a b, a ∈ otherOf g.triples x ∧ b ∈ otherOf g.triples x ∧
      a.tgt = .str ag.dereified.src ∧ b.tgt = ag.dereified.tgt := by
  obtain ⟨_, _, ⟨a, b, hl, hab⟩, _, _⟩ := collapseOf_some h
  rcases hab with ⟨h1, h2⟩ | ⟨h1, h2⟩
  · exact ⟨a, b, by simp [hl], by simp [hl], h1.symm, h2.symm⟩
  · exact ⟨b, a, by simp [hl], by simp [hl], h1.symm, h2.symm⟩

/-- the triples of the result: those of the nodes that are not collapsed, and the dereified
    triples of those that are (with the role normalisation of the `Graph` constructor) -/
theorem mem_dereifyEdges {m : Model} {g g' : Graph} (h : dereifyEdges m g = .ok g') {t1 : Triple} :
    t1 ∈ g'.triples ↔
      (∃ t ∈ g.triples, collapseOf m g t.src = none ∧ t1 = { t with role := ensureColon t.role }) ∨
      (∃ x ag, collapseOf m g x = some ag ∧
        t1 = { ag.dereified with role := ensureColon ag.dereified.role }) := by
  rw [(dereifyEdges_ok h).1, List.mem_map]
  constructor
  · rintro ⟨t0, h0, rfl⟩
    rw [List.mem_flatMap] at h0
    obtain ⟨t, htg, h0⟩ := h0
    unfold derOut at h0
    cases hcol : collapseOf m g t.src with
    | none =>
      rw [hcol] at h0
      exact Or.inl ⟨t, htg, hcol, by rw [List.mem_singleton.mp h0]⟩
    | some ag =>
      rw [hcol] at h0
      simp only at h0
      split at h0
      · exact Or.inr ⟨_, ag, hcol, by rw [List.mem_singleton.mp h0]⟩
      · cases h0
  · rintro (⟨t, htg, hcol, rfl⟩ | ⟨x, ag, hcol, rfl⟩)
    · refine ⟨t, List.mem_flatMap.mpr ⟨t, htg, ?_⟩, rfl⟩
      unfold derOut
      rw [hcol]
      exact List.mem_singleton.mpr rfl
    · have hf := mem_otherOf (collapseOf_some hcol).2.1
      refine ⟨ag.dereified, List.mem_flatMap.mpr ⟨ag.first, hf.1, ?_⟩, rfl⟩
      unfold derOut
      rw [hf.2.2, hcol]
      simp

/-- variables of a graph whose top is a source are sources -/
theorem isSrc_of_mem_variables {g : Graph} (htop : ∀ x, g.getTop = some x → IsSrc g x) {x : Str}
    (hx : x ∈ g.variables) : IsSrc g x := by
  rw [mem_variables] at hx
  rcases hx with h | h
  · exact h
  · exact htop x (by simp [Graph.getTop, h])

/-- the source of every dereified triple is a variable (fix F20), hence a node
    when every source has one and the top is a source -/
theorem dereified_src_node {m : Model} {g : Graph} (hi : HasInst g)
    (htop : ∀ x, g.getTop = some x → IsSrc g x) :
    ∀ x ag, collapseOf m g x = some ag →
      ∃ t' ∈ g.triples, t'.src = ag.dereified.src ∧ t'.role = CONCEPT_ROLE := by
  intro x ag hx
  obtain ⟨t, ht, hs⟩ := isSrc_of_mem_variables htop (collapseOf_some hx).2.2.2.2
  obtain ⟨t', ht', hs', hc⟩ := hi t ht
  exact ⟨t', ht', hs'.trans hs, hc⟩

/-- **Every source still has a node after `dereify_edges`**, given that the
    sources of the dereified triples have one (see `dereified_src_node`). -/
theorem dereifyEdges_hasInst {m : Model} {g g' : Graph} (h : dereifyEdges m g = .ok g')
    (hi : HasInst g)
    (hsrc : ∀ x ag, collapseOf m g x = some ag →
      ∃ t' ∈ g.triples, t'.src = ag.dereified.src ∧ t'.role = CONCEPT_ROLE) : HasInst g' := by
  have hmem := @mem_dereifyEdges m g g' h
  have keepInst : ∀ t ∈ g.triples, collapseOf m g t.src = none →
      ∃ t' ∈ g'.triples, t'.src = t.src ∧ t'.role = CONCEPT_ROLE := by
    intro t htg hcol
    obtain ⟨t', ht', hs, hc⟩ := hi t htg
    exact ⟨_, hmem.mpr (.inl ⟨t', ht', hs ▸ hcol, rfl⟩), hs, by simp only [hc, ensureColon_concept]⟩
  intro t1 h1
  rcases hmem.mp h1 with ⟨t, htg, hcol, rfl⟩ | ⟨x, ag, hcol, rfl⟩
  · exact keepInst t htg hcol
  · obtain ⟨t', ht', hs, hc⟩ := hsrc _ _ hcol
    -- the source of the dereified triple is a relation target, hence not collapsed
    obtain ⟨a, _, ha, _, hta, _⟩ := collapseOf_ends hcol
    have ha' := mem_otherOf ha
    have := collapseOf_guard m g ag.dereified.src (Or.inr (Or.inl ⟨a, ha'.1, ha'.2.1, hta⟩))
    obtain ⟨t'', a1, a2, a3⟩ := keepInst t' ht' (by rw [hs]; exact this)
    exact ⟨t'', a1, a2.trans hs, a3⟩

end Penman
