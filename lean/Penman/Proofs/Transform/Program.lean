/-
  Penman.Proofs.Transform.Program — every transformation step, and hence every
  program of transformations, maps well-formed connected graphs to well-formed
  connected graphs with the same top.
-/
import Penman.Proofs.Transform.Connected
namespace Penman

theorem reifyEdges_wfc {m : Model} (hm : ReifWf m) (g : Graph) (hw : WfC g) :
    ∃ g', reifyEdges m g = .ok g' ∧ WfC g' ∧ g'.getTop = g.getTop := by
  obtain ⟨hg, hi, hc⟩ := hw
  obtain ⟨rev, st, hrun, ho, h⟩ := reifyEdges_result m g
  exact ⟨_, h, ⟨mk'_rolesColon _ _ _ _, reifyEdges_hasInst hm hg hrun ho hi,
    reifyEdges_connected hm hg hrun ho hi hc⟩, reifyResult_getTop hrun ho⟩

theorem reifyAttributes_wfc (g : Graph) (hw : WfC g) :
    WfC (reifyAttributes g) ∧ (reifyAttributes g).getTop = g.getTop :=
  ⟨⟨mk'_rolesColon _ _ _ _, reifyAttributes_hasInst g hw.2.1,
    reifyAttributes_connected g hw.1 hw.2.2⟩, reifyAttributes_getTop g⟩

theorem dereifyEdges_wfc {m : Model} (hm : ReifWf m) (g : Graph) (hw : WfC g) :
    ∃ g', dereifyEdges m g = .ok g' ∧ WfC g' ∧ g'.getTop = g.getTop := by
  obtain ⟨hg, hi, hc⟩ := hw
  obtain ⟨g', h⟩ := dereifyEdges_total m g
  exact ⟨g', h, ⟨rolesColon_of_map (dereifyEdges_ok h).1,
    dereifyEdges_hasInst h hi (dereified_src_node hi hc.topSrc),
    dereifyEdges_connected h hm hg hc⟩, dereifyEdges_getTop h⟩

theorem indicateBranches_wfc {m : Model} (htr : TopRoleOk m) (g : Graph) (hw : WfC g)
    (hs : PushSrcOk g) :
    ∃ g', indicateBranches m g = .ok g' ∧ WfC g' ∧ g'.getTop = g.getTop := by
  obtain ⟨hg, hi, hc⟩ := hw
  obtain ⟨g', h⟩ := indicateBranches_ok_iff.mpr (pushSrcOk_noErr hs)
  exact ⟨g', h, ⟨rolesColon_of_map (indicateBranches_ok h).1, indicateBranches_hasInst h hi hs,
    indicateBranches_connected h htr.1 htr.2 hg hc⟩, indicateBranches_getTop h⟩

theorem step_wfc {m : Model} (hm : ReifWf m) (htr : TopRoleOk m) (x : Xf) (g : Graph)
    (hw : WfC g) (hs : x.Side g) : ∃ g', x.run m g = .ok g' ∧ WfC g' ∧ g'.getTop = g.getTop := by
  cases x with
  | reifyEdges => exact reifyEdges_wfc hm g hw
  | reifyAttributes => exact ⟨_, rfl, reifyAttributes_wfc g hw⟩
  | dereifyEdges => exact dereifyEdges_wfc hm g hw
  | indicateBranches => exact indicateBranches_wfc htr g hw hs

/-- an invariant `P` that every step preserves (together with the top) under the step's side
    condition `S` is preserved by every program along which the side conditions `A` hold -/
theorem prog_inv {m : Model} {P : Graph → Prop} {S : Xf → Graph → Prop}
    {A : List Xf → Graph → Prop}
    (hA : ∀ x r g, A (x :: r) g → S x g ∧ ∀ g', x.run m g = .ok g' → A r g')
    (hstep : ∀ x g, P g → S x g → ∃ g', x.run m g = .ok g' ∧ P g' ∧ g'.getTop = g.getTop) :
    ∀ (p : List Xf) (g : Graph), P g → A p g →
      ∃ g', runProg m p g = .ok g' ∧ P g' ∧ g'.getTop = g.getTop
  | [], g, hw, _ => ⟨g, rfl, hw, rfl⟩
  | x :: r, g, hw, hs => by
    obtain ⟨g1, h1, hw1, ht1⟩ := hstep x g hw (hA x r g hs).1
    obtain ⟨g2, h2, hw2, ht2⟩ := prog_inv hA hstep r g1 hw1 ((hA x r g hs).2 g1 h1)
    refine ⟨g2, ?_, hw2, ht2.trans ht1⟩
    simp only [runProg, List.foldlM, h1, bind, Except.bind]
    exact h2

theorem prog_wfc {m : Model} (hm : ReifWf m) (htr : TopRoleOk m) (p : List Xf) (g : Graph) :
    WfC g → SideAlong m p g → ∃ g', runProg m p g = .ok g' ∧ WfC g' ∧ g'.getTop = g.getTop :=
  prog_inv (fun _ _ _ h => h) (step_wfc hm htr) p g

/-- the only step that can fail is `indicate_branches`, with its
    `AssertionError`; the other three transformations are total -/
theorem step_error {m : Model} {x : Xf} {g : Graph} {e : PyErr} (h : x.run m g = .error e) :
    x = .indicateBranches ∧ e = .other "AssertionError" ∧ ∃ t ∈ g.triples, BranchErr g t := by
  cases x with
  | reifyEdges =>
    obtain ⟨g', h'⟩ := reifyEdges_total m g
    simp only [Xf.run, h'] at h
    exact absurd h (by simp)
  | reifyAttributes => simp [Xf.run] at h
  | dereifyEdges =>
    obtain ⟨g', h'⟩ := dereifyEdges_total m g
    simp only [Xf.run, h'] at h
    exact absurd h (by simp)
  | indicateBranches => exact ⟨rfl, indicateBranches_error h⟩

end Penman
