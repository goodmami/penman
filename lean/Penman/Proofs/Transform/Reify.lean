/-
  Penman.Proofs.Transform.Reify — `reifyEdges` as a run of events.

  * `nodeContexts`/`appearsInverted` never raise (after fix F19), so
    `reifyEdges` is total.
  * `derefLookup` : what `Model.dereify` computes, for the table conditions
    `ReifWf`, `Unambiguous` of `Spec.Transform`.
  * `Ev`, `Run` : the fold of `reifyEdges` as an inductive relation on the
    (reversed) list of events, with the exact state it produces; the
    projections of the state (triples, variables, marker lookups) are
    characterised by pure functions of the event list, membership in them by
    `mem_flatMap_out`, `mem_map_orig`, `mem_flatMap_newVar`, `mem_flatMap_reified`.
-/
import Penman.Proofs.Transform.Basic
namespace Penman

theorem ite_ne_error {ε α} {c : Prop} [Decidable c] {a b : Except ε α} {e : ε}
    (h1 : c → a ≠ .error e) (h2 : ¬c → b ≠ .error e) : (if c then a else b) ≠ .error e := by
  split
  · exact h1 ‹_›
  · exact h2 ‹_›

theorem bind_ne_error {ε α β} {x : Except ε α} {f : α → Except ε β} {e : ε}
    (h1 : x ≠ .error e) (h2 : ∀ a, f a ≠ .error e) : (x >>= f) ≠ .error e := by
  cases x with
  | error e' =>
    intro h; simp only [bind, Except.bind, Except.error.injEq] at h; exact h1 (by rw [h])
  | ok a => exact h2 a

theorem except_ok_of_ne_error {ε α} {x : Except ε α} (h : ∀ e, x ≠ .error e) : ∃ a, x = .ok a := by
  cases x with
  | error e => exact absurd rfl (h e)
  | ok a => exact ⟨a, rfl⟩

theorem nodeContextsLoop_ne_error (g : Graph) (vars : List Str) (ts : List Triple)
    (stack : List (Option Str)) (e : PyErr) : nodeContextsLoop g vars ts stack ≠ .error e := by
  induction ts generalizing stack with
  | nil => simp [nodeContextsLoop]
  | cons t rest ih =>
    cases stack with
    | nil => simp [nodeContextsLoop]
    | cons top stack =>
      cases top with
      | none => simp [nodeContextsLoop]
      | some cur =>
        simp only [nodeContextsLoop]
        refine ite_ne_error (fun _ => by simp) (fun _ => ?_)
        refine ite_ne_error (fun _ => by simp) (fun _ => ?_)
        exact bind_ne_error (ih _) (fun a => by simp [pure, Except.pure])

/-- `node_contexts` never raises -/
theorem nodeContexts_ok (g : Graph) : ∃ c, nodeContexts g = .ok c :=
  except_ok_of_ne_error (fun e => nodeContextsLoop_ne_error g _ _ _ e)

/-- `appears_inverted` never raises -/
theorem appearsInverted_ok (g : Graph) (t : Triple) : ∃ b, appearsInverted g t = .ok b := by
  apply except_ok_of_ne_error
  intro e
  unfold appearsInverted
  refine ite_ne_error (fun _ => by simp) (fun _ => ?_)
  split
  · simp
  · exact bind_ne_error (nodeContextsLoop_ne_error _ _ _ _ _) (fun a => by simp [pure, Except.pure])

/-- when a triple appears inverted its target is a variable of the graph -/
theorem appearsInverted_true {g : Graph} {t : Triple} (h : appearsInverted g t = .ok true) :
    t.role ≠ CONCEPT_ROLE ∧ ∃ s, t.tgt = .str s ∧ s ∈ g.variables := by
  unfold appearsInverted at h
  split at h
  · simp at h
  · rename_i hc
    simp only [Bool.or_eq_true, decide_eq_true_eq, Bool.not_eq_eq_eq_not, Bool.not_true, not_or,
      Bool.not_eq_false] at hc
    refine ⟨hc.1, ?_⟩
    have := hc.2
    unfold Graph.isVar at this
    cases ht : t.tgt with
    | str s => rw [ht] at this; exact ⟨s, rfl, by simpa using this⟩
    | none => rw [ht] at this; simp at this
    | num x => rw [ht] at this; simp at this

theorem dereifyLoop_eq (s t : Str) (x y : Atom) (ds : List Reif) :
    dereifyLoop s t x y ds =
      (derefLookup s t ds).map (fun p => if p.1 then (y, p.2, x) else (x, p.2, y)) := by
  induction ds with
  | nil => rfl
  | cons rf rest ih =>
    simp only [dereifyLoop, derefLookup]
    split
    · rfl
    · split
      · rfl
      · exact ih

theorem derefLookup_swap {s t : Str} (h : s ≠ t) (ds : List Reif) :
    derefLookup t s ds = (derefLookup s t ds).map (fun p => (!p.1, p.2)) := by
  induction ds with
  | nil => rfl
  | cons rf rest ih =>
    unfold derefLookup
    by_cases a : rf.source = s ∧ rf.target = t
    · rw [if_pos a, if_neg (fun b => h (a.1.symm.trans b.1)), if_pos ⟨a.2, a.1⟩]
      rfl
    · rw [if_neg a]
      by_cases b : rf.source = t ∧ rf.target = s
      · rw [if_pos b, if_pos ⟨b.2, b.1⟩]
        rfl
      · rw [if_neg b, if_neg (fun c => a ⟨c.2, c.1⟩), if_neg (fun c => b ⟨c.2, c.1⟩)]
        exact ih

theorem derefLookup_mem {s t : Str} {ds : List Reif} {p : Bool × Str}
    (h : derefLookup s t ds = some p) : ∃ rf ∈ ds, rf.role = p.2 := by
  induction ds with
  | nil => simp [derefLookup] at h
  | cons rf r ih =>
    simp only [derefLookup] at h
    split at h
    · simp only [Option.some.injEq] at h; subst h; exact ⟨rf, by simp, rfl⟩
    · split at h
      · simp only [Option.some.injEq] at h; subst h; exact ⟨rf, by simp, rfl⟩
      · obtain ⟨rf', h1, h2⟩ := ih h
        exact ⟨rf', by simp [h1], h2⟩

/-- `Model.dereify` raises its `ValueError` unless the three triples belong to one node -/
theorem dereify_ok_guards {m : Model} {i0 f s : Triple} {r : Atom × Str × Atom}
    (hr : m.dereify i0 f s = .ok r) :
    i0.role = CONCEPT_ROLE ∧ i0.src = f.src ∧ f.src = s.src := by
  unfold Model.dereify at hr
  split at hr
  · cases hr
  · split at hr
    · cases hr
    · rename_i h1 h2
      exact ⟨Decidable.not_not.mp h1, Decidable.not_not.mp h2⟩

/-- on the triples of one node `Model.dereify` is the table lookup -/
theorem dereify_eq (m : Model) {i0 f s : Triple} (hc : i0.role = CONCEPT_ROLE)
    (h1 : i0.src = f.src) (h2 : f.src = s.src) :
    m.dereify i0 f s =
      match derefLookup f.role s.role (m.reifs.filter (·.concept = i0.tgt)) with
      | some p => .ok (if p.1 then (s.tgt, p.2, f.tgt) else (f.tgt, p.2, s.tgt))
      | none => .error .model := by
  unfold Model.dereify
  rw [if_neg (fun h => h hc), if_neg (fun h => h ⟨h1, h2⟩)]
  simp only
  split
  · rename_i he
    rw [List.isEmpty_iff.mp he]
    rfl
  · rw [dereifyLoop_eq]
    cases derefLookup f.role s.role (m.reifs.filter (·.concept = i0.tgt)) <;> rfl

/-- a successful `Model.dereify` returns the two targets (in one of the two
    orders) and the role of a table entry -/
theorem dereify_ok_spec {m : Model} {i0 f s : Triple} {r : Atom × Str × Atom}
    (hr : m.dereify i0 f s = .ok r) :
    ((r.1 = f.tgt ∧ r.2.2 = s.tgt) ∨ (r.1 = s.tgt ∧ r.2.2 = f.tgt)) ∧
      ∃ rf ∈ m.reifs, rf.role = r.2.1 := by
  obtain ⟨hc, h1, h2⟩ := dereify_ok_guards hr
  rw [dereify_eq m hc h1 h2] at hr
  split at hr
  · rename_i p hd
    cases hr
    obtain ⟨rf, hrf, hrole⟩ := derefLookup_mem hd
    refine ⟨?_, rf, (List.mem_filter.mp hrf).1, ?_⟩
    · cases p.1 <;> simp
    · cases p.1 <;> simp [hrole]
  · cases hr

theorem find?_of_isReifiable {m : Model} {r : Str} (h : m.isReifiable r = true) :
    ∃ rf, m.reifs.find? (·.role = r) = some rf ∧ rf ∈ m.reifs ∧ rf.role = r := by
  unfold Model.isReifiable at h
  rw [List.any_eq_true] at h
  obtain ⟨x, hx, hr⟩ := h
  cases hf : m.reifs.find? (·.role = r) with
  | none =>
    rw [List.find?_eq_none] at hf
    exact absurd hr (hf x hx)
  | some rf =>
    exact ⟨rf, rfl, List.mem_of_find?_eq_some hf, by simpa using List.find?_some hf⟩

theorem isReifiable_of_find? {m : Model} {r : Str} {rf : Reif}
    (h : m.reifs.find? (·.role = r) = some rf) : m.isReifiable r = true := by
  unfold Model.isReifiable
  rw [List.any_eq_true]
  exact ⟨rf, List.mem_of_find?_eq_some h, by simpa using List.find?_some h⟩

/-- what `reify_edges` does with one input triple -/
inductive Ev where
  | keep (t : Triple)
  | reif (t : Triple) (rf : Reif) (v : Str) (inv : Bool)

def inTriple (t : Triple) (rf : Reif) (v : Str) : Triple := ⟨v, rf.source, .str t.src⟩
def nodeTriple (rf : Reif) (v : Str) : Triple := ⟨v, CONCEPT_ROLE, rf.concept⟩
def outTriple (t : Triple) (rf : Reif) (v : Str) : Triple := ⟨v, rf.target, t.tgt⟩
/-- the triple written first (carrying `Push v`) -/
def firstTriple (t : Triple) (rf : Reif) (v : Str) (inv : Bool) : Triple :=
  if inv then outTriple t rf v else inTriple t rf v
/-- the triple written last (carrying the migrated markers) -/
def lastTriple (t : Triple) (rf : Reif) (v : Str) (inv : Bool) : Triple :=
  if inv then inTriple t rf v else outTriple t rf v

def Ev.orig : Ev → Triple
  | .keep t => t
  | .reif t _ _ _ => t

/-- the triples an event contributes, in order -/
def Ev.out : Ev → List Triple
  | .keep t => [t]
  | .reif t rf v inv => [firstTriple t rf v inv, nodeTriple rf v, lastTriple t rf v inv]

def Ev.newVar : Ev → List Str
  | .keep _ => []
  | .reif _ _ v _ => [v]

/-- the reified original triple of an event, if any -/
def Ev.reified : Ev → List Triple
  | .keep _ => []
  | .reif t _ _ _ => [t]

/-- local correctness of an event w.r.t. the model and input graph -/
def EvOk (m : Model) (g : Graph) : Ev → Prop
  | .keep t => t ∈ g.triples ∧ m.isReifiable t.role = false
  | .reif t rf _ inv => t ∈ g.triples ∧ m.reifs.find? (·.role = t.role) = some rf ∧
      appearsInverted g t = .ok inv

@[simp] theorem firstTriple_src (t rf v inv) : (firstTriple t rf v inv).src = v := by
  cases inv <;> rfl
@[simp] theorem lastTriple_src (t rf v inv) : (lastTriple t rf v inv).src = v := by
  cases inv <;> rfl
@[simp] theorem nodeTriple_src (rf v) : (nodeTriple rf v).src = v := rfl

/-- the triples of a reification event, whatever their order -/
theorem mem_reif_out {t : Triple} {rf : Reif} {v : Str} {inv : Bool} {t1 : Triple} :
    t1 ∈ (Ev.reif t rf v inv).out ↔
      t1 = inTriple t rf v ∨ t1 = nodeTriple rf v ∨ t1 = outTriple t rf v := by
  cases inv
  · simp [Ev.out, firstTriple, lastTriple]
  · simp only [Ev.out, firstTriple, lastTriple, if_true, List.mem_cons, List.not_mem_nil, or_false]
    constructor <;> rintro (h | h | h) <;> simp [h]

theorem mem_flatMap_out {l : List Ev} {t1 : Triple} :
    t1 ∈ l.flatMap Ev.out ↔ Ev.keep t1 ∈ l ∨ ∃ t rf v inv, Ev.reif t rf v inv ∈ l ∧
      (t1 = inTriple t rf v ∨ t1 = nodeTriple rf v ∨ t1 = outTriple t rf v) := by
  rw [List.mem_flatMap]
  constructor
  · rintro ⟨e, he, h1⟩
    cases e with
    | keep t =>
      simp only [Ev.out, List.mem_singleton] at h1
      exact Or.inl (h1 ▸ he)
    | reif t rf v inv => exact Or.inr ⟨t, rf, v, inv, he, mem_reif_out.mp h1⟩
  · rintro (he | ⟨t, rf, v, inv, he, h1⟩)
    · exact ⟨_, he, List.mem_singleton.mpr rfl⟩
    · exact ⟨_, he, mem_reif_out.mpr h1⟩

theorem mem_map_orig {l : List Ev} {t : Triple} :
    t ∈ l.map Ev.orig ↔ Ev.keep t ∈ l ∨ ∃ rf v inv, Ev.reif t rf v inv ∈ l := by
  rw [List.mem_map]
  constructor
  · rintro ⟨e, he, rfl⟩
    cases e with
    | keep t => exact Or.inl he
    | reif t rf v inv => exact Or.inr ⟨rf, v, inv, he⟩
  · rintro (he | ⟨rf, v, inv, he⟩)
    · exact ⟨_, he, rfl⟩
    · exact ⟨_, he, rfl⟩

theorem mem_flatMap_newVar {l : List Ev} {v : Str} :
    v ∈ l.flatMap Ev.newVar ↔ ∃ t rf inv, Ev.reif t rf v inv ∈ l := by
  rw [List.mem_flatMap]
  constructor
  · rintro ⟨e, he, hv⟩
    cases e with
    | keep t => cases hv
    | reif t rf v' inv => exact ⟨t, rf, inv, List.mem_singleton.mp hv ▸ he⟩
  · rintro ⟨t, rf, inv, he⟩
    exact ⟨_, he, List.mem_singleton.mpr rfl⟩

theorem newVar_reverse (rev : List Ev) :
    rev.reverse.flatMap Ev.newVar = (rev.flatMap Ev.newVar).reverse := by
  induction rev with
  | nil => rfl
  | cons e r ih =>
    simp only [List.reverse_cons, List.flatMap_append, List.flatMap_cons, List.flatMap_nil,
      List.append_nil, List.reverse_append, ih]
    cases e <;> simp [Ev.newVar]

theorem mem_flatMap_reified {l : List Ev} {t : Triple} :
    t ∈ l.flatMap Ev.reified ↔ ∃ rf v inv, Ev.reif t rf v inv ∈ l := by
  rw [List.mem_flatMap]
  constructor
  · rintro ⟨e, he, ht⟩
    cases e with
    | keep t' => cases ht
    | reif t' rf v inv => exact ⟨rf, v, inv, List.mem_singleton.mp ht ▸ he⟩
  · rintro ⟨rf, v, inv, he⟩
    exact ⟨_, he, List.mem_singleton.mpr rfl⟩

theorem reif_out_distinct {m : Model} {rf : Reif} (hm : ReifEntryOk m rf) (t : Triple) (v : Str)
    (inv : Bool) :
    nodeTriple rf v ≠ firstTriple t rf v inv ∧ lastTriple t rf v inv ≠ firstTriple t rf v inv ∧
      nodeTriple rf v ≠ lastTriple t rf v inv := by
  have h1 : CONCEPT_ROLE ≠ rf.source := Ne.symm hm.2.2.1
  have h2 : CONCEPT_ROLE ≠ rf.target := Ne.symm hm.2.2.2.1
  have h3 := hm.2.2.2.2.1
  cases inv
  · exact ⟨fun h => h1 (congrArg Triple.role h), fun h => h3 (congrArg Triple.role h).symm,
      fun h => h2 (congrArg Triple.role h)⟩
  · exact ⟨fun h => h2 (congrArg Triple.role h), fun h => h3 (congrArg Triple.role h),
      fun h => h1 (congrArg Triple.role h)⟩

theorem reif_out_ne (t : Triple) (rf : Reif) (v : Str) (inv : Bool) {k : Triple} (hv : v ≠ k.src) :
    firstTriple t rf v inv ≠ k ∧ nodeTriple rf v ≠ k ∧ lastTriple t rf v inv ≠ k :=
  ⟨fun h => hv (by rw [← h, firstTriple_src]), fun h => hv (by rw [← h, nodeTriple_src]),
    fun h => hv (by rw [← h, lastTriple_src])⟩

/-- the body of the loop of `reify_edges` (verbatim) -/
def reifyStep (m : Model) (g : Graph) (st : RState) (t : Triple) : Except PyErr RState :=
    if m.isReifiable t.role then do
      let (inT, nodeT, outT) ← m.reify t st.vars
      let inv ← appearsInverted g t
      let (inT, outT) := if inv then (outT, inT) else (inT, outT)
      let var := nodeT.src
      let ep := st.epidata.set inT [.push var]
      let old := (AList.get? ep t).getD []
      let ep := ep.erase t
      let (nodeEpis, outEpis) := edgeMarkers old
      let ep := (ep.set nodeT nodeEpis).set outT outEpis
      pure { vars := var :: st.vars, epidata := ep, triples := outT :: nodeT :: inT :: st.triples }
    else pure { st with triples := t :: st.triples }

theorem reifyEdges_eq (m : Model) (g : Graph) :
    reifyEdges m g = (do
      let st ← g.triples.foldlM (reifyStep m g)
        { vars := g.variables, epidata := g.epidata, triples := [] }
      pure (Graph.mk' st.triples.reverse g.getTop st.epidata g.metadata)) := rfl

/-- the state after reifying `t` with reification `rf` and orientation `inv` -/
def reifSt (st : RState) (t : Triple) (rf : Reif) (inv : Bool) : RState :=
  let v := freshVar st.vars
  let a := firstTriple t rf v inv
  let n := nodeTriple rf v
  let b := lastTriple t rf v inv
  let ep1 := st.epidata.set a [.push v]
  let old := (AList.get? ep1 t).getD []
  let ep2 := ep1.erase t
  { vars := v :: st.vars,
    epidata := (ep2.set n (edgeMarkers old).1).set b (edgeMarkers old).2,
    triples := b :: n :: a :: st.triples }

theorem reifyStep_reif {m : Model} {g : Graph} {st : RState} {t : Triple} {rf : Reif} {inv : Bool}
    (hf : m.reifs.find? (·.role = t.role) = some rf) (hi : appearsInverted g t = .ok inv) :
    reifyStep m g st t = .ok (reifSt st t rf inv) := by
  have hr := isReifiable_of_find? hf
  unfold reifyStep
  rw [if_pos hr]
  simp only [Model.reify, hf, hi, bind, Except.bind, pure, Except.pure]
  cases inv <;> rfl

theorem reifyStep_keep {m : Model} {g : Graph} {st : RState} {t : Triple}
    (hr : m.isReifiable t.role = false) :
    reifyStep m g st t = .ok { st with triples := t :: st.triples } := by
  unfold reifyStep
  simp [hr, pure, Except.pure]

/-- The loop of `reify_edges` as a relation between the list of events so far
    (latest first) and the loop state. -/
inductive Run (m : Model) (g : Graph) : List Ev → RState → Prop
  | nil : Run m g [] ⟨g.variables, g.epidata, []⟩
  | keep {rev st} (t : Triple) : Run m g rev st → t ∈ g.triples → m.isReifiable t.role = false →
      Run m g (.keep t :: rev) { st with triples := t :: st.triples }
  | reif {rev st} (t : Triple) (rf : Reif) (inv : Bool) : Run m g rev st → t ∈ g.triples →
      m.reifs.find? (·.role = t.role) = some rf → appearsInverted g t = .ok inv →
      Run m g (.reif t rf (freshVar st.vars) inv :: rev) (reifSt st t rf inv)

theorem run_fold (m : Model) (g : Graph) : ∀ (l : List Triple) (rev : List Ev) (st : RState),
    (∀ t ∈ l, t ∈ g.triples) → Run m g rev st →
    ∃ rev' st', Run m g rev' st' ∧ rev'.reverse.map Ev.orig = rev.reverse.map Ev.orig ++ l ∧
      l.foldlM (reifyStep m g) st = .ok st'
  | [], rev, st, _, hr => ⟨rev, st, hr, by simp, rfl⟩
  | t :: l, rev, st, hl, hr => by
    by_cases hre : m.isReifiable t.role = true
    · obtain ⟨rf, hf, _, _⟩ := find?_of_isReifiable hre
      obtain ⟨inv, hi⟩ := appearsInverted_ok g t
      obtain ⟨rev', st', h1, h2, h3⟩ := run_fold m g l _ _ (fun x hx => hl x (by simp [hx]))
        (Run.reif t rf inv hr (hl t (by simp)) hf hi)
      refine ⟨rev', st', h1, ?_, ?_⟩
      · rw [h2]; simp [Ev.orig]
      · simp only [List.foldlM, bind, Except.bind, reifyStep_reif hf hi]; exact h3
    · have hre' : m.isReifiable t.role = false := by simpa using hre
      obtain ⟨rev', st', h1, h2, h3⟩ := run_fold m g l _ _ (fun x hx => hl x (by simp [hx]))
        (Run.keep t hr (hl t (by simp)) hre')
      refine ⟨rev', st', h1, ?_, ?_⟩
      · rw [h2]; simp [Ev.orig]
      · simp only [List.foldlM, bind, Except.bind, reifyStep_keep hre']; exact h3

/-- `reify_edges` never raises, and its result is described by a run. -/
theorem reifyEdges_run (m : Model) (g : Graph) :
    ∃ rev st, Run m g rev st ∧ rev.reverse.map Ev.orig = g.triples ∧
      reifyEdges m g = .ok (Graph.mk' st.triples.reverse g.getTop st.epidata g.metadata) := by
  obtain ⟨rev, st, h1, h2, h3⟩ := run_fold m g g.triples [] _ (fun _ h => h) Run.nil
  refine ⟨rev, st, h1, by simpa using h2, ?_⟩
  rw [reifyEdges_eq]
  simp only [h3, bind, Except.bind, pure, Except.pure]

theorem run_triples {m g rev st} (h : Run m g rev st) :
    st.triples.reverse = rev.reverse.flatMap Ev.out := by
  induction h with
  | nil => rfl
  | keep t _ _ _ ih => simp [ih, Ev.out]
  | reif t rf inv _ _ _ _ ih => simp [reifSt, ih, Ev.out]

theorem run_vars {m g rev st} (h : Run m g rev st) :
    st.vars = rev.flatMap Ev.newVar ++ g.variables := by
  induction h with
  | nil => rfl
  | keep t _ _ _ ih => simp [ih, Ev.newVar]
  | reif t rf inv _ _ _ _ ih => simp [reifSt, ih, Ev.newVar]

theorem run_vars_nodup {m g rev st} (h : Run m g rev st) : st.vars.Nodup := by
  induction h with
  | nil => exact nodup_variables g
  | keep t _ _ _ ih => exact ih
  | reif t rf inv _ _ _ _ ih =>
    simp only [reifSt, List.nodup_cons]
    exact ⟨freshVar_fresh _, ih⟩

theorem run_evOk {m g rev st} (h : Run m g rev st) : ∀ e ∈ rev, EvOk m g e := by
  induction h with
  | nil => exact fun _ h => nomatch h
  | keep t _ ht hr ih => exact List.forall_mem_cons.mpr ⟨⟨ht, hr⟩, ih⟩
  | reif t rf inv _ ht hf hi ih => exact List.forall_mem_cons.mpr ⟨⟨ht, hf, hi⟩, ih⟩

/-- each new variable is `freshVar` of the variables existing when it was made -/
theorem run_shape {m g rev st} (h : Run m g rev st) :
    ∀ post t rf v inv pre, rev = post ++ .reif t rf v inv :: pre →
      v = freshVar (pre.flatMap Ev.newVar ++ g.variables) := by
  induction h with
  | nil => intro post t rf v inv pre h; simp at h
  | keep t0 _ _ _ ih =>
    intro post t rf v inv pre h
    cases post with
    | nil => simp at h
    | cons p post =>
      simp only [List.cons_append, List.cons.injEq] at h
      exact ih post t rf v inv pre h.2
  | reif t0 rf0 inv0 hrun _ _ _ ih =>
    intro post t rf v inv pre h
    cases post with
    | nil =>
      simp only [List.nil_append, List.cons.injEq, Ev.reif.injEq] at h
      obtain ⟨⟨_, _, hv, _⟩, hpre⟩ := h
      rw [← hv, run_vars hrun, hpre]
    | cons p post =>
      simp only [List.cons_append, List.cons.injEq] at h
      exact ih post t rf v inv pre h.2

theorem AList.get?_set {α β : Type} [DecidableEq α] (d : AList α β) (k k' : α) (v : β) :
    AList.get? (AList.set d k v) k' = if k = k' then some v else AList.get? d k' := by
  by_cases h : k = k'
  · subst h; simp [AList.get?_set_self]
  · simp [h, AList.get?_set_ne d v h]

theorem AList.get?_erase {α β : Type} [DecidableEq α] (d : AList α β) (k k' : α) :
    AList.get? (AList.erase d k) k' = if k = k' then none else AList.get? d k' := by
  by_cases h : k = k'
  · subst h; simp [AList.get?_erase_self]
  · simp [h, AList.get?_erase_ne d h]

/-- the marker lookup function after a list of events (latest first) -/
def expEp (g : Graph) : List Ev → Triple → Option (List Epi)
  | [], k => AList.get? g.epidata k
  | .keep _ :: r, k => expEp g r k
  | .reif t rf v inv :: r, k =>
    let a := firstTriple t rf v inv
    let old := ((if a = t then some [Epi.push v] else expEp g r t)).getD []
    if lastTriple t rf v inv = k then some (edgeMarkers old).2
    else if nodeTriple rf v = k then some (edgeMarkers old).1
    else if t = k then none
    else if a = k then some [.push v]
    else expEp g r k

theorem run_epidata {m g rev st} (h : Run m g rev st) :
    ∀ k, AList.get? st.epidata k = expEp g rev k := by
  induction h with
  | nil => intro k; rfl
  | keep t _ _ _ ih => intro k; exact ih k
  | reif t rf inv hrun _ _ _ ih =>
    intro k
    simp only [reifSt, expEp, AList.get?_set, AList.get?_erase, ih, run_vars hrun]

theorem run_keys_nodup {m g rev st} (h : Run m g rev st) (hg : (AList.keys g.epidata).Nodup) :
    (AList.keys st.epidata).Nodup := by
  induction h with
  | nil => exact hg
  | keep t _ _ _ ih => exact ih
  | reif t rf inv _ _ _ _ ih =>
    simp only [reifSt]
    exact AList.nodup_keys_set _ _ _ (AList.nodup_keys_set _ _ _
      (AList.nodup_keys_erase _ _ (AList.nodup_keys_set _ _ _ ih)))

end Penman
