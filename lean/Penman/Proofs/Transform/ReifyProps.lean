/-
  Penman.Proofs.Transform.ReifyProps — what `reifyEdges` returns: triples,
  top, fresh variables, roles, marker lookups; and the static structure of the
  reified triple list needed by the inverse theorem.
-/
import Penman.Proofs.Transform.Dereify
namespace Penman

theorem pushesIn_mem {vars : List Str} {epis : List Epi} (h : pushesIn vars epis = true)
    {p : Str} (hp : Epi.push p ∈ epis) : p ∈ vars := by
  unfold pushesIn at h
  rw [List.all_eq_true] at h
  simpa using h _ hp

theorem natToStr_digits (n : Nat) : (natToStr n).all isAsciiDigit = true := by
  rw [natToStr_eq, List.all_eq_true]
  intro c hc
  have := Nat.isDigit_of_mem_toDigits (b := 10) (by decide) (by decide) hc
  simp only [Char.isDigit, Bool.and_eq_true, decide_eq_true_eq] at this
  simp only [isAsciiDigit, Bool.and_eq_true, decide_eq_true_eq]
  exact ⟨Char.le_def.mpr (by simpa using this.1), Char.le_def.mpr (by simpa using this.2)⟩

theorem isGenName_freshVar (vars : List Str) : isGenName (freshVar vars) = true := by
  rcases freshVar_shape vars with ⟨h, _⟩ | ⟨_, n, _, _, h, _⟩
  · rw [h]; rfl
  · rw [h]; exact natToStr_digits n

theorem freshSafe_tgt {g : Graph} (hf : FreshSafe g) {t : Triple} (ht : t ∈ g.triples)
    (hr : t.role ≠ CONCEPT_ROLE) {x : Str} (hx : t.tgt = .str x) (hgen : isGenName x = true) :
    x ∈ g.variables := by
  have := hf t ht hr
  rw [hx] at this
  simpa [freshSafeTgt, hgen] using this

theorem evOk_reif {m : Model} {g : Graph} {t : Triple} {rf : Reif} {v : Str} {inv : Bool} (h : EvOk m g (.reif t rf v inv)) :
    t ∈ g.triples ∧ rf ∈ m.reifs ∧ rf.role = t.role ∧ m.isReifiable t.role = true :=
  ⟨h.1, List.mem_of_find?_eq_some h.2.1, by simpa using List.find?_some h.2.1,
    isReifiable_of_find? h.2.1⟩

/-- a reified relation is not a node label -/
theorem evOk_reif_role {m : Model} {g : Graph} (hm : ReifWf m) {t : Triple} {rf : Reif} {v : Str}
    {inv : Bool} (h : EvOk m g (.reif t rf v inv)) : t.role ≠ CONCEPT_ROLE := by
  intro hc
  have := (evOk_reif h).2.2.2
  rw [hc, hm.2] at this
  cases this

theorem ev_out_colon {m : Model} {g : Graph} (hm : ReifWf m) (hg : RolesColon g) {e : Ev}
    (he : EvOk m g e) : ∀ t1 ∈ e.out, startsWith [':'] t1.role = true := by
  intro t1 h1
  cases e with
  | keep t =>
    simp only [Ev.out, List.mem_singleton] at h1
    subst h1
    exact hg _ he.1
  | reif t rf v inv =>
    have hrf := hm.1 rf (evOk_reif he).2.1
    rcases mem_reif_out.mp h1 with rfl | rfl | rfl
    · exact hrf.1
    · exact concept_colon
    · exact hrf.2.1

theorem ev_out_not_reifiable {m : Model} {g : Graph} (hm : ReifWf m) {e : Ev}
    (he : EvOk m g e) : ∀ t1 ∈ e.out, m.isReifiable t1.role = false := by
  intro t1 h1
  cases e with
  | keep t =>
    simp only [Ev.out, List.mem_singleton] at h1
    subst h1
    exact he.2
  | reif t rf v inv =>
    have hrf := hm.1 rf (evOk_reif he).2.1
    rcases mem_reif_out.mp h1 with rfl | rfl | rfl
    · exact hrf.2.2.2.2.2.1
    · exact hm.2
    · exact hrf.2.2.2.2.2.2.1

/-- the graph `reifyEdges` builds from a final loop state -/
def reifyResult (g : Graph) (st : RState) : Graph :=
  Graph.mk' st.triples.reverse g.getTop st.epidata g.metadata

theorem reifyEdges_result (m : Model) (g : Graph) :
    ∃ rev st, Run m g rev st ∧ rev.reverse.map Ev.orig = g.triples ∧
      reifyEdges m g = .ok (reifyResult g st) := reifyEdges_run m g

theorem reifyEdges_total (m : Model) (g : Graph) : ∃ g', reifyEdges m g = .ok g' := by
  obtain ⟨_, st, _, _, h⟩ := reifyEdges_run m g
  exact ⟨_, h⟩

theorem reifyEdges_ok {m : Model} {g g' : Graph} (h : reifyEdges m g = .ok g') :
    ∃ rev st, Run m g rev st ∧ rev.reverse.map Ev.orig = g.triples ∧ g' = reifyResult g st := by
  obtain ⟨rev, st, hrun, ho, h'⟩ := reifyEdges_run m g
  exact ⟨rev, st, hrun, ho, (Except.ok.inj (h.symm.trans h')).symm ▸ rfl⟩

theorem reifyResult_triples {m : Model} {g : Graph} {rev st} (hm : ReifWf m) (hg : RolesColon g)
    (hrun : Run m g rev st) : (reifyResult g st).triples = rev.reverse.flatMap Ev.out := by
  unfold reifyResult
  rw [mk'_triples_of_colon, run_triples hrun]
  intro t1 h1
  rw [run_triples hrun, List.mem_flatMap] at h1
  obtain ⟨e, he, h1⟩ := h1
  exact ev_out_colon hm hg (run_evOk hrun e (by simpa using he)) t1 h1

theorem mem_reifyResult_triples {m : Model} {g : Graph} {rev st} (hm : ReifWf m) (hg : RolesColon g)
    (hrun : Run m g rev st) {t1 : Triple} :
    t1 ∈ (reifyResult g st).triples ↔ Ev.keep t1 ∈ rev ∨ ∃ t rf v inv, Ev.reif t rf v inv ∈ rev ∧
      (t1 = inTriple t rf v ∨ t1 = nodeTriple rf v ∨ t1 = outTriple t rf v) := by
  rw [reifyResult_triples hm hg hrun, mem_flatMap_out]
  simp only [List.mem_reverse]

theorem mem_triples_run {g : Graph} {rev : List Ev} (ho : rev.reverse.map Ev.orig = g.triples)
    {t : Triple} : t ∈ g.triples ↔ Ev.keep t ∈ rev ∨ ∃ rf v inv, Ev.reif t rf v inv ∈ rev := by
  rw [← ho, mem_map_orig]
  simp only [List.mem_reverse]

theorem reifyResult_top (g : Graph) (st : RState) : (reifyResult g st).top = g.getTop := rfl

theorem reifyResult_getTop {m : Model} {g : Graph} {rev st} (hrun : Run m g rev st)
    (ho : rev.reverse.map Ev.orig = g.triples) : (reifyResult g st).getTop = g.getTop := by
  unfold reifyResult
  apply mk'_getTop
  intro hnil
  rw [hnil] at ho
  have : rev = [] := by simpa using ho
  subst this
  rw [run_triples hrun]; rfl

theorem reifyResult_epidata {m : Model} {g : Graph} {rev st} (hk : EpiKeysNodup g)
    (hrun : Run m g rev st) : (reifyResult g st).epidata = st.epidata := by
  unfold reifyResult Graph.mk'
  exact AList.ofList_of_nodup _ (run_keys_nodup hrun hk)

theorem reifyResult_get? {m : Model} {g : Graph} {rev st} (hk : EpiKeysNodup g)
    (hrun : Run m g rev st) (k : Triple) :
    AList.get? (reifyResult g st).epidata k = expEp g rev k := by
  rw [reifyResult_epidata hk hrun, run_epidata hrun]

theorem run_newVars {m g rev st} (h : Run m g rev st) :
    (rev.flatMap Ev.newVar).Nodup ∧ ∀ v ∈ rev.flatMap Ev.newVar, v ∉ g.variables ∧ isGenName v = true := by
  have hn := run_vars_nodup h
  rw [run_vars h, List.nodup_append] at hn
  refine ⟨hn.1, fun v hv => ⟨fun hv' => hn.2.2 v hv v hv' rfl, ?_⟩⟩
  obtain ⟨t, rf, inv, he⟩ := mem_flatMap_newVar.mp hv
  obtain ⟨post, pre, rfl⟩ := List.append_of_mem he
  rw [run_shape h post t rf v inv pre rfl]
  exact isGenName_freshVar _

theorem not_mem_reified {m g rev st} (h : Run m g rev st) {k : Triple}
    (hk : m.isReifiable k.role ≠ true) : k ∉ rev.flatMap Ev.reified := by
  intro hmem
  obtain ⟨rf, v, inv, he⟩ := mem_flatMap_reified.mp hmem
  exact hk (evOk_reif (run_evOk h _ he)).2.2.2

theorem mem_variables_flatMap_out {m : Model} {g : Graph} {l : List Ev}
    (hok : ∀ e ∈ l, EvOk m g e) {t1 : Triple} (h1 : t1 ∈ l.flatMap Ev.out) :
    t1.src ∈ g.variables ∨ t1.src ∈ l.flatMap Ev.newVar := by
  rcases mem_flatMap_out.mp h1 with he | ⟨t, rf, v, inv, he, h⟩
  · exact Or.inl (src_mem_variables (hok _ he).1)
  · refine Or.inr (List.mem_flatMap.mpr ⟨_, he, ?_⟩)
    rcases h with rfl | rfl | rfl <;> exact List.mem_singleton.mpr rfl

section Static
variable {m : Model} {g : Graph}

/-- no triple of the events has source `x`, when `x` is neither a variable of `g`
    nor introduced by one of them -/
theorem src_ne_of_flatMap_out {l : List Ev} (hok : ∀ e ∈ l, EvOk m g e) {x : Str}
    (hx : x ∉ g.variables) (hnew : ∀ e ∈ l, x ∉ e.newVar) :
    ∀ t1 ∈ l.flatMap Ev.out, t1.src ≠ x := by
  intro t1 h1 hsrc
  rcases mem_variables_flatMap_out hok h1 with h | h
  · exact hx (hsrc ▸ h)
  · rw [List.mem_flatMap] at h
    obtain ⟨e, he, hv⟩ := h
    exact hnew e he (hsrc ▸ hv)

theorem filter_src_nil {l : List Triple} {x : Str} (h : ∀ t ∈ l, t.src ≠ x) (p : Triple → Prop)
    [DecidablePred p] : l.filter (fun t => p t ∧ t.src = x) = [] := by
  rw [List.filter_eq_nil_iff]
  intro t ht
  simp [h t ht]

theorem mem_otherOf {ts : List Triple} {x : Str} {t : Triple} (h : t ∈ otherOf ts x) :
    t ∈ ts ∧ t.role ≠ CONCEPT_ROLE ∧ t.src = x := by
  simpa [otherOf] using h

theorem otherOf_append (a b : List Triple) (x : Str) :
    otherOf (a ++ b) x = otherOf a x ++ otherOf b x := by simp [otherOf]

theorem instOf_append (a b : List Triple) (x : Str) :
    instOf (a ++ b) x = instOf a x ++ instOf b x := by simp [instOf]

/-- the triples of a reification event, seen from its variable -/
theorem otherOf_instOf_reif (hm : ReifWf m) {t rf v inv} (he : EvOk m g (.reif t rf v inv)) :
    otherOf (Ev.reif t rf v inv).out v = [firstTriple t rf v inv, lastTriple t rf v inv] ∧
    instOf (Ev.reif t rf v inv).out v = [nodeTriple rf v] := by
  have hrf := hm.1 rf (evOk_reif he).2.1
  have h1 : rf.source ≠ CONCEPT_ROLE := hrf.2.2.1
  have h2 : rf.target ≠ CONCEPT_ROLE := hrf.2.2.2.1
  cases inv <;>
    simp [otherOf, instOf, Ev.out, firstTriple, lastTriple, inTriple, outTriple, nodeTriple, h1, h2]

/-- seen from an old variable, reification only removes the reified relations -/
theorem otherOf_flatMap_old {l : List Ev} (hok : ∀ e ∈ l, EvOk m g e) {x : Str}
    (hnew : ∀ e ∈ l, x ∉ e.newVar) :
    otherOf (l.flatMap Ev.out) x = (otherOf (l.map Ev.orig) x).filter (fun t => !m.isReifiable t.role) := by
  induction l with
  | nil => rfl
  | cons e r ih =>
    have ih' := ih (fun e he => hok e (by simp [he])) (fun e he => hnew e (by simp [he]))
    rw [List.flatMap_cons, otherOf_append, ih', List.map_cons]
    have : otherOf (e.orig :: r.map Ev.orig) x = otherOf [e.orig] x ++ otherOf (r.map Ev.orig) x := by
      rw [← otherOf_append]; rfl
    rw [this, List.filter_append]
    congr 1
    cases e with
    | keep t =>
      have := (hok (.keep t) (by simp)).2
      simp only [Ev.out, Ev.orig, otherOf, List.filter_filter]
      apply List.filter_congr
      intro t' ht'
      simp only [List.mem_singleton] at ht'
      subst ht'; simp [this]
    | reif t rf v inv =>
      have hre := (evOk_reif (hok (.reif t rf v inv) (by simp))).2.2.2
      have hv : v ≠ x := by
        intro h; exact hnew (.reif t rf v inv) (by simp) (by simp [Ev.newVar, h])
      simp only [Ev.orig, otherOf, List.filter_filter]
      rw [List.filter_eq_nil_iff.mpr, List.filter_eq_nil_iff.mpr]
      · intro t' ht'
        simp only [List.mem_singleton] at ht'
        subst ht'; simp [hre]
      · intro t' ht'
        simp only [Ev.out, List.mem_cons, List.not_mem_nil, or_false] at ht'
        rcases ht' with rfl | rfl | rfl <;> simp [hv]

theorem instOf_flatMap_old (hm : ReifWf m) {l : List Ev} (hok : ∀ e ∈ l, EvOk m g e) {x : Str}
    (hnew : ∀ e ∈ l, x ∉ e.newVar) :
    instOf (l.flatMap Ev.out) x = instOf (l.map Ev.orig) x := by
  induction l with
  | nil => rfl
  | cons e r ih =>
    have ih' := ih (fun e he => hok e (by simp [he])) (fun e he => hnew e (by simp [he]))
    rw [List.flatMap_cons, instOf_append, ih', List.map_cons]
    have : instOf (e.orig :: r.map Ev.orig) x = instOf [e.orig] x ++ instOf (r.map Ev.orig) x := by
      rw [← instOf_append]; rfl
    rw [this]
    congr 1
    cases e with
    | keep t => rfl
    | reif t rf v inv =>
      have hre := (evOk_reif (hok (.reif t rf v inv) (by simp))).2.2.2
      have hv : v ≠ x := by
        intro h; exact hnew (.reif t rf v inv) (by simp) (by simp [Ev.newVar, h])
      have hc := evOk_reif_role hm (hok (.reif t rf v inv) (by simp))
      simp only [Ev.orig, instOf]
      rw [List.filter_eq_nil_iff.mpr, List.filter_eq_nil_iff.mpr]
      · intro t' ht'
        simp only [List.mem_singleton] at ht'
        subst ht'; simp [hc]
      · intro t' ht'
        simp only [Ev.out, List.mem_cons, List.not_mem_nil, or_false] at ht'
        rcases ht' with rfl | rfl | rfl <;> simp [hv]

end Static

/-- markers of an old triple: erased if it was reified, else unchanged -/
theorem expEp_old {g : Graph} {rev : List Ev} {k : Triple}
    (hnew : ∀ e ∈ rev, k.src ∉ e.newVar) :
    expEp g rev k = if k ∈ rev.flatMap Ev.reified then none else AList.get? g.epidata k := by
  induction rev with
  | nil => simp [expEp]
  | cons e r ih =>
    have ih' := ih (fun e he => hnew e (by simp [he]))
    cases e with
    | keep t => simpa [expEp, Ev.reified] using ih'
    | reif t rf v inv =>
      obtain ⟨h3, h2, h1⟩ := reif_out_ne t rf v inv (k := k) (fun h =>
        hnew (.reif t rf v inv) (by simp) (by simp [Ev.newVar, h]))
      simp only [expEp, h1, h2, h3, if_false, ih', List.flatMap_cons, Ev.reified,
        List.singleton_append, List.mem_cons]
      by_cases h : t = k
      · simp [h]
      · have h' : ¬ k = t := fun e => h e.symm
        simp [h, h']

/-- later events that neither make the variable `k.src` nor reify a relation of it leave the
    markers of `k` alone -/
theorem expEp_skip {g : Graph} {post rest : List Ev} {k : Triple}
    (hpost : ∀ e ∈ post, k.src ∉ e.newVar) (hsrc : ∀ e ∈ post, e.orig.src ≠ k.src) :
    expEp g (post ++ rest) k = expEp g rest k := by
  induction post with
  | nil => rfl
  | cons e r ih =>
    have ih' := ih (fun e he => hpost e (by simp [he])) (fun e he => hsrc e (by simp [he]))
    cases e with
    | keep t' => exact ih'
    | reif t' rf' v' inv' =>
      obtain ⟨h3, h2, h1⟩ := reif_out_ne t' rf' v' inv' (k := k) (fun h =>
        hpost (.reif t' rf' v' inv') (by simp) (by simp [Ev.newVar, h]))
      have h4 : t' ≠ k := fun h => hsrc (.reif t' rf' v' inv') (by simp) (by rw [Ev.orig, h])
      simp only [List.cons_append, expEp, h1, h2, h3, h4, if_false, ih']

/-- markers of the last triple of a reification event persist -/
theorem expEp_last {g : Graph} {post pre : List Ev} {t rf v inv}
    (hpost : ∀ e ∈ post, v ∉ e.newVar) (hsrc : ∀ e ∈ post, e.orig.src ≠ v) (hts : t.src ≠ v) :
    expEp g (post ++ .reif t rf v inv :: pre) (lastTriple t rf v inv) =
      some (edgeMarkers ((expEp g pre t).getD [])).2 := by
  rw [expEp_skip (by simpa using hpost) (by simpa using hsrc)]
  have := (reif_out_ne t rf v inv (Ne.symm hts)).1
  simp [expEp, this]

theorem expEp_node {g : Graph} {post pre : List Ev} {t rf v inv}
    (hpost : ∀ e ∈ post, v ∉ e.newVar) (hsrc : ∀ e ∈ post, e.orig.src ≠ v) (hts : t.src ≠ v)
    (hne : nodeTriple rf v ≠ lastTriple t rf v inv) :
    expEp g (post ++ .reif t rf v inv :: pre) (nodeTriple rf v) =
      some (edgeMarkers ((expEp g pre t).getD [])).1 := by
  rw [expEp_skip (by simpa using hpost) (by simpa using hsrc)]
  have := (reif_out_ne t rf v inv (Ne.symm hts)).1
  simp [expEp, this, Ne.symm hne]

end Penman
