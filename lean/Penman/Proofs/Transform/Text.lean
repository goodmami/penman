/-
  Penman.Proofs.Transform.Text — `configure` only looks at the triples, the
  top, the variables, the metadata and the per-triple marker lists; `configure_congr`,
  by which `C11_text` (Props/C11) turns the marker-level inverse theorem into the identical tree.
-/
import Penman.Proofs.Transform.Basic
namespace Penman

theorem preconfigure_congr (m : Model) {ep ep' : Epidata} : ∀ (l : List Triple) (pushed : List Str),
    (∀ t ∈ l, (AList.get? ep' t).getD [] = (AList.get? ep t).getD []) →
    preconfigure m ep' l pushed = preconfigure m ep l pushed
  | [], _, _ => rfl
  | t :: r, pushed, h => by
    simp only [preconfigure, h t (by simp)]
    congr 1
    funext x
    obtain ⟨tr', push, epis, pops, pushed'⟩ := x
    simp only
    rw [preconfigure_congr m r pushed' (fun t ht => h t (by simp [ht]))]

/-- `configure` depends on the graph only through these observations -/
theorem configure_congr (m : Model) {g g' : Graph} (top : Option Str)
    (ht : g'.triples = g.triples) (hv : g'.variables = g.variables) (hgt : g'.getTop = g.getTop)
    (hmd : g'.metadata = g.metadata)
    (hep : ∀ t ∈ g.triples, (AList.get? g'.epidata t).getD [] = (AList.get? g.epidata t).getD []) :
    configure m g' top = configure m g top := by
  unfold configure
  rw [ht, hv, hgt, hmd, preconfigure_congr m g.triples [] hep]

theorem variables_eq_of_top_triples {g g' : Graph} (h1 : g'.top = g.getTop) (h2 : g'.triples = g.triples) :
    g'.variables = g.variables := by
  unfold Graph.variables
  rw [h1, h2]
  cases htop : g.top with
  | some x => simp [Graph.getTop, htop]
  | none =>
    cases hl : g.triples with
    | nil => simp [Graph.getTop, htop, hl]
    | cons a r => simp [Graph.getTop, htop, hl, dedup]

end Penman
