/-
  Penman.Proofs.TransformDecode — every transformation step, and every program of transformations,
  preserves the invariant `DecOK` (`Props/C12dec` concludes from it that the result decodes to itself).
-/
import Penman.Proofs.TransformDecodeDereify
namespace Penman.C12dec

/-- side condition of one step, on the graph it is applied to: `PushSrcOk` for `indicate_branches`
    (as in C12), `DerefSide` for `dereify_edges`, none for the two reifications -/
def SideDec (m : Model) : Xf → Graph → Prop
  | .indicateBranches, g => PushSrcOk g
  | .dereifyEdges, g => DerefSide m g
  | _, _ => True

instance (m : Model) (x : Xf) (g : Graph) : Decidable (SideDec m x g) := by
  cases x <;> unfold SideDec <;> infer_instance

/-- the side conditions hold at every step of the program -/
def SideAlongDec (m : Model) : List Xf → Graph → Prop
  | [], _ => True
  | x :: r, g => SideDec m x g ∧ ∀ g', x.run m g = .ok g' → SideAlongDec m r g'

section
variable {cfg : LexCfg} {isSpace : Char → Bool} {m : Model}

/-- one step: it succeeds, and its result satisfies the invariant again, with the same top -/
theorem step_decOK (hm : ReifWf m) (htr : TopRoleOk m) (htab : TableOK cfg m) (x : Xf) (g : Graph)
    (hd : DecOK cfg isSpace m g) (hs : SideDec m x g) :
    ∃ g', x.run m g = .ok g' ∧ DecOK cfg isSpace m g' ∧ g'.getTop = g.getTop := by
  cases x with
  | reifyEdges =>
    obtain ⟨g', h⟩ := reifyEdges_total m g
    exact ⟨g', h, reifyEdges_decOK hm htab hd h⟩
  | reifyAttributes => exact ⟨_, rfl, reifyAttributes_decOK htab hd⟩
  | dereifyEdges =>
    obtain ⟨g', h⟩ := dereifyEdges_total m g
    exact ⟨g', h, dereifyEdges_decOK hm htab hd hs h⟩
  | indicateBranches =>
    obtain ⟨g', h⟩ := indicateBranches_ok_iff.mpr (pushSrcOk_noErr hs)
    exact ⟨g', h, indicateBranches_decOK htr htab hd hs h⟩

theorem prog_decOK (hm : ReifWf m) (htr : TopRoleOk m) (htab : TableOK cfg m) (p : List Xf)
    (g : Graph) : DecOK cfg isSpace m g → SideAlongDec m p g →
      ∃ g', runProg m p g = .ok g' ∧ DecOK cfg isSpace m g' ∧ g'.getTop = g.getTop :=
  prog_inv (fun _ _ _ h => h) (step_decOK hm htr htab) p g

end
end Penman.C12dec
