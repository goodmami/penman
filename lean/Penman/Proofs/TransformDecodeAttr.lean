/-
  Penman.Proofs.TransformDecodeAttr — `reify_attributes` preserves the invariant `DecOK`.
-/
import Penman.Proofs.TransformDecodeReify
namespace Penman.C12dec

theorem isGenName_attrVar (vars : List Str) (i : Nat) : isGenName (attrVar vars i).1 = true := by
  unfold attrVar
  split
  · obtain ⟨j, _, _, h3, _, _⟩ := attrVarLoop_full vars i
    rw [h3]
    exact natToStr_digits j
  · rfl

theorem arun_genName {g : Graph} {rev : List AEv} {acc : AttrAcc} (h : ARun g rev acc) :
    ∀ v ∈ rev.flatMap AEv.newVar, isGenName v = true := by
  induction h with
  | nil => exact fun _ h => nomatch h
  | keep t _ _ _ ih => exact ih
  | attr t _ _ _ _ ih =>
    intro v hv
    rcases List.mem_cons.mp hv with rfl | hv
    · exact isGenName_attrVar _ _
    · exact ih v hv

theorem mem_attrMarkers_fst {old : List Epi} {e : Epi} (h : e ∈ (attrMarkers old).1) : e ∈ old := by
  simp only [attrMarkers, reifiedMarkers, List.mem_filter] at h
  exact h.1

theorem mem_attrMarkers_snd {old : List Epi} {e : Epi} (h : e ∈ (attrMarkers old).2) :
    e ∈ old ∧ e.isPush = false := by
  simp only [attrMarkers, reifiedMarkers, List.mem_append, List.mem_filter] at h
  rcases h with h | h
  · refine ⟨h.1, ?_⟩
    cases e <;> simp [Epi.isPush] at h ⊢
  · refine ⟨h.1, ?_⟩
    cases e <;> simp [Epi.isPop, Epi.isPush] at h ⊢

section
variable {cfg : LexCfg} {isSpace : Char → Bool} {m : Model} {g : Graph}

theorem instSrcs_aev_out {vars : List Str} {e : AEv} (he : AEvOk g vars e) :
    (instSrcs e.out).Perm (instSrcs [e.orig] ++ e.newVar) := by
  cases e with
  | keep t => exact (List.append_nil _).symm ▸ List.Perm.refl _
  | attr t v =>
    have hout : instSrcs (AEv.attr t v).out = [v] := by
      simp [instSrcs, AEv.out, attrRoleT, attrNodeT, he.2.1]
    rw [hout, AEv.orig, instSrcs_single_not he.2.1]
    exact List.Perm.refl _

theorem arun_markOK (he : EpiAll g) {rev : List AEv} {acc : AttrAcc} (hrun : ARun g rev acc) :
    ∀ p ∈ acc.2.2.1, MarkOK acc.1 p.1 p.2 := by
  induction hrun with
  | nil => exact he
  | keep t _ _ _ ih => exact ih
  | @attr rev0 acc0 t hrun' ht hr hv ih =>
    have hsub : ∀ x ∈ acc0.1, x ∈ (attrVar acc0.1 acc0.2.1).1 :: acc0.1 := fun x hx => by simp [hx]
    have hold := markOK_get ih t
    intro p hp
    simp only [attrSt] at hp ⊢
    rcases mem_set_imp hp with hp | rfl
    · rcases mem_set_imp hp with hp | rfl
      · exact (ih p (mem_erase_imp hp)).mono hsub
      · -- the relation to the new node, carrying `Push v`
        refine ⟨?_, ?_, Or.inl rfl⟩
        · intro e he'
          rcases List.mem_append.mp he' with h | h
          · exact hold.1 e (mem_attrMarkers_fst h)
          · simp only [List.mem_singleton] at h; subst h; rfl
        · intro e he'
          rcases List.mem_append.mp he' with h | h
          · exact pushIn_mono hsub (hold.2.1 e (mem_attrMarkers_fst h))
          · simp only [List.mem_singleton] at h; subst h; simp [Cfg.pushIn]
    · -- the new node label, carrying `POP`
      refine ⟨?_, ?_, Or.inr (Or.inl rfl)⟩
      · intro e he'
        rcases List.mem_append.mp he' with h | h
        · exact hold.1 e (mem_attrMarkers_snd h).1
        · simp only [List.mem_singleton] at h; subst h; rfl
      · intro e he'
        rcases List.mem_append.mp he' with h | h
        · exact pushIn_mono hsub (hold.2.1 e (mem_attrMarkers_snd h).1)
        · simp only [List.mem_singleton] at h; subst h; simp [Cfg.pushIn]

/-- **`reify_attributes` preserves the invariant** -/
theorem reifyAttributes_decOK (htab : TableOK cfg m) (hd : DecOK cfg isSpace m g) :
    DecOK cfg isSpace m (reifyAttributes g) ∧ (reifyAttributes g).getTop = g.getTop := by
  obtain ⟨rev, acc, hrun, ho, he⟩ := reifyAttributes_run g
  have hg := hd.rolesColon
  have hok : ∀ e ∈ rev.reverse, AEvOk g acc.1 e := fun e h' => arun_evOk hrun e (by simpa using h')
  have hgen := arun_genName hrun
  have hall : ∀ t1 ∈ rev.reverse.flatMap AEv.out, TripleOK cfg m t1 := by
    intro t1 h1
    rcases mem_flatMap_aout.mp h1 with he' | ⟨t, v, he', h⟩
    · exact hd.triples _ (hok _ he').1
    · have hT := hd.triples t (hok _ he').1
      have hvv : SrcOK cfg v :=
        srcOK_genName htab.2.2 (hgen v (mem_flatMap_anewVar.mpr ⟨t, by simpa using he'⟩))
      rcases h with rfl | rfl
      · exact ⟨hT.1, hT.2.1, atomOK_var hvv, fun h => absurd h (hok _ he').2.1⟩
      · exact ⟨hd.conceptOK, hvv, hT.2.2.1, fun _ => atomOK_ne_empty hT.2.2.1⟩
  have htr : (reifyAttributes g).triples = rev.reverse.flatMap AEv.out := by
    rw [he, mk'_triples_of_colon, arun_triples hrun]
    intro t1 h1
    rw [arun_triples hrun] at h1
    exact startsWith_of_head (hall t1 h1).1.1
  have hep : (reifyAttributes g).epidata = AList.ofList acc.2.2.1 := by rw [he]; rfl
  have hmd : (reifyAttributes g).metadata = AList.ofList g.metadata := by rw [he]; rfl
  have hvars : ∀ x ∈ acc.1, x ∈ (reifyAttributes g).variables := by
    intro x hx
    rw [arun_vars hrun, List.mem_append] at hx
    rcases hx with hx | hx
    · obtain ⟨t, he'⟩ := mem_flatMap_anewVar.mp hx
      refine src_mem_variables (t := attrNodeT t x) ?_
      rw [htr]
      exact mem_flatMap_aout.mpr (.inr ⟨t, x, by simpa using he', .inr rfl⟩)
    · exact reifyAttributes_vars_mono g hx
  have hnodup := arun_vars_nodup hrun
  rw [arun_vars hrun, List.nodup_append] at hnodup
  refine ⟨⟨?_, ?_, ?_, ?_, reifyAttributes_hasInst g hd.hasInst,
    reifyAttributes_connected g hg hd.conn⟩, reifyAttributes_getTop g⟩
  · rw [htr]; exact hall
  · show (instSrcs (reifyAttributes g).triples).Nodup
    rw [htr]
    have hrev := flatMap_reverse_perm rev AEv.newVar
    refine oneLabel_flatMap AEv.out AEv.orig AEv.newVar _ (fun e he' => instSrcs_aev_out (hok e he'))
      (ho ▸ hd.oneLabel) (hrev.nodup_iff.mpr hnodup.1) ?_
    intro v hv hv'
    rw [ho] at hv'
    exact hnodup.2.2 v (hrev.mem_iff.mp hv) v (instSrcs_subset v hv') rfl
  · rw [hmd, wfMeta_ofList hd.metaOK]; exact hd.metaOK
  · intro p hp
    rw [hep] at hp
    exact (arun_markOK hd.epi hrun p (mem_ofList_imp hp)).mono hvars

end
end Penman.C12dec
