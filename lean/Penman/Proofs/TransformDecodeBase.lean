/-
  Penman.Proofs.TransformDecodeBase — vocabulary and generic lemmas for
  "the result of every transformation decodes to itself" (C12, last clause).

  * `TripleOK`  : everything `WfGraph` / `GraphTextOK` ask of ONE triple (role, source, target texts);
  * `MarkOK`, `EpiAll` : the marker conditions `NoAlign`, `PushVars`, `PushSrcOK` of C03 / C06,
    asked of EVERY entry of the marker table (also of entries whose key is not (yet) a triple:
    a transformation may create the triple such an entry belongs to);
  * `DecOK`     : the invariant — it implies all hypotheses of `C03Text.C03_text`
    (`DecOK.wfGraph`, `DecOK.textOK`, `DecOK.pushVars`, `DecOK.pushSrcOK`, `decOK_decodes`);
  * `TableOK`   : the decidable conditions on the lexer / model tables (texts of the reification
    roles and concepts, of the top role, of the generated variable names `_`, `_2`, …).
-/
import Penman.Proofs.Transform.Encode
import Penman.Props.C03Text
namespace Penman.C12dec
open Penman Penman.Spec Penman.C03Text

/-- what `WfGraph.roles`, `WfGraph.noInstOf` and `GraphTextOK.roles` ask of a role -/
def RoleOK (cfg : LexCfg) (m : Model) (r : Str) : Prop :=
  r.head? = some ':' ∧ '~' ∉ r ∧ m.canonInversion r = some r ∧
  (r ≠ CONCEPT_ROLE → (roleB cfg r = true ∧ roleB cfg (m.invertRole r) = true) ∧ RoleInvOK m r)

instance (cfg : LexCfg) (m : Model) (r : Str) : Decidable (RoleOK cfg m r) := by
  unfold RoleOK; infer_instance

/-- a source / variable: no `~`, a SYMBOL text -/
def SrcOK (cfg : LexCfg) (s : Str) : Prop := '~' ∉ s ∧ symbolB cfg s = true

instance (cfg : LexCfg) (s : Str) : Decidable (SrcOK cfg s) := by unfold SrcOK; infer_instance

/-- a target: reads back as itself and is grammar-valid text -/
def AtomOK (cfg : LexCfg) (a : Atom) : Prop := Cfg.TgtOK a ∧ TgtTextOK cfg a

instance (cfg : LexCfg) (a : Atom) : Decidable (AtomOK cfg a) := by unfold AtomOK; infer_instance

def TripleOK (cfg : LexCfg) (m : Model) (t : Triple) : Prop :=
  RoleOK cfg m t.role ∧ SrcOK cfg t.src ∧ AtomOK cfg t.tgt ∧ (t.role = CONCEPT_ROLE → t.tgt ≠ .str [])

instance (cfg : LexCfg) (m : Model) (t : Triple) : Decidable (TripleOK cfg m t) := by
  unfold TripleOK; infer_instance

/-- the `Push` part: every `Push` names a variable; `Push(source)` only towards a string -/
def PushOK (V : List Str) (k : Triple) (es : List Epi) : Prop :=
  (∀ e ∈ es, Cfg.pushIn V e) ∧
  ((tgtStr? k.tgt).isSome = true ∨ k.role = CONCEPT_ROLE ∨ Epi.push k.src ∉ es)

instance (V : List Str) (k : Triple) (es : List Epi) : Decidable (PushOK V k es) := by
  unfold PushOK; infer_instance

/-- layout markers only (no alignments), and `PushOK` -/
def MarkOK (V : List Str) (k : Triple) (es : List Epi) : Prop :=
  (∀ e ∈ es, e.mode = 0) ∧ PushOK V k es

instance (V : List Str) (k : Triple) (es : List Epi) : Decidable (MarkOK V k es) := by
  unfold MarkOK; infer_instance

/-- every entry of the marker table satisfies `NoAlign`, `PushVars`, `PushSrcOK` -/
def EpiAll (g : Graph) : Prop := ∀ p ∈ g.epidata, MarkOK g.variables p.1 p.2

instance (g : Graph) : Decidable (EpiAll g) := by unfold EpiAll; infer_instance

/-- only the `Push` part (the side condition of `dereify_edges` is stated with it) -/
def PushAll (g : Graph) : Prop := ∀ p ∈ g.epidata, PushOK g.variables p.1 p.2

instance (g : Graph) : Decidable (PushAll g) := by unfold PushAll; infer_instance

theorem pushIn_mono {V W : List Str} (h : ∀ x ∈ V, x ∈ W) {e : Epi} (he : Cfg.pushIn V e) :
    Cfg.pushIn W e := by
  cases e <;> simp only [Cfg.pushIn] at he ⊢
  exact h _ he

theorem PushOK.mono {V W : List Str} (h : ∀ x ∈ V, x ∈ W) {k : Triple} {es : List Epi}
    (hm : PushOK V k es) : PushOK W k es :=
  ⟨fun e he => pushIn_mono h (hm.1 e he), hm.2⟩

theorem MarkOK.mono {V W : List Str} (h : ∀ x ∈ V, x ∈ W) {k : Triple} {es : List Epi}
    (hm : MarkOK V k es) : MarkOK W k es := ⟨hm.1, hm.2.mono h⟩

theorem markOK_nil (V : List Str) (k : Triple) : MarkOK V k [] :=
  ⟨by simp, by simp, Or.inr (Or.inr (by simp))⟩

/-- **the invariant of C12's last clause**: per-triple texts, one node label per variable,
    metadata, markers, every source has a node, connected from the top -/
structure DecOK (cfg : LexCfg) (isSpace : Char → Bool) (m : Model) (g : Graph) : Prop where
  triples : ∀ t ∈ g.triples, TripleOK cfg m t
  oneLabel : ((g.triples.filter (fun t => t.role = CONCEPT_ROLE)).map (·.src)).Nodup
  metaOK : WfMeta isSpace g.metadata
  epi : EpiAll g
  hasInst : HasInst g
  conn : Connected g

/-- the decidable part of `DecOK` (everything but connectivity) -/
def DecOKd (cfg : LexCfg) (isSpace : Char → Bool) (m : Model) (g : Graph) : Prop :=
  (∀ t ∈ g.triples, TripleOK cfg m t) ∧
  ((g.triples.filter (fun t => t.role = CONCEPT_ROLE)).map (·.src)).Nodup ∧
  WfMeta isSpace g.metadata ∧ EpiAll g ∧ HasInst g

instance (cfg : LexCfg) (isSpace : Char → Bool) (m : Model) (g : Graph) :
    Decidable (DecOKd cfg isSpace m g) := by unfold DecOKd; infer_instance

theorem DecOK.of_d {cfg : LexCfg} {isSpace : Char → Bool} {m : Model} {g : Graph}
    (h : DecOKd cfg isSpace m g) (hc : Connected g) : DecOK cfg isSpace m g :=
  ⟨h.1, h.2.1, h.2.2.1, h.2.2.2.1, h.2.2.2.2, hc⟩

theorem startsWith_of_head {r : Str} (h : r.head? = some ':') : startsWith [':'] r = true := by
  cases r with
  | nil => simp at h
  | cons c cs =>
    simp only [List.head?_cons, Option.some.injEq] at h
    subst h
    simp [startsWith, List.isPrefixOf]

theorem head_of_startsWith {r : Str} (h : startsWith [':'] r = true) : r.head? = some ':' := by
  cases r with
  | nil => simp [startsWith, List.isPrefixOf] at h
  | cons c cs =>
    simp only [startsWith, List.isPrefixOf, Bool.and_true, beq_iff_eq] at h
    simp only [List.head?_cons, Option.some.injEq]; exact h.symm

section Derive
variable {cfg : LexCfg} {isSpace : Char → Bool} {m : Model} {g : Graph}

theorem DecOK.rolesColon (h : DecOK cfg isSpace m g) : RolesColon g :=
  fun t ht => startsWith_of_head (h.triples t ht).1.1

theorem DecOK.wfc (h : DecOK cfg isSpace m g) : WfC g := ⟨h.rolesColon, h.hasInst, h.conn⟩

theorem DecOK.topSrc (h : DecOK cfg isSpace m g) : ∀ x, g.getTop = some x → IsSrc g x :=
  h.conn.topSrc

/-- every variable is a source, hence its text is fine -/
theorem DecOK.varOK (h : DecOK cfg isSpace m g) {x : Str} (hx : x ∈ g.variables) : SrcOK cfg x := by
  obtain ⟨t, ht, rfl⟩ := isSrc_of_mem_variables h.topSrc hx
  exact (h.triples t ht).2.1

/-- some node label exists, so `:instance` itself is a fine role -/
theorem DecOK.conceptOK (h : DecOK cfg isSpace m g) : RoleOK cfg m CONCEPT_ROLE := by
  obtain ⟨top, _, ⟨t, ht, _⟩, _⟩ := h.conn
  obtain ⟨t', ht', _, hc⟩ := h.hasInst t ht
  have := (h.triples t' ht').1
  rwa [hc] at this

theorem nodup_of_nodup_map {α β : Type} (f : α → β) {l : List α} (h : (l.map f).Nodup) : l.Nodup :=
  (List.pairwise_map.mp h).imp (fun hne e => hne (congrArg f e))

theorem inj_of_nodup_map {α β : Type} (f : α → β) {l : List α} (h : (l.map f).Nodup) {x y : α}
    (hx : x ∈ l) (hy : y ∈ l) (hxy : f x = f y) : x = y := by
  induction l with
  | nil => simp at hx
  | cons a r ih =>
    simp only [List.map_cons, List.nodup_cons, List.mem_map, not_exists, not_and] at h
    rcases List.mem_cons.mp hx with rfl | hx' <;> rcases List.mem_cons.mp hy with rfl | hy'
    · rfl
    · exact absurd hxy.symm (h.1 y hy')
    · exact absurd hxy (h.1 x hx')
    · exact ih h.2 hx' hy'

/-- a marker table all of whose entries are fine gives fine lookups -/
theorem markOK_get {V : List Str} {d : Epidata} (h : ∀ p ∈ d, MarkOK V p.1 p.2) (k : Triple) :
    MarkOK V k ((AList.get? d k).getD []) := by
  cases hk : AList.get? d k with
  | none => exact markOK_nil _ _
  | some es => exact h (k, es) (AList.mem_of_get? hk)

theorem epiAll_get (h : EpiAll g) (k : Triple) :
    MarkOK g.variables k ((AList.get? g.epidata k).getD []) := markOK_get h k

theorem DecOK.noAlign (h : DecOK cfg isSpace m g) : Cfg.NoAlign g :=
  fun t _ e he => (epiAll_get h.epi t).1 e he

theorem DecOK.pushVars (h : DecOK cfg isSpace m g) : Cfg.PushVars g :=
  fun t _ e he => (epiAll_get h.epi t).2.1 e he

theorem DecOK.pushSrcOK (h : DecOK cfg isSpace m g) : Cfg.PushSrcOK g :=
  fun t _ => (epiAll_get h.epi t).2.2

theorem DecOK.wfGraph (h : DecOK cfg isSpace m g) : Cfg.WfGraph m g := by
  have hinst : (g.triples.filter (fun t => t.role = CONCEPT_ROLE)).Nodup :=
    nodup_of_nodup_map _ h.oneLabel
  -- the fields of `WfGraph` in order: nonempty, labelled, nullNodup, nullAlone, instNotEmpty, roles,
  -- srcs, tgts, noInstOf
  refine ⟨?_, ?_, ?_, ?_, ?_, ?_, ?_, ?_, ?_, h.noAlign⟩
  · obtain ⟨top, _, ⟨t, ht, _⟩, _⟩ := h.conn
    cases hl : g.triples with
    | nil => rw [hl] at ht; simp at ht
    | cons a r => rfl
  · intro v hv
    obtain ⟨t, ht, hs⟩ := isSrc_of_mem_variables h.topSrc hv
    obtain ⟨t', ht', hs', hc⟩ := h.hasInst t ht
    exact ⟨t', ht', hs'.trans hs, hc⟩
  · have : g.triples.filter Cfg.nullB =
        (g.triples.filter (fun t => t.role = CONCEPT_ROLE)).filter Cfg.nullB := by
      rw [List.filter_filter]
      apply List.filter_congr
      intro t _
      simp only [Cfg.nullB]
      by_cases hc : t.role = CONCEPT_ROLE <;> simp [hc]
    rw [this]
    exact hinst.filter _
  · intro t ht hn t' ht' hc' hs
    have hc : t.role = CONCEPT_ROLE := by
      simp only [Cfg.nullB, Bool.and_eq_true, decide_eq_true_eq] at hn; exact hn.1
    exact inj_of_nodup_map _ h.oneLabel
      (List.mem_filter.mpr ⟨ht', by simpa using hc'⟩) (List.mem_filter.mpr ⟨ht, by simpa using hc⟩) hs
  · intro t ht hc; exact (h.triples t ht).2.2.2 hc
  · intro t ht; exact ⟨(h.triples t ht).1.1, (h.triples t ht).1.2.1, (h.triples t ht).1.2.2.1⟩
  · intro t ht; exact (h.triples t ht).2.1.1
  · intro t ht; exact (h.triples t ht).2.2.1.1
  · intro t ht hc; exact ((h.triples t ht).1.2.2.2 hc).2

theorem DecOK.textOK (h : DecOK cfg isSpace m g) : GraphTextOK cfg isSpace m g :=
  ⟨fun t ht => (h.triples t ht).2.1.2, fun t ht hc => ((h.triples t ht).1.2.2.2 hc).1,
   fun t ht => (h.triples t ht).2.2.1.2, h.oneLabel, h.metaOK⟩

end Derive

/-- **a graph satisfying the invariant decodes to itself** (C03 at the level of text) -/
theorem decOK_decodes {cfg : LexCfg} (hcfg : FmtCfgWf cfg = true) (isSpace isAlpha : Char → Bool)
    {m : Model} {g : Graph} (hw : ModelWf m) (hnoop : m.noop = false) (h : DecOK cfg isSpace m g)
    (i : Indent) (c : Bool) :
    ∃ s g'', encode m g none i c = .ok s ∧ decode cfg isSpace isAlpha m s = .ok g'' ∧
      g''.getTop = g.getTop ∧ (∀ x, x ∈ g''.variables ↔ x ∈ g.variables) ∧
      (g''.triples.map (Cfg.deinvert1 m g)).Perm ((g.triples.map writtenTriple).map (Cfg.deinvert1 m g)) ∧
      (∀ x ∈ g''.triples, ∃ t0 ∈ g.triples, x = writtenTriple t0 ∨ x = m.invert (writtenTriple t0)) ∧
      g''.metadata = g.metadata := by
  obtain ⟨t, hgt, htv, hr⟩ := connected_cfgReach h.conn
  obtain ⟨s, g'', h1, h2, h3, h4, h5, h6, h7⟩ := C03_text hcfg isSpace isAlpha (top := none) (t := t)
    hw hnoop h.wfGraph h.textOK h.pushVars h.pushSrcOK (by simpa [Cfg.topOf] using hgt) htv hr i c
  exact ⟨s, g'', h1, h2, h3.trans hgt.symm, h4, h5, h6, h7⟩

/-- a reification concept: a non-empty target text -/
def ConceptOK (cfg : LexCfg) (c : Atom) : Prop := AtomOK cfg c ∧ c ≠ .str []

instance (cfg : LexCfg) (c : Atom) : Decidable (ConceptOK cfg c) := by unfold ConceptOK; infer_instance

/-- the lexer lets `_` and the ASCII digits be name characters (then the generated variable names
    `_`, `_2`, … are SYMBOL texts without `~`) -/
def GenOK (cfg : LexCfg) : Prop := ∀ c ∈ cfg.symExcl, c ≠ '_' ∧ isAsciiDigit c = false

instance (cfg : LexCfg) : Decidable (GenOK cfg) := by unfold GenOK; infer_instance

/-- **the texts the transformations introduce are grammar-valid**: role, source role, target role
    and concept of every reification; the top role; the generated variable names -/
def TableOK (cfg : LexCfg) (m : Model) : Prop :=
  (∀ rf ∈ m.reifs, RoleOK cfg m rf.role ∧ RoleOK cfg m rf.source ∧ RoleOK cfg m rf.target ∧
    ConceptOK cfg rf.concept) ∧
  RoleOK cfg m m.topRole ∧ GenOK cfg

instance (cfg : LexCfg) (m : Model) : Decidable (TableOK cfg m) := by unfold TableOK; infer_instance

/-- a generated name `_` + digits is a SYMBOL text without `~`: none of its characters is excluded
    by `GenOK`, `~`, or a line break -/
theorem srcOK_genName {cfg : LexCfg} (hg : GenOK cfg) {v : Str} (hv : isGenName v = true) :
    SrcOK cfg v := by
  cases v with
  | nil => simp [isGenName] at hv
  | cons c rest =>
    have hc : c = '_' := by
      by_cases h : c = '_'
      · exact h
      · unfold isGenName at hv; split at hv
        · rename_i heq; simp only [List.cons.injEq] at heq; exact absurd heq.1 h
        · simp at hv
    subst hc
    have hrest : rest.all isAsciiDigit = true := by simpa [isGenName] using hv
    rw [List.all_eq_true] at hrest
    have hch : ∀ x ∈ ('_' :: rest), x = '_' ∨ isAsciiDigit x = true := by
      intro x hx
      rcases List.mem_cons.mp hx with rfl | hx
      · left; rfl
      · right; exact hrest x hx
    have hnot : ∀ x : Char, (x = '_' ∨ isAsciiDigit x = true) → x ∉ cfg.symExcl := by
      intro x hx hmem
      have := hg x hmem
      rcases hx with rfl | hx
      · exact this.1 rfl
      · rw [this.2] at hx; simp at hx
    have hne : ∀ y : Char, (y = '_' ∨ isAsciiDigit y = true) → y ≠ '~' ∧ y ≠ '\n' ∧ y ≠ '\r' := by
      intro y hy
      rcases hy with rfl | hy
      · decide
      · refine ⟨?_, ?_, ?_⟩ <;> rintro rfl <;> simp [isAsciiDigit] at hy
    refine ⟨fun hm => (hne _ (hch _ hm)).1 rfl, ?_⟩
    simp only [symbolB, noBreakB, Bool.and_eq_true, Bool.not_eq_true', List.isEmpty_cons,
      List.all_eq_true, List.head?_cons, bne_iff_ne, ne_eq, Option.some.injEq,
      List.contains_eq_mem, decide_eq_false_iff_not]
    refine ⟨⟨⟨trivial, fun x hx => ?_⟩, by decide⟩, fun hm => (hne _ (hch _ hm)).2.1 rfl,
      fun hm => (hne _ (hch _ hm)).2.2 rfl⟩
    exact hnot x (hch x hx)

theorem atomOK_var {cfg : LexCfg} {s : Str} (h : SrcOK cfg s) : AtomOK cfg (.str s) :=
  ⟨Or.inl h.1, by simp [TgtTextOK, h.2]⟩

/-- a grammar-valid string target is not empty -/
theorem atomOK_ne_empty {cfg : LexCfg} {a : Atom} (h : AtomOK cfg a) : a ≠ .str [] := by
  rintro rfl
  have := h.2
  simp [TgtTextOK, symbolB, stringB, scanString] at this

theorem mem_set_imp {α β : Type} [DecidableEq α] {d : AList α β} {k : α} {v : β} {p : α × β}
    (h : p ∈ AList.set d k v) : p ∈ d ∨ p = (k, v) := by
  induction d with
  | nil => right; simpa [AList.set] using h
  | cons q r ih =>
    obtain ⟨k', v'⟩ := q
    simp only [AList.set] at h
    split at h
    · rename_i hk
      rcases List.mem_cons.mp h with rfl | h'
      · right; rw [hk]
      · left; exact List.mem_cons_of_mem _ h'
    · rcases List.mem_cons.mp h with rfl | h'
      · left; simp
      · rcases ih h' with h'' | h''
        · left; exact List.mem_cons_of_mem _ h''
        · right; exact h''

theorem mem_erase_imp {α β : Type} [DecidableEq α] {d : AList α β} {k : α} {p : α × β}
    (h : p ∈ AList.erase d k) : p ∈ d := (List.mem_filter.mp h).1

theorem mem_ofList_imp {α β : Type} [DecidableEq α] {l : List (α × β)} {p : α × β}
    (h : p ∈ AList.ofList l) : p ∈ l := by
  have : ∀ (l : List (α × β)) (acc : AList α β), p ∈ l.foldl (fun d q => d.set q.1 q.2) acc →
      p ∈ acc ∨ p ∈ l := by
    intro l
    induction l with
    | nil => intro acc h; left; exact h
    | cons q r ih =>
      intro acc h
      rcases ih _ h with h' | h'
      · rcases mem_set_imp h' with h'' | h''
        · left; exact h''
        · right; rw [h'']; simp
      · right; exact List.mem_cons_of_mem _ h'
  rcases this l [] h with h' | h'
  · simp at h'
  · exact h'

theorem wfMeta_ofList {isSpace : Char → Bool} {md : AList Str Str} (h : WfMeta isSpace md) :
    AList.ofList md = md := by
  apply AList.ofList_of_nodup
  exact h.1

/-- `DecOK` is exactly: `WfGraph`, `GraphTextOK`, the marker conditions on every entry, connectivity -/
theorem DecOK.of_hyps {cfg : LexCfg} {isSpace : Char → Bool} {m : Model} {g : Graph}
    (hw : Cfg.WfGraph m g) (ht : GraphTextOK cfg isSpace m g) (he : EpiAll g) (hc : Connected g) :
    DecOK cfg isSpace m g := by
  refine ⟨fun t htg => ⟨⟨(hw.roles t htg).1, (hw.roles t htg).2.1, (hw.roles t htg).2.2, fun hr =>
      ⟨ht.roles t htg hr, hw.noInstOf t htg hr⟩⟩, ⟨hw.srcs t htg, ht.srcs t htg⟩,
      ⟨hw.tgts t htg, ht.tgts t htg⟩, hw.instNotEmpty t htg⟩, ht.oneLabel, ht.metaOK, he, ?_, hc⟩
  intro t htg
  obtain ⟨t', ht', hs, hr⟩ := hw.labelled t.src (src_mem_variables htg)
  exact ⟨t', ht', hs, hr⟩

theorem decOK_iff {cfg : LexCfg} {isSpace : Char → Bool} {m : Model} {g : Graph} :
    DecOK cfg isSpace m g ↔
      Cfg.WfGraph m g ∧ GraphTextOK cfg isSpace m g ∧ EpiAll g ∧ Connected g :=
  ⟨fun h => ⟨h.wfGraph, h.textOK, h.epi, h.conn⟩, fun h => DecOK.of_hyps h.1 h.2.1 h.2.2.1 h.2.2.2⟩

/-- when the marker table is a dictionary whose keys are triples of the graph (true of every decoded
    graph), `EpiAll` IS `NoAlign ∧ PushVars ∧ PushSrcOK` -/
theorem epiAll_of_keys {g : Graph} (hk : EpiKeysNodup g) (hin : ∀ k ∈ AList.keys g.epidata, k ∈ g.triples)
    (h1 : Cfg.NoAlign g) (h2 : Cfg.PushVars g) (h3 : Cfg.PushSrcOK g) : EpiAll g := by
  intro p hp
  have hkey : p.1 ∈ g.triples := hin p.1 (List.mem_map.mpr ⟨p, hp, rfl⟩)
  have hget : AList.get? g.epidata p.1 = some p.2 := AList.get?_of_mem hk hp
  have e : (AList.get? g.epidata p.1).getD [] = p.2 := by rw [hget]; rfl
  refine ⟨fun x hx => h1 p.1 hkey x (e ▸ hx), fun x hx => h2 p.1 hkey x (e ▸ hx), ?_⟩
  have := h3 p.1 hkey
  rwa [e] at this

end Penman.C12dec
