/-
  Penman.Proofs.TransformDecodeBranches — `indicate_branches` preserves the invariant `DecOK`
  (under its side condition `PushSrcOk`).
-/
import Penman.Proofs.TransformDecodeAttr
namespace Penman.C12dec

theorem instSrcs_nil_of {l : List Triple} (h : ∀ t ∈ l, t.role ≠ CONCEPT_ROLE) : instSrcs l = [] := by
  simp only [instSrcs, List.map_eq_nil_iff, List.filter_eq_nil_iff]
  intro t ht; simp [h t ht]

section
variable {cfg : LexCfg} {isSpace : Char → Bool} {m : Model} {g : Graph}

theorem instSrcs_branches (htr : TopRoleOk m) : ∀ (l : List Triple),
    instSrcs (l.flatMap (fun t => branchIns m g t ++ [t])) = instSrcs l
  | [] => rfl
  | t :: r => by
    rw [List.flatMap_cons, instSrcs_append, instSrcs_append, instSrcs_branches htr r, instSrcs_cons t r,
      instSrcs_nil_of (fun t1 h1 => by rw [branchIns_role h1]; exact htr.2), List.nil_append]

/-- **`indicate_branches` preserves the invariant** -/
theorem indicateBranches_decOK (htr : TopRoleOk m) (htab : TableOK cfg m) (hd : DecOK cfg isSpace m g)
    (hs : PushSrcOk g) {g' : Graph} (h : indicateBranches m g = .ok g') :
    DecOK cfg isSpace m g' ∧ g'.getTop = g.getTop := by
  obtain ⟨ht, htop, hep, hmd⟩ := indicateBranches_ok h
  have hg := hd.rolesColon
  have hall : ∀ t1 ∈ g.triples.flatMap (fun t => branchIns m g t ++ [t]), TripleOK cfg m t1 := by
    intro t1 h1
    rw [List.mem_flatMap] at h1
    obtain ⟨t, htg, h1⟩ := h1
    have hT := hd.triples t htg
    rcases List.mem_append.mp h1 with h1 | h1
    · rcases mem_branchIns h1 with ⟨rfl, _⟩ | ⟨s, hst, rfl, hpv, hne⟩
      · exact ⟨htab.2.1, hT.2.1, hT.2.2.1, fun hc => absurd hc htr.2⟩
      · obtain ⟨t', ht', hsrc, _⟩ := hs t htg hpv hne
        rw [hst] at hsrc
        have hs' : SrcOK cfg s := Atom.str.inj hsrc ▸ (hd.triples t' ht').2.1
        exact ⟨htab.2.1, hs', atomOK_var hT.2.1, fun hc => absurd hc htr.2⟩
    · exact List.mem_singleton.mp h1 ▸ hT
  have htr' : g'.triples = g.triples.flatMap (fun t => branchIns m g t ++ [t]) := by
    rw [ht]
    exact map_ensureColon_id (fun t1 h1 => startsWith_of_head (hall t1 h1).1.1)
  have hvars : ∀ x ∈ g.variables, x ∈ g'.variables := by
    intro x hx
    rw [mem_variables] at hx ⊢
    rcases hx with ⟨t, htg, rfl⟩ | htp
    · left
      exact ⟨t, by rw [htr']; exact List.mem_flatMap.mpr ⟨t, htg, by simp⟩, rfl⟩
    · right; rw [htop]; simp [Graph.getTop, htp]
  refine ⟨⟨?_, ?_, ?_, ?_, indicateBranches_hasInst h hd.hasInst hs,
    indicateBranches_connected h htr.1 htr.2 hg hd.conn⟩, indicateBranches_getTop h⟩
  · rw [htr']; exact hall
  · show (instSrcs g'.triples).Nodup
    rw [htr', instSrcs_branches htr]; exact hd.oneLabel
  · rw [hmd, wfMeta_ofList hd.metaOK]; exact hd.metaOK
  · intro p hp
    rw [hep] at hp
    exact (hd.epi p (mem_ofList_imp hp)).mono hvars

end
end Penman.C12dec
