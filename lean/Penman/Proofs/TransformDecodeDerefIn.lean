/-
  Penman.Proofs.TransformDecodeDerefIn — a decidable condition on the INPUT of `dereify_edges` that
  implies its side condition `DerefSide` (which speaks of the result):

  * a `Push(v)` on an entry that survives (its key is not a triple of a collapsed node) does not name a
    collapsed node;
  * the markers moved onto a dereified triple `(s :role c)` (those of the collapsed node's second
    relation) do not name a collapsed node either, and contain `Push(s)` only if `c` is a string.
-/
import Penman.Proofs.TransformDecodeDereify
namespace Penman.C12dec

/-- the marker is not a `Push` of a node that `dereify_edges` collapses -/
def pushKept (m : Model) (g : Graph) : Epi → Prop
  | .push v => collapseOf m g v = none
  | _ => True

instance (m : Model) (g : Graph) (e : Epi) : Decidable (pushKept m g e) := by
  cases e <;> unfold pushKept <;> infer_instance

/-- what the agenda entry of a collapsed node must satisfy -/
def agendaPushOK (m : Model) (g : Graph) : Option Agenda → Prop
  | some ag => (∀ e ∈ ag.epidata, pushKept m g e) ∧
      ((tgtStr? ag.dereified.tgt).isSome = true ∨ Epi.push ag.dereified.src ∉ ag.epidata)
  | none => True

instance (m : Model) (g : Graph) (o : Option Agenda) : Decidable (agendaPushOK m g o) := by
  cases o <;> unfold agendaPushOK <;> infer_instance

/-- **input-side condition for `dereify_edges`** -/
def DerefPushIn (m : Model) (g : Graph) : Prop :=
  (∀ p ∈ g.epidata, (p.1 ∈ g.triples ∧ (collapseOf m g p.1.src).isSome = true) ∨
      ∀ e ∈ p.2, pushKept m g e) ∧
  (∀ x ∈ g.variables, agendaPushOK m g (collapseOf m g x))

instance (m : Model) (g : Graph) : Decidable (DerefPushIn m g) := by unfold DerefPushIn; infer_instance

section
variable {m : Model} {g : Graph}

theorem collapseOf_var {x : Str} {ag : Agenda} (h : collapseOf m g x = some ag) : x ∈ g.variables := by
  obtain ⟨_, hf, _⟩ := collapseOf_some h
  obtain ⟨hmem, _, hsrc⟩ := mem_otherOf hf
  exact hsrc ▸ src_mem_variables hmem

/-- a variable that is not collapsed is still a variable of the result -/
theorem dereify_var_kept {g' : Graph} (h : dereifyEdges m g = .ok g') {v : Str} (hv : v ∈ g.variables)
    (hc : collapseOf m g v = none) : v ∈ g'.variables := by
  rw [mem_variables] at hv ⊢
  rcases hv with ⟨t, htg, rfl⟩ | htp
  · exact Or.inl ⟨_, (mem_dereifyEdges h).mpr (.inl ⟨t, htg, hc, rfl⟩), rfl⟩
  · right
    rw [(dereifyEdges_ok h).2.1]
    simp [Graph.getTop, htp]

/-- **the input-side condition implies the side condition** (for a graph whose markers satisfy
    `EpiAll`) -/
theorem derefSide_of_pushIn (he : EpiAll g) (h : DerefPushIn m g) : DerefSide m g := by
  unfold DerefSide
  cases hr : dereifyEdges m g with
  | error e => trivial
  | ok g' =>
    intro p hp
    rw [(dereifyEdges_ok hr).2.2.2] at hp
    have hkept : ∀ es : List Epi, (∀ e ∈ es, Cfg.pushIn g.variables e) → (∀ e ∈ es, pushKept m g e) →
        ∀ e ∈ es, Cfg.pushIn g'.variables e := by
      intro es h1 h2 e hmem
      have a := h1 e hmem
      have b := h2 e hmem
      cases e with
      | push v => exact dereify_var_kept hr a b
      | pop => trivial
      | aln _ _ => trivial
      | roleAln _ _ => trivial
    rcases derFold_mem (collapseOf m g) g.triples g.epidata p (mem_ofList_imp hp) with ⟨hp0, hsurv⟩ | ⟨x, ag, hx, rfl⟩
    · have hM := he p hp0
      refine ⟨hkept p.2 hM.2.1 ?_, hM.2.2⟩
      rcases h.1 p hp0 with ⟨h1, h2⟩ | h2
      · exfalso
        rcases hsurv with h3 | h3
        · exact h3 h1
        · rw [h3] at h2; simp at h2
      · exact h2
    · have hag := h.2 x (collapseOf_var hx)
      rw [hx] at hag
      obtain ⟨i0, sec, hep⟩ := collapseOf_epidata hx
      have hin : ∀ e ∈ ag.epidata, Cfg.pushIn g.variables e := by
        intro e hmem
        rw [hep] at hmem
        rcases mem_agendaEpis hmem with ⟨q, j, rfl, _⟩ | hmem
        · trivial
        · exact (epiAll_get he sec).2.1 e hmem
      exact ⟨hkept ag.epidata hin hag.1, Or.imp_right Or.inr hag.2⟩

end
end Penman.C12dec
