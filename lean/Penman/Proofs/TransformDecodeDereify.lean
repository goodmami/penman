/-
  Penman.Proofs.TransformDecodeDereify — `dereify_edges` preserves the invariant `DecOK`,
  under the side condition `DerefSide` on the `Push` markers of its result.

  Why a side condition: `dereify_edges` REMOVES variables (the collapsed nodes) and moves the markers
  of the collapsed node's second relation onto the dereified triple.  A `Push(v)` that names a collapsed
  node `v` — left on some other triple, or on that second relation — then names no variable any more
  (`exDerefPush` in `Props/C12dec.lean`), and a `Push(s)` moved onto `(s :role 7)` names the source of a
  triple whose target is not a string.  Both are excluded by the hypotheses `PushVars` / `PushSrcOK` of
  C03 / C06.  `DerefSide` is decidable (`dereify_edges` is total and computable) and holds e.g. when
  the graph carries no `Push` marker (`derefSide_of_noPush`).  Alignments need no side condition:
  the result of a graph without alignments has none (`derFold_all`, `getAlignments_nil`).
-/
import Penman.Proofs.TransformDecodeBranches
namespace Penman.C12dec

/-- **side condition of `dereify_edges`**: in its result every `Push` marker still names a variable,
    and `Push(source)` only sits on triples with a string target -/
def DerefSide (m : Model) (g : Graph) : Prop :=
  match dereifyEdges m g with
  | .ok g' => PushAll g'
  | .error _ => True

instance (m : Model) (g : Graph) : Decidable (DerefSide m g) := by
  unfold DerefSide
  cases dereifyEdges m g with
  | ok g' => exact inferInstanceAs (Decidable (PushAll g'))
  | error e => exact isTrue trivial

theorem derefSide_ok {m : Model} {g g' : Graph} (hs : DerefSide m g) (h : dereifyEdges m g = .ok g') :
    PushAll g' := by
  unfold DerefSide at hs; rw [h] at hs; exact hs

theorem collapseOf_epidata {m : Model} {g : Graph} {x : Str} {ag : Agenda}
    (h : collapseOf m g x = some ag) : ∃ i0 sec, ag.epidata = agendaEpis g i0 sec := by
  obtain ⟨i0, f, s2, _, _, he⟩ := collapseOf_entry h
  obtain ⟨s, role, tgt, _, _, rfl⟩ := entryOf_add he
  exact ⟨i0, s2, rfl⟩

theorem mem_agendaEpis {g : Graph} {i0 sec : Triple} {e : Epi} (h : e ∈ agendaEpis g i0 sec) :
    (∃ p i, e = .roleAln p i ∧ AList.get? (getAlignments g false) i0 = some (.aln p i)) ∨
    e ∈ (AList.get? g.epidata sec).getD [] := by
  unfold agendaEpis at h
  rcases List.mem_append.mp h with h | h
  · left
    cases ha : AList.get? (getAlignments g false) i0 with
    | none => rw [ha] at h; simp [alnBack] at h
    | some a =>
      rw [ha] at h
      cases a with
      | aln p i =>
        simp only [alnBack, List.mem_singleton] at h
        exact ⟨p, i, h, rfl⟩
      | roleAln p i => simp [alnBack] at h
      | push v => simp [alnBack] at h
      | pop => simp [alnBack] at h
  · right; exact (List.mem_filter.mp h).1

theorem getAlignments_nil {g : Graph} (h : ∀ p ∈ g.epidata, ∀ e ∈ p.2, e.mode = 0) :
    getAlignments g false = [] := by
  unfold getAlignments
  rw [List.filterMap_eq_nil_iff]
  intro p hp
  obtain ⟨t, epis⟩ := p
  have : epis.filter (fun e => decide (e.mode = 2)) = [] := by
    rw [List.filter_eq_nil_iff]
    intro e he
    simp [h _ hp e he]
  simp only [Bool.false_eq_true, if_false, this, List.getLast?_nil]

/-- which entries survive the marker loop of `dereify_edges` -/
theorem derFold_mem (look : Str → Option Agenda) : ∀ (l : List Triple) (ep : Epidata) (p : Triple × List Epi),
    p ∈ l.foldl (fun ep t => derEp look t ep) ep →
    (p ∈ ep ∧ (p.1 ∉ l ∨ look p.1.src = none)) ∨
    (∃ x ag, look x = some ag ∧ p = (ag.dereified, ag.epidata))
  | [], ep, p, hp => Or.inl ⟨hp, Or.inl (by simp)⟩
  | t :: r, ep, p, hp => by
    rw [List.foldl_cons] at hp
    rcases derFold_mem look r _ p hp with ⟨hp', hr⟩ | h
    · unfold derEp at hp'
      cases hl : look t.src with
      | none =>
        rw [hl] at hp'
        refine Or.inl ⟨hp', ?_⟩
        rcases hr with hr | hr
        · by_cases hpt : p.1 = t
          · right; rw [hpt]; exact hl
          · left; simp [hpt, hr]
        · right; exact hr
      | some ag =>
        rw [hl] at hp'
        have hne : p.1 ≠ t := by
          have := (List.mem_filter.mp hp').2
          simpa using this
        have hp'' := mem_erase_imp hp'
        have hfin : p.1 ∉ t :: r ∨ look p.1.src = none := by
          rcases hr with hr | hr
          · left; simp [hne, hr]
          · right; exact hr
        split at hp''
        · rcases mem_set_imp hp'' with h1 | h1
          · exact Or.inl ⟨h1, hfin⟩
          · exact Or.inr ⟨_, ag, hl, h1⟩
        · exact Or.inl ⟨hp'', hfin⟩
    · exact Or.inr h

/-- a property of markers that holds of every marker of `g` and of the markers the agenda builds
    holds of every marker of the result's table -/
theorem derFold_all (P : Epi → Prop) (look : Str → Option Agenda)
    (hag : ∀ x ag, look x = some ag → ∀ e ∈ ag.epidata, P e) (l : List Triple) (ep : Epidata)
    (h : ∀ p ∈ ep, ∀ e ∈ p.2, P e) :
    ∀ p ∈ l.foldl (fun ep t => derEp look t ep) ep, ∀ e ∈ p.2, P e := by
  intro p hp
  rcases derFold_mem look l ep p hp with ⟨hp', _⟩ | ⟨x, ag, hx, rfl⟩
  · exact h p hp'
  · exact hag x ag hx

section
variable {cfg : LexCfg} {isSpace : Char → Bool} {m : Model} {g : Graph}

theorem agenda_all (P : Epi → Prop) (hP : ∀ p ∈ g.epidata, ∀ e ∈ p.2, P e)
    (hra : ∀ p q j, AList.get? (getAlignments g false) p = some (.aln q j) → P (.roleAln q j)) :
    ∀ x ag, collapseOf m g x = some ag → ∀ e ∈ ag.epidata, P e := by
  intro x ag hx e he
  obtain ⟨i0, sec, hep⟩ := collapseOf_epidata hx
  rw [hep] at he
  rcases mem_agendaEpis he with ⟨p, i, rfl, hget⟩ | he
  · exact hra _ p i hget
  · cases hk : AList.get? g.epidata sec with
    | none => rw [hk] at he; simp at he
    | some es =>
      rw [hk] at he
      exact hP (sec, es) (AList.mem_of_get? hk) e he

/-- the result of a graph without alignment markers has none -/
theorem dereify_modes (hP : ∀ p ∈ g.epidata, ∀ e ∈ p.2, e.mode = 0) {g' : Graph}
    (h : dereifyEdges m g = .ok g') : ∀ p ∈ g'.epidata, ∀ e ∈ p.2, e.mode = 0 := by
  intro p hp
  rw [(dereifyEdges_ok h).2.2.2] at hp
  refine derFold_all (fun e => e.mode = 0) (collapseOf m g) ?_ g.triples g.epidata hP p (mem_ofList_imp hp)
  apply agenda_all (fun e => e.mode = 0) hP
  intro p q j hget
  rw [getAlignments_nil hP] at hget
  simp [AList.get?_nil] at hget

/-- a graph without `Push` markers satisfies the side condition -/
theorem derefSide_of_noPush (hP : ∀ p ∈ g.epidata, ∀ e ∈ p.2, e.isPush = false) : DerefSide m g := by
  unfold DerefSide
  cases h : dereifyEdges m g with
  | error e => trivial
  | ok g' =>
    have hno : ∀ p ∈ g'.epidata, ∀ e ∈ p.2, e.isPush = false := by
      intro p hp
      rw [(dereifyEdges_ok h).2.2.2] at hp
      refine derFold_all (fun e => e.isPush = false) (collapseOf m g) ?_ g.triples g.epidata hP p
        (mem_ofList_imp hp)
      apply agenda_all (fun e => e.isPush = false) hP
      intro _ _ _ _
      rfl
    intro p hp
    refine ⟨fun e he => ?_, Or.inr (Or.inr fun hmem => ?_)⟩
    · have := hno p hp e he
      cases e <;> simp [Epi.isPush, Cfg.pushIn] at this ⊢
    · have := hno p hp _ hmem
      simp [Epi.isPush] at this

theorem instSrcs_derOut (look : Str → Option Agenda)
    (hrole : ∀ x ag, look x = some ag → ag.dereified.role ≠ CONCEPT_ROLE) :
    ∀ (l : List Triple), (instSrcs (l.flatMap (derOut look))).Sublist (instSrcs l)
  | [] => by simp [instSrcs]
  | t :: r => by
    rw [List.flatMap_cons, instSrcs_append, instSrcs_cons t r]
    refine List.Sublist.append ?_ (instSrcs_derOut look hrole r)
    unfold derOut
    cases hl : look t.src with
    | none => exact List.Sublist.refl _
    | some ag =>
      simp only
      split
      · rw [instSrcs_single_not (hrole _ _ hl)]; exact List.nil_sublist _
      · exact List.nil_sublist _

theorem reifRole_ne_concept (hm : ReifWf m) {rf : Reif} (hrf : rf ∈ m.reifs) : rf.role ≠ CONCEPT_ROLE := by
  intro h
  have := hm.2
  unfold Model.isReifiable at this
  rw [List.any_eq_false] at this
  exact this rf hrf (by simp [h])

/-- **`dereify_edges` preserves the invariant**, under `DerefSide` -/
theorem dereifyEdges_decOK (hm : ReifWf m) (htab : TableOK cfg m) (hd : DecOK cfg isSpace m g)
    (hs : DerefSide m g) {g' : Graph} (h : dereifyEdges m g = .ok g') :
    DecOK cfg isSpace m g' ∧ g'.getTop = g.getTop := by
  obtain ⟨ht, htop, hmd, hep⟩ := dereifyEdges_ok h
  have hg := hd.rolesColon
  have hdrole : ∀ x ag, collapseOf m g x = some ag → ag.dereified.role ≠ CONCEPT_ROLE := by
    intro x ag hx
    obtain ⟨_, _, _, ⟨rf, hrf, hrole⟩, _⟩ := collapseOf_some hx
    rw [← hrole]; exact reifRole_ne_concept hm hrf
  have hall : ∀ t1 ∈ g.triples.flatMap (derOut (collapseOf m g)), TripleOK cfg m t1 := by
    intro t1 h1
    rw [List.mem_flatMap] at h1
    obtain ⟨t, htg, h1⟩ := h1
    unfold derOut at h1
    cases hcol : collapseOf m g t.src with
    | none =>
      rw [hcol] at h1
      exact List.mem_singleton.mp h1 ▸ hd.triples _ htg
    | some ag =>
      rw [hcol] at h1
      simp only at h1
      split at h1
      · obtain ⟨_, _, _, ⟨rf, hrf, hrole⟩, hsv⟩ := collapseOf_some hcol
        obtain ⟨_, b, _, hb, _, htb⟩ := collapseOf_ends hcol
        rw [List.mem_singleton.mp h1]
        exact ⟨hrole ▸ (htab.1 rf hrf).1, hd.varOK hsv, htb ▸ (hd.triples b (mem_otherOf hb).1).2.2.1,
          fun hc => absurd hc (hdrole _ _ hcol)⟩
      · cases h1
  have htr' : g'.triples = g.triples.flatMap (derOut (collapseOf m g)) := by
    rw [ht]
    exact map_ensureColon_id (fun t1 h1 => startsWith_of_head (hall t1 h1).1.1)
  have hmodes : ∀ p ∈ g.epidata, ∀ e ∈ p.2, e.mode = 0 := fun p hp => (hd.epi p hp).1
  refine ⟨⟨?_, ?_, ?_, ?_, dereifyEdges_hasInst h hd.hasInst (dereified_src_node hd.hasInst hd.topSrc),
    dereifyEdges_connected h hm hg hd.conn⟩, dereifyEdges_getTop h⟩
  · rw [htr']; exact hall
  · show (instSrcs g'.triples).Nodup
    rw [htr']
    exact (instSrcs_derOut _ hdrole g.triples).nodup hd.oneLabel
  · rw [hmd, wfMeta_ofList hd.metaOK]; exact hd.metaOK
  · intro p hp
    exact ⟨dereify_modes hmodes h p hp, derefSide_ok hs h p hp⟩

end
end Penman.C12dec
