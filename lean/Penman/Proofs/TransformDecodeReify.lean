/-
  Penman.Proofs.TransformDecodeReify — `reify_edges` preserves the invariant `DecOK`
  (hence its result satisfies every hypothesis of `C03Text.C03_text`).
-/
import Penman.Proofs.TransformDecodeBase
namespace Penman.C12dec
open Penman Penman.Spec Penman.C03Text

/-- sources of the node labels, in order -/
def instSrcs (l : List Triple) : List Str := (l.filter (fun t => t.role = CONCEPT_ROLE)).map (·.src)

theorem instSrcs_append (a b : List Triple) : instSrcs (a ++ b) = instSrcs a ++ instSrcs b := by
  simp [instSrcs]

theorem instSrcs_cons (t : Triple) (l : List Triple) : instSrcs (t :: l) = instSrcs [t] ++ instSrcs l :=
  instSrcs_append [t] l

theorem instSrcs_single_inst {t : Triple} (h : t.role = CONCEPT_ROLE) : instSrcs [t] = [t.src] := by
  simp [instSrcs, h]

theorem instSrcs_single_not {t : Triple} (h : t.role ≠ CONCEPT_ROLE) : instSrcs [t] = [] := by
  simp [instSrcs, h]

theorem instSrcs_subset {g : Graph} : ∀ x ∈ instSrcs g.triples, x ∈ g.variables := by
  intro x hx
  simp only [instSrcs, List.mem_map, List.mem_filter] at hx
  obtain ⟨t, ⟨ht, _⟩, rfl⟩ := hx
  exact src_mem_variables ht

theorem edgeMarkers_fst_nil {old : List Epi} (h : ∀ e ∈ old, e.mode = 0) : (edgeMarkers old).1 = [] := by
  have : old.filter (fun e => !e.isPush && !e.isPop && e.mode = 1) = [] := by
    rw [List.filter_eq_nil_iff]
    intro e he
    simp [h e he]
  simp only [edgeMarkers, reifiedMarkers, this, List.filterMap_nil]

section
variable {cfg : LexCfg} {isSpace : Char → Bool} {m : Model} {g : Graph}

/-- if every event yields the label of its original triple and the labels of its new variables,
    old labels are distinct and new variables are distinct and new, then the result has one label
    per variable -/
theorem oneLabel_flatMap {ε : Type} (out : ε → List Triple) (orig : ε → Triple)
    (newVar : ε → List Str) (l : List ε)
    (hev : ∀ e ∈ l, (instSrcs (out e)).Perm (instSrcs [orig e] ++ newVar e))
    (h1 : (instSrcs (l.map orig)).Nodup) (h2 : (l.flatMap newVar).Nodup)
    (h3 : ∀ v ∈ l.flatMap newVar, v ∉ instSrcs (l.map orig)) :
    (instSrcs (l.flatMap out)).Nodup := by
  have hperm : (instSrcs (l.flatMap out)).Perm (instSrcs (l.map orig) ++ l.flatMap newVar) := by
    clear h1 h2 h3
    induction l with
    | nil => exact List.Perm.refl _
    | cons e r ih =>
      rw [List.flatMap_cons, instSrcs_append, List.map_cons, instSrcs_cons, List.flatMap_cons,
        List.append_assoc]
      refine (((hev e (by simp)).append (ih (fun e he => hev e (by simp [he])))).trans ?_)
      rw [List.append_assoc]
      exact (List.perm_append_comm_assoc _ _ _).append_left _
  refine hperm.nodup_iff.mpr (List.nodup_append.mpr ⟨h1, h2, ?_⟩)
  rintro a ha b hb rfl
  exact h3 a hb ha

theorem instSrcs_ev_out (hm : ReifWf m) {e : Ev} (he : EvOk m g e) :
    (instSrcs e.out).Perm (instSrcs [e.orig] ++ e.newVar) := by
  cases e with
  | keep t => exact (List.append_nil _).symm ▸ List.Perm.refl _
  | reif t rf v inv =>
    have hE := hm.1 rf (evOk_reif he).2.1
    have h1 : rf.source ≠ CONCEPT_ROLE := hE.2.2.1
    have h2 : rf.target ≠ CONCEPT_ROLE := hE.2.2.2.1
    have hout : instSrcs (Ev.reif t rf v inv).out = [v] := by
      cases inv <;>
        simp [instSrcs, Ev.out, firstTriple, lastTriple, inTriple, outTriple, nodeTriple, h1, h2]
    rw [hout, Ev.orig, instSrcs_single_not (evOk_reif_role hm he)]
    exact List.Perm.refl _

theorem run_markOK (he : EpiAll g) {rev : List Ev} {st : RState} (hrun : Run m g rev st) :
    ∀ p ∈ st.epidata, MarkOK st.vars p.1 p.2 := by
  induction hrun with
  | nil => exact he
  | keep t _ _ _ ih => exact ih
  | @reif rev0 st0 t rf inv hrun' ht hf hi ih =>
    have hfresh : freshVar st0.vars ∉ st0.vars := freshVar_fresh _
    have hsub : ∀ x ∈ st0.vars, x ∈ freshVar st0.vars :: st0.vars := fun x hx => by simp [hx]
    have htv : t.src ∈ st0.vars := by
      rw [run_vars hrun']; exact List.mem_append_right _ (src_mem_variables ht)
    have hat : firstTriple t rf (freshVar st0.vars) inv ≠ t := by
      intro h; apply hfresh; have := congrArg Triple.src h; simp only [firstTriple_src] at this
      rw [this]; exact htv
    have hold := markOK_get ih t
    have holdeq : (AList.get? (st0.epidata.set (firstTriple t rf (freshVar st0.vars) inv)
        [.push (freshVar st0.vars)]) t).getD [] = (AList.get? st0.epidata t).getD [] := by
      rw [AList.get?_set_ne _ _ hat]
    intro p hp
    simp only [reifSt, holdeq] at hp ⊢
    rcases mem_set_imp hp with hp | rfl
    · rcases mem_set_imp hp with hp | rfl
      · rcases mem_set_imp (mem_erase_imp hp) with hp | rfl
        · exact (ih p hp).mono hsub
        · -- the first triple, carrying `Push v`
          refine ⟨by simp [Epi.mode], by simp [Cfg.pushIn], ?_⟩
          left
          cases inv
          · rfl
          · obtain ⟨_, s, hs, _⟩ := appearsInverted_true hi
            simp [firstTriple, outTriple, hs, tgtStr?]
      · -- the node triple
        rw [edgeMarkers_fst_nil hold.1]
        exact markOK_nil _ _
    · -- the last triple, carrying the migrated markers
      refine ⟨fun e he' => hold.1 e (mem_edgeMarkers_snd he'),
        fun e he' => pushIn_mono hsub (hold.2.1 e (mem_edgeMarkers_snd he')), ?_⟩
      cases inv
      · right; right
        intro hmem
        have := hold.2.1 _ (mem_edgeMarkers_snd hmem)
        simp only [lastTriple, outTriple, Bool.false_eq_true, if_false, Cfg.pushIn] at this
        exact hfresh this
      · left; rfl

theorem reify_vars_sup (hm : ReifWf m) (hg : RolesColon g) {rev : List Ev} {st : RState}
    (hrun : Run m g rev st) (ho : rev.reverse.map Ev.orig = g.triples) (hi : HasInst g) :
    ∀ x ∈ st.vars, x ∈ (reifyResult g st).variables := by
  intro x hx
  rw [run_vars hrun, List.mem_append] at hx
  rcases hx with hx | hx
  · obtain ⟨t, rf, inv, he⟩ := mem_flatMap_newVar.mp hx
    exact src_mem_variables (t := nodeTriple rf x)
      ((mem_reifyResult_triples hm hg hrun).mpr (.inr ⟨t, rf, x, inv, he, .inr (.inl rfl)⟩))
  · rw [mem_variables] at hx
    rcases hx with ⟨t, ht, rfl⟩ | htop
    · exact old_src_var hm hg hrun ho hi t ht
    · rw [mem_variables]; right
      rw [reifyResult_top]; simp [Graph.getTop, htop]

/-- **`reify_edges` preserves the invariant** -/
theorem reifyEdges_decOK (hm : ReifWf m) (htab : TableOK cfg m) (hd : DecOK cfg isSpace m g)
    {g' : Graph} (h : reifyEdges m g = .ok g') : DecOK cfg isSpace m g' ∧ g'.getTop = g.getTop := by
  obtain ⟨rev, st, hrun, ho, rfl⟩ := reifyEdges_ok h
  have hg := hd.rolesColon
  have htr := reifyResult_triples hm hg hrun
  have hok := evOk_rev hrun
  have hnew := run_newVars hrun
  refine ⟨⟨?_, ?_, ?_, ?_, reifyEdges_hasInst hm hg hrun ho hd.hasInst,
    reifyEdges_connected hm hg hrun ho hd.hasInst hd.conn⟩, reifyResult_getTop hrun ho⟩
  · intro t1 h1
    rcases (mem_reifyResult_triples hm hg hrun).mp h1 with he | ⟨t, rf, v, inv, he, h⟩
    · exact hd.triples _ (run_evOk hrun _ he).1
    · obtain ⟨ht, hrf, _, _⟩ := evOk_reif (run_evOk hrun _ he)
      have hT := hd.triples t ht
      have hR := htab.1 rf hrf
      have hE := hm.1 rf hrf
      have hvv : SrcOK cfg v := srcOK_genName htab.2.2 (new_not_var hrun he).2
      rcases h with rfl | rfl | rfl
      · exact ⟨hR.2.1, hvv, atomOK_var hT.2.1, fun h => absurd h hE.2.2.1⟩
      · exact ⟨hd.conceptOK, hvv, hR.2.2.2.1, fun _ => hR.2.2.2.2⟩
      · exact ⟨hR.2.2.1, hvv, hT.2.2.1, fun h => absurd h hE.2.2.2.1⟩
  · show (instSrcs (reifyResult g st).triples).Nodup
    rw [htr]
    have hrev := flatMap_reverse_perm rev Ev.newVar
    refine oneLabel_flatMap Ev.out Ev.orig Ev.newVar _ (fun e he => instSrcs_ev_out hm (hok e he))
      (ho ▸ hd.oneLabel) (hrev.nodup_iff.mpr hnew.1) ?_
    intro v hv hv'
    rw [ho] at hv'
    exact (hnew.2 v (hrev.mem_iff.mp hv)).1 (instSrcs_subset v hv')
  · show WfMeta isSpace (AList.ofList g.metadata)
    rw [wfMeta_ofList hd.metaOK]; exact hd.metaOK
  · intro p hp
    have hp' : p ∈ st.epidata := mem_ofList_imp hp
    exact (run_markOK hd.epi hrun p hp').mono (reify_vars_sup hm hg hrun ho hd.hasInst)

end
end Penman.C12dec
