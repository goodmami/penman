/-
  Penman.Proofs.TransformDecodeTables — a sufficient condition for `TableOK` in terms of declared roles.

  `TableOK` asks `RoleOK` (canonical inversion, ROLE text of the role and of its inversion, no
  inversion to `:instance`) of role / source role / target role of every reification and of the top
  role.  For a role that is DECLARED in the model (`hasRole1`) all of this follows from three
  character-level facts (`roleOK_of_fast`: colon first, no `~`, a ROLE text); `TableFast` asks being
  declared and these three of the duplicate-free list of table roles (`tableRoles`, Transform/Encode).
-/
import Penman.Proofs.TransformDecodeBase
namespace Penman.C12dec
open Penman Penman.Spec Penman.C03Text

/-- a declared role that is a colon-prefixed ROLE text without `~` -/
def RoleFast (cfg : LexCfg) (m : Model) (r : Str) : Prop :=
  m.hasRole1 r = true ∧ r.head? = some ':' ∧ '~' ∉ r ∧ roleB cfg r = true

instance (cfg : LexCfg) (m : Model) (r : Str) : Decidable (RoleFast cfg m r) := by
  unfold RoleFast; infer_instance

def TableFast (cfg : LexCfg) (m : Model) : Prop :=
  OfOK cfg = true ∧ (∀ r ∈ tableRoles m, RoleFast cfg m r) ∧
  (∀ rf ∈ m.reifs, ConceptOK cfg rf.concept) ∧ GenOK cfg

instance (cfg : LexCfg) (m : Model) : Decidable (TableFast cfg m) := by
  unfold TableFast; infer_instance

theorem roleOK_of_fast {cfg : LexCfg} {m : Model} {r : Str} (hof : OfOK cfg = true)
    (h : RoleFast cfg m r) : RoleOK cfg m r := by
  obtain ⟨h1, h2, h3, h4⟩ := h
  exact ⟨h2, h3, by simp [Model.canonInversion, h1], fun hne =>
    ⟨⟨h4, roleB_invertRole hof m h4⟩, roleInvOK_of_declared h1 hne⟩⟩

theorem tableOK_of_fast {cfg : LexCfg} {m : Model} (h : TableFast cfg m) : TableOK cfg m := by
  obtain ⟨hof, hr, hc, hg⟩ := h
  have hmem : ∀ r ∈ tableRoles m, RoleOK cfg m r := fun r hmem => roleOK_of_fast hof (hr r hmem)
  exact ⟨fun rf hrf => ⟨hmem _ (mem_tableRoles hrf).1, hmem _ (mem_tableRoles hrf).2.1,
    hmem _ (mem_tableRoles hrf).2.2, hc rf hrf⟩, hmem _ (topRole_mem_tableRoles m), hg⟩

end Penman.C12dec
