/-
  `parse_triples` (model: `parseTriplesToks`) is `Spec.TripleAutomaton.run`; viable prefixes
  and the position of a rejection, by the scheme of `run_rejectAt` / `run_exhausted` in
  `Proofs/ParseLemmas.lean` for the other machine.
-/
import Penman.Spec.TripleAutomaton
import Penman.Proofs.ParseTriples
import Penman.Proofs.ParseLemmas
namespace Penman.TripleAut
open Penman.Spec.TripleAutomaton
open Penman.Spec.Automaton (isAtomTok)

theorem isAtomTok_eq (t : Tok) : isAtomTok t = isSymOrStr t := rfl

theorem report_eq_toExcept (all : List Tok) (o : Outcome) : o.report all = o.toExcept ⟨eofPos all⟩ := by
  cases o with
  | accept trs => rfl
  | rejectAt t => rfl
  | exhausted => simp [Outcome.report, Outcome.toExcept, PCtx.eofErr, endPos_eq_eofPos]

/-- **`parse_triples` is the machine** -/
theorem parseTriplesToks_eq (toks : List Tok) : parseTriplesToks toks = run toks := by
  rw [run, report_eq_toExcept, parseTriplesToks, parseTriplesLoop_eq_headRun _ _ _ _ _ (Nat.lt_succ_self _),
    headRun_false]
  rfl

theorem parseTriplesLoop_eq (c : PCtx) (f : Nat) (toks : List Tok) (acc : List Triple) (hf : toks.length < f) :
    parseTriplesLoop c f false toks acc = (loop ⟨.expectRole, acc.reverse⟩ toks).toExcept c := by
  rw [parseTriplesLoop_eq_headRun c f false toks acc hf, headRun_false]

/-- a decode error comes from a rejected token (kind 1) or from the end of the input (kind 0) -/
theorem parseTriplesToks_decode {toks : List Tok} {l k n : Nat}
    (h : parseTriplesToks toks = .error (.decode l k n)) :
    (∃ t, runOutcome toks = .rejectAt t ∧ l = t.lineno ∧ k = t.offset ∧ n = 1) ∨
    (runOutcome toks = .exhausted ∧ (l, k) = eofPos toks ∧ n = 0) := by
  rw [parseTriplesToks_eq, run, report_eq_toExcept] at h
  cases hr : runOutcome toks with
  | accept trs => rw [hr] at h; cases h
  | rejectAt t => rw [hr] at h; cases h; exact .inl ⟨t, rfl, rfl, rfl, rfl⟩
  | exhausted => rw [hr] at h; cases h; exact .inr ⟨rfl, rfl, rfl⟩

theorem loop_append_of_steps (cfg cfg' : Config) (pre ext : List Tok) (h : steps cfg pre = some cfg') :
    loop cfg (pre ++ ext) = loop cfg' ext := by
  induction pre generalizing cfg with
  | nil => simp [steps] at h; simp [h]
  | cons t ts ih =>
    simp only [steps] at h
    split at h
    · rename_i cfg1 hs
      simp only [List.cons_append, loop, hs]
      exact ih _ h
    · cases h

theorem loop_rejectAt (cfg : Config) (toks : List Tok) (t : Tok) (h : loop cfg toks = .rejectAt t) :
    ∃ pre post cfg', toks = pre ++ t :: post ∧ steps cfg pre = some cfg' ∧ step cfg' t = .reject := by
  induction toks generalizing cfg with
  | nil => obtain ⟨st, acc⟩ := cfg; cases st <;> simp [loop, atEnd] at h
  | cons u us ih =>
    simp only [loop] at h
    split at h
    · rename_i cfg1 hs
      obtain ⟨pre, post, cfg', e, s, r⟩ := ih _ h
      exact ⟨u :: pre, post, cfg', by simp [e], by simp [steps, hs, s], r⟩
    · cases h
    · rename_i hs
      cases h
      exact ⟨[], us, cfg, rfl, rfl, hs⟩

theorem loop_exhausted (cfg : Config) (toks : List Tok) (h : loop cfg toks = .exhausted) :
    ∃ cfg', steps cfg toks = some cfg' := by
  induction toks generalizing cfg with
  | nil => exact ⟨cfg, rfl⟩
  | cons u us ih =>
    simp only [loop] at h
    split at h
    · rename_i cfg1 hs
      obtain ⟨cfg', s⟩ := ih _ h
      exact ⟨cfg', by simp [steps, hs, s]⟩
    · cases h
    · cases h

def symTok : Tok := ⟨.SYMBOL, ['a'], 0, 0⟩

/-- every configuration can be completed to an accepted input -/
theorem completable (cfg : Config) : ∃ ext trs, loop cfg ext = .accept trs := by
  obtain ⟨st, acc⟩ := cfg
  cases st with
  | expectRole => exact ⟨[symTok, lpTok, symTok, rpTok], _, rfl⟩
  | expectOpen role => exact ⟨[lpTok, symTok, rpTok], _, rfl⟩
  | expectSource role => exact ⟨[symTok, rpTok], _, rfl⟩
  | afterSource role src cm => exact ⟨[rpTok], _, rfl⟩
  | expectClose role src tgt => exact ⟨[rpTok], _, rfl⟩
  | afterTriple => exact ⟨[], _, rfl⟩

theorem viable_of_steps (pre : List Tok) (cfg : Config) (h : steps init pre = some cfg) : Viable pre := by
  obtain ⟨ext, trs, hn⟩ := completable cfg
  exact ⟨ext, trs, by rw [runOutcome, loop_append_of_steps _ _ _ _ h, hn]⟩

theorem not_viable_of_reject (pre : List Tok) (t : Tok) (cfg : Config)
    (h : steps init pre = some cfg) (hr : step cfg t = .reject) : ¬ Viable (pre ++ [t]) := by
  rintro ⟨ext, trs, ha⟩
  rw [runOutcome, List.append_assoc, loop_append_of_steps _ _ _ _ h] at ha
  simp [loop, hr] at ha

/-- the machine rejects at `t` : `t` is in the input, what precedes it is a
    viable prefix, and with `t` it is not -/
theorem run_rejectAt (toks : List Tok) (t : Tok) (h : runOutcome toks = .rejectAt t) :
    ∃ pre post, toks = pre ++ t :: post ∧ Viable pre ∧ ¬ Viable (pre ++ [t]) := by
  obtain ⟨pre, post, cfg, e, s, r⟩ := loop_rejectAt _ _ _ h
  exact ⟨pre, post, e, viable_of_steps pre cfg s, not_viable_of_reject pre t cfg s r⟩

/-- the machine runs out of input: all of it is a viable prefix -/
theorem run_exhausted (toks : List Tok) (h : runOutcome toks = .exhausted) : Viable toks := by
  obtain ⟨cfg, s⟩ := loop_exhausted _ _ h
  exact viable_of_steps toks cfg s

end Penman.TripleAut
