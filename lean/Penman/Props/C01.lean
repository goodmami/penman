/-
# C01 — Text <-> tree is lossless under every formatting option

Model: `format`, `formatNode`, `formatEdges`, `joinParts`, `formatMeta` (`Penman/Format.lean`),
`lexStr`, `splitLines` (`Penman/Lexer.lean`), `parseToks` (`Penman/Parse.lean`).
`parse cfg isSpace s` below is `penman.parse(s)` for a `str` argument:
`parseToks isSpace (lexStr cfg cfg.penmanOrder s)`.

Hypotheses (all decidable, `Penman/Spec/TextWf.lean`):
* `FmtCfgWf cfg` on the lexer tables (`CfgWf` of C08, plus: space and line feed are blanks,
  COMMENT is the first alternative, the PENMAN order has all classes); holds for the generated
  tables: `fmt_cfg_wf`.
* `WfTreeText cfg t` — "assembled from grammar-valid variables, roles, atoms, alignments":
  variable = SYMBOL text; `/` only as first role with an atomic target; other roles = ROLE text
  (so with the leading colon) optionally + ALIGNMENT text; atoms = missing, or SYMBOL / STRING text
  optionally + ALIGNMENT text; no numbers; `()` allowed (also nested); a node whose variable is
  the EMPTY STRING is excluded (it is written `()` and read back without variable); no raw
  `\n` / `\r` in any text (a STRING literal may contain a line feed as far as the STRING pattern
  is concerned, but `lex` of a `str` splits lines first).  `wfTreeText_iff`: equivalently, `t`
  is the abstract tree of a well-formed concrete syntax tree (C07's `CNode`) whose token texts are
  in the languages of their classes (C08's `Lang`).
* `WfMeta isSpace md` — "…and metadata": distinct keys; key without space, not starting with
  `:`, without `::` (it may be empty); value without `::`, equal to its own `rstrip()`; no raw
  line break in either.

Property text ↦ theorems
* "For every tree the parser can produce …" ↦ `parse_wf` (what `parse` returns IS `WfTreeText`
  and `WfMeta`; uses the C08 lexer specification), so everything below applies to it.
* "… and every tree assembled from grammar-valid variables, roles, atoms, alignments and
  metadata, writing it with any indentation (none, adaptive, or a fixed width) and either
  compactness setting and parsing the text again yields an equal tree with equal metadata"
  ↦ `C01_roundtrip` (for EVERY `indent : Option Int`, including negative widths, and both
  `compact`); the lexical half is `format_lex` (the tokens of the formatted text: one COMMENT
  per metadata line, then a token list of the tree in the sense of C07's `TreeToks`).
* "The texts produced under different options differ only in whitespace between tokens"
  ↦ `C01_whitespace` (same (type, text) token sequence under all options),
  `C01_whitespace_woven` (every formatted text is `Woven` from its token texts: it is
  `g₀ t₁ g₁ … tₙ gₙ` with `tᵢ` the token texts and every gap `gᵢ` made of spaces and line feeds
  only), `C01_whitespace_only` (so two formatted texts of the same tree are woven from the SAME
  list of texts: they are equal up to spaces / line feeds between tokens); also
  `C01_whitespace_gaps` (C08: in every line the tokens carry their exact text at their offset
  and everything outside the tokens is blank).
* "the formatted text of any accepted input is a fixed point of parse-then-format"
  ↦ `C01_fixed_point` (unconditional: no hypothesis on the metadata of the input is needed,
  `parse_wf` shows the parser's metadata is always `WfMeta`), `C01_fixed_point_text`.

The `example`s at the end show that the hypotheses of `WfTreeText` are needed (role without colon,
number atom, empty-string variable, line feed inside a string).
-/
import Penman.Proofs.ParseWf
import Penman.Proofs.FormatWoven
import Penman.Props.C07
import Penman.Props.C08
import Penman.Generated
import Penman.Proofs.Eval

namespace Penman.C01
open Penman.Spec Penman.Lex Penman.FL

/-- `penman.parse(s)` for a `str` -/
abbrev parse (cfg : LexCfg) (isSpace : Char → Bool) (s : Str) : Except PyErr Tree :=
  parseToks isSpace (lexStr cfg cfg.penmanOrder s)

/-- the generated lexer tables satisfy the hypothesis of all theorems below -/
theorem fmt_cfg_wf : FmtCfgWf Generated.lexCfg = true := by decide +kernel

/-- `WfTreeText` = abstract tree of a well-formed concrete syntax tree with good token texts -/
theorem wfTreeText_iff {cfg : LexCfg} (hw : FmtCfgWf cfg = true) (t : Node) :
    WfTreeText cfg t ↔ ∃ k : CNode, (k.wf = true ∧ ∀ x ∈ k.toks, TokGood cfg x) ∧ k.tree = t :=
  ⟨wfNode_cst (FmtCfgWf.toP hw).base t, by rintro ⟨k, hk, rfl⟩; exact cst_wfNode (FmtCfgWf.toP hw).base k hk⟩

/-- what `WfMeta` says, item by item -/
theorem wfMeta_iff (isSpace : Char → Bool) (md : AList Str Str) :
    WfMeta isSpace md ↔ (md.map (·.1)).Pairwise (· ≠ ·) ∧ ∀ kv ∈ md,
      ' ' ∉ kv.1 ∧ kv.1.head? ≠ some ':' ∧ hasColons kv.1 = false ∧ hasColons kv.2 = false ∧
      rstripBy isSpace kv.2 = kv.2 ∧ NoBreak kv.1 ∧ NoBreak kv.2 := by
  simp only [WfMeta, List.all_eq_true, metaItemB, Bool.and_eq_true, Bool.not_eq_true',
    List.contains_eq_mem, decide_eq_false_iff_not, bne_iff_ne, ne_eq, beq_iff_eq, noBreakB_iff]
  constructor
  · rintro ⟨h1, h2⟩
    exact ⟨h1, fun kv hkv => by obtain ⟨⟨⟨⟨⟨⟨a, b⟩, c⟩, d⟩, e⟩, f⟩, g⟩ := h2 kv hkv; exact ⟨a, b, c, d, e, f, g⟩⟩
  · rintro ⟨h1, h2⟩
    exact ⟨h1, fun kv hkv => by obtain ⟨a, b, c, d, e, f, g⟩ := h2 kv hkv; exact ⟨⟨⟨⟨⟨⟨a, b⟩, c⟩, d⟩, e⟩, f⟩, g⟩⟩

theorem wfMeta_noBreak {isSpace : Char → Bool} {md : AList Str Str} (h : WfMeta isSpace md) :
    ∀ kv ∈ md, NoBreak kv.1 ∧ NoBreak kv.2 := fun kv hkv =>
  let h' := ((wfMeta_iff isSpace md).1 h).2 kv hkv
  ⟨h'.2.2.2.2.2.1, h'.2.2.2.2.2.2⟩

/-! ## format ∘ lex -/

/-- **the tokens of a formatted tree**, for every indentation (`none`, `some (-1)` adaptive,
    `some n` fixed, any other negative number) and both compactness settings:
    `cs ++ ts` with `cs` one COMMENT token per metadata line `# ::key value` (in order) and
    `ts` a token list of the tree (`TreeToks`: the grammar's derivation of `t`, ALIGNMENT tokens
    split off, positions irrelevant). -/
theorem format_lex {cfg : LexCfg} (hw : FmtCfgWf cfg = true) (t : Node) (md : AList Str Str)
    (ht : WfTreeText cfg t) (hmd : ∀ kv ∈ md, NoBreak kv.1 ∧ NoBreak kv.2) (i : Indent) (c : Bool) :
    ∃ cs ts, lexStr cfg cfg.penmanOrder (format ⟨t, md⟩ i c) = cs ++ ts ∧
      (∀ x ∈ cs, x.ty = .COMMENT) ∧ cs.map (·.text) = formatMeta md ∧ TreeToks t ts := by
  have hwp := FmtCfgWf.toP hw
  obtain ⟨k, hk, rfl⟩ := wfNode_cst hwp.base t ht
  obtain ⟨cs, ts, e, h1, h2, h3⟩ := split_comments (format_lexC hwp k hk md hmd i c)
  exact ⟨cs, ts, e, h1, h2, treeToks_of_core hk.1 h3⟩

/-! ## parse ∘ format -/

/-- the parser reads back a text whose tokens are one COMMENT per metadata line of `md` and a
    token list of `t` -/
theorem parse_of_toks {cfg : LexCfg} (isSpace : Char → Bool) {s : Str} {t : Node} {md : AList Str Str}
    (hmd : WfMeta isSpace md)
    (h : ∃ cs ts, lexStr cfg cfg.penmanOrder s = cs ++ ts ∧
      (∀ x ∈ cs, x.ty = .COMMENT) ∧ cs.map (·.text) = formatMeta md ∧ TreeToks t ts) :
    parse cfg isSpace s = .ok ⟨t, md⟩ := by
  obtain ⟨cs, ts, e, h1, h2, h3⟩ := h
  have hp := C07.parseToks_treeToks isSpace cs t ts [] h1 h3
  rw [List.append_nil] at hp
  rw [parse, e, hp]
  have hmd' := (wfMeta_iff isSpace md).1 hmd
  rw [C07.metadata_fmtLines isSpace md cs h2 hmd'.1 (fun kv hkv => by
    obtain ⟨a, b, c', d, e', -, -⟩ := hmd'.2 kv hkv
    rw [hasColons_eq] at c' d
    exact ⟨(entry_ok_iff kv.1 kv.2).2 ⟨a, b, c', d⟩, e'⟩)]

/-- **Round trip.**  Writing a well-formed tree with well-formed metadata with any indentation
    and either compactness setting and parsing the text again yields the same tree with the
    same metadata (same keys, values and order). -/
theorem C01_roundtrip {cfg : LexCfg} (hw : FmtCfgWf cfg = true) (isSpace : Char → Bool) (t : Node)
    (md : AList Str Str) (ht : WfTreeText cfg t) (hmd : WfMeta isSpace md) (i : Indent) (c : Bool) :
    parse cfg isSpace (format ⟨t, md⟩ i c) = .ok ⟨t, md⟩ :=
  parse_of_toks isSpace hmd (format_lex hw t md ht (wfMeta_noBreak hmd) i c)

/-- the (type, text) sequence of the tokens of a formatted tree does not depend on the
    formatting options: the texts differ only between tokens -/
theorem C01_whitespace {cfg : LexCfg} (hw : FmtCfgWf cfg = true) (t : Node) (md : AList Str Str)
    (ht : WfTreeText cfg t) (hmd : ∀ kv ∈ md, NoBreak kv.1 ∧ NoBreak kv.2) (i i' : Indent) (c c' : Bool) :
    (lexStr cfg cfg.penmanOrder (format ⟨t, md⟩ i c)).map (fun x => (x.ty, x.text)) =
    (lexStr cfg cfg.penmanOrder (format ⟨t, md⟩ i' c')).map (fun x => (x.ty, x.text)) := by
  have hwp := FmtCfgWf.toP hw
  obtain ⟨k, hk, rfl⟩ := wfNode_cst hwp.base t ht
  exact (format_lexC hwp k hk md hmd i c).trans (format_lexC hwp k hk md hmd i' c').symm

/-- every formatted text consists of its token texts, in order, with nothing but spaces and
    line feeds before, between and after them -/
theorem C01_whitespace_woven {cfg : LexCfg} (hw : FmtCfgWf cfg = true) (t : Node) (md : AList Str Str)
    (ht : WfTreeText cfg t) (hmd : ∀ kv ∈ md, NoBreak kv.1 ∧ NoBreak kv.2) (i : Indent) (c : Bool) :
    Woven ((lexStr cfg cfg.penmanOrder (format ⟨t, md⟩ i c)).map (·.text)) (format ⟨t, md⟩ i c) := by
  have hwp := FmtCfgWf.toP hw
  obtain ⟨k, hk, rfl⟩ := wfNode_cst hwp.base t ht
  have h := congrArg (List.map Prod.snd) (format_lexC hwp k hk md hmd i c)
  simp only [lexP, lexC, List.map_map, List.map_append] at h
  have e : (lexStr cfg cfg.penmanOrder (format ⟨k.tree, md⟩ i c)).map (·.text) =
      formatMeta md ++ k.toks.map (·.text) := by
    simpa [Function.comp_def, core] using h
  rw [e]
  exact format_woven k hk md i c

/-- **the texts produced under different options differ only in whitespace between tokens**:
    both are woven (gaps of spaces and line feeds only) from one and the same list of token
    texts -/
theorem C01_whitespace_only {cfg : LexCfg} (hw : FmtCfgWf cfg = true) (t : Node) (md : AList Str Str)
    (ht : WfTreeText cfg t) (hmd : ∀ kv ∈ md, NoBreak kv.1 ∧ NoBreak kv.2) (i i' : Indent) (c c' : Bool) :
    ∃ texts : List Str, texts = (lexStr cfg cfg.penmanOrder (format ⟨t, md⟩ i c)).map (·.text) ∧
      Woven texts (format ⟨t, md⟩ i c) ∧ Woven texts (format ⟨t, md⟩ i' c') := by
  refine ⟨_, rfl, C01_whitespace_woven hw t md ht hmd i c, ?_⟩
  have h := congrArg (List.map Prod.snd) (C01_whitespace hw t md ht hmd i i' c c')
  simp only [List.map_map, Function.comp_def] at h
  rw [h]
  exact C01_whitespace_woven hw t md ht hmd i' c'

/-- … and what lies between the tokens is blank (C08, for every string): in each line the
    tokens are in order, carry exactly the text at their offset, and every other character of
    the line is a blank. -/
theorem C01_whitespace_gaps {cfg : LexCfg} (hw : FmtCfgWf cfg = true) (T : Tree) (i : Indent) (c : Bool) :
    ∀ line ∈ splitLines (format T i c), ∀ n, Tiling cfg n line (lexLine cfg cfg.penmanOrder n line) :=
  fun line _ n => C08.lex_tiles (orderWf_mem (FmtCfgWf.toP hw).base.penman_order) n line

/-! ## what the parser produces -/

/-- **every tree (and metadata) the parser can produce from a string is grammar-valid** -/
theorem parse_wf {cfg : LexCfg} (hw : FmtCfgWf cfg = true) (isSpace : Char → Bool) (s : Str) (T : Tree)
    (h : parse cfg isSpace s = .ok T) : WfTreeText cfg T.node ∧ WfMeta isSpace T.metadata := by
  have hwp := FmtCfgWf.toP hw
  have hg := lexStr_good hwp s
  obtain ⟨⟨k, k1, k2, k3⟩, hm⟩ := parseToks_good isSpace _ T h (fun t ht => (hg t ht).2.1)
  exact ⟨k2 ▸ cst_wfNode hwp.base k ⟨k1, fun t ht => hg t (k3 t ht)⟩, hm⟩

/-- **Fixed point.**  For any accepted input `s` with `parse s = T`: under every formatting
    option `parse (format T) = T` … -/
theorem C01_fixed_point {cfg : LexCfg} (hw : FmtCfgWf cfg = true) (isSpace : Char → Bool) (s : Str)
    (T : Tree) (h : parse cfg isSpace s = .ok T) (i : Indent) (c : Bool) :
    parse cfg isSpace (format T i c) = .ok T := by
  obtain ⟨h1, h2⟩ := parse_wf hw isSpace s T h
  exact C01_roundtrip hw isSpace T.node T.metadata h1 h2 i c

/-- … hence the formatted text is a fixed point of parse-then-format (with the same options,
    or any other options `i'`, `c'` on both sides) -/
theorem C01_fixed_point_text {cfg : LexCfg} (hw : FmtCfgWf cfg = true) (isSpace : Char → Bool) (s : Str)
    (T : Tree) (h : parse cfg isSpace s = .ok T) (i i' : Indent) (c c' : Bool) :
    (parse cfg isSpace (format T i c)).map (format · i' c') = .ok (format T i' c') := by
  rw [C01_fixed_point hw isSpace s T h i c]; rfl

/-! ## non-vacuity: `(a / b~e.1 :ARG0 (c / "x y") :mod-of a)` with metadata -/

def isSp (c : Char) : Bool := Generated.spaceChars.contains c

def exNode : Node :=
  .mk (some "a".toList) (.atom "/".toList (.str "b~e.1".toList)
    (.sub ":ARG0".toList (.mk (some "c".toList) (.atom "/".toList (.str "\"x y\"".toList) .nil))
      (.atom ":mod-of".toList (.str "a".toList) .nil)))

def exMeta : AList Str Str := [("id".toList, "1".toList), ("snt".toList, "x: y".toList), ("e".toList, [])]

def exTree : Tree := ⟨exNode, exMeta⟩

attribute [eval_unfold] exNode exMeta exTree

theorem exNode_wf : WfTreeText Generated.lexCfg exNode := by eval_decide
theorem exMeta_wf : WfMeta isSp exMeta := by eval_decide
example : WfTreeText Generated.lexCfg exNode := exNode_wf
example : WfMeta isSp exMeta := exMeta_wf

example : format exTree none false =
    "# ::id 1\n# ::snt x: y\n# ::e\n(a / b~e.1 :ARG0 (c / \"x y\") :mod-of a)".toList := by eval_decide
example : format exTree (some (-1)) false =
    "# ::id 1\n# ::snt x: y\n# ::e\n(a / b~e.1\n   :ARG0 (c / \"x y\")\n   :mod-of a)".toList := by eval_decide
example : format exTree (some 2) true =
    "# ::id 1\n# ::snt x: y\n# ::e\n(a / b~e.1\n  :ARG0 (c / \"x y\")\n  :mod-of a)".toList := by eval_decide

/-- `C01_roundtrip` applies to `exTree`, for every indentation and compactness setting -/
theorem ex_roundtrip (i : Indent) (c : Bool) : parse Generated.lexCfg isSp (format exTree i c) = .ok exTree :=
  C01_roundtrip fmt_cfg_wf isSp exNode exMeta exNode_wf exMeta_wf i c

/-- through the real `format` / `lexStr` / `parseToks` -/
example : (parse Generated.lexCfg isSp (format exTree none false)).toOption.map (fun T => (T.node == exNode, T.metadata))
    = some (true, exMeta) := by rw [ex_roundtrip]; eval_decide
example : (parse Generated.lexCfg isSp (format exTree (some (-1)) true)).toOption.map (fun T => (T.node == exNode, T.metadata))
    = some (true, exMeta) := by rw [ex_roundtrip]; eval_decide
example : (parse Generated.lexCfg isSp (format exTree (some 4) false)).toOption.map (fun T => (T.node == exNode, T.metadata))
    = some (true, exMeta) := by rw [ex_roundtrip]; eval_decide

example (i : Indent) (c : Bool) : parse Generated.lexCfg isSp (format exTree i c) = .ok exTree :=
  ex_roundtrip i c

example (i i' : Indent) (c c' : Bool) :
    ∃ texts, Woven texts (format exTree i c) ∧ Woven texts (format exTree i' c') := by
  obtain ⟨texts, -, h1, h2⟩ := C01_whitespace_only fmt_cfg_wf exNode exMeta exNode_wf
    (wfMeta_noBreak (isSpace := isSp) exMeta_wf) i i' c c'
  exact ⟨texts, h1, h2⟩

/-- an accepted input with two metadata items on one line (stored right to left), a comment
    without `::`, an alignment, a string, an empty node and a missing target -/
def exInput : Str :=
  "# ::id 1 ::snt x y\n# hello\n(a / b~e.1 :ARG0~2 (c / \"x y\") :mod-of a :x () :y)".toList

example : (parse Generated.lexCfg isSp exInput).toOption.map (·.metadata) =
    some [("snt".toList, "x y".toList), ("id".toList, "1".toList)] := by delta exInput; eval_decide

example (T : Tree) (h : parse Generated.lexCfg isSp exInput = .ok T) (i : Indent) (c : Bool) :
    parse Generated.lexCfg isSp (format T i c) = .ok T :=
  C01_fixed_point fmt_cfg_wf isSp exInput T h i c

/-! ## the hypotheses are needed -/

/-- a role without colon gets one: the tree is not read back -/
example : format ⟨.mk (some "a".toList) (.atom "ARG0".toList (.str "b".toList) .nil), []⟩ none false
    = "(a :ARG0 b)".toList := by eval_decide
/-- a node whose variable is the empty string is written `()` -/
example : format ⟨.mk (some []) (.atom ":r".toList (.str "b".toList) .nil), []⟩ none false = "()".toList := by decide
/-- a number is read back as a string -/
example : format ⟨.mk (some "a".toList) (.atom ":r".toList (.num "1".toList) .nil), []⟩ none false
    = "(a :r 1)".toList := by eval_decide
/-- a raw line feed inside a string literal: the STRING pattern allows it, line splitting does not -/
example : (parse Generated.lexCfg isSp
    (format ⟨.mk (some "a".toList) (.atom ":r".toList (.str "\"x\ny\"".toList) .nil), []⟩ none false)).toOption.isNone
    = true := by eval_decide

end Penman.C01
