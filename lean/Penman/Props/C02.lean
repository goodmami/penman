import Penman.Proofs.LayoutRoundTrip
import Penman.Proofs.ConfigureEval
import Penman.Proofs.Eval
import Penman.Main
import Penman.Generated
/-!
# C02 — decode then encode reproduces the layout that was written

Model functions: `interpret` (`interpretNode`/`interpretBranches`, `processRole`,
`processAtomic`, `alnFromString`, `appendPopLast`, `epimapOf`), `Graph.mk'`,
`configure` (`preconfigure`/`preconfEpis`, `configureNode`, `orient`, `pushVar`,
`stripPops`, `configureLoop`, `buildNode`/`buildBranches`, `applyEpis`,
`alnToString`), `Model.invert/deinvert/isRoleInverted/invertRole`; for the text
level `format` and the command path `processTree` (Penman/Main.lean).
Specification vocabulary (`dropNullConcept`, `WfLayout`, `roleOk`, `atomOk`,
`MetaDict`) is in Penman/Spec/WfLayout.lean; the proof is in
Penman/Proofs/Layout*.lean (association lists: Penman/Proofs/AssocList); Penman/Proofs/ConfigureEval holds
`configure'`, the twin of `configure` that the kernel can evaluate (`C02.configure_eq`).

Clause of the property text                              ↦ theorem(s)
-------------------------------------------------------------------------------------------
"for every well-formed tree (each variable defined       ↦ hypothesis `WfLayout isAlpha m t.node`
  once, denoted triples pairwise distinct, roles in         (decidable; `wfNodeB`, `Node.vars.Nodup`,
  canonical inversion form, no inverted self-loop)"         `distinctTriplesB`)
"and every semantic model"                               ↦ `m : Model` is universally quantified with
                                                            NO hypothesis (no `ModelWf` is needed: the
                                                            per-role condition `invertRole (invertRole r) = r`
                                                            of `roleOk` is all the proof uses; it also
                                                            holds for the no-op model, where `deinvert`
                                                            is the identity)
"interpreting the tree to a graph and configuring the    ↦ `C02_layout`, `C02_layout_dict`
  graph back gives an equal tree"
"encode(decode(s)) is exactly the normal-form text of s: ↦ `C02_text`, `C02_command`
  same nesting, branch order, inverted roles, alignments
  and metadata"
"the only normalisation allowed is that an empty concept ↦ `dropNullConcept` in the statements;
  slot `(a /)` is written `(a)`"                            `dropNull_id` (nothing else changes),
                                                            the example on `(a /)` after `ex3`
"nodes without a concept, re-entrancies and cycles back  ↦ covered by `C02_layout` (no hypothesis excludes
  to an enclosing node are all reproduced"                  them); examples `ex1`, `ex2`, `ex3`
the intermediate facts                                   ↦ `C02.interp_node` (closed form of `interpret`),
                                                            `C02.pre_node` (`preconfigure` gives `dNode`),
                                                            `C02.cn_node`/`C02.cn_branches` (the key lemma:
                                                            `configureNode` consumes exactly the data of a
                                                            subtree, returns at its own POP and leaves the
                                                            store `C02.storeN`),
                                                            `Cfg.cn_fuel` (fuel irrelevance),
                                                            `C02.build_node`

`WfLayout isAlpha m n` (Spec/WfLayout.lean) says, beyond the four conditions the text names:
every node has a variable; `/` occurs only as first branch and has an atomic target; every
other role text is accepted by `_process_role`, its core starts with `:`, is not `:instance`
and does not invert to `:instance`, and re-appending `str(marker)` to the core gives the
text back (canonical alignment suffix: `~01` is read as `1`, boundary O9); atomic targets
are `None` or a string with a non-empty core and a canonical alignment suffix.
"Canonical inversion form" is required in the weakest form the proof needs: a role the model
regards as inverted must satisfy `invertRole (invertRole r) = r`; nothing is asked of roles
that are not inverted. The self-loop clause is only required when the model deinverts
(`deinverts m r`), so the no-op model needs nothing there. `isAlpha` is the Unicode table
`str.isalpha` the model is parametric in (alignment prefixes), universally quantified.

`C02_layout` additionally assumes `MetaDict t.metadata` (metadata keys distinct). This is the
representation invariant of a Python `dict` in the association-list model (`Graph.mk'` copies the
metadata with `AList.ofList`); `C02_layout_dict` is the statement without it.

Fuel: `configure` is the fuel-instantiated top-level function; the proof shows its own fuels
suffice (`cn_fuel` for `configureNode`; `configureLoop` is entered with no data and returns at
once; `buildNode` needs at most `2·|vars| - 1 ≤ 2·|cells| + 2`, lemma `C02.need_node`).

Necessity of the hypotheses (section `Boundaries`): `/` not first (reachable through the tree
API only, the parser rejects it), an explicit `:instance` role, a non-canonical alignment `~01`,
an inverted self-loop, an over-inverted role `:R-of-of`, a duplicated triple, a duplicated
variable, a repeated metadata key. Each negation is proved by running the model in the kernel
(`eval_decide`) after rewriting `configure` to its twin `configure'` (`roundTrip_eval`;
`buildNode` itself is compiled by well-founded recursion and does not reduce); the same runs on
/repo give the same results. The round trips of the well-formed examples `ex1`–`ex3` are not
run: `roundTrip_wf` takes the result from `C02_layout_dict` and only the comparison with the
expected tree is evaluated.
-/
namespace Penman.C02P
open Penman Penman.C02

variable (isAlpha : Char → Bool) (m : Model)

/-- `configure ∘ interpret` is `dropNullConcept` on well-formed trees, for every model. -/
theorem C02_layout_dict (t : Tree) (ht : WfLayout isAlpha m t.node) :
    ∃ g, interpret isAlpha m t = .ok g ∧
      configure m g none = .ok ⟨dropNullConcept t.node, AList.ofList t.metadata⟩ :=
  layout_main isAlpha m t ht

/-- **C02.** Interpreting a well-formed tree and configuring the graph back gives the
    same tree, up to writing an empty concept slot `(a /)` as `(a)`. -/
theorem C02_layout (t : Tree) (ht : WfLayout isAlpha m t.node) (hmd : MetaDict t.metadata) :
    ∃ g, interpret isAlpha m t = .ok g ∧
      configure m g none = .ok ⟨dropNullConcept t.node, t.metadata⟩ := by
  obtain ⟨g, h1, h2⟩ := layout_main isAlpha m t ht
  exact ⟨g, h1, by rw [h2, ofList_nodup t.metadata hmd]⟩

/-- text level: for every indentation and compactness, the encoded text of the decoded
    graph is the formatted text of the normal form of the parsed tree `T`. -/
theorem C02_text (T : Tree) (ht : WfLayout isAlpha m T.node) (hmd : MetaDict T.metadata)
    (i : Indent) (c : Bool) :
    ∃ g T', interpret isAlpha m T = .ok g ∧ configure m g none = .ok T' ∧
      format T' i c = format ⟨dropNullConcept T.node, T.metadata⟩ i c := by
  obtain ⟨g, h1, h2⟩ := C02_layout isAlpha m T ht hmd
  exact ⟨g, _, h1, h2, rfl⟩

/-- the command without transformation options prints the normal form, status 0 -/
theorem C02_command (u : UTables) (T : Tree) (ht : WfLayout u.isAlpha m T.node)
    (hmd : MetaDict T.metadata) (i : Indent) (c : Bool) :
    processTree u m { indent := i, compact := c } T =
      .ok (format ⟨dropNullConcept T.node, T.metadata⟩ i c, 0) := by
  obtain ⟨g, h1, h2⟩ := C02_layout u.isAlpha m T ht hmd
  simp [processTree, processIn, processOut, h1, h2, bind, Except.bind, pure, Except.pure]

mutual
/-- `dropNullConcept` changes nothing but empty concept slots -/
theorem dropNull_id : ∀ (n : Node), noNullN n = true → dropNullConcept n = n
  | .mk v bs => by
    intro h; simp only [noNullN] at h; simp [dropNullConcept, dropNullB_id bs h]
theorem dropNullB_id : ∀ (bs : Branches), noNullB bs = true → dropNullBranches bs = bs
  | .nil => by intro _; rfl
  | .atom r a rest => by
    intro h
    simp only [noNullB, Bool.and_eq_true, Bool.not_eq_true', decide_eq_false_iff_not] at h
    simp [dropNullBranches, h.1, dropNullB_id rest h.2]
  | .sub r n rest => by
    intro h
    simp only [noNullB, Bool.and_eq_true] at h
    simp [dropNullBranches, dropNull_id n h.1, dropNullB_id rest h.2]
end

/-! ### non-vacuity: concrete well-formed trees (`WfLayout` is evaluated; their round trip is the
theorem, `roundTrip_wf`) -/

def s (x : String) : Str := x.toList

/-- run the model: does `configure (interpret t)` succeed with `expected`? -/
def roundTrip (m : Model) (t expected : Tree) : Bool :=
  match interpret isAsciiAlpha m t with
  | .ok g =>
    match configure m g none with
    | .ok t' => t'.node == expected.node && decide (t'.metadata = expected.metadata)
    | .error _ => false
  | .error _ => false

/-- the same with `configure'` (Proofs/ConfigureEval: `buildNode` replaced by its structurally
    recursive twin, which the kernel can evaluate) -/
def roundTripEval (m : Model) (t expected : Tree) : Bool :=
  match interpret isAsciiAlpha m t with
  | .ok g =>
    match configure' m g none with
    | .ok t' => t'.node == expected.node && decide (t'.metadata = expected.metadata)
    | .error _ => false
  | .error _ => false

theorem roundTrip_eval (m : Model) (t e : Tree) : roundTrip m t e = roundTripEval m t e := by
  unfold roundTrip roundTripEval; simp only [configure_eq]

/-- on a well-formed tree the run is known from `C02_layout_dict`: only the comparison with
    `expected` is left to evaluate -/
theorem roundTrip_wf {m : Model} {n : Node} (hn : WfLayout isAsciiAlpha m n) (md : AList Str Str)
    (e : Tree) :
    roundTrip m ⟨n, md⟩ e = (dropNullConcept n == e.node && decide (AList.ofList md = e.metadata)) := by
  obtain ⟨g, h1, h2⟩ := C02_layout_dict isAsciiAlpha m ⟨n, md⟩ hn
  simp only [roundTrip, h1, h2]

/-- a small AMR-like table; `:consist-of` is a defined role ending in `-of` -/
def miniModel : Model :=
  { roles := [.digit ":ARG".toList, .lit ":mod".toList, .lit ":domain".toList, .lit ":consist-of".toList] }

/-- `(a :ROLE (b :ROLE a))` : concept-less nodes, a cycle back to the enclosing node (fix F1) -/
def ex1 : Node := .mk (some (s "a")) (.sub (s ":ROLE") (.mk (some (s "b")) (.atom (s ":ROLE") (.str (s "a")) .nil)) .nil)
/-- `(a / alpha :ARG0 (b / beta :ARG1-of a) :mod 5)` : an inverted re-entrancy to the enclosing node -/
def ex2 : Node := .mk (some (s "a")) (.atom (s "/") (.str (s "alpha"))
  (.sub (s ":ARG0") (.mk (some (s "b")) (.atom (s "/") (.str (s "beta")) (.atom (s ":ARG1-of") (.str (s "a")) .nil)))
  (.atom (s ":mod") (.str (s "5")) .nil)))
/-- `(a / :ARG0-of~e.1,2 (b :x~2 "a~b"~e.3 :consist-of (c)) :mod-of c :ARG1 d :ARG2 (d / a~3))` :
    an empty concept slot, an inverted aligned edge to a concept-less nested node with edges, an
    aligned string containing `~`, a defined role ending in `-of`, a deeper node closing two levels
    at once, an inverted re-entrancy to an earlier node, a forward reference, a concept equal to a
    variable name -/
def ex3 : Node := .mk (some (s "a")) (.atom (s "/") .none
  (.sub (s ":ARG0-of~e.1,2") (.mk (some (s "b")) (.atom (s ":x~2") (.str (s "\"a~b\"~e.3"))
      (.sub (s ":consist-of") (.mk (some (s "c")) .nil) .nil)))
  (.atom (s ":mod-of") (.str (s "c"))
  (.atom (s ":ARG1") (.str (s "d"))
  (.sub (s ":ARG2") (.mk (some (s "d")) (.atom (s "/") (.str (s "a~3")) .nil)) .nil)))))

def md1 : AList Str Str := [(s "id", s "1"), (s "snt", s "x y")]

attribute [eval_unfold] s miniModel ex1 ex2 ex3 md1

theorem ex1_wf : WfLayout isAsciiAlpha miniModel ex1 := by eval_decide
theorem ex2_wf : WfLayout isAsciiAlpha miniModel ex2 := by eval_decide
theorem ex3_wf : WfLayout isAsciiAlpha miniModel ex3 := by eval_decide
theorem ex3_wf_amr : WfLayout isAsciiAlpha Generated.amrModel ex3 := by eval_decide
theorem ex3_wf_noop : WfLayout isAsciiAlpha Generated.noopModel ex3 := by eval_decide

example : WfLayout isAsciiAlpha miniModel ex1 := ex1_wf
example : WfLayout isAsciiAlpha miniModel ex2 := ex2_wf
example : WfLayout isAsciiAlpha miniModel ex3 := ex3_wf
example : WfLayout isAsciiAlpha Generated.amrModel ex3 := ex3_wf_amr
example : WfLayout isAsciiAlpha Generated.noopModel ex3 := ex3_wf_noop
example : WfLayout isAsciiAlpha Generated.defaultModel ex2 := by eval_decide
example : MetaDict md1 := by decide

example : roundTrip miniModel ⟨ex1, md1⟩ ⟨ex1, md1⟩ = true := by rw [roundTrip_wf ex1_wf]; eval_decide
example : roundTrip miniModel ⟨ex2, md1⟩ ⟨ex2, md1⟩ = true := by rw [roundTrip_wf ex2_wf]; eval_decide
example : roundTrip miniModel ⟨ex3, []⟩ ⟨dropNullConcept ex3, []⟩ = true := by rw [roundTrip_wf ex3_wf]; eval_decide
example : roundTrip Generated.amrModel ⟨ex3, []⟩ ⟨dropNullConcept ex3, []⟩ = true := by
  rw [roundTrip_wf ex3_wf_amr]; eval_decide
example : roundTrip Generated.noopModel ⟨ex3, []⟩ ⟨dropNullConcept ex3, []⟩ = true := by
  rw [roundTrip_wf ex3_wf_noop]; eval_decide
/-- the normalisation really happens: `(a / …)` comes back as `(a …)` -/
example : roundTrip miniModel ⟨ex3, []⟩ ⟨ex3, []⟩ = false := by rw [roundTrip_wf ex3_wf]; eval_decide
/-- `(a /)` ↦ `(a)` -/
example : (dropNullConcept (.mk (some (s "a")) (.atom (s "/") .none .nil)) == .mk (some (s "a")) .nil) = true := by
  eval_decide
example : noNullN ex2 = true := by eval_decide
example : ∃ g, interpret isAsciiAlpha Generated.amrModel ⟨ex3, md1⟩ = .ok g ∧
    configure Generated.amrModel g none = .ok ⟨dropNullConcept ex3, md1⟩ :=
  C02_layout isAsciiAlpha Generated.amrModel ⟨ex3, md1⟩ ex3_wf_amr (by decide)

/-! ### Boundaries: each hypothesis of `WfLayout` is necessary -/
section Boundaries

/-- `(a :ARG0 b / alpha)`: a `/` branch that is not first is moved to the front -/
def bSlash : Node := .mk (some (s "a")) (.atom (s ":ARG0") (.str (s "b")) (.atom (s "/") (.str (s "alpha")) .nil))
example : ¬ WfLayout isAsciiAlpha miniModel bSlash := by eval_decide [bSlash]
example : roundTrip miniModel ⟨bSlash, []⟩ ⟨bSlash, []⟩ = false := by rw [roundTrip_eval]; eval_decide [bSlash]
example : roundTrip miniModel ⟨bSlash, []⟩
    ⟨.mk (some (s "a")) (.atom (s "/") (.str (s "alpha")) (.atom (s ":ARG0") (.str (s "b")) .nil)), []⟩ = true := by
  rw [roundTrip_eval]; eval_decide [bSlash]

/-- `(a :instance alpha)` is written back as `(a / alpha)` -/
def bInst : Node := .mk (some (s "a")) (.atom (s ":instance") (.str (s "alpha")) .nil)
example : ¬ WfLayout isAsciiAlpha miniModel bInst := by eval_decide [bInst]
example : roundTrip miniModel ⟨bInst, []⟩ ⟨bInst, []⟩ = false := by rw [roundTrip_eval]; eval_decide [bInst]
example : roundTrip miniModel ⟨bInst, []⟩
    ⟨.mk (some (s "a")) (.atom (s "/") (.str (s "alpha")) .nil), []⟩ = true := by
  rw [roundTrip_eval]; eval_decide [bInst]

/-- `(a :ARG0~01 b)`: the index is read as the number 1 and written `~1` (boundary O9) -/
def bAln : Node := .mk (some (s "a")) (.atom (s ":ARG0~01") (.str (s "b")) .nil)
example : ¬ WfLayout isAsciiAlpha miniModel bAln := by eval_decide [bAln]
example : roundTrip miniModel ⟨bAln, []⟩ ⟨bAln, []⟩ = false := by rw [roundTrip_eval]; eval_decide [bAln]
example : roundTrip miniModel ⟨bAln, []⟩
    ⟨.mk (some (s "a")) (.atom (s ":ARG0~1") (.str (s "b")) .nil), []⟩ = true := by
  rw [roundTrip_eval]; eval_decide [bAln]

/-- `(a :ARG0-of a)`: an inverted self-loop is written `(a :ARG0 a)` -/
def bLoop : Node := .mk (some (s "a")) (.atom (s ":ARG0-of") (.str (s "a")) .nil)
example : ¬ WfLayout isAsciiAlpha miniModel bLoop := by eval_decide [bLoop]
example : roundTrip miniModel ⟨bLoop, []⟩ ⟨bLoop, []⟩ = false := by rw [roundTrip_eval]; eval_decide [bLoop]
example : roundTrip miniModel ⟨bLoop, []⟩
    ⟨.mk (some (s "a")) (.atom (s ":ARG0") (.str (s "a")) .nil), []⟩ = true := by
  rw [roundTrip_eval]; eval_decide [bLoop]
/-- … but not under the no-op model, which does not deinvert -/
theorem bLoop_wf_noop : WfLayout isAsciiAlpha Generated.noopModel bLoop := by eval_decide [bLoop]
example : WfLayout isAsciiAlpha Generated.noopModel bLoop := bLoop_wf_noop
example : roundTrip Generated.noopModel ⟨bLoop, []⟩ ⟨bLoop, []⟩ = true := by
  rw [roundTrip_wf bLoop_wf_noop]; eval_decide [bLoop]

/-- `(a :R-of-of (b))`: an over-inverted role loses two inversions (boundary O2) -/
def bOver : Node := .mk (some (s "a")) (.sub (s ":R-of-of") (.mk (some (s "b")) .nil) .nil)
example : ¬ WfLayout isAsciiAlpha miniModel bOver := by eval_decide [bOver]
example : roundTrip miniModel ⟨bOver, []⟩ ⟨bOver, []⟩ = false := by rw [roundTrip_eval]; eval_decide [bOver]
example : roundTrip miniModel ⟨bOver, []⟩
    ⟨.mk (some (s "a")) (.sub (s ":R") (.mk (some (s "b")) .nil) .nil), []⟩ = true := by
  rw [roundTrip_eval]; eval_decide [bOver]

/-- `(a :ARG0 (b) :ARG0~1 b)`: two branches denoting the same triple share one marker list -/
def bDup : Node := .mk (some (s "a")) (.sub (s ":ARG0") (.mk (some (s "b")) .nil) (.atom (s ":ARG0~1") (.str (s "b")) .nil))
example : ¬ WfLayout isAsciiAlpha miniModel bDup := by eval_decide [bDup]
example : roundTrip miniModel ⟨bDup, []⟩ ⟨bDup, []⟩ = false := by rw [roundTrip_eval]; eval_decide [bDup]

/-- `(a :ARG0 (b / x) :ARG1 (b / y))`: a variable defined twice -/
def bVar : Node := .mk (some (s "a")) (.sub (s ":ARG0") (.mk (some (s "b")) (.atom (s "/") (.str (s "x")) .nil))
  (.sub (s ":ARG1") (.mk (some (s "b")) (.atom (s "/") (.str (s "y")) .nil)) .nil))
example : ¬ WfLayout isAsciiAlpha miniModel bVar := by eval_decide [bVar]
example : roundTrip miniModel ⟨bVar, []⟩ ⟨bVar, []⟩ = false := by rw [roundTrip_eval]; eval_decide [bVar]

/-- metadata given with a repeated key (not a `dict`): the last value wins at the first position -/
def mdDup : AList Str Str := [(s "id", s "1"), (s "id", s "2")]
example : ¬ MetaDict mdDup := by decide
example : roundTrip miniModel ⟨ex1, mdDup⟩ ⟨ex1, mdDup⟩ = false := by rw [roundTrip_wf ex1_wf]; eval_decide [mdDup]
example : roundTrip miniModel ⟨ex1, mdDup⟩ ⟨ex1, [(s "id", s "2")]⟩ = true := by rw [roundTrip_wf ex1_wf]; eval_decide [mdDup]

end Boundaries

end Penman.C02P
