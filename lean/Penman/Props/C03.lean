import Penman.Proofs.AlignTree
import Penman.Generated
import Penman.Proofs.Eval
/-!
# C03 — any graph survives encode then decode with its content intact, from any top

Tree-level half of the property: `configure` (graph → tree) followed by `interpret`
(tree → graph). The text level (`format`/`parse`, C01) is `Props/C03Text.lean`.

Model functions: `configure`, `interpret` (`Penman/Layout.lean`). Specification vocabulary:
`Penman/Spec/Encode.lean` (`WfGraph`, `deinvert1`, `TextOK`, `NoNum`), `Penman/Spec/Configure.lean`
(`Reach`, `PushVars`, `PushSrcOK`, `NoAlign`, `Node.edgeTriples`), `Penman/Spec/Reading.lean`,
`Penman/Spec/Role.lean` (`ModelWf`). Lemmas: `Penman/Proofs/ConfigureShape`, `ConfigureTree`,
`ConfigurePlain`, `ConfigureVersion`, `ConfigureRead` (on top of the C06 development `ConfigureStore` … `ConfigureConverse`,
the C04 development and the role algebra C13), `Proofs/Align*.lean` and `ReadConfigured`: the round trip is
stated for graphs that may carry alignment markers (`Cfg.Al.encode_tree_al`, `Cfg.Al.encode_decode_core`;
`Props/C03al.lean`); `C03_tree` and `C03` are the cases without markers.

Clause of the property text ↦ theorem(s)

* *"Any graph survives encode then decode … from any top"* ↦ `C03` (graph level: `configure` then
  `interpret`, for EVERY variable `t` of a connected well-formed graph, any epidata of layout
  markers) and `C03_tree` (the same about the configured tree itself, without `interpret`, numbers
  allowed).
* *"with its content intact"*: same top ↦ `g'.getTop = some t`; same variables ↦
  `∀ x, x ∈ g'.variables ↔ x ∈ g.variables` (so a target is a variable of `g'` iff it is one of
  `g`: edge/attribute status is preserved — `C03_edge_status`; a constant spelled like a variable
  counts as a reference on both sides, `Graph.isVar` is by name); same triples ↦
  `(g'.triples.map (deinvert1 m g)).Perm (g.triples.map (deinvert1 m g))`: equal as multisets once
  every triple whose role is inverted and whose target is a variable is deinverted once (which is
  the normal form decoding produces).
* *"Every triple is expressed exactly once: nothing is dropped (including constants equal to 0),
  duplicated, re-targeted, or changed between edge and attribute"* ↦ the permutation above is a
  multiset equality (nothing dropped, nothing duplicated); `C03_tree`'s last clause / `C03`'s last
  clause say each output triple is an input triple or its inversion (never re-targeted);
  `C03_zero_kept` (a `0` constant is an ordinary target); `C03_edge_status`.

Hypotheses (all decidable except connectivity), and why
* `ModelWf m`, `m.noop = false`: role algebra of C13; under the no-op model decoding never
  deinverts, so an edge written inverted comes back inverted (different statement).
* `WfGraph m g`: non-empty; every variable has a node label (a null label only alone, see below);
  roles start with `:`, contain no `~`, and are inversion-canonical
  (`m.canonInversion r = some r`, i.e. `r` is defined or `invertRole (invertRole r) = r` — boundary
  O2 "over-inverted roles"); variables contain no `~`; string targets read back as themselves
  (`TextOK`: no `~`, or a quoted string ending in its quote); `NoInstOf` (no `:instance-of`);
  `NoAlign` (epidata holds layout markers only — alignment text would be appended to role and
  target text and has to be split off again; the alignment-agnostic store→tree theorem is
  `configure_tree_written` in C06).
* `NoNum g` (graph level only): `interpret` is not defined on numeric atoms (a parsed tree
  carries numbers as text); `C03_tree` has no such restriction.
* `PushVars`, `PushSrcOK`: as in C06. Connectivity `Reach` from the chosen top: as in C06.

No clause of the property was found false of the model.
Null node labels: `(v :instance None)` is dropped by `configure` (not written in the tree:
`C03_tree` compares with the non-null triples) and re-inserted by `interpret` for the label-less
node (`C03` compares with all triples); for this a null label must be the only label of its variable,
occur once, and be `None` rather than `""` (`WfGraph.nullNodup/nullAlone/instNotEmpty`).
-/
namespace Penman
open Cfg

/-- **C03, tree level.** The configured tree has the requested top, exactly one node per variable,
    and writes exactly the graph's triples: each one as it is or inverted once (towards a variable),
    none dropped, none duplicated. -/
theorem C03_tree {m : Model} {g : Graph} {top : Option Str} {t : Str} (hw : ModelWf m) (hg : WfGraph m g)
    (hpv : PushVars g) (hps : PushSrcOK g) (ht : topOf g top = some t) (htv : t ∈ g.variables)
    (hreach : ∀ v ∈ g.variables, Reach g t v) :
    ∃ T, configure m g top = .ok T ∧ T.metadata = g.metadata ∧ T.node.var = some t ∧
      (∀ x, x ∈ T.node.vars ↔ x ∈ g.variables) ∧ T.node.vars.Nodup ∧
      (T.node.edgeTriples.map (deinvert1 m g)).Perm
        ((g.triples.filter (fun x => !nullB x)).map (deinvert1 m g)) ∧
      ∀ x ∈ T.node.edgeTriples, ∃ t0 ∈ g.triples,
        x = t0 ∨ (x = m.invert t0 ∧ (∃ b, t0.tgt = .str b) ∧ t0.role ≠ CONCEPT_ROLE) := by
  obtain ⟨T, h1, h2, h3, h4, h5, h6, h7⟩ := Al.encode_tree_al (fun _ => false) hw ((wfGraph_iff m g).1 hg).1
    (Al.alignOK_of_noAlign _ m hg.noAlign) hpv hps ht htv hreach
  -- without markers nothing is appended: every written triple is its own stripped form
  have hs : ∀ x ∈ T.node.edgeTriples, stripAln x = x := by
    intro x hx
    obtain ⟨t0, ht0, _, hr, htg⟩ := h7 x hx
    rw [(Al.alnOf_of_noAlign hg.noAlign ht0).1, alnText, List.append_nil] at hr
    rw [(Al.alnOf_of_noAlign hg.noAlign ht0).2, withAln] at htg
    show (⟨x.src, (stripAln x).role, (stripAln x).tgt⟩ : Triple) = ⟨x.src, x.role, x.tgt⟩
    rw [← hr, ← htg]
  rw [(List.map_congr_left hs).trans (List.map_id _)] at h6
  refine ⟨T, h1, h2, h3, h4, h5, h6, fun x hx => ?_⟩
  obtain ⟨t0, ht0, hv, _⟩ := h7 x hx
  rw [hs x hx] at hv
  exact ⟨t0, ht0, hv⟩

/-- **C03, graph level.** `interpret (configure g top)` has the same top, the same variables and the
    same triples (as a multiset, after one de-inversion) as `g`. -/
theorem C03 (isAlpha : Char → Bool) {m : Model} {g : Graph} {top : Option Str} {t : Str}
    (hw : ModelWf m) (hnoop : m.noop = false) (hg : WfGraph m g) (hnum : NoNum g)
    (hpv : PushVars g) (hps : PushSrcOK g) (ht : topOf g top = some t) (htv : t ∈ g.variables)
    (hreach : ∀ v ∈ g.variables, Reach g t v) :
    ∃ T g', configure m g top = .ok T ∧ interpret isAlpha m T = .ok g' ∧
      g'.getTop = some t ∧ (∀ x, x ∈ g'.variables ↔ x ∈ g.variables) ∧
      (g'.triples.map (deinvert1 m g)).Perm (g.triples.map (deinvert1 m g)) ∧
      (∀ x ∈ g'.triples, ∃ t0 ∈ g.triples, x = t0 ∨ x = m.invert t0) := by
  obtain ⟨T, g', _, h1, h2, _, h4, h5, h6, h7, _⟩ := Al.encode_decode_core isAlpha hw hnoop ((wfGraph_iff m g).1 hg).1
    (Al.alignOK_of_noAlign isAlpha m hg.noAlign) hnum hpv hps ht htv hreach
  exact ⟨T, g', h1, h2, h4, h5, h6, h7⟩

/-- edge/attribute status: a target is a variable of the decoded graph iff it was one of `g` -/
theorem C03_edge_status {g g' : Graph} (h : ∀ x, x ∈ g'.variables ↔ x ∈ g.variables) (a : Atom) :
    g'.isVar a = g.isVar a := by
  cases a with
  | str s =>
    simp only [Graph.isVar]
    by_cases hs : s ∈ g.variables
    · simp [hs, (h s).2 hs]
    · have : s ∉ g'.variables := fun h' => hs ((h s).1 h')
      simp [hs, this]
  | none => rfl
  | num _ => rfl

/-- a constant equal to 0 is an ordinary target: `deinvert1` leaves the triple alone, so it occurs in
    the output exactly as often as in the input -/
theorem C03_zero_kept (m : Model) (g : Graph) (v r : Str) :
    deinvert1 m g ⟨v, r, .num "0".toList⟩ = ⟨v, r, .num "0".toList⟩ := by
  simp [deinvert1, Graph.isVar]

/-! ## non-vacuity -/

namespace C03Examples

def T (s r : String) (t : Atom) : Triple := ⟨s.toList, r.toList, t⟩
def S (s : String) : Atom := .str s.toList

/-- `(b / bark-01 :ARG0 (d :quant 0 :ARG1-of b :url "http://x/~u") :mod-of 7)` given as triples,
    with a re-entrancy, an inverted edge, an inverted attribute, a `~` inside a quoted string, a null
    node label, and stale layout markers (a `Push(b)` on a triple whose source is `b`, surplus `POP`s) -/
def g1 : Graph :=
  { triples := [T "b" ":instance" (S "bark-01"), T "b" ":ARG0" (S "d"), T "d" ":instance" .none,
                T "d" ":quant" (.num "0".toList), T "d" ":ARG1-of" (S "b"),
                T "d" ":url" (S "\"http://x/~u\""), T "b" ":mod-of" (S "7")],
    epidata := [(T "b" ":ARG0" (S "d"), [.push "b".toList, .pop]),
                (T "d" ":instance" .none, [.pop, .push "d".toList, .pop])] }

/-- the same without the number (for the graph-level theorem) -/
def g2 : Graph := { g1 with triples := g1.triples.filter (fun t => notNum t.tgt) }

attribute [eval_unfold] T S g1 g2

example : ModelWf Generated.defaultModel := C13.modelWf_default
example : Generated.defaultModel.noop = false := by decide
theorem g1_wf : WfGraph Generated.defaultModel g1 := by eval_decide
theorem g2_wf : WfGraph Generated.defaultModel g2 := by eval_decide
theorem g12_push : PushVars g1 ∧ PushSrcOK g1 ∧ PushVars g2 ∧ PushSrcOK g2 := by eval_decide
theorem g12_vars : g1.variables = ["b".toList, "d".toList] ∧ g2.variables = ["b".toList, "d".toList] := by
  decide +kernel
example : WfGraph Generated.defaultModel g1 := g1_wf
example : WfGraph Generated.amrModel g1 := by eval_decide
example : WfGraph Generated.defaultModel g2 := g2_wf
example : NoNum g2 := by decide
example : PushVars g1 ∧ PushSrcOK g1 ∧ PushVars g2 ∧ PushSrcOK g2 := g12_push
example : g1.variables = ["b".toList, "d".toList] ∧ g2.variables = ["b".toList, "d".toList] := g12_vars

theorem g1_conn (t : Str) (ht : t ∈ g1.variables) : ∀ v ∈ g1.variables, Reach g1 t v := by
  have hv := g12_vars.1
  have a1 : Adj g1 "b".toList "d".toList :=
    ⟨T "b" ":ARG0" (S "d"), by decide, by decide, by decide, by decide, Or.inl ⟨rfl, rfl⟩⟩
  have a2 : Adj g1 "d".toList "b".toList :=
    ⟨T "b" ":ARG0" (S "d"), by decide, by decide, by decide, by decide, Or.inr ⟨rfl, rfl⟩⟩
  intro v hvm
  rw [hv] at ht hvm
  simp only [List.mem_cons, List.mem_nil_iff, or_false] at ht hvm
  rcases ht with rfl | rfl <;> rcases hvm with rfl | rfl
  · exact Reach.refl
  · exact Reach.step Reach.refl a1
  · exact Reach.step Reach.refl a2
  · exact Reach.refl

theorem g2_conn (t : Str) (ht : t ∈ g2.variables) : ∀ v ∈ g2.variables, Reach g2 t v := by
  have hv := g12_vars.2
  have a1 : Adj g2 "b".toList "d".toList :=
    ⟨T "b" ":ARG0" (S "d"), by decide, by decide, by decide, by decide, Or.inl ⟨rfl, rfl⟩⟩
  have a2 : Adj g2 "d".toList "b".toList :=
    ⟨T "b" ":ARG0" (S "d"), by decide, by decide, by decide, by decide, Or.inr ⟨rfl, rfl⟩⟩
  intro v hvm
  rw [hv] at ht hvm
  simp only [List.mem_cons, List.mem_nil_iff, or_false] at ht hvm
  rcases ht with rfl | rfl <;> rcases hvm with rfl | rfl
  · exact Reach.refl
  · exact Reach.step Reach.refl a1
  · exact Reach.step Reach.refl a2
  · exact Reach.refl

/-- `C03_tree` applies to `g1` from both tops (also under the AMR model) -/
example (t : Str) (ht : t ∈ g1.variables) :
    ∃ T, configure Generated.defaultModel g1 (some t) = .ok T ∧ T.node.var = some t ∧
      (T.node.edgeTriples.map (deinvert1 Generated.defaultModel g1)).Perm
        ((g1.triples.filter (fun x => !nullB x)).map (deinvert1 Generated.defaultModel g1)) := by
  obtain ⟨T, h1, _, h2, _, _, h3, _⟩ := C03_tree (top := some t) C13.modelWf_default g1_wf g12_push.1 g12_push.2.1
    rfl ht (g1_conn t ht)
  exact ⟨T, h1, h2, h3⟩

/-- `C03` applies to `g2` from both tops -/
example (t : Str) (ht : t ∈ g2.variables) :
    ∃ T g', configure Generated.defaultModel g2 (some t) = .ok T ∧
      interpret isAsciiAlpha Generated.defaultModel T = .ok g' ∧ g'.getTop = some t ∧
      (g'.triples.map (deinvert1 Generated.defaultModel g2)).Perm
        (g2.triples.map (deinvert1 Generated.defaultModel g2)) := by
  obtain ⟨T, g', h1, h2, h3, _, h4, _⟩ := C03 isAsciiAlpha (top := some t) C13.modelWf_default (by decide) g2_wf
    (by decide) g12_push.2.2.1 g12_push.2.2.2 rfl ht (g2_conn t ht)
  exact ⟨T, g', h1, h2, h3, h4⟩

/-- the normal form: `(d :ARG1-of b)` and `(b :ARG1 d)` are the same relation -/
example : deinvert1 Generated.defaultModel g1 (T "d" ":ARG1-of" (S "b")) = T "b" ":ARG1" (S "d") := by eval_decide
/-- an inverted role on a constant stays as written -/
example : deinvert1 Generated.defaultModel g1 (T "b" ":mod-of" (S "7")) = T "b" ":mod-of" (S "7") := by eval_decide

/-- hypotheses that exclude something: a null label next to another label, `""` as label,
    an over-inverted role, `:instance-of` -/
example : WfGraph Generated.defaultModel { triples := [T "a" ":instance" .none] } := by eval_decide
example : ¬ WfGraph Generated.defaultModel { triples := [T "a" ":instance" .none, T "a" ":instance" (S "x")] } := by
  eval_decide
example : ¬ WfGraph Generated.defaultModel { triples := [T "a" ":instance" (S "")] } := by eval_decide
example : ¬ WfGraph Generated.defaultModel
    { triples := [T "a" ":instance" (S "x"), T "b" ":instance" (S "y"), T "a" ":R-of-of" (S "b")] } := by eval_decide
example : ¬ WfGraph Generated.defaultModel
    { triples := [T "a" ":instance" (S "x"), T "b" ":instance" (S "y"), T "a" ":instance-of" (S "b")] } := by eval_decide

end C03Examples
end Penman
