import Penman.Proofs.EncodeDecode
import Penman.Props.C03
import Penman.Generated
import Penman.Proofs.Eval
/-!
# C03 / C06 at the level of TEXT — `decode(encode(g, top))` gives `g` back, for every top and marker history

`encode m g top indent compact = format (configure m g top) indent compact` and
`decode cfg isSpace isAlpha m s = interpret (parse s) m` (Python: `penman/codec.py`,
`PENMANCodec.encode` / `decode`).  This file composes the developments
* C03 / C06 (`Props/C03.lean`, `Props/C06.lean`, `Proofs/Configure*.lean`): `configure`, `interpret`;
* C01 (`Props/C01.lean`): `format`, `parse`;
with three pieces (`Proofs/ParseFormatNum`, `B`, `C`, glued in `Proofs/EncodeDecode.lean`), each proved
for graphs that may carry alignment markers (`Props/C03alText.lean`) and used here without:
A. `parse (format T) = writtenForm T` for trees WITH numbers (`C03Text.parse_format_num`);
B. the configured tree of a character-level well-formed graph is grammar-valid
   (`Cfg.Al.encodedAl_tree_wf`, through a store invariant "node labels first", `Cfg.storeOf_sq`);
C. `interpret` of the written form of the configured tree (`Cfg.decode_written`, from
   `Cfg.Al.decode_core`: the last step of C03 on `writtenForm T`, so that numbers are covered).
Vocabulary: `Penman/Spec/EncodeText.lean` (`writtenAtom`, `writtenForm`, `writtenTriple`,
`GraphTextOK`, `NumNotVar`, `OfOK`), `Spec/Encode.lean`, `Spec/Configure.lean`, `Spec/TextWf.lean`.

Clause of the property text ↦ theorem(s)

* C03 *"Any graph survives encode then decode with its content intact, from any top"* ↦ `C03_text`
  (for EVERY variable `t` of a connected graph, every indentation and compactness setting, any layout
  markers satisfying the decidable side conditions; numbers allowed): same top, same variables (hence
  same edge/attribute status, `C03_edge_status`), same triples as multisets after one de-inversion —
  constants *compared by their written form* (`writtenTriple`: the number `0` comes back as the
  string `0`; this is inherent, `decode` has no numbers) —, same metadata (keys, values, order).
  `C03_text_generated` is the instance at the generated lexer tables; `C03_text_noNum`: without numbers
  the comparison is literally the one of C03.
* *"Every triple is expressed exactly once …"* ↦ the permutation (a multiset equality) and the 6th
  clause of `C03_text` (every decoded triple is the written form of an input triple or its inversion).
* the text half on its own ↦ `C03_text_tree_wf` (= `configured_tree_wf`: whenever `configure`
  succeeds, `writtenForm T` is `WfTreeText` and the metadata `WfMeta`), `C03_text_parse`
  (`parse (format T i c) = writtenForm T`), `C03_text_format` (`format T = format (writtenForm T)`
  literally, when `compact = false` or no number is spelled like a variable — see the finding below).
* C06 *"Whatever layout markers a graph carries … decodes to the same graph; encoding fails, and
  then only with the layout error, exactly when some variable is not reachable from the top or the
  top is not a variable; no other exception for any list of triples"* ↦ `C06_text` (quantified over
  ALL epidata `e` put on the graph, subject to the decidable conditions `NoAlign`, `PushVars`,
  `PushSrcOK` on `{g with epidata := e}`: success clause = the conclusion of `C03_text`, against the
  SAME `g` whatever `e` is; error clause `↔`; "a text or a LayoutError, nothing else"),
  `encode_ne_other` (no hypothesis at all: any triples, top, model, markers).

Hypotheses (all decidable except connectivity)
* `FmtCfgWf cfg = true` (C01; holds for the generated tables: `C01.fmt_cfg_wf`).
* `ModelWf m`, `m.noop = false`, `WfGraph m g`, `PushVars`, `PushSrcOK`, `Reach`: as in C03 / C06.
* `GraphTextOK cfg isSpace m g`: sources are SYMBOL texts; non-instance roles and their
  inversions are ROLE texts (`C03_text_roles_auto` / `roleB_invertRole`: the inversion is automatic when `-of` consists of
  role characters, `OfOK cfg`, true of the generated tables); targets are missing, SYMBOL / STRING
  texts, or numbers whose text is a SYMBOL text; **no variable has two node labels**; metadata `WfMeta`.

FINDINGS
1. (needed hypothesis, real behaviour) A graph with two node labels for one variable, e.g.
   `[(a, :instance, x), (a, :instance, y)]`, satisfies every hypothesis of C03 (tree level: `configure`
   then `interpret` gives it back), but is ENCODED to `(a / y / x)`, which `decode` REJECTS (the
   grammar allows `/` only directly after the variable): `two_labels_encode`, `two_labels_decode_fails`.
   Hence `GraphTextOK.oneLabel`.
2. (`format T = format (writtenForm T)` is false in general) With `compact = true` the
   formatter breaks the attribute line at the first target that is a variable; a NUMBER spelled like a
   variable (`:q 0` next to a node `(0 / y)`) is not a variable for `format T` but is one for
   `format (writtenForm T)`: the two texts differ in whitespace (`compact_number_differs`). The round
   trip is not affected: `parse_format_num` is proved on the token level for every option;
   `C03_text_format` gives the literal equality under `compact = false ∨ NumNotVar g`.
-/
namespace Penman.C03Text
open Penman Penman.Spec Penman.Cfg

/-- **C03, text level.** Encoding a well-formed connected graph from any of its variables, with any
    indentation and compactness, and decoding the text gives a graph with the same top, the same
    variables, the same triples (as a multiset, constants by their written form, after one
    de-inversion) and the same metadata. -/
theorem C03_text {cfg : LexCfg} (hcfg : FmtCfgWf cfg = true) (isSpace isAlpha : Char → Bool) {m : Model}
    {g : Graph} {top : Option Str} {t : Str} (hw : ModelWf m) (hnoop : m.noop = false) (hg : WfGraph m g)
    (htx : GraphTextOK cfg isSpace m g) (hpv : PushVars g) (hps : PushSrcOK g) (ht : topOf g top = some t)
    (htv : t ∈ g.variables) (hreach : ∀ v ∈ g.variables, Reach g t v) (i : Indent) (c : Bool) :
    ∃ s g', encode m g top i c = .ok s ∧ decode cfg isSpace isAlpha m s = .ok g' ∧
      g'.getTop = some t ∧ (∀ x, x ∈ g'.variables ↔ x ∈ g.variables) ∧
      (g'.triples.map (deinvert1 m g)).Perm ((g.triples.map writtenTriple).map (deinvert1 m g)) ∧
      (∀ x ∈ g'.triples, ∃ t0 ∈ g.triples, x = writtenTriple t0 ∨ x = m.invert (writtenTriple t0)) ∧
      g'.metadata = g.metadata :=
  encode_decode_text hcfg isSpace isAlpha hw hnoop hg htx hpv hps ht htv hreach i c

/-- `C03_text` at the generated lexer tables -/
theorem C03_text_generated (isSpace isAlpha : Char → Bool) {m : Model}
    {g : Graph} {top : Option Str} {t : Str} (hw : ModelWf m) (hnoop : m.noop = false) (hg : WfGraph m g)
    (htx : GraphTextOK Generated.lexCfg isSpace m g) (hpv : PushVars g) (hps : PushSrcOK g)
    (ht : topOf g top = some t) (htv : t ∈ g.variables) (hreach : ∀ v ∈ g.variables, Reach g t v)
    (i : Indent) (c : Bool) :
    ∃ s g', encode m g top i c = .ok s ∧ decode Generated.lexCfg isSpace isAlpha m s = .ok g' ∧
      g'.getTop = some t ∧ (∀ x, x ∈ g'.variables ↔ x ∈ g.variables) ∧
      (g'.triples.map (deinvert1 m g)).Perm ((g.triples.map writtenTriple).map (deinvert1 m g)) ∧
      g'.metadata = g.metadata := by
  obtain ⟨s, g', h1, h2, h3, h4, h5, _, h7⟩ :=
    C03_text C01.fmt_cfg_wf isSpace isAlpha hw hnoop hg htx hpv hps ht htv hreach i c
  exact ⟨s, g', h1, h2, h3, h4, h5, h7⟩

/-- for a graph without numbers the comparison is the one of C03 -/
theorem C03_text_noNum {cfg : LexCfg} (hcfg : FmtCfgWf cfg = true) (isSpace isAlpha : Char → Bool) {m : Model}
    {g : Graph} {top : Option Str} {t : Str} (hw : ModelWf m) (hnoop : m.noop = false) (hg : WfGraph m g)
    (htx : GraphTextOK cfg isSpace m g) (hnum : NoNum g) (hpv : PushVars g) (hps : PushSrcOK g)
    (ht : topOf g top = some t) (htv : t ∈ g.variables) (hreach : ∀ v ∈ g.variables, Reach g t v)
    (i : Indent) (c : Bool) :
    ∃ s g', encode m g top i c = .ok s ∧ decode cfg isSpace isAlpha m s = .ok g' ∧
      g'.getTop = some t ∧ (∀ x, x ∈ g'.variables ↔ x ∈ g.variables) ∧
      (g'.triples.map (deinvert1 m g)).Perm (g.triples.map (deinvert1 m g)) ∧
      g'.metadata = g.metadata := by
  obtain ⟨s, g', h1, h2, h3, h4, h5, _, h7⟩ :=
    C03_text hcfg isSpace isAlpha hw hnoop hg htx hpv hps ht htv hreach i c
  rw [writtenTriple_of_noNum hnum] at h5
  exact ⟨s, g', h1, h2, h3, h4, h5, h7⟩

/-- when `-of` consists of role characters (`OfOK`, true of the generated tables) the second half of
    `GraphTextOK.roles` is automatic -/
theorem C03_text_roles_auto {cfg : LexCfg} (hof : OfOK cfg = true) (m : Model) (g : Graph)
    (h : ∀ t ∈ g.triples, t.role ≠ CONCEPT_ROLE → roleB cfg t.role = true) :
    ∀ t ∈ g.triples, t.role ≠ CONCEPT_ROLE →
      roleB cfg t.role = true ∧ roleB cfg (m.invertRole t.role) = true :=
  fun t ht hr => ⟨h t ht hr, roleB_invertRole hof m (h t ht hr)⟩

/-- **the configured tree is grammar-valid** (whenever `configure` succeeds) -/
theorem C03_text_tree_wf {cfg : LexCfg} {isSpace : Char → Bool} {m : Model} {g : Graph} {top : Option Str}
    {T : Tree} (hw : ModelWf m) (hg : WfGraph m g) (htx : GraphTextOK cfg isSpace m g) (hpv : PushVars g)
    (h : configure m g top = .ok T) :
    WfTreeText cfg (writtenForm T.node) ∧ WfMeta isSpace T.metadata :=
  configured_tree_wf hw hg htx hpv h

/-- **the text parses back to the written form of the configured tree**, under every option -/
theorem C03_text_parse {cfg : LexCfg} (hcfg : FmtCfgWf cfg = true) (isSpace : Char → Bool) {m : Model}
    {g : Graph} {top : Option Str} {T : Tree} (hw : ModelWf m) (hg : WfGraph m g)
    (htx : GraphTextOK cfg isSpace m g) (hpv : PushVars g) (h : configure m g top = .ok T)
    (i : Indent) (c : Bool) :
    encode m g top i c = .ok (format T i c) ∧
    C01.parse cfg isSpace (format T i c) = .ok ⟨writtenForm T.node, T.metadata⟩ := by
  obtain ⟨h1, h2⟩ := configured_tree_wf hw hg htx hpv h
  exact ⟨encode_of_configure h rfl, parse_format_num hcfg isSpace T.node T.metadata h1 h2 i c⟩

/-- `format T = format (writtenForm T)` literally, when `compact` is off or no number is spelled like a
    variable (otherwise the two texts may differ in whitespace: `compact_number_differs`) -/
theorem C03_text_format {cfg : LexCfg} {isSpace : Char → Bool} {m : Model} {g : Graph} {top : Option Str}
    {T : Tree} (hw : ModelWf m) (hg : WfGraph m g) (htx : GraphTextOK cfg isSpace m g) (hpv : PushVars g)
    (h : configure m g top = .ok T) (i : Indent) (c : Bool) (hc : c = false ∨ NumNotVar g) :
    format ⟨writtenForm T.node, T.metadata⟩ i c = format T i c := by
  obtain ⟨t, st, l, _, _, E⟩ := encoded_of_ok hw hg hpv h
  have hr2 : ∀ x ∈ g.triples, RoleOK2 m x := fun x hx => roleOK2_of_colon m x (hg.roles x hx).1
  obtain ⟨_, hvars, _, _, _⟩ := storeOf_tree hr2 E.store E.build
  have htt := storeOf_tree_triples hr2 hg.noAlign E.store E.build
  apply format_written_eq
  apply numsOKN_of_triples
  -- a number in the tree is a number of the graph (an inverted triple has a variable as target): its
  -- text is a non-empty SYMBOL and, when `compact` is set, no variable (`NumNotVar`)
  intro x hx s hs
  obtain ⟨t0, ht0, hv⟩ := E.version x (E.perm.symm.subset (htt.subset hx))
  have hx0 : x = t0 := by
    rcases hv with hv | ⟨hv, _, _⟩
    · exact hv
    · rw [hv, invert_tgt] at hs; cases hs
  subst hx0
  have hsym := htx.tgts x ht0
  rw [hs] at hsym
  refine ⟨((FL.symbolB_iff s).1 hsym).1.1, ?_⟩
  rcases hc with rfl | hc
  · simp
  · have := hc x ht0
    rw [hs] at this
    simp only [numNotIn, Bool.not_eq_true', List.contains_eq_mem, decide_eq_false_iff_not] at this
    split
    · intro hm; exact this ((E.keys s).1 (hvars.subset hm))
    · simp

/-- no exception other than a LayoutError (or leaving the modelled domain: `Push(source)` on a
    non-string target) escapes `encode`, for any triples, top, model and markers -/
theorem encode_ne_other (m : Model) (g : Graph) (top : Option Str) (i : Indent) (c : Bool) (s : String) :
    encode m g top i c ≠ .error (.other s) := by
  rw [Ne, encode_error_iff]
  exact configure_ne_other m g top s

/-- **C06, text level.** Fix the content of a graph (triples, top, metadata). For EVERY assignment
    `e` of layout markers to its triples (no alignments; `Push` only of variables; `Push(source)` only
    towards a string):
    * if the top is a variable and every variable is reachable from it, encoding succeeds and the
      text decodes to the same content — the conclusion does not mention `e`;
    * encoding fails with a LayoutError exactly when that condition fails;
    * it yields a text or a LayoutError, nothing else. -/
theorem C06_text {cfg : LexCfg} (hcfg : FmtCfgWf cfg = true) (isSpace isAlpha : Char → Bool) {m : Model}
    {g : Graph} {top : Option Str} {t : Str} (hw : ModelWf m) (hnoop : m.noop = false) (hg : WfGraph m g)
    (htx : GraphTextOK cfg isSpace m g) (ht : topOf g top = some t) (htop : TopOK g t)
    (i : Indent) (c : Bool) :
    ∀ e : Epidata, NoAlign { g with epidata := e } → PushVars { g with epidata := e } →
      PushSrcOK { g with epidata := e } →
      ((t ∈ g.variables ∧ ∀ v ∈ g.variables, Reach g t v) →
        ∃ s g', encode m { g with epidata := e } top i c = .ok s ∧
          decode cfg isSpace isAlpha m s = .ok g' ∧
          g'.getTop = some t ∧ (∀ x, x ∈ g'.variables ↔ x ∈ g.variables) ∧
          (g'.triples.map (deinvert1 m g)).Perm ((g.triples.map writtenTriple).map (deinvert1 m g)) ∧
          g'.metadata = g.metadata) ∧
      ((∃ k, encode m { g with epidata := e } top i c = .error (.layout k)) ↔
        ¬ (t ∈ g.variables ∧ ∀ v ∈ g.variables, Reach g t v)) ∧
      ((∃ s, encode m { g with epidata := e } top i c = .ok s) ∨
        (∃ k, encode m { g with epidata := e } top i c = .error (.layout k))) := by
  intro e hna hpv hps
  have hge := wfGraph_epidata hg hna
  have htxe := graphTextOK_epidata htx e
  have hiff := configure_error_iff (m := m) (g := { g with epidata := e }) (top := top) (t := t)
    hge.noInstOf hps hpv hge.nonempty ht htop
  have hok := configure_ok_iff (m := m) (g := { g with epidata := e }) (top := top) (t := t)
    hge.noInstOf hps hpv hge.nonempty ht htop
  have hcond : (t ∈ ({ g with epidata := e } : Graph).variables ∧
      ∀ v ∈ ({ g with epidata := e } : Graph).variables, Reach { g with epidata := e } t v) ↔
      (t ∈ g.variables ∧ ∀ v ∈ g.variables, Reach g t v) :=
    ⟨fun ⟨a, b⟩ => ⟨a, fun v hv => (reach_epidata e).1 (b v hv)⟩,
     fun ⟨a, b⟩ => ⟨a, fun v hv => (reach_epidata e).2 (b v hv)⟩⟩
  refine ⟨?_, ?_, ?_⟩
  · rintro ⟨htv, hreach⟩
    obtain ⟨s, g', h1, h2, h3, h4, h5, _, h7⟩ := C03_text hcfg isSpace isAlpha (g := { g with epidata := e })
      (top := top) (t := t) hw hnoop hge htxe hpv hps ht htv
      (fun v hv => (reach_epidata e).2 (hreach v hv)) i c
    exact ⟨s, g', h1, h2, h3, h4, h5, h7⟩
  · rw [← hcond, ← hiff]
    constructor
    · rintro ⟨k, hk⟩; exact ⟨k, (encode_error_iff _).1 hk⟩
    · rintro ⟨k, hk⟩; exact ⟨k, (encode_error_iff _).2 hk⟩
  · by_cases hc : t ∈ g.variables ∧ ∀ v ∈ g.variables, Reach g t v
    · left
      exact encode_ok_iff.2 (hok.2 (hcond.2 hc))
    · right
      obtain ⟨k, hk⟩ := hiff.2 (fun h => hc (hcond.1 h))
      exact ⟨k, (encode_error_iff _).2 hk⟩

/-! ## non-vacuity -/

namespace Examples

def T (s r : String) (t : Atom) : Triple := ⟨s.toList, r.toList, t⟩
def S (s : String) : Atom := .str s.toList
def isSp (c : Char) : Bool := Generated.spaceChars.contains c

/-- `(b / bark-01 :ARG0 (d / dog :quant 0 :name "a b" :ARG1-of b) :mod-of 7)`, its triples
    shuffled (so the implicit top is `d`): a re-entrancy, an inverted edge, an inverted attribute,
    a string with a space, the number `0`; metadata; stale layout markers (a `Push(b)` on a triple
    whose source is `b`, surplus `POP`s). -/
def gx : Graph :=
  { triples := [T "d" ":quant" (.num "0".toList), T "b" ":instance" (S "bark-01"),
                T "d" ":ARG1-of" (S "b"), T "d" ":instance" (S "dog"), T "b" ":ARG0" (S "d"),
                T "d" ":name" (S "\"a b\""), T "b" ":mod-of" (S "7")],
    epidata := [(T "b" ":ARG0" (S "d"), [.push "b".toList, .pop]),
                (T "d" ":instance" (S "dog"), [.pop, .push "d".toList, .pop])],
    metadata := [("id".toList, "1".toList), ("snt".toList, "a b".toList)] }

attribute [eval_unfold] T S gx

example : ModelWf Generated.defaultModel := C13.modelWf_default
example : Generated.defaultModel.noop = false := by decide
example : OfOK Generated.lexCfg = true := by decide +kernel
theorem gx_ok : WfGraph Generated.defaultModel gx ∧ GraphTextOK Generated.lexCfg isSp Generated.defaultModel gx := by
  eval_decide
theorem gx_ok_amr : WfGraph Generated.amrModel gx ∧ GraphTextOK Generated.lexCfg isSp Generated.amrModel gx := by
  eval_decide
theorem gx_push : PushVars gx ∧ PushSrcOK gx ∧ NumNotVar gx := by eval_decide
theorem gx_vars : gx.variables = ["d".toList, "b".toList] ∧ gx.getTop = some "d".toList := by decide +kernel
example : WfGraph Generated.defaultModel gx := gx_ok.1
example : WfGraph Generated.amrModel gx := gx_ok_amr.1
example : GraphTextOK Generated.lexCfg isSp Generated.defaultModel gx := gx_ok.2
example : GraphTextOK Generated.lexCfg isSp Generated.amrModel gx := gx_ok_amr.2
example : PushVars gx ∧ PushSrcOK gx ∧ NumNotVar gx := gx_push
example : gx.variables = ["d".toList, "b".toList] ∧ gx.getTop = some "d".toList := gx_vars
example : ¬ NoNum gx := by decide

theorem gx_conn (t : Str) (ht : t ∈ gx.variables) : ∀ v ∈ gx.variables, Reach gx t v := by
  have hv := gx_vars.1
  have a1 : Adj gx "b".toList "d".toList :=
    ⟨T "b" ":ARG0" (S "d"), by decide, by decide, by decide, by decide, Or.inl ⟨rfl, rfl⟩⟩
  have a2 : Adj gx "d".toList "b".toList :=
    ⟨T "b" ":ARG0" (S "d"), by decide, by decide, by decide, by decide, Or.inr ⟨rfl, rfl⟩⟩
  intro v hvm
  rw [hv] at ht hvm
  simp only [List.mem_cons, List.mem_nil_iff, or_false] at ht hvm
  rcases ht with rfl | rfl <;> rcases hvm with rfl | rfl
  · exact Reach.refl
  · exact Reach.step Reach.refl a2
  · exact Reach.step Reach.refl a1
  · exact Reach.refl

/-- `C03_text` applies to `gx` from both tops, every indentation, both compactness settings -/
example (t : Str) (ht : t ∈ gx.variables) (i : Indent) (c : Bool) :
    ∃ s g', encode Generated.defaultModel gx (some t) i c = .ok s ∧
      decode Generated.lexCfg isSp isAsciiAlpha Generated.defaultModel s = .ok g' ∧ g'.getTop = some t ∧
      (g'.triples.map (deinvert1 Generated.defaultModel gx)).Perm
        ((gx.triples.map writtenTriple).map (deinvert1 Generated.defaultModel gx)) ∧
      g'.metadata = gx.metadata := by
  obtain ⟨s, g', h1, h2, h3, _, h5, h6⟩ := C03_text_generated isSp isAsciiAlpha (top := some t)
    C13.modelWf_default (by decide) gx_ok.1 gx_ok.2 gx_push.1 gx_push.2.1 rfl ht (gx_conn t ht) i c
  exact ⟨s, g', h1, h2, h3, h5, h6⟩

/-- … and under the AMR model -/
example (t : Str) (ht : t ∈ gx.variables) (i : Indent) (c : Bool) :
    ∃ s g', encode Generated.amrModel gx (some t) i c = .ok s ∧
      decode Generated.lexCfg isSp isAsciiAlpha Generated.amrModel s = .ok g' ∧ g'.getTop = some t := by
  obtain ⟨s, g', h1, h2, h3, _⟩ := C03_text_generated isSp isAsciiAlpha (top := some t)
    C13.modelWf_amr (by decide) gx_ok_amr.1 gx_ok_amr.2 gx_push.1 gx_push.2.1 rfl ht
    (gx_conn t ht) i c
  exact ⟨s, g', h1, h2, h3⟩

/-- the error side of `C06_text` is inhabited: two unconnected nodes, a top that is no variable -/
def gdis : Graph := { triples := [T "a" ":instance" (S "x"), T "b" ":instance" (S "y")] }
example : (encode Generated.defaultModel gdis none none false).toOption = none := by decide +kernel
example : C06Examples.errOf (encode Generated.defaultModel gdis none none false) = some (.layout 1) := by
  decide +kernel
example : C06Examples.errOf (encode Generated.defaultModel gdis (some "q".toList) none false) = some (.layout 0) := by
  decide +kernel

/-- `C06_text` applies to `gx` with ANY admissible marker assignment (here: from the top `b`) -/
example (e : Epidata) (h1 : NoAlign { gx with epidata := e }) (h2 : PushVars { gx with epidata := e })
    (h3 : PushSrcOK { gx with epidata := e }) (i : Indent) (c : Bool) :
    ∃ s g', encode Generated.defaultModel { gx with epidata := e } (some "b".toList) i c = .ok s ∧
      decode Generated.lexCfg isSp isAsciiAlpha Generated.defaultModel s = .ok g' ∧
      (g'.triples.map (deinvert1 Generated.defaultModel gx)).Perm
        ((gx.triples.map writtenTriple).map (deinvert1 Generated.defaultModel gx)) := by
  obtain ⟨hs, _, _⟩ := C06_text C01.fmt_cfg_wf isSp isAsciiAlpha (g := gx) (top := some "b".toList)
    (t := "b".toList) C13.modelWf_default (by decide) gx_ok.1 gx_ok.2 rfl (by decide) i c e h1 h2 h3
  obtain ⟨s, g', a1, a2, _, _, a5, _⟩ := hs ⟨by decide, gx_conn _ (by decide)⟩
  exact ⟨s, g', a1, a2, a5⟩

/-! ### through the real functions -/

def E (r : String) (t : ETgt) : Edge := ⟨r.toList, t, []⟩

/-- the tree of `gx` from its implicit top `d` -/
def gxNode : Node :=
  .mk (some "d".toList) (.atom "/".toList (S "dog") (.atom ":quant".toList (.num "0".toList)
    (.atom ":ARG1-of".toList (S "b") (.sub ":ARG0-of".toList
      (.mk (some "b".toList) (.atom "/".toList (S "bark-01") (.atom ":mod-of".toList (S "7") .nil)))
      (.atom ":name".toList (S "\"a b\"") .nil)))))

attribute [eval_unfold] gdis E gxNode

theorem gx_configure : configure Generated.defaultModel gx none = .ok ⟨gxNode, gx.metadata⟩ :=
  configure_of_store (t := "d".toList) (by decide) rfl (by decide)
    (cells := [("d".toList, [E "/" (.atom (S "dog")), E ":quant" (.atom (.num "0".toList)),
                  E ":ARG1-of" (.atom (S "b")), E ":ARG0-of" (.node "b".toList), E ":name" (.atom (S "\"a b\""))]),
               ("b".toList, [E "/" (.atom (S "bark-01")), E ":mod-of" (.atom (S "7"))])])
    (by eval_decide)
    (by simp [buildNode, buildBranches, AList.get?, applyEpis, bind, Except.bind, pure, Except.pure, E, gxNode, S])

/-- its text (adaptive indentation) … -/
def gxText : Str :=
  "# ::id 1\n# ::snt a b\n(d / dog\n   :quant 0\n   :ARG1-of b\n   :ARG0-of (b / bark-01\n               :mod-of 7)\n   :name \"a b\")".toList

theorem gx_encode : encode Generated.defaultModel gx none (some (-1)) false = .ok gxText :=
  encode_of_configure gx_configure (by delta gxText; eval_decide)

/-- … and what it decodes to: `0` and `7` are strings, both inverted edges are de-inverted, the
    inverted attribute `:mod-of 7` stays as written -/
example : (decode Generated.lexCfg isSp isAsciiAlpha Generated.defaultModel gxText).toOption.map
      (fun g => (g.triples, g.top, g.metadata)) =
    some ([T "d" ":instance" (S "dog"), T "d" ":quant" (S "0"), T "b" ":ARG1" (S "d"), T "b" ":ARG0" (S "d"),
           T "b" ":instance" (S "bark-01"), T "b" ":mod-of" (S "7"), T "d" ":name" (S "\"a b\"")],
          some "d".toList, gx.metadata) := by delta gxText; eval_decide

/-! ### FINDING 1: two node labels for one variable are encoded to text that is not decodable -/

def g2l : Graph := { triples := [T "a" ":instance" (S "x"), T "a" ":instance" (S "y")] }
attribute [eval_unfold] g2l

theorem g2l_ok : WfGraph Generated.defaultModel g2l ∧ NoNum g2l ∧ PushVars g2l ∧ PushSrcOK g2l := by eval_decide
example : WfGraph Generated.defaultModel g2l ∧ NoNum g2l ∧ PushVars g2l ∧ PushSrcOK g2l := g2l_ok
/-- … so the tree-level round trip C03 holds for it … -/
example : ∃ T g', configure Generated.defaultModel g2l none = .ok T ∧
    interpret isAsciiAlpha Generated.defaultModel T = .ok g' ∧ g'.getTop = some "a".toList := by
  obtain ⟨T, g', h1, h2, h3, _⟩ := C03 isAsciiAlpha (g := g2l) (top := none) (t := "a".toList)
    C13.modelWf_default (by decide) g2l_ok.1 g2l_ok.2.1 g2l_ok.2.2.1 g2l_ok.2.2.2 rfl (by decide)
    (by
      intro v hv
      have : g2l.variables = ["a".toList] := by decide
      rw [this] at hv; simp only [List.mem_singleton] at hv; subst hv; exact Reach.refl)
  exact ⟨T, g', h1, h2, h3⟩
/-- … but its text is `(a / y / x)` … -/
theorem two_labels_configure : configure Generated.defaultModel g2l none =
    .ok ⟨.mk (some "a".toList) (.atom "/".toList (S "y") (.atom "/".toList (S "x") .nil)), []⟩ :=
  configure_of_store (t := "a".toList) (by decide) rfl (by decide)
    (cells := [("a".toList, [E "/" (.atom (S "y")), E "/" (.atom (S "x"))])]) (by decide +kernel)
    (by simp [buildNode, buildBranches, AList.get?, applyEpis, bind, Except.bind, pure, Except.pure, E, S])
theorem two_labels_encode : encode Generated.defaultModel g2l none none false = .ok "(a / y / x)".toList :=
  encode_of_configure two_labels_configure (by eval_decide)
/-- … which is not in the grammar (`/` only directly after the variable): DecodeError "expected ROLE" -/
theorem two_labels_decode_fails :
    C06Examples.errOf (decode Generated.lexCfg isSp isAsciiAlpha Generated.defaultModel "(a / y / x)".toList) =
      some (.decode 1 7 1) := by eval_decide
/-- the hypothesis that excludes it -/
example : ¬ GraphTextOK Generated.lexCfg isSp Generated.defaultModel g2l := by eval_decide

/-! ### FINDING 2: `format T` and `format (writtenForm T)` may differ in whitespace under `compact` -/

/-- the number `0` next to a node whose variable is spelled `0` -/
def gnv : Graph :=
  { triples := [T "a" ":instance" (S "x"), T "a" ":q" (.num "0".toList), T "a" ":r" (S "0"),
                T "0" ":instance" (S "y")] }
attribute [eval_unfold] gnv

theorem gnv_ok : WfGraph Generated.defaultModel gnv ∧ GraphTextOK Generated.lexCfg isSp Generated.defaultModel gnv ∧
    PushVars gnv ∧ PushSrcOK gnv ∧ ¬ NumNotVar gnv := by eval_decide
example : WfGraph Generated.defaultModel gnv ∧ GraphTextOK Generated.lexCfg isSp Generated.defaultModel gnv ∧
    PushVars gnv ∧ PushSrcOK gnv ∧ ¬ NumNotVar gnv := gnv_ok

def gnvNode : Node :=
  .mk (some "a".toList) (.atom "/".toList (S "x") (.atom ":q".toList (.num "0".toList)
    (.sub ":r".toList (.mk (some "0".toList) (.atom "/".toList (S "y") .nil)) .nil)))
attribute [eval_unfold] gnvNode

theorem gnv_configure : configure Generated.defaultModel gnv none = .ok ⟨gnvNode, []⟩ :=
  configure_of_store (t := "a".toList) (by decide) rfl (by decide)
    (cells := [("a".toList, [E "/" (.atom (S "x")), E ":q" (.atom (.num "0".toList)), E ":r" (.node "0".toList)]),
               ("0".toList, [E "/" (.atom (S "y"))])]) (by decide +kernel)
    (by simp [buildNode, buildBranches, AList.get?, applyEpis, bind, Except.bind, pure, Except.pure, E, gnvNode, S])

theorem compact_number_differs :
    encode Generated.defaultModel gnv none (some (-1)) true = .ok "(a / x :q 0\n   :r (0 / y))".toList ∧
    format ⟨writtenForm gnvNode, []⟩ (some (-1)) true = "(a / x\n   :q 0\n   :r (0 / y))".toList :=
  ⟨encode_of_configure gnv_configure (by eval_decide), by eval_decide⟩

/-- the round trip holds all the same (`C03_text` has no `NumNotVar` hypothesis) -/
example (i : Indent) (c : Bool) :
    ∃ s g', encode Generated.defaultModel gnv none i c = .ok s ∧
      decode Generated.lexCfg isSp isAsciiAlpha Generated.defaultModel s = .ok g' ∧
      (g'.triples.map (deinvert1 Generated.defaultModel gnv)).Perm
        ((gnv.triples.map writtenTriple).map (deinvert1 Generated.defaultModel gnv)) := by
  have hv : gnv.variables = ["a".toList, "0".toList] := by decide
  obtain ⟨s, g', h1, h2, _, _, h5, _⟩ := C03_text_generated isSp isAsciiAlpha (g := gnv) (top := none)
    (t := "a".toList) C13.modelWf_default (by decide) gnv_ok.1 gnv_ok.2.1 gnv_ok.2.2.1 gnv_ok.2.2.2.1 rfl
    (by decide) (by
      intro v hvm
      rw [hv] at hvm
      simp only [List.mem_cons, List.mem_nil_iff, or_false] at hvm
      rcases hvm with rfl | rfl
      · exact Reach.refl
      · exact Reach.step Reach.refl
          ⟨T "a" ":r" (S "0"), by decide, by decide, by decide, by decide, Or.inl ⟨rfl, rfl⟩⟩) i c
  exact ⟨s, g', h1, h2, h5⟩

/-! ### the other hypotheses of `GraphTextOK` exclude something -/

/-- a variable with a space, a role with a space, a target that is neither SYMBOL nor STRING,
    a line feed in a string, metadata with a key containing a space -/
example : ¬ GraphTextOK Generated.lexCfg isSp Generated.defaultModel { triples := [T "a b" ":instance" (S "x")] } := by
  eval_decide
example : ¬ GraphTextOK Generated.lexCfg isSp Generated.defaultModel
    { triples := [T "a" ":instance" (S "x"), T "a" ":r s" (S "y")] } := by eval_decide
example : ¬ GraphTextOK Generated.lexCfg isSp Generated.defaultModel
    { triples := [T "a" ":instance" (S "x"), T "a" ":r" (S "y z")] } := by eval_decide
example : ¬ GraphTextOK Generated.lexCfg isSp Generated.defaultModel
    { triples := [T "a" ":instance" (S "x"), T "a" ":r" (S "\"y\nz\"")] } := by eval_decide
example : ¬ GraphTextOK Generated.lexCfg isSp Generated.defaultModel
    { triples := [T "a" ":instance" (S "x")], metadata := [("i d".toList, "1".toList)] } := by eval_decide

end Examples

end Penman.C03Text
