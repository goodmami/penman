import Penman.Proofs.AlignTree
import Penman.Proofs.ConfigureEval
import Penman.Props.C03
import Penman.Proofs.Eval
/-!
# C03al — the encode → decode round trip (C03) WITH surface alignments

`Penman.C03_tree` / `Penman.C03` assume `NoAlign g` (inside `WfGraph`): the epidata holds `Push`/`POP`
only.  Here that hypothesis is replaced by `AlignOK isAlpha m g` (`Penman/Spec/AlignOK.lean`), which
says exactly which `RoleAlignment` / `Alignment` entries survive, and the conclusion is extended by
"the alignments survive".  `WfGraphAl` is `WfGraph` minus its `noAlign` field (`wfGraph_iff`), and
`C03al_contains_C03` shows that the hypotheses of `C03` imply those of `C03al`.

Model functions (`Penman/Layout.lean`): `configure` (`_preconfigure`, `_configure_node`, `_process_epigraph` =
`applyEpis`), `interpret` (`_process_role`, `_process_atomic`, `alnFromString`, `epimapOf`).
Lemmas: `Penman/Proofs/Align*.lean` (namespace `Penman.Cfg.Al`) and `Proofs/ReadConfigured.lean`
(`decode_core`: reading the configured tree back), on top of `Proofs/Configure*` (C06/C03), `Decoded` (C04).

Clause ↦ theorem
* tree → `C03al_tree`: the conclusion of `C03_tree` about the written triples with their alignment
  suffixes stripped (`stripAln`), plus: every branch `x` of the tree is a triple `t0` of `g` (or its
  inversion) whose role text is the role followed by the printed role alignment of `t0`
  (`alnText (roleAlnOf g t0)`) and whose target text is the target followed by the printed alignment
  of `t0` (`withAln … (tgtAlnOf g t0)`).  Numbers allowed, as in `C03_tree`.
* graph → `C03al`: the conclusion of `C03` (same top, same variables, same triples as multisets up to
  one de-inversion, each output triple an input triple or its inversion) plus
  - every triple `t0` of `g` occurs in `g'` as `deinvert1 m g t0` (itself, or deinverted if its role
    is inverted and its target a variable — the normal form decoding produces), and that triple of
    `g'` reports the SAME role alignment and the SAME alignment
    (`roleAlnOf` / `tgtAlnOf` = what `penman.surface.role_alignments` / `alignments` report: the last
    marker of the kind in the triple's list; `AlignOK.one` makes it the only one);
  - every triple of `g'` is `deinvert1 m g t0` for some `t0 ∈ g.triples`: no other triple carries anything.
  Inverted relations: a ROLE alignment travels with the relation (`(w :ARG0~e.3 b)` written from `b`
  is `:ARG0-of~e.3 (w …)` and is read back onto `(w :ARG0 b)`).  A target ALIGNMENT is only admitted on
  constants (see `AlignOK.tgtAln`), which are never inverted.
  The comparison is by `roleAlnOf`/`tgtAlnOf`, i.e. up to the position of the alignment entries inside
  the marker list (decoding emits role alignment, alignment, `Push`, `POP`s in that fixed order).

`AlignOK isAlpha m g` (decidable), for every triple `t` of `g`:
* `one`: at most one role alignment and at most one alignment in `t`'s list.  (Several are printed
  one after the other, `:ARG0~e.1~e.2`; reading that back fails — model: `PyErr.surface`; real code:
  `DecodeError`.)
* `markers`: every marker satisfies `MarkerOK`: `alnFromString (printed form) = (prefix, indices)`,
  and the printed form has no `"`.  True of `~1,2`, `~e1`, `~e.1`; false of an empty index list and
  of a prefix longer than a letter and a dot (examples below).
* `roleAln`: no role alignment on a node label (`(a :/~e.1 x)` is what would be written).
* `tgtAln`: an alignment only on a triple whose target is a text constant that is not the name of a
  variable (quoted: ending in its quote; unquoted: without `~`).  A relation to a variable may have to
  be written as the relation that OPENS that variable's node — from another top, or without layout
  markers — and `_process_epigraph` drops the alignment of a non-atomic target ("epigraphical marker
  ignored").  COUNTEREXAMPLE `exReent` below (real code agrees): boundary of the property.
  Null targets: the alignment turns `None` into the string `None~e.1` (`exNullTgt`).
* `agree`: triples with the same decoded form (duplicates; a relation and its inverse both present)
  carry the same alignments; decoding keeps the markers of the first written occurrence only
  (`exConflict`).

Text level: `C03Text.C03al_text` (`Props/C03alText.lean`).
-/
namespace Penman
open Cfg Cfg.Al

/-- **C03al, tree level.** -/
theorem C03al_tree (isAlpha : Char → Bool) {m : Model} {g : Graph} {top : Option Str} {t : Str}
    (hw : ModelWf m) (hg : WfGraphAl m g) (hal : AlignOK isAlpha m g)
    (hpv : PushVars g) (hps : PushSrcOK g) (ht : topOf g top = some t) (htv : t ∈ g.variables)
    (hreach : ∀ v ∈ g.variables, Reach g t v) :
    ∃ T, configure m g top = .ok T ∧ T.metadata = g.metadata ∧ T.node.var = some t ∧
      (∀ x, x ∈ T.node.vars ↔ x ∈ g.variables) ∧ T.node.vars.Nodup ∧
      ((T.node.edgeTriples.map stripAln).map (deinvert1 m g)).Perm
        ((g.triples.filter (fun x => !nullB x)).map (deinvert1 m g)) ∧
      ∀ x ∈ T.node.edgeTriples, ∃ t0 ∈ g.triples,
        (stripAln x = t0 ∨ (stripAln x = m.invert t0 ∧ (∃ b, t0.tgt = .str b) ∧ t0.role ≠ CONCEPT_ROLE)) ∧
        x.role = (stripAln x).role ++ alnText (roleAlnOf g t0) ∧
        x.tgt = withAln (stripAln x).tgt (tgtAlnOf g t0) :=
  Cfg.Al.encode_tree_al isAlpha hw hg hal hpv hps ht htv hreach

/-- **C03al, graph level.** -/
theorem C03al (isAlpha : Char → Bool) {m : Model} {g : Graph} {top : Option Str} {t : Str}
    (hw : ModelWf m) (hnoop : m.noop = false) (hg : WfGraphAl m g) (hal : AlignOK isAlpha m g) (hnum : NoNum g)
    (hpv : PushVars g) (hps : PushSrcOK g) (ht : topOf g top = some t) (htv : t ∈ g.variables)
    (hreach : ∀ v ∈ g.variables, Reach g t v) :
    ∃ T g', configure m g top = .ok T ∧ interpret isAlpha m T = .ok g' ∧
      g'.getTop = some t ∧ (∀ x, x ∈ g'.variables ↔ x ∈ g.variables) ∧
      (g'.triples.map (deinvert1 m g)).Perm (g.triples.map (deinvert1 m g)) ∧
      (∀ x ∈ g'.triples, ∃ t0 ∈ g.triples, x = t0 ∨ x = m.invert t0) ∧
      (∀ t0 ∈ g.triples, deinvert1 m g t0 ∈ g'.triples ∧
        roleAlnOf g' (deinvert1 m g t0) = roleAlnOf g t0 ∧ tgtAlnOf g' (deinvert1 m g t0) = tgtAlnOf g t0) ∧
      (∀ x ∈ g'.triples, ∃ t0 ∈ g.triples, x = deinvert1 m g t0) := by
  obtain ⟨T, g', ds, h1, h2, h3, h4, h5, h6, h7, h8⟩ :=
    Cfg.Al.encode_decode_core isAlpha hw hnoop hg hal hnum hpv hps ht htv hreach
  obtain ⟨h9, h10⟩ := Cfg.Al.alignments_kept hw hg hal h2 h3 h6 h8
  exact ⟨T, g', h1, h2, h4, h5, h6, h7, h9, h10⟩

/-- the hypotheses of `C03` imply those of `C03al` -/
theorem C03al_contains_C03 (isAlpha : Char → Bool) {m : Model} {g : Graph} (hg : WfGraph m g) :
    WfGraphAl m g ∧ AlignOK isAlpha m g :=
  ⟨((wfGraph_iff m g).1 hg).1, alignOK_of_noAlign isAlpha m hg.noAlign⟩

/-! ## non-vacuity -/

namespace C03alExamples
open C03Examples (T S)

def e (n : Nat) : Option Str × List Nat := (some "e.".toList, [n])

/-- the graph `penman.decode` returns for
    `(w / want-01~e.2 :ARG0~e.3 (b / boy~e.1) :ARG1 (g / go~e.5 :ARG0-of~e.7 b :polarity~e.9 -~10,11))`:
    alignments on node labels (stored on the instance triples), role alignments, one of them on a
    relation that was written inverted, an alignment on a constant, an alignment without prefix -/
def gA : Graph :=
  { triples := [T "w" ":instance" (S "want-01"), T "w" ":ARG0" (S "b"), T "b" ":instance" (S "boy"),
                T "w" ":ARG1" (S "g"), T "g" ":instance" (S "go"), T "b" ":ARG0" (S "g"),
                T "g" ":polarity" (S "-")],
    epidata := [(T "w" ":instance" (S "want-01"), [.aln (some "e.".toList) [2]]),
                (T "w" ":ARG0" (S "b"), [.roleAln (some "e.".toList) [3], .push "b".toList]),
                (T "b" ":instance" (S "boy"), [.aln (some "e.".toList) [1], .pop]),
                (T "w" ":ARG1" (S "g"), [.push "g".toList]),
                (T "g" ":instance" (S "go"), [.aln (some "e.".toList) [5]]),
                (T "b" ":ARG0" (S "g"), [.roleAln (some "e.".toList) [7]]),
                (T "g" ":polarity" (S "-"), [.roleAln (some "e.".toList) [9], .aln none [10, 11], .pop])] }

attribute [eval_unfold] gA

theorem gA_ok : WfGraphAl Generated.defaultModel gA ∧ AlignOK isAsciiAlpha Generated.defaultModel gA := by
  eval_decide
theorem gA_push : NoNum gA ∧ PushVars gA ∧ PushSrcOK gA := by eval_decide
theorem gA_vars : gA.variables = ["w".toList, "b".toList, "g".toList] := by decide +kernel
example : WfGraphAl Generated.defaultModel gA := gA_ok.1
example : WfGraphAl Generated.amrModel gA := by eval_decide
example : AlignOK isAsciiAlpha Generated.defaultModel gA := gA_ok.2
example : ¬ NoAlign gA := by eval_decide
example : NoNum gA ∧ PushVars gA ∧ PushSrcOK gA := gA_push

theorem gA_conn (t : Str) (ht : t ∈ gA.variables) : ∀ v ∈ gA.variables, Reach gA t v := by
  have hv := gA_vars
  have wb : Adj gA "w".toList "b".toList :=
    ⟨T "w" ":ARG0" (S "b"), by decide, by decide, by decide, by decide, Or.inl ⟨rfl, rfl⟩⟩
  have bw : Adj gA "b".toList "w".toList :=
    ⟨T "w" ":ARG0" (S "b"), by decide, by decide, by decide, by decide, Or.inr ⟨rfl, rfl⟩⟩
  have wg : Adj gA "w".toList "g".toList :=
    ⟨T "w" ":ARG1" (S "g"), by decide, by decide, by decide, by decide, Or.inl ⟨rfl, rfl⟩⟩
  have gw : Adj gA "g".toList "w".toList :=
    ⟨T "w" ":ARG1" (S "g"), by decide, by decide, by decide, by decide, Or.inr ⟨rfl, rfl⟩⟩
  intro v hvm
  rw [hv] at ht hvm
  simp only [List.mem_cons, List.mem_nil_iff, or_false] at ht hvm
  rcases ht with rfl | rfl | rfl <;> rcases hvm with rfl | rfl | rfl
  · exact Reach.refl
  · exact Reach.step Reach.refl wb
  · exact Reach.step Reach.refl wg
  · exact Reach.step Reach.refl bw
  · exact Reach.refl
  · exact Reach.step (Reach.step Reach.refl bw) wg
  · exact Reach.step Reach.refl gw
  · exact Reach.step (Reach.step Reach.refl gw) wb
  · exact Reach.refl

/-- whatever keeps the alignments of `gA` as `C03al` says has them on these triples (no triple of
    `gA` is re-inverted by `deinvert1`) -/
theorem gA_kept {g' : Graph}
    (h : ∀ t0 ∈ gA.triples, deinvert1 Generated.defaultModel gA t0 ∈ g'.triples ∧
      roleAlnOf g' (deinvert1 Generated.defaultModel gA t0) = roleAlnOf gA t0 ∧
      tgtAlnOf g' (deinvert1 Generated.defaultModel gA t0) = tgtAlnOf gA t0) :
    roleAlnOf g' (T "w" ":ARG0" (S "b")) = some (.roleAln (some "e.".toList) [3]) ∧
    tgtAlnOf g' (T "b" ":instance" (S "boy")) = some (.aln (some "e.".toList) [1]) ∧
    roleAlnOf g' (T "b" ":ARG0" (S "g")) = some (.roleAln (some "e.".toList) [7]) ∧
    roleAlnOf g' (T "g" ":polarity" (S "-")) = some (.roleAln (some "e.".toList) [9]) ∧
    tgtAlnOf g' (T "g" ":polarity" (S "-")) = some (.aln none [10, 11]) ∧
    tgtAlnOf g' (T "w" ":ARG1" (S "g")) = none := by
  have hd : ∀ t0 ∈ gA.triples, deinvert1 Generated.defaultModel gA t0 = t0 := by eval_decide
  have hk : ∀ t0 ∈ gA.triples, roleAlnOf g' t0 = roleAlnOf gA t0 ∧ tgtAlnOf g' t0 = tgtAlnOf gA t0 :=
    fun t0 h0 => by have := h t0 h0; rw [hd t0 h0] at this; exact this.2
  rw [(hk (T "w" ":ARG0" (S "b")) (by decide)).1, (hk (T "b" ":instance" (S "boy")) (by decide)).2,
    (hk (T "b" ":ARG0" (S "g")) (by decide)).1, (hk (T "g" ":polarity" (S "-")) (by decide)).1,
    (hk (T "g" ":polarity" (S "-")) (by decide)).2, (hk (T "w" ":ARG1" (S "g")) (by decide)).2]
  eval_decide

/-- `C03al` applies to `gA` from every top, and tells where each alignment ends up -/
example (t : Str) (ht : t ∈ gA.variables) :
    ∃ T' g', configure Generated.defaultModel gA (some t) = .ok T' ∧
      interpret isAsciiAlpha Generated.defaultModel T' = .ok g' ∧ g'.getTop = some t ∧
      roleAlnOf g' (T "w" ":ARG0" (S "b")) = some (.roleAln (some "e.".toList) [3]) ∧
      tgtAlnOf g' (T "b" ":instance" (S "boy")) = some (.aln (some "e.".toList) [1]) ∧
      roleAlnOf g' (T "b" ":ARG0" (S "g")) = some (.roleAln (some "e.".toList) [7]) ∧
      tgtAlnOf g' (T "g" ":polarity" (S "-")) = some (.aln none [10, 11]) ∧
      tgtAlnOf g' (T "w" ":ARG1" (S "g")) = none := by
  obtain ⟨T', g', h1, h2, h3, _, _, _, h4, _⟩ := C03al isAsciiAlpha (top := some t) C13.modelWf_default (by decide)
    gA_ok.1 gA_ok.2 gA_push.1 gA_push.2.1 gA_push.2.2 rfl ht (gA_conn t ht)
  obtain ⟨a1, a2, a3, _, a5, a6⟩ := gA_kept h4
  exact ⟨T', g', h1, h2, h3, a1, a2, a3, a5, a6⟩

/-- `C03al_tree` applies to `gA` from every top -/
example (t : Str) (ht : t ∈ gA.variables) :
    ∃ T', configure Generated.defaultModel gA (some t) = .ok T' ∧ T'.node.var = some t := by
  obtain ⟨T', h1, _, h2, _⟩ := C03al_tree isAsciiAlpha (top := some t) C13.modelWf_default
    gA_ok.1 gA_ok.2 gA_push.2.1 gA_push.2.2 rfl ht (gA_conn t ht)
  exact ⟨T', h1, h2⟩

/-! ### running the model (kernel-evaluable twin `C02.configure'` of `configure`, `C02.configure_eq`) -/

/-- encode from `top`, decode, and report the role alignment and the alignment of `x` -/
def roundTrip (g : Graph) (top : String) (x : Triple) : Option (Option Epi × Option Epi) :=
  match (C02.configure' Generated.defaultModel g (some top.toList)).bind
      (interpret isAsciiAlpha Generated.defaultModel) with
  | .ok g' => some (roleAlnOf g' x, tgtAlnOf g' x)
  | .error _ => none

/-- from the non-original top `b` the relation `(w :ARG0 b)` is written `:ARG0-of~e.3 (w …)`;
    it is read back with its role alignment -/
example : roundTrip gA "b" (T "w" ":ARG0" (S "b")) = some (some (.roleAln (some "e.".toList) [3]), none) := by
  eval_decide
example : roundTrip gA "g" (T "g" ":polarity" (S "-")) =
    some (some (.roleAln (some "e.".toList) [9]), some (.aln none [10, 11])) := by eval_decide

/-! ### markers -/
example : MarkerOK isAsciiAlpha (some "e.".toList) [1] ∧ MarkerOK isAsciiAlpha none [10, 11] ∧
    MarkerOK isAsciiAlpha (some "e".toList) [3] ∧ MarkerOK isAsciiAlpha (some "x.".toList) [0] := by eval_decide
/-- `~e.` (no index), `~ee.1` (long prefix), `~1.2` as prefix `1.`: not read back as themselves -/
example : ¬ MarkerOK isAsciiAlpha (some "e.".toList) [] ∧ ¬ MarkerOK isAsciiAlpha (some "ee.".toList) [1] ∧
    ¬ MarkerOK isAsciiAlpha none [] ∧ ¬ MarkerOK isAsciiAlpha (some "1.".toList) [2] := by eval_decide

/-! ### COUNTEREXAMPLES: what `AlignOK` excludes, on the model -/

/-- `penman.decode('(b / y :ARG0-of a~e.1 :ARG1-of (a / x))')`: an alignment on a RE-ENTRANT variable.
    All hypotheses of `C03al` hold except `AlignOK.tgtAln`.  Encoded from top `a`, the aligned
    relation `(a :ARG0 b)` is the one that opens the node of `b`, and the alignment is dropped. -/
def exReent : Graph :=
  { triples := [T "b" ":instance" (S "y"), T "a" ":ARG0" (S "b"), T "a" ":ARG1" (S "b"), T "a" ":instance" (S "x")],
    epidata := [(T "a" ":ARG0" (S "b"), [.aln (some "e.".toList) [1]]),
                (T "a" ":ARG1" (S "b"), [.push "a".toList]), (T "a" ":instance" (S "x"), [.pop])] }
attribute [eval_unfold] exReent
example : WfGraphAl Generated.defaultModel exReent ∧ NoNum exReent ∧ PushVars exReent ∧ PushSrcOK exReent := by eval_decide
example : ¬ AlignOK isAsciiAlpha Generated.defaultModel exReent := by eval_decide
example : tgtAlnOf exReent (T "a" ":ARG0" (S "b")) = some (.aln (some "e.".toList) [1]) := by eval_decide
/-- kept from the original top, LOST from top `a` -/
example : roundTrip exReent "b" (T "a" ":ARG0" (S "b")) = some (none, some (.aln (some "e.".toList) [1])) := by
  eval_decide
example : roundTrip exReent "a" (T "a" ":ARG0" (S "b")) = some (none, none) := by eval_decide

/-- a relation and its inverse, both present, with different alignments: both are written as
    `:ARG0 …`/`:ARG0-of …` of the same decoded triple; the first written occurrence wins -/
def exConflict : Graph :=
  { triples := [T "a" ":instance" (S "x"), T "b" ":instance" (S "y"), T "a" ":ARG0" (S "b"), T "b" ":ARG0-of" (S "a")],
    epidata := [(T "a" ":ARG0" (S "b"), [.roleAln (some "e.".toList) [1]]),
                (T "b" ":ARG0-of" (S "a"), [.roleAln (some "e.".toList) [2]])] }
attribute [eval_unfold] exConflict
example : WfGraphAl Generated.defaultModel exConflict := by eval_decide
example : ¬ AlignOK isAsciiAlpha Generated.defaultModel exConflict := by eval_decide
example : roundTrip exConflict "a" (T "a" ":ARG0" (S "b")) = some (some (.roleAln (some "e.".toList) [1]), none) := by
  eval_decide

/-- two role alignments on one triple: `:ARG0~e.1~e.2` is written and cannot be read back -/
def exTwo : Graph :=
  { triples := [T "a" ":instance" (S "x"), T "a" ":ARG0" (S "b"), T "b" ":instance" (S "y")],
    epidata := [(T "a" ":ARG0" (S "b"), [.roleAln (some "e.".toList) [1], .roleAln (some "e.".toList) [2]])] }
attribute [eval_unfold] exTwo
example : ¬ AlignOK isAsciiAlpha Generated.defaultModel exTwo := by eval_decide
example : roundTrip exTwo "a" (T "a" ":ARG0" (S "b")) = none := by eval_decide

/-- an alignment on a null target: `None~e.1` is written, a STRING `None` comes back -/
def exNullTgt : Graph :=
  { triples := [T "a" ":instance" (S "x"), T "a" ":ARG0" .none],
    epidata := [(T "a" ":ARG0" .none, [.aln (some "e.".toList) [1]])] }
attribute [eval_unfold] exNullTgt
example : ¬ AlignOK isAsciiAlpha Generated.defaultModel exNullTgt := by eval_decide
example : roundTrip exNullTgt "a" (T "a" ":ARG0" (S "None")) = some (none, some (.aln (some "e.".toList) [1])) := by
  decide +kernel

end C03alExamples
end Penman
