import Penman.Proofs.AlignTextConnected
import Penman.Props.C03al
import Penman.Props.C03Text
import Penman.Proofs.Eval
/-!
# C03al at the level of TEXT — `decode(encode(g, top))` keeps the surface alignments

`C03Text.C03_text` (text-level C03) assumes `NoAlign g`; `Penman.C03al` (alignments) stops at the tree.
This file closes the square: for a graph WITH `RoleAlignment` / `Alignment` epidata,
`encode m g top indent compact = format (configure m g top) indent compact` followed by
`decode cfg isSpace isAlpha m s = interpret (parse s) m` (Python: `PENMANCodec.encode` / `.decode`)
gives back the graph, from every top, for every indentation and compactness, and every triple
reports the same role alignment and the same alignment as before
(`roleAlnOf` / `tgtAlnOf` = `penman.surface.role_alignments` / `alignments`).

Lemmas (namespace `Penman.Cfg.Al`), on top of `Proofs/Align*.lean` and C01:
1. `alignedB_append`: `p s` and `alignmentB cfg a` give `alignedB cfg p (s ++ a)` (`alignedB` tries every
   split point, so no case distinction on quotes is needed); `cells_text_al`, `build_wf_al`,
   `encodedAl_tree_wf`: the written form of the configured tree is `WfTreeText` (`Proofs/ConfiguredTreeWf`).
2. `decode_written_al`: `interpret` on the written form of the configured tree, numbers allowed,
   alignment suffixes read back (`edgeWritten_wE`, `edgeFacts_wE`, `nulls_perm`, `decode_core`;
   `Proofs/ReadConfigured`).
3. `alignments_kept_key` (`Proofs/AlignKept`): the alignments of the decoded graph, at the key "decoded
   written form"; `C03Text.decode_encode` (`Proofs/EncodeDecode`): the composition with C01
   (`parse_format_num`) for any `configure` that succeeded; `encode_decode_text_al` (`Proofs/AlignTextConnected`).

Clause ↦ theorem
* text round trip with alignments ↦ `C03al_text`: the conclusion of `C03_text` (text `s`, decoded `g'`,
  same top, same variables, same triples as multisets up to one de-inversion with constants compared
  by their written form `writtenTriple`, each decoded triple the written form of an input triple or its
  inversion, same metadata) plus, as in `C03al`:
  - every triple `t0` of `g` occurs in `g'` as `deinvert1 m g (writtenTriple t0)` and that triple reports
    the SAME role alignment and the SAME alignment;
  - every triple of `g'` is of that form: nothing else carries anything.
* generated lexer tables ↦ `C03al_text_generated`.
* no numbers ↦ `C03al_text_noNum`: literally the conclusion of `C03al`, through text.
* `C03_text` is contained ↦ `C03al_text_contains_C03_text`: `WfGraph ∧ GraphTextOK` imply
  `WfGraphAl ∧ AlignOK ∧ GraphTextOKal` (`graphTextOKal_of_noAlign`: `GraphTextOK ∧ NoAlign → GraphTextOKal`).
* text half on its own ↦ `C03al_text_parse` (the configured tree is `WfTreeText`; its text parses to
  its written form, for every option).

Hypotheses (all decidable except connectivity): those of `C03al` (`ModelWf`, `noop = false`, `WfGraphAl`,
`AlignOK`, `PushVars`, `PushSrcOK`, top a variable reaching every variable), `FmtCfgWf cfg` (C01), and
`GraphTextOKal cfg isSpace m g` (`Penman/Spec/AlignTextOK.lean`) =
* `base`: `GraphTextOK` of `C03_text` (SYMBOL / ROLE / STRING texts, one node label, `WfMeta`);
* `markers`: every alignment marker prints to an ALIGNMENT text of `cfg` (`alignmentB cfg e.toStr`);
* `agreeW`: triples with the same decoded WRITTEN form carry the same alignments.  `AlignOK.agree`
  compares triples as they are; in text the number `0` and the string `0` are the same constant.

FINDINGS (both are boundaries of the property, not violations of the real code; both replayed)
1. `exNumStr`: `('a', ':q', 0)` (the NUMBER `0`) and `('a', ':q', '0')` (the string) are different triples of
   one graph and may carry different role alignments; `AlignOK` and every hypothesis of `C03al` and of
   `C03_text` except `NoAlign` hold.  They are written `:q~e.1 0` and `:q~e.2 0`, both decode to
   `('a', ':q', '0')`, and `interpret` keeps the markers of the first ("ignoring epigraph data for
   duplicate triple"): `~e.2` comes back as `~e.1`.  Numbers are not preserved by text anyway; hence
   `agreeW`.  Without numbers `agreeW` is `AlignOK.agree`.
2. `exUni`: `MarkerOK` is relative to `isAlpha` (Python: `str.isalpha`, Unicode), the ALIGNMENT token to
   `[a-zA-Z]`.  `RoleAlignment((1,), prefix='é.')` satisfies `from_string(str(mk)) == mk`, so `C03al`
   (tree level) holds with a Unicode `isAlpha`, but the text `(a / x :q~é.1 y)` is rejected:
   `DecodeError` line 1, offset 9 (model: `PyErr.decode 1 9 _`).  Hence `markers`, stated on `cfg`.
-/
namespace Penman.C03Text
open Penman.Spec Penman.Cfg Penman.Cfg.Al

/-- **C03al, text level.** -/
theorem C03al_text {cfg : LexCfg} (hcfg : FmtCfgWf cfg = true) (isSpace isAlpha : Char → Bool) {m : Model}
    {g : Graph} {top : Option Str} {t : Str} (hw : ModelWf m) (hnoop : m.noop = false) (hg : WfGraphAl m g)
    (hal : AlignOK isAlpha m g) (htx : GraphTextOKal cfg isSpace m g) (hpv : PushVars g) (hps : PushSrcOK g)
    (ht : topOf g top = some t) (htv : t ∈ g.variables) (hreach : ∀ v ∈ g.variables, Reach g t v)
    (i : Indent) (c : Bool) :
    ∃ s g', encode m g top i c = .ok s ∧ decode cfg isSpace isAlpha m s = .ok g' ∧
      g'.getTop = some t ∧ (∀ x, x ∈ g'.variables ↔ x ∈ g.variables) ∧
      (g'.triples.map (deinvert1 m g)).Perm ((g.triples.map writtenTriple).map (deinvert1 m g)) ∧
      (∀ x ∈ g'.triples, ∃ t0 ∈ g.triples, x = writtenTriple t0 ∨ x = m.invert (writtenTriple t0)) ∧
      (∀ t0 ∈ g.triples, deinvert1 m g (writtenTriple t0) ∈ g'.triples ∧
        roleAlnOf g' (deinvert1 m g (writtenTriple t0)) = roleAlnOf g t0 ∧
        tgtAlnOf g' (deinvert1 m g (writtenTriple t0)) = tgtAlnOf g t0) ∧
      (∀ x ∈ g'.triples, ∃ t0 ∈ g.triples, x = deinvert1 m g (writtenTriple t0)) ∧
      g'.metadata = g.metadata :=
  encode_decode_text_al hcfg isSpace isAlpha hw hnoop hg hal htx hpv hps ht htv hreach i c

/-- `C03al_text` at the generated lexer tables -/
theorem C03al_text_generated (isSpace isAlpha : Char → Bool) {m : Model}
    {g : Graph} {top : Option Str} {t : Str} (hw : ModelWf m) (hnoop : m.noop = false) (hg : WfGraphAl m g)
    (hal : AlignOK isAlpha m g) (htx : GraphTextOKal Generated.lexCfg isSpace m g) (hpv : PushVars g)
    (hps : PushSrcOK g) (ht : topOf g top = some t) (htv : t ∈ g.variables)
    (hreach : ∀ v ∈ g.variables, Reach g t v) (i : Indent) (c : Bool) :
    ∃ s g', encode m g top i c = .ok s ∧ decode Generated.lexCfg isSpace isAlpha m s = .ok g' ∧
      g'.getTop = some t ∧ (∀ x, x ∈ g'.variables ↔ x ∈ g.variables) ∧
      (g'.triples.map (deinvert1 m g)).Perm ((g.triples.map writtenTriple).map (deinvert1 m g)) ∧
      (∀ t0 ∈ g.triples, deinvert1 m g (writtenTriple t0) ∈ g'.triples ∧
        roleAlnOf g' (deinvert1 m g (writtenTriple t0)) = roleAlnOf g t0 ∧
        tgtAlnOf g' (deinvert1 m g (writtenTriple t0)) = tgtAlnOf g t0) ∧
      g'.metadata = g.metadata := by
  obtain ⟨s, g', h1, h2, h3, h4, h5, _, h7, _, h9⟩ :=
    C03al_text C01.fmt_cfg_wf isSpace isAlpha hw hnoop hg hal htx hpv hps ht htv hreach i c
  exact ⟨s, g', h1, h2, h3, h4, h5, h7, h9⟩

/-- without numbers: the conclusion of `C03al`, through the text -/
theorem C03al_text_noNum {cfg : LexCfg} (hcfg : FmtCfgWf cfg = true) (isSpace isAlpha : Char → Bool) {m : Model}
    {g : Graph} {top : Option Str} {t : Str} (hw : ModelWf m) (hnoop : m.noop = false) (hg : WfGraphAl m g)
    (hal : AlignOK isAlpha m g) (htx : GraphTextOKal cfg isSpace m g) (hnum : NoNum g) (hpv : PushVars g)
    (hps : PushSrcOK g) (ht : topOf g top = some t) (htv : t ∈ g.variables)
    (hreach : ∀ v ∈ g.variables, Reach g t v) (i : Indent) (c : Bool) :
    ∃ s g', encode m g top i c = .ok s ∧ decode cfg isSpace isAlpha m s = .ok g' ∧
      g'.getTop = some t ∧ (∀ x, x ∈ g'.variables ↔ x ∈ g.variables) ∧
      (g'.triples.map (deinvert1 m g)).Perm (g.triples.map (deinvert1 m g)) ∧
      (∀ x ∈ g'.triples, ∃ t0 ∈ g.triples, x = t0 ∨ x = m.invert t0) ∧
      (∀ t0 ∈ g.triples, deinvert1 m g t0 ∈ g'.triples ∧
        roleAlnOf g' (deinvert1 m g t0) = roleAlnOf g t0 ∧ tgtAlnOf g' (deinvert1 m g t0) = tgtAlnOf g t0) ∧
      (∀ x ∈ g'.triples, ∃ t0 ∈ g.triples, x = deinvert1 m g t0) ∧
      g'.metadata = g.metadata := by
  obtain ⟨s, g', h1, h2, h3, h4, h5, h6, h7, h8, h9⟩ :=
    C03al_text hcfg isSpace isAlpha hw hnoop hg hal htx hpv hps ht htv hreach i c
  have hwt : ∀ t0 ∈ g.triples, writtenTriple t0 = t0 := fun t0 h0 => written_of_notNum (hnum t0 h0)
  rw [writtenTriple_of_noNum hnum] at h5
  refine ⟨s, g', h1, h2, h3, h4, h5, ?_, ?_, ?_, h9⟩
  · intro x hx; obtain ⟨t0, h0, h⟩ := h6 x hx; rw [hwt t0 h0] at h; exact ⟨t0, h0, h⟩
  · intro t0 h0; have := h7 t0 h0; rw [hwt t0 h0] at this; exact this
  · intro x hx; obtain ⟨t0, h0, h⟩ := h8 x hx; rw [hwt t0 h0] at h; exact ⟨t0, h0, h⟩

/-- the hypotheses of `C03_text` imply those of `C03al_text`: `C03al_text` contains `C03_text` -/
theorem C03al_text_contains_C03_text {cfg : LexCfg} (isSpace isAlpha : Char → Bool) {m : Model} {g : Graph}
    (hg : WfGraph m g) (htx : GraphTextOK cfg isSpace m g) :
    WfGraphAl m g ∧ AlignOK isAlpha m g ∧ GraphTextOKal cfg isSpace m g :=
  ⟨((wfGraph_iff m g).1 hg).1, alignOK_of_noAlign isAlpha m hg.noAlign, graphTextOKal_of_noAlign htx hg.noAlign⟩

/-- **the configured tree of a graph with alignments is grammar-valid, and its text parses back to
    its written form**, under every option -/
theorem C03al_text_parse {cfg : LexCfg} (hcfg : FmtCfgWf cfg = true) (isSpace isAlpha : Char → Bool) {m : Model}
    {g : Graph} {top : Option Str} {t : Str} (hw : ModelWf m) (hg : WfGraphAl m g)
    (hal : AlignOK isAlpha m g) (htx : GraphTextOKal cfg isSpace m g) (hpv : PushVars g) (hps : PushSrcOK g)
    (ht : topOf g top = some t) (htv : t ∈ g.variables) (hreach : ∀ v ∈ g.variables, Reach g t v)
    (i : Indent) (c : Bool) :
    ∃ T, configure m g top = .ok T ∧ WfTreeText cfg (writtenForm T.node) ∧
      encode m g top i c = .ok (format T i c) ∧
      C01.parse cfg isSpace (format T i c) = .ok ⟨writtenForm T.node, T.metadata⟩ :=
  encode_parse_text_al hcfg isSpace isAlpha hw hg hal htx hpv hps ht htv hreach i c

/-! ## non-vacuity -/

namespace AlExamples
open C03Examples (T S)
open C03alExamples (gA gA_conn gA_kept gA_ok gA_push gA_vars)
open C03Text.Examples (isSp)

/-- `gA` (`Props/C03al.lean`): the graph of
    `(w / want-01~e.2 :ARG0~e.3 (b / boy~e.1) :ARG1 (g / go~e.5 :ARG0-of~e.7 b :polarity~e.9 -~10,11))`
    satisfies every hypothesis -/
theorem gA_textOKal : GraphTextOKal Generated.lexCfg isSp Generated.defaultModel gA := by eval_decide
example : GraphTextOKal Generated.lexCfg isSp Generated.defaultModel gA := gA_textOKal
example : WfGraphAl Generated.defaultModel gA ∧ AlignOK isAsciiAlpha Generated.defaultModel gA := gA_ok
example : PushVars gA ∧ PushSrcOK gA ∧ ¬ NoAlign gA := ⟨gA_push.2.1, gA_push.2.2, by eval_decide⟩
example : gA.variables = ["w".toList, "b".toList, "g".toList] := gA_vars

/-- `C03al_text` applies to `gA` from EVERY top (`w`, `b`, `g`), every indentation, both compactness
    settings, and tells where each alignment ends up -/
example (t : Str) (ht : t ∈ gA.variables) (i : Indent) (c : Bool) :
    ∃ s g', encode Generated.defaultModel gA (some t) i c = .ok s ∧
      decode Generated.lexCfg isSp isAsciiAlpha Generated.defaultModel s = .ok g' ∧ g'.getTop = some t ∧
      roleAlnOf g' (T "w" ":ARG0" (S "b")) = some (.roleAln (some "e.".toList) [3]) ∧
      tgtAlnOf g' (T "b" ":instance" (S "boy")) = some (.aln (some "e.".toList) [1]) ∧
      roleAlnOf g' (T "b" ":ARG0" (S "g")) = some (.roleAln (some "e.".toList) [7]) ∧
      roleAlnOf g' (T "g" ":polarity" (S "-")) = some (.roleAln (some "e.".toList) [9]) ∧
      tgtAlnOf g' (T "g" ":polarity" (S "-")) = some (.aln none [10, 11]) ∧
      tgtAlnOf g' (T "w" ":ARG1" (S "g")) = none := by
  obtain ⟨s, g', h1, h2, h3, _, _, _, h4, _⟩ := C03al_text_noNum C01.fmt_cfg_wf isSp isAsciiAlpha
    (top := some t) C13.modelWf_default (by decide) gA_ok.1 gA_ok.2 gA_textOKal gA_push.1 gA_push.2.1
    gA_push.2.2 rfl ht (gA_conn t ht) i c
  exact ⟨s, g', h1, h2, h3, gA_kept h4⟩

/-- the two tops `b` and `g` (neither is the original top `w`), spelled out -/
example (i : Indent) (c : Bool) :
    (∃ s g', encode Generated.defaultModel gA (some "b".toList) i c = .ok s ∧
      decode Generated.lexCfg isSp isAsciiAlpha Generated.defaultModel s = .ok g' ∧ g'.getTop = some "b".toList) ∧
    (∃ s g', encode Generated.defaultModel gA (some "g".toList) i c = .ok s ∧
      decode Generated.lexCfg isSp isAsciiAlpha Generated.defaultModel s = .ok g' ∧ g'.getTop = some "g".toList) := by
  constructor
  · obtain ⟨s, g', h1, h2, h3, _⟩ := C03al_text_generated isSp isAsciiAlpha (top := some "b".toList)
      C13.modelWf_default (by decide) gA_ok.1 gA_ok.2 gA_textOKal gA_push.2.1 gA_push.2.2 rfl
      (by decide) (gA_conn _ (by decide)) i c
    exact ⟨s, g', h1, h2, h3⟩
  · obtain ⟨s, g', h1, h2, h3, _⟩ := C03al_text_generated isSp isAsciiAlpha (top := some "g".toList)
      C13.modelWf_default (by decide) gA_ok.1 gA_ok.2 gA_textOKal gA_push.2.1 gA_push.2.2 rfl
      (by decide) (gA_conn _ (by decide)) i c
    exact ⟨s, g', h1, h2, h3⟩

/-! ### running the model (kernel-evaluable twin `C02.configure'` of `configure`) -/

def encode' (m : Model) (g : Graph) (top : Option Str) (i : Indent) (c : Bool) : Except PyErr Str :=
  (C02.configure' m g top).map (fun T => format T i c)

theorem encode_eq' (m : Model) (g : Graph) (top : Option Str) (i : Indent) (c : Bool) :
    encode m g top i c = encode' m g top i c := by
  unfold encode encode'; rw [C02.configure_eq]

/-- from the top `b` the real code writes exactly this text (replayed) … -/
example : (encode' Generated.defaultModel gA (some "b".toList) (some (-1)) false).toOption =
    some "(b / boy~e.1\n   :ARG0-of~e.3 (w / want-01~e.2\n                   :ARG1 (g / go~e.5\n                            :ARG0-of~e.7 b\n                            :polarity~e.9 -~10,11)))".toList := by
  eval_decide
/-- … and from the top `g`, on one line -/
example : (encode' Generated.defaultModel gA (some "g".toList) none false).toOption =
    some "(g / go~e.5 :ARG1-of (w / want-01~e.2 :ARG0~e.3 (b / boy~e.1)) :ARG0-of~e.7 b :polarity~e.9 -~10,11)".toList := by
  eval_decide

/-- encode from `top`, decode the TEXT, and report the role alignment and the alignment of `x` -/
def roundTripText (g : Graph) (top : String) (i : Indent) (c : Bool) (x : Triple) :
    Option (Option Epi × Option Epi) :=
  match (encode' Generated.defaultModel g (some top.toList) i c).bind
      (decode Generated.lexCfg isSp isAsciiAlpha Generated.defaultModel) with
  | .ok g' => some (roleAlnOf g' x, tgtAlnOf g' x)
  | .error _ => none

example : roundTripText gA "b" (some (-1)) false (T "w" ":ARG0" (S "b")) =
    some (some (.roleAln (some "e.".toList) [3]), none) := by eval_decide
example : roundTripText gA "g" none true (T "g" ":polarity" (S "-")) =
    some (some (.roleAln (some "e.".toList) [9]), some (.aln none [10, 11])) := by eval_decide

/-! ### a quoted string containing `~`, with an alignment: allowed -/

/-- `penman.decode('(a / x :name "a~b"~e.4 :q~e.1 "q"~2)')` -/
def gQ : Graph :=
  { triples := [T "a" ":instance" (S "x"), T "a" ":name" (S "\"a~b\""), T "a" ":q" (S "\"q\"")],
    epidata := [(T "a" ":name" (S "\"a~b\""), [.aln (some "e.".toList) [4]]),
                (T "a" ":q" (S "\"q\""), [.roleAln (some "e.".toList) [1], .aln none [2]])] }
attribute [eval_unfold] gQ
example : WfGraphAl Generated.defaultModel gQ ∧ AlignOK isAsciiAlpha Generated.defaultModel gQ ∧
    GraphTextOKal Generated.lexCfg isSp Generated.defaultModel gQ ∧ PushVars gQ ∧ PushSrcOK gQ := by eval_decide
example : roundTripText gQ "a" (some (-1)) false (T "a" ":name" (S "\"a~b\"")) =
    some (none, some (.aln (some "e.".toList) [4])) := by eval_decide

/-! ### COUNTEREXAMPLE (boundary): a number and the string spelled like it, different alignments -/

/-- `Graph([('a',':instance','x'), ('a',':q',0), ('a',':q','0')])` with `~e.1` on the role of the
    first `:q` and `~e.2` on the second -/
def exNumStr : Graph :=
  { triples := [T "a" ":instance" (S "x"), T "a" ":q" (.num "0".toList), T "a" ":q" (S "0")],
    epidata := [(T "a" ":q" (.num "0".toList), [.roleAln (some "e.".toList) [1]]),
                (T "a" ":q" (S "0"), [.roleAln (some "e.".toList) [2]])] }
attribute [eval_unfold] exNumStr

/-- every hypothesis of `C03al_text` holds except `GraphTextOKal.agreeW` … -/
example : WfGraphAl Generated.defaultModel exNumStr ∧ AlignOK isAsciiAlpha Generated.defaultModel exNumStr ∧
    GraphTextOK Generated.lexCfg isSp Generated.defaultModel exNumStr ∧
    (∀ t ∈ exNumStr.triples, ∀ e ∈ episOf exNumStr t, e.mode ≠ 0 → alignmentB Generated.lexCfg e.toStr = true) ∧
    PushVars exNumStr ∧ PushSrcOK exNumStr := by decide +kernel
example : ¬ GraphTextOKal Generated.lexCfg isSp Generated.defaultModel exNumStr := by decide +kernel
/-- … the text is `(a / x :q~e.1 0 :q~e.2 0)` … -/
example : (encode' Generated.defaultModel exNumStr none none false).toOption =
    some "(a / x :q~e.1 0 :q~e.2 0)".toList := by eval_decide
/-- … and the second triple's role alignment `~e.2` comes back as `~e.1` (real code: the same, with the
    warning "ignoring epigraph data for duplicate triple") -/
example : roleAlnOf exNumStr (T "a" ":q" (S "0")) = some (.roleAln (some "e.".toList) [2]) := by eval_decide
example : roundTripText exNumStr "a" none false (T "a" ":q" (S "0")) =
    some (some (.roleAln (some "e.".toList) [1]), none) := by decide +kernel

/-! ### COUNTEREXAMPLE (boundary): a marker that `from_string` reads back but the lexer does not -/

/-- `str.isalpha` accepts more than `[a-zA-Z]` -/
def isAlphaE (c : Char) : Bool := isAsciiAlpha c || c == 'é'

/-- `Graph([('a',':instance','x'), ('a',':q','y')])` with `RoleAlignment((1,), prefix='é.')` on `:q` -/
def exUni : Graph :=
  { triples := [T "a" ":instance" (S "x"), T "a" ":q" (S "y")],
    epidata := [(T "a" ":q" (S "y"), [.roleAln (some "é.".toList) [1]])] }
attribute [eval_unfold] exUni

/-- every hypothesis of `C03al_text` holds (with `isAlphaE`) except `GraphTextOKal.markers` … -/
theorem exUni_ok : WfGraphAl Generated.defaultModel exUni ∧ AlignOK isAlphaE Generated.defaultModel exUni ∧
    GraphTextOK Generated.lexCfg isSp Generated.defaultModel exUni ∧ NoNum exUni ∧
    PushVars exUni ∧ PushSrcOK exUni := by eval_decide
example : WfGraphAl Generated.defaultModel exUni ∧ AlignOK isAlphaE Generated.defaultModel exUni ∧
    GraphTextOK Generated.lexCfg isSp Generated.defaultModel exUni ∧ NoNum exUni ∧
    PushVars exUni ∧ PushSrcOK exUni := exUni_ok
example : ¬ GraphTextOKal Generated.lexCfg isSp Generated.defaultModel exUni := by eval_decide
/-- … so the tree-level round trip `C03al` keeps the alignment … -/
example : ∃ T' g', configure Generated.defaultModel exUni none = .ok T' ∧
    interpret isAlphaE Generated.defaultModel T' = .ok g' ∧
    roleAlnOf g' (T "a" ":q" (S "y")) = some (.roleAln (some "é.".toList) [1]) := by
  obtain ⟨T', g', h1, h2, _, _, _, _, h4, _⟩ := C03al isAlphaE (g := exUni) (top := none) (t := "a".toList)
    C13.modelWf_default (by decide) exUni_ok.1 exUni_ok.2.1 exUni_ok.2.2.2.1 exUni_ok.2.2.2.2.1 exUni_ok.2.2.2.2.2 rfl
    (by decide) (by
      intro v hv
      have : exUni.variables = ["a".toList] := by decide
      rw [this] at hv; simp only [List.mem_singleton] at hv; subst hv; exact Reach.refl)
  exact ⟨T', g', h1, h2, (h4 (T "a" ":q" (S "y")) (by decide)).2.1⟩
/-- … but the text is `(a / x :q~é.1 y)` and decoding it fails at the `~` (real code: `DecodeError`,
    line 1, offset 9, "Expected: SYMBOL, STRING, LPAREN") -/
example : (encode' Generated.defaultModel exUni none none false).toOption =
    some "(a / x :q~é.1 y)".toList := by eval_decide
example : C06Examples.errOf ((encode' Generated.defaultModel exUni none none false).bind
    (decode Generated.lexCfg isSp isAlphaE Generated.defaultModel)) = some (.decode 1 9 1) := by decide +kernel

/-! ### the hypotheses `markers` and `agreeW` exclude something -/

/-- a marker whose printed form is no ALIGNMENT token (`~e.` without index): `markers` fails -/
example : ¬ GraphTextOKal Generated.lexCfg isSp Generated.defaultModel
    { triples := [T "a" ":instance" (S "x")],
      epidata := [(T "a" ":instance" (S "x"), [.aln (some "e.".toList) []])] } := by decide +kernel

end AlExamples

end Penman.C03Text
