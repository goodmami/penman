/-
  # C04 — Decoding yields exactly the documented reading of the notation

  Reference reading: `Penman.Spec.Reading` (`written` → `denote` → `read`), written
  from docs/notation.rst and docs/structures.rst.  Model function: `Penman.interpret`
  (`penman.layout.interpret`), `Graph.mk'`, `Graph.getTop`, `Graph.variables`,
  `getAlignments` (`penman.surface.alignments` / `role_alignments`).

  Clause of the property text                                   ↦ theorem
  ------------------------------------------------------------------------------------
  "The top … and ordered triples obtained by decoding are those
   of the documented reading" (all trees, also ill-formed ones)  ↦ `C04`
  "per node one instance triple (null concept, listed first, if
   none is written) and one triple per branch in depth-first
   order"                                                        ↦ `C04` + definition of `Node.written`
                                                                    (`reading_null_instance_first`)
  "an inverted role on a branch to a node or to another node's
   variable is deinverted once with source and target swapped"   ↦ `C04` + `reading_swaps_node_targets`
  "(never, under the no-op model)"                               ↦ `reading_noop_never_swaps`
  "an inverted role on a constant is left as written"            ↦ `reading_constant_as_written`
  "… variables …"                                                ↦ `C04_variables`
  "Alignment suffixes are never part of a triple"                ↦ `C04_no_tilde`
  "reported separately, attached to the triple whose role or
   target they followed in the text"                             ↦ `C04_alignments`
  "a `~` inside a quoted string is content"                      ↦ `splitTarget` (spec), `C04_no_tilde`,
                                                                    the `splitTarget` examples
  domain: "all trees on which the model is defined"              ↦ `C04_domain` (interpret succeeds
                                                                    exactly when the reading exists)

  Roles and the colon: `Graph.__init__` adds a missing leading colon to every role
  (`ensureColon`), so `g.triples = r.triples.map colon`; for trees whose roles are
  written with their colon (every parsed tree) this is `g.triples = r.triples`
  (`C04_colon`).  The alignment tables are keyed by the triple *as denoted*, i.e.
  before that normalisation (see OBSERVATION at the end).

  Nothing is left unproved in this file.
-/
import Penman.Proofs.Decoded
import Penman.Generated
import Penman.Proofs.Eval
namespace Penman.Props.C04
open Penman Penman.Spec.Reading Penman.Interp

/-! ## the main statement -/

/-- **C04.** Whenever `interpret` succeeds (any tree, any model), the documented
    reading exists, and top and ordered triples are those of the reading. -/
theorem C04 (isAlpha : Char → Bool) (m : Model) (t : Tree) (g : Graph)
    (h : interpret isAlpha m t = .ok g) :
    ∃ r, read isAlpha m t.node = .ok r ∧
      g.getTop = r.top ∧ g.top = r.top ∧ r.top = t.node.var ∧
      g.triples = r.triples.map colon := by
  obtain ⟨v, ds, es, D⟩ := decoded h
  refine ⟨⟨some v, ds⟩, D.rd, D.getTop, D.top, D.var.symm, ?_⟩
  rw [D.triples]; simp [Reading.triples]

/-- the interpreter is defined exactly on the trees that have a reading
    (all nodes have a variable, no numeric atoms, alignment strings parse) -/
theorem C04_domain (isAlpha : Char → Bool) (m : Model) (t : Tree) :
    (∃ g, interpret isAlpha m t = .ok g) ↔ (∃ r, read isAlpha m t.node = .ok r) := by
  constructor
  · rintro ⟨g, h⟩; obtain ⟨r, hr, -⟩ := C04 isAlpha m t g h; exact ⟨r, hr⟩
  · rintro ⟨r, h⟩; exact interpret_defined h

/-- if every role is written with its colon, the triples are literally those of the reading -/
theorem C04_colon (isAlpha : Char → Bool) (m : Model) (t : Tree) (g : Graph) (r : Reading)
    (h : interpret isAlpha m t = .ok g) (hr : read isAlpha m t.node = .ok r)
    (hc : ∀ tr ∈ r.triples, startsWith [':'] tr.role = true) : g.triples = r.triples := by
  obtain ⟨r', hr', -, -, -, ht⟩ := C04 isAlpha m t g h
  rw [hr] at hr'; cases hr'
  rw [ht]
  conv => rhs; rw [← List.map_id r.triples]
  apply List.map_congr_left
  intro tr htr
  simp [colon, ensureColon, hc tr htr]

/-- **variables**: `g.variables()` is the set of sources of the reading, which is the set of
    node variables of the tree (in first-occurrence order of the sources). -/
theorem C04_variables (isAlpha : Char → Bool) (m : Model) (t : Tree) (g : Graph) (r : Reading)
    (h : interpret isAlpha m t = .ok g) (hr : read isAlpha m t.node = .ok r) :
    g.variables = dedup (r.triples.map (·.src)) ∧
    (∀ x, x ∈ g.variables ↔ (x ∈ t.node.vars ∨ x ∈ r.triples.map (·.src))) ∧
    (∀ x, x ∈ g.variables ↔ x ∈ t.node.vars) := by
  obtain ⟨v, ds, es, D⟩ := decoded h
  rw [D.rd] at hr; cases hr
  refine ⟨?_, ?_, D.mem_variables⟩
  · rw [D.variables_eq]; simp only [Reading.triples, List.map_map]; rfl
  · intro x
    have h2 := D.mem_srcs x
    simp only [Reading.triples, List.map_map] at h2 ⊢
    rw [D.mem_variables x]
    exact ⟨.inl, fun h => h.elim id h2.1⟩

/-- **alignments**: `alignments(g)` / `role_alignments(g)` list, in text order, for each
    distinct triple the alignment written after the target / role of its *first* written
    occurrence (later duplicates of the triple are ignored). -/
theorem C04_alignments (isAlpha : Char → Bool) (m : Model) (t : Tree) (g : Graph) (r : Reading)
    (h : interpret isAlpha m t = .ok g) (hr : read isAlpha m t.node = .ok r) :
    getAlignments g false = r.alignments.map (fun p => (p.1, Epi.aln p.2.1 p.2.2)) ∧
    getAlignments g true = r.roleAlignments.map (fun p => (p.1, Epi.roleAln p.2.1 p.2.2)) := by
  obtain ⟨v, ds, es, D⟩ := decoded h
  rw [D.rd] at hr; cases hr
  exact ⟨D.alignments, D.roleAlignments⟩

/-- **no alignment suffix inside a triple**: no role of `g` contains `~`; a string target
    contains `~` only if it is a quoted string (then it is the text through its last `"`,
    by `C04`/`splitTarget`) or the variable of a node of the tree (hand-built trees only). -/
theorem C04_no_tilde (isAlpha : Char → Bool) (m : Model) (t : Tree) (g : Graph)
    (h : interpret isAlpha m t = .ok g) :
    ∀ tr ∈ g.triples, '~' ∉ tr.role ∧
      ∀ s, tr.tgt = .str s → '~' ∈ s → s.head? = some '"' ∨ s ∈ t.node.vars := by
  obtain ⟨v, ds, es, D⟩ := decoded h
  intro tr htr
  rw [D.triples] at htr
  obtain ⟨d, hd, rfl⟩ := List.mem_map.1 htr
  exact D.no_tilde hd

/-! ## the reading says what the property text says -/

/-- a node without node label is read with `(v :instance None)` first among its relations -/
theorem reading_null_instance_first (v : Option Str) (bs : Branches) (h : labelled bs = false) :
    Node.written (.mk v bs) = ⟨v, ['/'], .atom .none⟩ :: Branches.written v bs := by
  simp [Node.written, h]

/-- under the no-op model nothing is ever swapped: every triple keeps its writer as source -/
theorem reading_noop_never_swaps (isAlpha : Char → Bool) (m : Model) (vars : List Str) (w : Written)
    (d : Denoted) (hm : m.noop = true) (h : denote isAlpha m vars w = .ok d) :
    d.swapped = false ∧ d.triple.src = d.ctx ∧ d.triple.role = roleName w.role := by
  obtain ⟨-, -, hs⟩ := denote_shape h
  cases hs with
  | opens nv h1 h2 h3 h4 => simp only [hm, Bool.not_true, Bool.false_and] at h3; simp [h4, h3, orientTriple]
  | null h1 h2 h3 h4 => simp [h4, h3]
  | str raw h1 h2 h3 h4 => simp only [hm, Bool.not_true, Bool.false_and] at h3; simp [h4, h3, orientTriple]

/-- an inverted role on a constant (a target that is no node variable) is left as written -/
theorem reading_constant_as_written (isAlpha : Char → Bool) (m : Model) (vars : List Str) (c role raw : Str)
    (d : Denoted) (hv : (splitTarget raw).1 ∉ vars)
    (h : denote isAlpha m vars ⟨some c, role, .atom (.str raw)⟩ = .ok d) :
    d.swapped = false ∧ d.triple = ⟨c, roleName role, .str (splitTarget raw).1⟩ := by
  obtain ⟨hc, -, hs⟩ := denote_shape h
  simp only [Option.some.injEq] at hc
  cases hs with
  | opens nv h1 => cases h1
  | null h1 => cases h1
  | str raw' h1 h2 h3 h4 =>
    simp only [WTarget.atom.injEq, Atom.str.injEq] at h1; subst h1
    simp only [hv, decide_false, Bool.and_false] at h3
    simp [h4, h3, orientTriple, hc]

/-- an inverted role on a nested node, or on the variable of a node of the tree, is swapped
    exactly once by `Model.invert` (source and target exchanged) unless the model is no-op -/
theorem reading_swaps_node_targets (isAlpha : Char → Bool) (m : Model) (vars : List Str) (c role : Str)
    (hm : m.noop = false) (hi : m.isRoleInverted (roleName role) = true) :
    (∀ nv d, denote isAlpha m vars ⟨some c, role, .opens (some nv)⟩ = .ok d →
      d.swapped = true ∧ d.triple = ⟨nv, m.invertRole (roleName role), .str c⟩) ∧
    (∀ raw d, (splitTarget raw).1 ∈ vars → denote isAlpha m vars ⟨some c, role, .atom (.str raw)⟩ = .ok d →
      d.swapped = true ∧ d.triple = ⟨(splitTarget raw).1, m.invertRole (roleName role), .str c⟩) := by
  constructor
  · intro nv d h
    obtain ⟨hc, -, hs⟩ := denote_shape h
    simp only [Option.some.injEq] at hc
    cases hs with
    | null h1 => cases h1
    | str raw' h1 => cases h1
    | opens nv' h1 h2 h3 h4 =>
      simp only [WTarget.opens.injEq, Option.some.injEq] at h1; subst h1
      simp only [hm, hi, Bool.not_false, Bool.and_self] at h3
      simp [h4, h3, orientTriple, Model.invert, hc]
  · intro raw d hv h
    obtain ⟨hc, -, hs⟩ := denote_shape h
    simp only [Option.some.injEq] at hc
    cases hs with
    | opens nv h1 => cases h1
    | null h1 => cases h1
    | str raw' h1 h2 h3 h4 =>
      simp only [WTarget.atom.injEq, Atom.str.injEq] at h1; subst h1
      simp only [hm, hi, hv, Bool.not_false, Bool.and_self, decide_true] at h3
      simp [h4, h3, orientTriple, Model.invert, hc]

/-! ## non-vacuity: concrete trees -/

private def s (x : String) : Str := x.toList
private def T (src role tgt : String) : Triple := ⟨s src, s role, .str (s tgt)⟩
attribute [eval_unfold] s T

/-- the docstring example of `node_contexts`:
    `(a / alpha :attr val :ARG0 (b / beta :ARG0 (g / gamma)) :ARG0-of g)` -/
def exDoc : Tree := ⟨.mk (some (s "a")) (.atom (s "/") (.str (s "alpha")) (.atom (s ":attr") (.str (s "val"))
  (.sub (s ":ARG0") (.mk (some (s "b")) (.atom (s "/") (.str (s "beta"))
      (.sub (s ":ARG0") (.mk (some (s "g")) (.atom (s "/") (.str (s "gamma")) .nil)) .nil)))
  (.atom (s ":ARG0-of") (.str (s "g")) .nil)))), []⟩
attribute [eval_unfold] exDoc

/-- hypotheses of `C04` are satisfiable, and its conclusion is the expected graph -/
example : ((interpret isAsciiAlpha Generated.defaultModel exDoc).map fun g => (g.getTop, g.triples)).toOption =
    some (some (s "a"),
      [T "a" ":instance" "alpha", T "a" ":attr" "val", T "a" ":ARG0" "b", T "b" ":instance" "beta",
       T "b" ":ARG0" "g", T "g" ":instance" "gamma", T "g" ":ARG0" "a"]) := by eval_decide

example : ((read isAsciiAlpha Generated.defaultModel exDoc.node).map fun r => (r.top, r.triples)).toOption =
    some (some (s "a"),
      [T "a" ":instance" "alpha", T "a" ":attr" "val", T "a" ":ARG0" "b", T "b" ":instance" "beta",
       T "b" ":ARG0" "g", T "g" ":instance" "gamma", T "g" ":ARG0" "a"]) := by eval_decide

/-- no-op model (finding F11, repaired): `(a / x :R (b / y) :R-of b)` keeps `:R-of` on both -/
def exNoop : Tree := ⟨.mk (some (s "a")) (.atom (s "/") (.str (s "x"))
  (.sub (s ":R") (.mk (some (s "b")) (.atom (s "/") (.str (s "y")) .nil))
  (.atom (s ":R-of") (.str (s "b")) .nil))), []⟩
attribute [eval_unfold] exNoop

example : ((interpret isAsciiAlpha Generated.noopModel exNoop).map (·.triples)).toOption =
    some [T "a" ":instance" "x", T "a" ":R" "b", T "b" ":instance" "y", T "a" ":R-of" "b"] := by eval_decide
example : ((interpret isAsciiAlpha Generated.defaultModel exNoop).map (·.triples)).toOption =
    some [T "a" ":instance" "x", T "a" ":R" "b", T "b" ":instance" "y", T "b" ":R" "a"] := by eval_decide

/-- an ill-formed tree: no node label on `a`, a duplicate triple whose second occurrence alone
    carries an alignment, an inverted role on a constant, `~` inside a quoted string:
    `(a :R b :R b~e.2 :mod-of 7 :url "u~v"~3 :ARG1~e.4,5 (b))` -/
def exIll : Tree := ⟨.mk (some (s "a"))
  (.atom (s ":R") (.str (s "b")) (.atom (s ":R") (.str (s "b~e.2")) (.atom (s ":mod-of") (.str (s "7"))
  (.atom (s ":url") (.str (s "\"u~v\"~3"))
  (.sub (s ":ARG1~e.4,5") (.mk (some (s "b")) .nil) .nil))))), []⟩
attribute [eval_unfold] exIll

example : ((interpret isAsciiAlpha Generated.defaultModel exIll).map fun g =>
      (g.triples, getAlignments g false, getAlignments g true)).toOption =
    some ([⟨s "a", s ":instance", .none⟩, T "a" ":R" "b", T "a" ":R" "b", T "a" ":mod-of" "7",
           T "a" ":url" "\"u~v\"", T "a" ":ARG1" "b", ⟨s "b", s ":instance", .none⟩],
          -- the alignment `~e.2` of the *second* `(a :R b)` is dropped: first occurrence wins
          [(T "a" ":url" "\"u~v\"", .aln none [3])],
          [(T "a" ":ARG1" "b", .roleAln (some (s "e.")) [4, 5])]) := by eval_decide

/-- a `~` inside the quotes is content, the suffix after the last quote is not -/
example : splitTarget (s "\"http://x/~u\"~e.7") = (s "\"http://x/~u\"", some (s "~e.7")) := by eval_decide
example : splitTarget (s "b~e.7") = (s "b", some (s "e.7")) := by eval_decide

/-! ## OBSERVATION (candidate finding, hand-built trees only)

`Graph.__init__` normalises the roles of the *triples* (`_ensure_colon`) but not the keys
of `epidata`.  For a tree whose roles lack the colon — the example in the docstring of
`penman.layout.interpret` itself: `Tree(('b', [('/', 'bark-01'), ('ARG0', ('d', [('/', 'dog')]))]))`
— the markers are filed under `('b', 'ARG0', 'd')` while the graph holds `('b', ':ARG0', 'd')`:
the `Push` is unreachable, `node_contexts` answers `None` for the nested node.  Real code:
`layout.node_contexts(layout.interpret(t))` = `['b', 'b', None]`.  Parsed trees always carry
the colon, so `decode` is not affected; C14 states the hypothesis explicitly. -/
def exNoColon : Tree := ⟨.mk (some (s "b")) (.atom (s "/") (.str (s "bark-01"))
  (.sub (s "ARG0") (.mk (some (s "d")) (.atom (s "/") (.str (s "dog")) .nil)) .nil)), []⟩
attribute [eval_unfold] exNoColon

example : ((interpret isAsciiAlpha Generated.defaultModel exNoColon).map fun g =>
      (g.triples, g.epidata.map (·.1))).toOption =
    some ([T "b" ":instance" "bark-01", T "b" ":ARG0" "d", T "d" ":instance" "dog"],
          [T "b" ":instance" "bark-01", T "b" "ARG0" "d", T "d" ":instance" "dog"]) := by eval_decide
example : ((interpret isAsciiAlpha Generated.defaultModel exNoColon).map fun g =>
      (getPushedVariable g (T "b" ":ARG0" "d"), (nodeContexts g).toOption)).toOption =
    some (none, some [some (s "b"), some (s "b"), none]) := by eval_decide

end Penman.Props.C04
