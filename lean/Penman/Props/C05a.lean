/-
  Penman.Props.C05a — the `rearrange` part of property C05.

  Property text → theorems (vocabulary in `Penman/Spec/Rearrange.lean`):

  * "rearranging a tree's branches under any key with or without
    attributes-first … leave[s] the graph's content unchanged"
      → `rearrange_graph`  (top equal, triples a permutation, metadata equal,
        for any `key`, any `attributesFirst`, any model used for the keys),
        under the hypothesis that `interpret` succeeds on the original tree.
        Epidata: equal up to order and up to the position of `POP` markers when the
        triples are distinct (`popless`); the unrestricted statement is FALSE
        (`POP` moves to the new last branch; with duplicate triples the
        first-wins alignment can change) — two counterexamples by kernel evaluation.
      → `rearrange_interpretNode`: the raw triple / epidata lists of
        `_interpret_node` are permuted (epidata up to `POP`), no hypothesis on duplicates.
  * "keeps each node's set of branches"
      → `rearrange_perm` (`NodePerm`: at every node the branch list is a
        permutation of the recursively rearranged branches; variables of the tree
        are permuted), `rearrange_perm_tree`.
  * "and its concept in first position"
      → `rearrange_concept_first`, `rearrange_node_eq` (a leading `/` branch is
        kept first and untouched, the remaining branches are sorted).
  * "orders the rest by the key"
      → `kvLe_total_preorder` (the comparison is a total order on keys of one
        shape), `branchKey_shape_fixed` (all keys of one call have one shape),
        `sortBranches_spec` (permutation, sorted), `rearrange_sorted`,
        `rearrange_sorted_tree` (sorted at every node that `rearrange` visits).
  * "(numeric role suffixes numerically, inverted roles last for the canonical key)"
      → `order_keys_alphanumericOrder`, `order_keys_numeric`,
        `order_keys_inverted_last`, `order_keys_attributes_first`.
  * "and is stable for equal keys"
      → `sortBranches_spec` (clauses 3 and 4), `rearrange_node_eq`.
  * additionally: `rearrange_idem` (idempotent for every key — every key is
    total), `rearrange_fixed_iff_sorted`.

  Every clause is proved, except one that is FALSE (counterexamples below):
  full preservation of epidata by `rearrange` (see `rearrange_graph`).
-/
import Penman.Proofs.RearrangeInterp
import Penman.Proofs.Eval
namespace Penman
open RA

/-! ### example data -/

/-- `(a / A :ARG1 (b / B :q 1 :p 2) :ARG0 c)` -/
def c05Node : Node :=
  .mk (some ['a']) (.atom ['/'] (.str ['A'])
    (.sub [':','A','R','G','1']
      (.mk (some ['b']) (.atom ['/'] (.str ['B'])
        (.atom [':','q'] (.str ['1']) (.atom [':','p'] (.str ['2']) .nil))))
    (.atom [':','A','R','G','0'] (.str ['c']) .nil)))

/-- `(a / A :ARG0 c :ARG1 (b / B :p 2 :q 1))` -/
def c05NodeSorted : Node :=
  .mk (some ['a']) (.atom ['/'] (.str ['A'])
    (.atom [':','A','R','G','0'] (.str ['c'])
    (.sub [':','A','R','G','1']
      (.mk (some ['b']) (.atom ['/'] (.str ['B'])
        (.atom [':','p'] (.str ['2']) (.atom [':','q'] (.str ['1']) .nil)))) .nil)))

/-- the concrete run used by the examples: canonical key, no attributes-first -/
theorem c05Node_rearranged : rearrangeNode {} [] (some [.canonical]) c05Node = c05NodeSorted := by
  simp only [c05Node, c05NodeSorted, rearrangeNode, rearrangeKids, sortBranches_pair, if_true]
  have h1 : branchLe {} [] (some [.canonical]) ([':','q'], .atom (.str ['1']))
      ([':','p'], .atom (.str ['2'])) = false := by eval_decide
  have h2 : ∀ n, branchLe {} [] (some [.canonical]) ([':','A','R','G','1'], .node n)
      ([':','A','R','G','0'], .atom (.str ['c'])) = false := by
    intro n; simp [branchLe, branchKey, branchTargetInVars_nil]; decide +kernel
  simp only [h1, h2]
  simp [Branches.ofList]

/-! ### the branch multiset is preserved -/

/-- At every node the branches of the result are a permutation of the
    (recursively rearranged) branches of the original, and the variables of the
    tree are permuted. Any key, any `vars`. -/
theorem rearrange_perm (m : Model) (vars : List Str) (key : Option (List KeyFn)) (n : Node) :
    NodePerm n (rearrangeNode m vars key n) ∧
    (rearrangeNode m vars key n).var = n.var ∧
    (rearrangeNode m vars key n).vars.Perm n.vars ∧
    ((rearrangeNode m vars key n).nodes.map (·.1)).Perm (n.nodes.map (·.1)) :=
  ⟨rearrangeNode_perm m vars key n, rearrangeNode_var m vars key n,
    rearrangeNode_vars_perm m vars key n, rearrangeNode_vars_perm m vars key n⟩

example : NodePerm c05Node c05NodeSorted ∧ (c05Node == c05NodeSorted) = false :=
  ⟨c05Node_rearranged ▸ (rearrange_perm {} [] (some [.canonical]) c05Node).1, by decide⟩

theorem rearrange_perm_tree (m : Model) (key : Option (List KeyFn)) (af : Bool) (t : Tree) :
    NodePerm t.node (rearrange m key af t).node ∧
    (rearrange m key af t).node.vars.Perm t.node.vars ∧
    (rearrange m key af t).metadata = t.metadata :=
  ⟨rearrangeNode_perm m _ key t.node, rearrangeNode_vars_perm m _ key t.node, rfl⟩

example : (rearrange {} (some [.canonical]) false { node := c05Node, metadata := [(['i','d'], ['1'])] }).node
    = c05NodeSorted := c05Node_rearranged

/-- A leading `/` branch stays first and is not touched (a node target of a
    leading `/` is not even entered); the other branches are rearranged
    recursively and sorted. -/
theorem rearrange_concept_first (m : Model) (vars : List Str) (key : Option (List KeyFn)) (v : Option Str)
    (a : Atom) (n : Node) (rest : Branches) :
    rearrangeNode m vars key (.mk v (.atom ['/'] a rest)) =
      .mk v (.atom ['/'] a (Branches.ofList (sortBranches m vars key (rearrangeKids m vars key rest)))) ∧
    rearrangeNode m vars key (.mk v (.sub ['/'] n rest)) =
      .mk v (.sub ['/'] n (Branches.ofList (sortBranches m vars key (rearrangeKids m vars key rest)))) := by
  constructor <;> simp [rearrangeNode]

example : ∃ rest, rearrangeNode {} [] (some [.canonical]) c05Node = .mk (some ['a']) (.atom ['/'] (.str ['A']) rest) :=
  ⟨_, (rearrange_concept_first {} [] (some [.canonical]) _ _ (.mk none .nil) _).1⟩

/-- `_rearrange` in one equation, for every shape of node: leading `/` branch
    (if any) ++ stable sort of the recursively rearranged other branches. -/
theorem rearrange_node_eq (m : Model) (vars : List Str) (key : Option (List KeyFn)) (v : Option Str)
    (bs : Branches) :
    rearrangeNode m vars key (.mk v bs) =
      .mk v (bs.leading.append (Branches.ofList
        (sortBranches m vars key (bs.sortedPart.toList.map (rearrangeBranch m vars key))))) := by
  rw [rearrangeNode_eq, rearrangeKids_eq_map]

example : (Branches.atom [':','x'] (.str ['1']) (.atom ['/'] (.str ['c']) .nil)).leading = .nil ∧
    (Branches.atom ['/'] (.str ['c']) (.atom [':','x'] (.str ['1']) .nil)).leading =
      .atom ['/'] (.str ['c']) .nil := ⟨rfl, rfl⟩

/-! ### the comparison is a total order on keys of one shape; the sort -/

/-- `kvLe` (Python's `<=` on key lists) restricted to keys of one shape is
    reflexive, total, transitive and antisymmetric. -/
theorem kvLe_total_preorder {a b c : List KV} (hab : kvShape a = kvShape b) (hbc : kvShape b = kvShape c) :
    kvLe a a = true ∧ (kvLe a b || kvLe b a) = true ∧
    (kvLe a b = true → kvLe b c = true → kvLe a c = true) ∧
    (kvLe a b = true → kvLe b a = true → a = b) :=
  ⟨kvLe_refl a, kvLe_total hab, kvLe_trans hab hbc, kvLe_antisymm hab⟩

example : kvShape [KV.b false, .s [':','o','p'], .n 2] = kvShape [KV.b true, .s [':','a'], .n 0] := by decide

/-- the shape hypothesis is needed: across shapes `kvLe` is not transitive -/
example : kvLe [.b true] [.n 0] = true ∧ kvLe [.n 0] [.b false] = true ∧ kvLe [.b true] [.b false] = false := by
  decide

/-- all sort keys of one `rearrange` call have the same shape -/
theorem branchKey_shape_fixed (m : Model) (vars : List Str) (key : Option (List KeyFn)) (a b : Branch) :
    kvShape (branchKey m vars key a) = kvShape (branchKey m vars key b) :=
  (branchKey_shape m vars key a).trans (branchKey_shape m vars key b).symm

example : kvShape (branchKey {} [] (some [.canonical, .alphanumeric]) ([':','a'], .atom .none)) = [0, 0, 1, 2, 1, 2] := by
  decide

/-- `sortBranches` returns a permutation that is sorted by the key and stable:
    every already sorted sub-list of the input (in particular two branches
    `a` before `b` with `a ≤ b`) keeps its order, and the branches of any one key
    are exactly the input's, in the input's order. -/
theorem sortBranches_spec (m : Model) (vars : List Str) (key : Option (List KeyFn)) (bs : List Branch) :
    (sortBranches m vars key bs).Perm bs ∧
    (sortBranches m vars key bs).Pairwise
      (fun a b => kvLe (branchKey m vars key a) (branchKey m vars key b) = true) ∧
    (∀ ys : List Branch,
      ys.Pairwise (fun a b => kvLe (branchKey m vars key a) (branchKey m vars key b) = true) →
      ys.Sublist bs → ys.Sublist (sortBranches m vars key bs)) ∧
    (∀ k : List KV, (sortBranches m vars key bs).filter (fun b => branchKey m vars key b = k) =
      bs.filter (fun b => branchKey m vars key b = k)) :=
  ⟨sortBranches_perm m vars key bs, sortBranches_pairwise m vars key bs,
    fun _ hp hs => sortBranches_sublist m vars key hp hs, sortBranches_filter_key m vars key bs⟩

/-- two branches with equal keys are not swapped, two with decreasing keys are -/
example :
    sortBranches {} [] (some [.alphanumeric]) [([':','x'], .atom (.str ['2'])), ([':','x'], .atom (.str ['1']))] =
      [([':','x'], .atom (.str ['2'])), ([':','x'], .atom (.str ['1']))] ∧
    sortBranches {} [] (some [.alphanumeric]) [([':','y'], .atom (.str ['2'])), ([':','x'], .atom (.str ['1']))] =
      [([':','x'], .atom (.str ['1'])), ([':','y'], .atom (.str ['2']))] := by
  constructor
  · rw [sortBranches_pair, if_pos (by decide)]
  · rw [sortBranches_pair, if_neg (by decide)]

/-- The result of `rearrangeNode` is sorted at every node (below a leading `/`
    branch nothing is sorted, because `_rearrange` does not go there). -/
theorem rearrange_sorted (m : Model) (vars : List Str) (key : Option (List KeyFn)) (n : Node) :
    NodeSorted (fun a b => kvLe (branchKey m vars key a) (branchKey m vars key b))
      (rearrangeNode m vars key n) :=
  rearrangeNode_sorted m vars key n

example : NodeSorted (fun a b => kvLe (branchKey {} [] (some [.canonical]) a) (branchKey {} [] (some [.canonical]) b))
    c05NodeSorted := c05Node_rearranged ▸ rearrange_sorted {} [] (some [.canonical]) c05Node

theorem rearrange_sorted_tree (m : Model) (key : Option (List KeyFn)) (af : Bool) (t : Tree) :
    NodeSorted (fun a b => kvLe (branchKey m (if af then t.node.vars else []) key a)
        (branchKey m (if af then t.node.vars else []) key b))
      (rearrange m key af t).node :=
  rearrangeNode_sorted m _ key t.node

/-- the sorted part of the example's top node, spelled out -/
example : c05NodeSorted.bs.sortedPart.toList.Pairwise
    (fun a b => kvLe (branchKey {} [] (some [.canonical]) a) (branchKey {} [] (some [.canonical]) b) = true) := by
  have h := c05Node_rearranged ▸ rearrange_sorted {} [] (some [.canonical]) c05Node
  cases h with | mk hp _ => exact hp

/-! ### what the keys mean -/

/-- `alphanumeric_order`: a role `name ++ digits` (name non-empty, ending in a
    non-digit, with no line feed before its last character; digits a non-empty
    run of ASCII digits) has key `(name, int(digits))`; a role not ending in a
    digit or line feed has key `(role, 0)`. -/
theorem order_keys_alphanumericOrder :
    (∀ (init : Str) (c : Char) (digs : Str), isAsciiDigit c = false → digs ≠ [] →
      digs.all isAsciiDigit = true → init.contains '\n' = false →
      alphanumericOrder (init ++ c :: digs) = (init ++ [c], natOfDigits digs)) ∧
    (∀ (init : Str) (c : Char), isAsciiDigit c = false → c ≠ '\n' →
      alphanumericOrder (init ++ [c]) = (init ++ [c], 0)) ∧
    alphanumericOrder [] = ([], 0) :=
  ⟨alphanumericOrder_digits, alphanumericOrder_nodigit, alphanumericOrder_nil⟩

example : alphanumericOrder ":op10".toList = (":op".toList, 10) ∧
    alphanumericOrder ":ARG1-of".toList = (":ARG1-of".toList, 0) ∧
    alphanumericOrder ":op007".toList = (":op".toList, 7) := by eval_decide

/-- Same role name, smaller number: strictly smaller under the alphanumeric
    key, and under the canonical key when both roles have the same direction. -/
theorem order_keys_numeric (m : Model) {r1 r2 p : Str} {n1 n2 : Nat}
    (h1 : alphanumericOrder r1 = (p, n1)) (h2 : alphanumericOrder r2 = (p, n2)) (hlt : n1 < n2) :
    (kvLe (evalKeys m [.alphanumeric] r1) (evalKeys m [.alphanumeric] r2) = true ∧
     kvLe (evalKeys m [.alphanumeric] r2) (evalKeys m [.alphanumeric] r1) = false) ∧
    (m.isRoleInverted r1 = m.isRoleInverted r2 →
     kvLe (evalKeys m [.canonical] r1) (evalKeys m [.canonical] r2) = true ∧
     kvLe (evalKeys m [.canonical] r2) (evalKeys m [.canonical] r1) = false) :=
  ⟨alphanumeric_key_lt m h1 h2 hlt, fun hi => canonical_key_lt m hi h1 h2 hlt⟩

/-- `:op2` sorts strictly before `:op10` (although `":op10" < ":op2"` as strings) -/
example :
    kvLe (evalKeys {} [.alphanumeric] ":op2".toList) (evalKeys {} [.alphanumeric] ":op10".toList) = true ∧
    kvLe (evalKeys {} [.alphanumeric] ":op10".toList) (evalKeys {} [.alphanumeric] ":op2".toList) = false ∧
    kvLe (evalKeys {} [.canonical] ":op2".toList) (evalKeys {} [.canonical] ":op10".toList) = true ∧
    kvLe (evalKeys {} [.canonical] ":op10".toList) (evalKeys {} [.canonical] ":op2".toList) = false ∧
    strLt ":op10".toList ":op2".toList = true := by eval_decide

example : alphanumericOrder ":op2".toList = (":op".toList, 2) ∧
    alphanumericOrder ":op10".toList = (":op".toList, 10) ∧ 2 < 10 ∧
    (Model.isRoleInverted {} ":op2".toList = Model.isRoleInverted {} ":op10".toList) := by eval_decide

/-- The canonical (and the inverted-last) key puts inverted roles after all
    others, whatever their names. -/
theorem order_keys_inverted_last (m : Model) {r1 r2 : Str}
    (h1 : m.isRoleInverted r1 = false) (h2 : m.isRoleInverted r2 = true) :
    (kvLe (evalKeys m [.canonical] r1) (evalKeys m [.canonical] r2) = true ∧
     kvLe (evalKeys m [.canonical] r2) (evalKeys m [.canonical] r1) = false) ∧
    (kvLe (evalKeys m [.invertedLast] r1) (evalKeys m [.invertedLast] r2) = true ∧
     kvLe (evalKeys m [.invertedLast] r2) (evalKeys m [.invertedLast] r1) = false) :=
  ⟨canonical_key_inverted_last m h1 h2, invertedLast_key_inverted_last m h1 h2⟩

example : Model.isRoleInverted {} ":mod".toList = false ∧ Model.isRoleInverted {} ":ARG0-of".toList = true ∧
    kvLe (evalKeys {} [.canonical] ":mod".toList) (evalKeys {} [.canonical] ":ARG0-of".toList) = true ∧
    kvLe (evalKeys {} [.alphanumeric] ":mod".toList) (evalKeys {} [.alphanumeric] ":ARG0-of".toList) = false := by
  eval_decide

/-- Attributes first: a branch whose target is not one of `vars` sorts strictly
    before one whose target is (a variable or a nested node); among branches with
    the same flag — all branches when `attributesFirst = false`, i.e. `vars = []` —
    only the role key counts. -/
theorem order_keys_attributes_first (m : Model) (vars : List Str) (key : Option (List KeyFn)) {a b : Branch} :
    (branchTargetInVars vars a.2 = false → branchTargetInVars vars b.2 = true →
      kvLe (branchKey m vars key a) (branchKey m vars key b) = true ∧
      kvLe (branchKey m vars key b) (branchKey m vars key a) = false) ∧
    (∀ ks, branchTargetInVars vars a.2 = branchTargetInVars vars b.2 →
      kvLe (branchKey m vars (some ks) a) (branchKey m vars (some ks) b) =
        kvLe (evalKeys m ks a.1) (evalKeys m ks b.1)) ∧
    (∀ t, branchTargetInVars [] t = false) :=
  ⟨fun ha hb => branchLe_attr_first m vars key ha hb, fun ks h => branchLe_same_flag m vars ks h,
    branchTargetInVars_nil⟩

example : branchTargetInVars [['a'], ['b']] (.atom (.str ['x'])) = false ∧
    branchTargetInVars [['a'], ['b']] (.atom (.str ['b'])) = true ∧
    branchTargetInVars [['a'], ['b']] (.node (.mk (some ['b']) .nil)) = true := by decide

/-! ### the graph's content -/

/-- If `interpret` succeeds on a tree, it succeeds on the rearranged tree (any
    key, with or without attributes-first, keys computed with any model `m'`), and the
    graph has the same top, the same triples up to order and the same metadata.
    If moreover the triples are distinct, the epidata are the same up to order
    and up to `POP` markers (which `interpret` attaches to the last branch of a
    nested node, so they necessarily move). -/
theorem rearrange_graph (isAlpha : Char → Bool) (m m' : Model) (key : Option (List KeyFn)) (af : Bool)
    (t : Tree) (g : Graph) (h : interpret isAlpha m t = .ok g) :
    ∃ g', interpret isAlpha m (rearrange m' key af t) = .ok g' ∧
      g'.top = g.top ∧ g'.triples.Perm g.triples ∧ g'.metadata = g.metadata ∧
      (g.triples.Nodup →
        (popless g'.epidata).Perm (popless g.epidata) ∧
        ∀ tr, (AList.get? g'.epidata tr).map (·.filter (fun e => !e.isPop)) =
              (AList.get? g.epidata tr).map (·.filter (fun e => !e.isPop))) :=
  interpret_nodePerm isAlpha m t _ g (rearrangeNode_perm m' _ key t.node) h

/-- The same one level down, without any distinctness hypothesis: the raw
    triple list and the raw epidata list (before `dict()` drops duplicates) of
    `_interpret_node` are permuted, the latter up to `POP`. Any `variables`. -/
theorem rearrange_interpretNode (isAlpha : Char → Bool) (m m' : Model) (vars : List Str)
    (key : Option (List KeyFn)) (vs : List Str) (n : Node) (ts : List Triple) (es : List (Triple × List Epi))
    (h : interpretNode isAlpha m vs n = .ok (ts, es)) :
    ∃ ts' es', interpretNode isAlpha m vs (rearrangeNode m' vars key n) = .ok (ts', es') ∧
      ts'.Perm ts ∧ (popless es').Perm (popless es) :=
  NodePerm.interp isAlpha m vs n (rearrangeNode_perm m' vars key n) ts es h

example : ∃ ts es, interpretNode (fun _ => false) {} [['a'], ['b']] c05Node = .ok (ts, es) ∧ ts.length = 6 :=
  ⟨_, _, rfl, by decide⟩

/-- non-vacuity: `interpret` succeeds on the example, with distinct triples -/
example : ∃ g, interpret (fun _ => false) {} { node := c05Node } = .ok g ∧ g.triples.Nodup ∧
    g.triples.length = 6 := by
  refine ⟨_, rfl, ?_, ?_⟩ <;> decide +kernel

/-- the triple `(b :q 1)` of the example -/
def c05Triple : Triple := ⟨['b'], [':','q'], .str ['1']⟩

/-- FALSE: "`rearrange` preserves the epidata". On the example, `POP` is on
    `(b :p 2)` before and on `(b :q 1)` after rearranging (distinct triples). -/
example :
    (match interpret (fun _ => false) {} { node := c05Node } with
      | .ok g => AList.get? g.epidata c05Triple | .error _ => none) = some [] ∧
    (match interpret (fun _ => false) {} (rearrange {} (some [.canonical]) false { node := c05Node }) with
      | .ok g => AList.get? g.epidata c05Triple | .error _ => none) = some [.pop] := by
  constructor
  · decide +kernel
  · simp only [rearrange, Bool.false_eq_true, if_false, c05Node_rearranged]
    decide +kernel

/-- `(t :z (a :x b~1) :y (b :x-of a~2))`: the triple `(a :x b)` occurs twice -/
def c05Dup : Node :=
  .mk (some ['t'])
    (.sub [':','z'] (.mk (some ['a']) (.atom [':','x'] (.str ['b','~','1']) .nil))
    (.sub [':','y'] (.mk (some ['b']) (.atom [':','x','-','o','f'] (.str ['a','~','2']) .nil)) .nil))

def c05DupSorted : Node :=
  .mk (some ['t'])
    (.sub [':','y'] (.mk (some ['b']) (.atom [':','x','-','o','f'] (.str ['a','~','2']) .nil))
    (.sub [':','z'] (.mk (some ['a']) (.atom [':','x'] (.str ['b','~','1']) .nil)) .nil))

theorem c05Dup_rearranged : rearrangeNode {} [] (some [.alphanumeric]) c05Dup = c05DupSorted := by
  have h2 : ∀ m n n', branchLe m [] (some [.alphanumeric]) ([':','z'], .node n) ([':','y'], .node n') = false := by
    intro m n n'
    simp only [branchLe, branchKey, branchTargetInVars_nil, evalKeys, KeyFn.eval, List.flatMap_cons,
      List.flatMap_nil, List.append_nil]
    decide +kernel
  simp [c05Dup, c05DupSorted, rearrangeNode, rearrangeKids, sortBranches_pair, sortBranches_singleton, h2,
    Branches.ofList]

/-- FALSE without `g.triples.Nodup`: "the alignments in the epidata are
    preserved". The first occurrence of a duplicated triple wins in `interpret`,
    and rearranging changes which one is first: `~1` before, `~2` after. -/
example :
    (match interpret (fun _ => false) {} { node := c05Dup } with
      | .ok g => AList.get? g.epidata ⟨['a'], [':','x'], .str ['b']⟩ | .error _ => none)
      = some [.aln none [1], .pop] ∧
    (match interpret (fun _ => false) {} (rearrange {} (some [.alphanumeric]) false { node := c05Dup }) with
      | .ok g => AList.get? g.epidata ⟨['a'], [':','x'], .str ['b']⟩ | .error _ => none)
      = some [.aln none [2], .pop] := by
  constructor
  · decide +kernel
  · simp only [rearrange, Bool.false_eq_true, if_false, c05Dup_rearranged]
    decide +kernel

/-! ### idempotence -/

/-- `rearrange` is idempotent, for every key and both settings of
    attributes-first (every selectable key is a total preorder on roles). -/
theorem rearrange_idem (m : Model) (key : Option (List KeyFn)) (af : Bool) (t : Tree) :
    rearrange m key af (rearrange m key af t) = rearrange m key af t :=
  rearrange_idem_lemma m key af t

example : rearrangeNode {} [] (some [.canonical]) c05NodeSorted = c05NodeSorted := by
  have := rearrangeNode_idem {} [] (some [.canonical]) c05Node
  rwa [c05Node_rearranged] at this

/-- the fixed points of `rearrangeNode` are exactly the trees that are sorted at every node -/
theorem rearrange_fixed_iff_sorted (m : Model) (vars : List Str) (key : Option (List KeyFn)) (n : Node) :
    rearrangeNode m vars key n = n ↔
      NodeSorted (fun a b => kvLe (branchKey m vars key a) (branchKey m vars key b)) n :=
  rearrangeNode_eq_self_iff m vars key n

/-- a concept that is not the first branch is sorted like any other branch and
    may end up first; the second pass then leaves it alone: `(a :x 1 / c)` -/
example : rearrangeNode {} [] (some [.alphanumeric])
      (.mk (some ['a']) (.atom [':','x'] (.str ['1']) (.atom ['/'] (.str ['c']) .nil))) =
    .mk (some ['a']) (.atom ['/'] (.str ['c']) (.atom [':','x'] (.str ['1']) .nil)) := by
  simp only [rearrangeNode, rearrangeKids, sortBranches_pair]
  rw [if_neg (by decide), if_neg (by decide +kernel)]
  rfl

end Penman
