import Penman.Proofs.Reconfigure
import Penman.Proofs.Eval
/-!
# C05b — "Re-layout operations never change the graph": the reconfigure and new-top clauses

(The rearrange clauses are `Penman.Props.C05a`.) Everything here is a COROLLARY of the finished
`configure`/`interpret` development: `C03`, `C03_tree` (`Penman/Props/C03.lean`). Nothing of it is
re-proved; what is proved here is that the graph `reconfigure` hands to `configure` is a *re-layout* of
the original and that every hypothesis and conclusion of C03 is invariant under re-layout.

Model function: `reconfigure m g top key` (`Penman/Layout.lean`) = resolve the top on `g` (`topOf g top`: the requested
one, else `g.getTop` — fix F21), strip every layout marker, stably sort `g.triples` by `kvLe` on
`evalKeys m ks role` (`key = some ks`) or keep the order (`key = none`), then `configure` from that top.
Vocabulary: `Penman/Spec/Reconfigure.lean` (`prep`, `Relayout`, `Connected`, `tripleLe`),
`Penman/Spec/Encode.lean` (`WfGraph`, `NoNum`, `deinvert1`), `Penman/Spec/Configure.lean`
(`Reach`, `PushVars`, `PushSrcOK`, `topOf`). Lemmas: `Penman/Proofs/Reconfigure.lean`.

Clause of the property text ↦ theorem(s)

* *"Reconfiguring a graph under any triple-ordering key … leaves the graph's content unchanged (same
  variables and triples up to deinversion; same top)"* ↦ `reconfigure_graph` (graph level:
  `interpret (reconfigure g top key)`, for EVERY key list `ks : List KeyFn` and for `none`, for
  decoded and hand-built graphs, explicit or implicit top; no hypothesis on the layout markers of
  `g`: they are discarded) and `reconfigure_tree` (the tree itself, numbers allowed). What
  `reconfigure` does before `configure` ↦ `reconfigure_prep`.
  The random key of the command line is a permutation of the triples decided outside the model;
  the theorems `relayout_graph`/`relayout_tree` (Proofs file) hold for ANY permutation of the triples.
* *"same top for reconfigure"* ↦ `reconfigure_graph`/`reconfigure_tree`: the top is `topOf g top`,
  resolved on the ORIGINAL triple order. History: before fix F21 the implicit top (source of the
  first triple) was resolved AFTER sorting, and
  `Graph([('a',':instance','x'),('a',':z','b'),('b',':instance','y'),('b',':a','c')])` reconfigured
  under `alphanumeric_order` came out with top `b`; `Examples.reconfigure_implicit_top_kept` shows the
  repaired behaviour on exactly this graph (top `a`, although `(b :a c)` is now the first triple —
  `Examples.gI_sorted_first`).
* *"choosing a new top … leaves the graph's content unchanged"*, quantifier *"every variable as new
  top"* ↦ `new_top_graph`, `new_top_tree` (`configure g (some v)` for every variable `v` of a weakly
  connected graph), `reconfigure_new_top` (the same through `reconfigure`, any key);
  connectivity from one variable is connectivity from every variable ↦ `reach_symm`, `reach_trans`,
  `connected_of_reach`.
* (optional) the order handed to `configure` is sorted by the key and the sort is stable ↦
  `reconfigure_sorted`. NOT proved: how the branch order of the configured tree follows that order
  (it does only where the layout allows; no statement is made).

Hypotheses are those of C03 (`ModelWf m`, `m.noop = false`, `WfGraph m g`, `NoNum g` at graph level,
`topOf g top = some t`, `t ∈ g.variables`, connectivity), MINUS `PushVars g`/`PushSrcOK g` for
`reconfigure` (markers are stripped). Every clause is proved; none is false of the model.
-/
namespace Penman
namespace C05b
open Cfg Recfg

/-! ## what `reconfigure` does before `configure` -/

/-- `reconfigure` is `configure` (from the top resolved on `g`) on a graph with the same triples in
    another order, the same top
    and metadata, the same variables, no `Push`/`POP` left (so the marker hypotheses of C03/C06 hold
    trivially), well-formed iff `g` is, with the same connectivity and the same `deinvert1`. -/
theorem reconfigure_prep (m : Model) (g : Graph) (key : Option (List KeyFn)) :
    (∀ top, reconfigure m g top key = configure m (prep m g key) (topOf g top)) ∧
    (prep m g key).triples.Perm g.triples ∧ (prep m g key).top = g.top ∧
    (prep m g key).metadata = g.metadata ∧
    (∀ x, x ∈ (prep m g key).variables ↔ x ∈ g.variables) ∧
    (∀ t, ∀ e ∈ (AList.get? (prep m g key).epidata t).getD [], e.isLayout = false) ∧
    PushVars (prep m g key) ∧ PushSrcOK (prep m g key) ∧
    (WfGraph m (prep m g key) ↔ WfGraph m g) ∧ (NoNum (prep m g key) ↔ NoNum g) ∧
    (∀ t v, Reach (prep m g key) t v ↔ Reach g t v) ∧
    deinvert1 m (prep m g key) = deinvert1 m g :=
  have h := prep_relayout m g key
  ⟨fun top => reconfigure_eq m g top key, h.perm, h.top, h.metadata, h.variables, h.no_layout,
    h.pushVars, h.pushSrcOK, h.wfGraph m, h.noNum, h.reach, h.deinvert1_eq m⟩

/-- every graph returned by `interpret` carries an explicit top (so for decoded graphs the top
    never depended on the triple order, even before fix F21) -/
theorem decoded_top_explicit {isAlpha : Char → Bool} {m : Model} {T : Tree} {g : Graph}
    (h : interpret isAlpha m T = .ok g) : g.top.isSome = true :=
  interpret_top_explicit h

/-! ## connectivity does not depend on the starting variable -/

theorem reach_symm {g : Graph} {a b : Str} (h : Reach g a b) : Reach g b a := Reach.symm' h

theorem reach_trans {g : Graph} {a b c : Str} (h1 : Reach g a b) (h2 : Reach g b c) : Reach g a c :=
  Reach.trans' h1 h2

/-- everything reachable from ONE variable ⇒ everything reachable from EVERY variable -/
theorem connected_of_reach {g : Graph} {t : Str} (h : ∀ v ∈ g.variables, Reach g t v) : Connected g :=
  Recfg.connected_of_reach h

/-! ## reconfigure -/

/-- **reconfigure, graph level.** For every key (a list of key functions, or `none`):
    `interpret (reconfigure g top key)` has the top, the variables and — up to one deinversion — the
    triples of `g`. No hypothesis on the layout markers of `g`, none on how the top is given. -/
theorem reconfigure_graph (isAlpha : Char → Bool) {m : Model} {g : Graph} {top : Option Str} {t : Str}
    (hw : ModelWf m) (hnoop : m.noop = false) (hg : WfGraph m g) (hnum : NoNum g)
    (ht : topOf g top = some t) (htv : t ∈ g.variables) (hreach : ∀ v ∈ g.variables, Reach g t v)
    (key : Option (List KeyFn)) :
    ∃ T g', reconfigure m g top key = .ok T ∧ interpret isAlpha m T = .ok g' ∧
      g'.getTop = some t ∧ (∀ x, x ∈ g'.variables ↔ x ∈ g.variables) ∧
      (g'.triples.map (deinvert1 m g)).Perm (g.triples.map (deinvert1 m g)) ∧
      (∀ x ∈ g'.triples, ∃ t0 ∈ g.triples, x = t0 ∨ x = m.invert t0) := by
  rw [reconfigure_eq, ht]
  exact relayout_graph isAlpha (top := some t) (prep_relayout m g key) hw hnoop hg hnum rfl htv
    (connected_of_reach hreach)

/-- **reconfigure, tree level** (numbers allowed): the tree has the top, one node per variable and
    writes exactly the non-null triples of `g`, each as it is or inverted once. -/
theorem reconfigure_tree {m : Model} {g : Graph} {top : Option Str} {t : Str}
    (hw : ModelWf m) (hg : WfGraph m g)
    (ht : topOf g top = some t) (htv : t ∈ g.variables) (hreach : ∀ v ∈ g.variables, Reach g t v)
    (key : Option (List KeyFn)) :
    ∃ T, reconfigure m g top key = .ok T ∧ T.metadata = g.metadata ∧ T.node.var = some t ∧
      (∀ x, x ∈ T.node.vars ↔ x ∈ g.variables) ∧ T.node.vars.Nodup ∧
      (T.node.edgeTriples.map (deinvert1 m g)).Perm
        ((g.triples.filter (fun x => !nullB x)).map (deinvert1 m g)) ∧
      ∀ x ∈ T.node.edgeTriples, ∃ t0 ∈ g.triples,
        x = t0 ∨ (x = m.invert t0 ∧ (∃ b, t0.tgt = .str b) ∧ t0.role ≠ CONCEPT_ROLE) := by
  rw [reconfigure_eq, ht]
  exact relayout_tree (top := some t) (prep_relayout m g key) hw hg rfl htv (connected_of_reach hreach)

/-! ## a new top -/

/-- **new top, graph level**: `C03` for every variable of a weakly connected graph. -/
theorem new_top_graph (isAlpha : Char → Bool) {m : Model} {g : Graph} {t : Str}
    (hw : ModelWf m) (hnoop : m.noop = false) (hg : WfGraph m g) (hnum : NoNum g)
    (hpv : PushVars g) (hps : PushSrcOK g) (hreach : ∀ v ∈ g.variables, Reach g t v) :
    ∀ v ∈ g.variables, ∃ T g', configure m g (some v) = .ok T ∧ interpret isAlpha m T = .ok g' ∧
      g'.getTop = some v ∧ (∀ x, x ∈ g'.variables ↔ x ∈ g.variables) ∧
      (g'.triples.map (deinvert1 m g)).Perm (g.triples.map (deinvert1 m g)) ∧
      (∀ x ∈ g'.triples, ∃ t0 ∈ g.triples, x = t0 ∨ x = m.invert t0) :=
  fun v hv => C03 isAlpha (top := some v) hw hnoop hg hnum hpv hps rfl hv (connected_of_reach hreach v hv)

/-- **new top, tree level** (numbers allowed). -/
theorem new_top_tree {m : Model} {g : Graph} {t : Str}
    (hw : ModelWf m) (hg : WfGraph m g) (hpv : PushVars g) (hps : PushSrcOK g)
    (hreach : ∀ v ∈ g.variables, Reach g t v) :
    ∀ v ∈ g.variables, ∃ T, configure m g (some v) = .ok T ∧ T.metadata = g.metadata ∧
      T.node.var = some v ∧ (∀ x, x ∈ T.node.vars ↔ x ∈ g.variables) ∧ T.node.vars.Nodup ∧
      (T.node.edgeTriples.map (deinvert1 m g)).Perm
        ((g.triples.filter (fun x => !nullB x)).map (deinvert1 m g)) ∧
      ∀ x ∈ T.node.edgeTriples, ∃ t0 ∈ g.triples,
        x = t0 ∨ (x = m.invert t0 ∧ (∃ b, t0.tgt = .str b) ∧ t0.role ≠ CONCEPT_ROLE) :=
  fun v hv => C03_tree (top := some v) hw hg hpv hps rfl hv (connected_of_reach hreach v hv)

/-- **new top through `reconfigure`**: every variable, every key, no hypothesis on markers. -/
theorem reconfigure_new_top (isAlpha : Char → Bool) {m : Model} {g : Graph} {t : Str}
    (hw : ModelWf m) (hnoop : m.noop = false) (hg : WfGraph m g) (hnum : NoNum g)
    (hreach : ∀ v ∈ g.variables, Reach g t v) (key : Option (List KeyFn)) :
    ∀ v ∈ g.variables, ∃ T g', reconfigure m g (some v) key = .ok T ∧ interpret isAlpha m T = .ok g' ∧
      g'.getTop = some v ∧ (∀ x, x ∈ g'.variables ↔ x ∈ g.variables) ∧
      (g'.triples.map (deinvert1 m g)).Perm (g.triples.map (deinvert1 m g)) ∧
      (∀ x ∈ g'.triples, ∃ t0 ∈ g.triples, x = t0 ∨ x = m.invert t0) :=
  fun v hv => reconfigure_graph isAlpha (top := some v) hw hnoop hg hnum rfl hv
    (connected_of_reach hreach v hv) key

/-! ## the order handed to `configure` -/

/-- the triples `configure` receives are sorted by the role key, and the sort is stable: every
    already sorted sub-list of `g.triples` keeps its order; `none` keeps the order -/
theorem reconfigure_sorted (m : Model) (g : Graph) (ks : List KeyFn) :
    (prep m g (some ks)).triples.Pairwise (fun a b => tripleLe m ks a b = true) ∧
    (∀ ys : List Triple, ys.Pairwise (fun a b => tripleLe m ks a b = true) → ys.Sublist g.triples →
      ys.Sublist (prep m g (some ks)).triples) ∧
    (prep m g none).triples = g.triples :=
  ⟨sortTriples_pairwise m g.triples ks, fun _ hp hs => sortTriples_sublist m ks hp hs, rfl⟩

/-! ## non-vacuity -/

namespace Examples
open C03Examples

/-- `(b / bark-01 :ARG0 (d / dog :ARG1-of b :poss (o / owner :url "http://x/~u")) :mod-of 7)` -/
def tM : Tree :=
  { node := .mk (some "b".toList) (.atom "/".toList (S "bark-01")
      (.sub ":ARG0".toList (.mk (some "d".toList) (.atom "/".toList (S "dog")
          (.atom ":ARG1-of".toList (S "b")
          (.sub ":poss".toList (.mk (some "o".toList) (.atom "/".toList (S "owner")
              (.atom ":url".toList (S "\"http://x/~u\"") .nil))) .nil))))
      (.atom ":mod-of".toList (S "7") .nil))),
    metadata := [("id".toList, "1".toList)] }

/-- the graph `interpret` returns for `tM`: explicit top, `Push`/`POP` markers three levels deep, a
    re-entrancy, a deinverted edge, an inverted attribute, a `~` inside a quoted string -/
def gM : Graph :=
  { triples := [T "b" ":instance" (S "bark-01"), T "b" ":ARG0" (S "d"), T "d" ":instance" (S "dog"),
                T "b" ":ARG1" (S "d"), T "d" ":poss" (S "o"), T "o" ":instance" (S "owner"),
                T "o" ":url" (S "\"http://x/~u\""), T "b" ":mod-of" (S "7")],
    top := some "b".toList,
    epidata := [(T "b" ":instance" (S "bark-01"), []), (T "b" ":ARG0" (S "d"), [.push "d".toList]),
                (T "d" ":instance" (S "dog"), []), (T "b" ":ARG1" (S "d"), []),
                (T "d" ":poss" (S "o"), [.push "o".toList]), (T "o" ":instance" (S "owner"), []),
                (T "o" ":url" (S "\"http://x/~u\""), [.pop, .pop]), (T "b" ":mod-of" (S "7"), [])],
    metadata := [("id".toList, "1".toList)] }

attribute [eval_unfold] tM gM

/-- `gM` really is a decoded graph -/
example : ∃ g, interpret isAsciiAlpha Generated.defaultModel tM = .ok g ∧ g.triples = gM.triples ∧
    g.top = gM.top ∧ g.epidata = gM.epidata ∧ g.metadata = gM.metadata := by
  have h : (match interpret isAsciiAlpha Generated.defaultModel tM with
      | .ok g => decide (g.triples = gM.triples ∧ g.top = gM.top ∧ g.epidata = gM.epidata ∧
          g.metadata = gM.metadata)
      | .error _ => false) = true := by eval_decide
  cases hi : interpret isAsciiAlpha Generated.defaultModel tM with
  | error e => rw [hi] at h; cases h
  | ok g => rw [hi] at h; exact ⟨g, rfl, of_decide_eq_true h⟩

theorem gM_wf : WfGraph Generated.defaultModel gM := by eval_decide
theorem gM_variables : gM.variables = ["b".toList, "d".toList, "o".toList] := by decide +kernel

example : WfGraph Generated.defaultModel gM := gM_wf
example : NoNum gM := by decide
example : gM.variables = ["b".toList, "d".toList, "o".toList] := gM_variables

theorem gM_conn : ∀ v ∈ gM.variables, Reach gM "b".toList v := by
  have a1 : Adj gM "b".toList "d".toList :=
    ⟨T "b" ":ARG0" (S "d"), by eval_decide, by eval_decide, by decide +kernel, by decide +kernel, Or.inl ⟨rfl, rfl⟩⟩
  have a2 : Adj gM "d".toList "o".toList :=
    ⟨T "d" ":poss" (S "o"), by eval_decide, by eval_decide, by decide +kernel, by decide +kernel, Or.inl ⟨rfl, rfl⟩⟩
  intro v hvm
  rw [gM_variables] at hvm
  simp only [List.mem_cons, List.mem_nil_iff, or_false] at hvm
  rcases hvm with rfl | rfl | rfl
  · exact Reach.refl
  · exact Reach.step Reach.refl a1
  · exact Reach.step (Reach.step Reach.refl a1) a2

/-- `reconfigure_graph` applies to the decoded graph `gM` (markers and all) for the keys
    `[canonical]`, `[alphanumeric]`, `none` (and any other) -/
example (key : Option (List KeyFn))
    (_ : key = some [.canonical] ∨ key = some [.alphanumeric] ∨ key = none) :
    ∃ T g', reconfigure Generated.defaultModel gM none key = .ok T ∧
      interpret isAsciiAlpha Generated.defaultModel T = .ok g' ∧ g'.getTop = some "b".toList ∧
      (∀ x, x ∈ g'.variables ↔ x ∈ gM.variables) ∧
      (g'.triples.map (deinvert1 Generated.defaultModel gM)).Perm
        (gM.triples.map (deinvert1 Generated.defaultModel gM)) := by
  obtain ⟨T, g', h1, h2, h3, h4, h5, _⟩ :=
    reconfigure_graph isAsciiAlpha (top := none) C13.modelWf_default (by decide) gM_wf (by decide)
      (by decide +kernel) (by decide +kernel) gM_conn key
  exact ⟨T, g', h1, h2, h3, h4, h5⟩

/-- `reconfigure_tree` applies to `gM` (also under the AMR model) -/
example (key : Option (List KeyFn)) :
    ∃ T, reconfigure Generated.amrModel gM none key = .ok T ∧ T.node.var = some "b".toList ∧
      T.metadata = [("id".toList, "1".toList)] := by
  obtain ⟨T, h1, h2, h3, _⟩ :=
    reconfigure_tree (top := none) (t := "b".toList) C13.modelWf_amr (by eval_decide) (by decide +kernel)
      (by decide +kernel)
      gM_conn key
  exact ⟨T, h1, h3, h2⟩

/-- `reconfigure_new_top` / `new_top_graph` apply to `gM` for each of its three variables -/
example (key : Option (List KeyFn)) (v : Str) (hv : v ∈ gM.variables) :
    ∃ T g', reconfigure Generated.defaultModel gM (some v) key = .ok T ∧
      interpret isAsciiAlpha Generated.defaultModel T = .ok g' ∧ g'.getTop = some v := by
  obtain ⟨T, g', h1, h2, h3, _⟩ :=
    reconfigure_new_top isAsciiAlpha C13.modelWf_default (by decide) gM_wf (by decide) gM_conn key v hv
  exact ⟨T, g', h1, h2, h3⟩

example : PushVars gM ∧ PushSrcOK gM := by eval_decide

example (v : Str) (hv : v ∈ gM.variables) :
    ∃ T g', configure Generated.defaultModel gM (some v) = .ok T ∧
      interpret isAsciiAlpha Generated.defaultModel T = .ok g' ∧ g'.getTop = some v := by
  obtain ⟨T, g', h1, h2, h3, _⟩ :=
    new_top_graph isAsciiAlpha C13.modelWf_default (by decide) gM_wf (by decide) (by eval_decide) (by decide)
      gM_conn v hv
  exact ⟨T, g', h1, h2, h3⟩

/-- `reconfigure_sorted`: `:ARG0` sorts before `:instance` under the alphanumeric key, and a sorted
    pair keeps its order -/
example : tripleLe Generated.defaultModel [.alphanumeric] (T "b" ":ARG0" (S "d")) (T "b" ":instance" (S "bark-01")) = true ∧
    [T "b" ":ARG0" (S "d"), T "b" ":ARG1" (S "d")].Sublist (prep Generated.defaultModel gM (some [.alphanumeric])).triples :=
  ⟨by eval_decide, (reconfigure_sorted _ gM _).2.1 _ (by eval_decide) (by eval_decide)⟩

/-! ### a hand-built graph with an implicit top: the top survives the sort (fix F21) -/

/-- hand-built, no explicit top: `(a / x :z (b / y :a c))` -/
def gI : Graph :=
  { triples := [T "a" ":instance" (S "x"), T "a" ":z" (S "b"), T "b" ":instance" (S "y"), T "b" ":a" (S "c")] }
attribute [eval_unfold] gI

theorem gI_conn : ∀ v ∈ gI.variables, Reach gI "a".toList v := by
  have hv : gI.variables = ["a".toList, "b".toList] := by decide +kernel
  have a1 : Adj gI "a".toList "b".toList :=
    ⟨T "a" ":z" (S "b"), by eval_decide, by decide +kernel, by decide +kernel, by decide +kernel, Or.inl ⟨rfl, rfl⟩⟩
  intro v hvm
  rw [hv] at hvm
  simp only [List.mem_cons, List.mem_nil_iff, or_false] at hvm
  rcases hvm with rfl | rfl
  · exact Reach.refl
  · exact Reach.step Reach.refl a1

/-- under the alphanumeric key `(b :a c)` comes first: the implicit top of the SORTED graph is `b`
    (what `reconfigure` used before fix F21) -/
theorem gI_sorted_first : (prep Generated.defaultModel gI (some [.alphanumeric])).getTop = some "b".toList := by
  have h := sortTriples_head_of_min Generated.defaultModel [.alphanumeric] (ts := gI.triples)
    (x := T "b" ":a" (S "c")) (by eval_decide) (by eval_decide)
  rw [prep_getTop_implicit _ _ rfl, h]
  rfl

/-- **the implicit top is kept**: `gI` has no explicit top and its triples are re-ordered (another
    source comes first), yet `reconfigure gI none [alphanumeric]` has top `a = gI.getTop`. -/
theorem reconfigure_implicit_top_kept :
    gI.top = none ∧ topOf gI none = some "a".toList ∧
    (prep Generated.defaultModel gI (some [.alphanumeric])).getTop = some "b".toList ∧
    ∃ T g', reconfigure Generated.defaultModel gI none (some [.alphanumeric]) = .ok T ∧
      interpret isAsciiAlpha Generated.defaultModel T = .ok g' ∧ g'.getTop = some "a".toList ∧
      (∀ x, x ∈ g'.variables ↔ x ∈ gI.variables) ∧
      (g'.triples.map (deinvert1 Generated.defaultModel gI)).Perm
        (gI.triples.map (deinvert1 Generated.defaultModel gI)) := by
  refine ⟨rfl, by decide +kernel, gI_sorted_first, ?_⟩
  obtain ⟨T, g', h1, h2, h3, h4, h5, _⟩ :=
    reconfigure_graph isAsciiAlpha (top := none) (t := "a".toList) C13.modelWf_default (by decide)
      (by eval_decide) (by decide) (by decide +kernel) (by decide +kernel) gI_conn (some [.alphanumeric])
  exact ⟨T, g', h1, h2, h3, h4, h5⟩

end Examples
end C05b
end Penman
