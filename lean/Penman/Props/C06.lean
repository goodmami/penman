import Penman.Proofs.ConfigurePlain
import Penman.Proofs.Eval
/-!
# C06 (and the `configure` half of C03) — layout markers shape the text but never its content; encoding is total

Model: `Penman/Layout.lean` — `preconfEpis`, `preconfigure`, `orient`, `pushVar`,
`configureNode`, `establishIn`, `getOrEstablish`, `findNext`, `stripPops`, `configureLoop`,
`buildNode`/`buildBranches`, `configure` (Python: `penman/layout.py` `configure`, `_configure`,
`_preconfigure`, `_configure_node`, `_find_next`, `_get_or_establish_site`).
Specification vocabulary: `Penman/Spec/Configure.lean` (`placed`, `denote`, `pending`, `Step`,
`Corr`, `Sim`, `PreStep`, `Pre`, `Adj`, `Reach`, and the decidable hypotheses `RoleOK2`,
`NoInstOf`, `PushSrcOK`, `PushVars`, `TopOK`). Lemmas: `Penman/Proofs/ConfigureStore`, `ConfigureRun`,
`ConfigureSound`, `ConfigureConsumed`, `ConfigureComplete`, `ConfigureConverse` (and `ConfigureShape`,
`ConfigureTree`, `ConfigurePlain` for the tree).

All statements are about the top-level, fuel-instantiated `configure`; the three fuels are
discharged (`configureNode_fuel_irrelevant`, `configureLoop_fuel_suffices`, `buildNode_total`),
nothing is "true because fuel ran out".

Clause of the property text ↦ theorem(s)

* C06 *"Whatever layout markers a … graph carries … encoding terminates"* and *"no other
  exception escapes for any list of triples"* ↦ `configure_no_other` (no hypothesis at all:
  every graph, top, model, epidata), `configure_ne_other`; the fuel facts behind it:
  `configureLoop_fuel_suffices` (measure `psi = (|data|+|skipped|)² + |data|` strictly decreases
  every round, `round_decreases`), `configureNode_fuel_irrelevant`, `buildNode_total`
  (the cell store is a forest: `Cfg.Forest`, `Cfg.storeOf_good`).
* C06 *"Encoding fails, and then only with the layout error"* ↦ `configure_error_kind`
  (only LayoutError kinds 0, 1, 3 — "unknown configuration error" (2) is unreachable — or the
  model's `unmodelled` marker for `Push(source)` on a non-string target),
  `configure_layout0_iff` (kind 0 ⇔ the requested/implicit top is missing or not a variable).
* C06 *"… exactly when some variable is not weakly connected to the top (or the requested top
  is not a variable)"* ↦ `configure_complete` (connected ⇒ succeeds), `configure_success_connected`
  (succeeds ⇒ top is a variable and all variables connected), combined in `configure_ok_iff`.
  Hypotheses (all decidable, all forced — see below): `NoInstOf`, `PushSrcOK`, `PushVars`, `TopOK`,
  on a non-empty triple list.
* C06 *"succeeds, and decodes to the same graph"* / C03 *"Every triple is expressed exactly once:
  nothing is dropped (including constants equal to 0), duplicated, re-targeted, or changed
  between edge and attribute"* — the `configure` half ↦ `configure_sound_triples`: the triples
  denoted by the final cell store (`placed`, each edge read back with `/` ↦ `:instance`,
  node target ↦ its variable) are, up to order, exactly the graph's triples, each one possibly
  inverted once by `preconfigure` (`Pre`, only for `Push(source)`), then kept, inverted once, or —
  only for `(v :instance None/"")` — dropped (`Corr`/`Step`). No epidata restriction is needed
  (alignments are carried on the edges and do not enter `placed`). `num "0"` is not missing, so
  constants equal to 0 are kept (`zero_not_dropped`). `roleOK2_of_colon`: the role hypothesis
  holds for every role written with its colon (what `Graph.mk'` produces).

Hypotheses and why they are needed
* `RoleOK2 m t` (soundness only): the role and its first two inversions are not the literal `/`,
  because `/` is how the store spells `:instance`. Implied by a leading colon.
* `NoInstOf m g` (both directions of the iff): no non-instance role inverts to `:instance`
  (`:instance-of`). Such a triple, met at its target, is expressed as the *concept* of the
  target and its source is never made available.
* `PushSrcOK g`: `Push(src)` only on triples whose target is a string; otherwise the model leaves
  its domain (`unmodelled`; Python would build a node for a non-string).
* `PushVars g` (success ⇒ connected only): every `Push` names a variable; a `Push` on a constant
  deliberately turns the constant into a node (boundary O14) and can connect variables through it.
* `TopOK g t` (success ⇒ connected only): an explicit `g.top` different from the requested top
  must occur as a source; otherwise it is a variable (by definition of `variables`) with no
  triple at all, trivially unreachable, and `configure` still succeeds
  (`isolated_explicit_top_succeeds`).

* store → tree ↦ `configure_tree_triples`: without alignment markers
  (`NoAlign g`) the triples written in the returned tree (`Node.edgeTriples`: every branch
  `(v, role, target-or-nested-variable)`, `/` read as `:instance`, text untouched) are a permutation
  of `placed st.cells`, and the tree has exactly one node per cell; hence
  `configure_sound_tree`: the tree's triples are the graph's triples, each kept or inverted once,
  null instances dropped, nothing duplicated. `configure_tree_written` is the alignment-agnostic
  form (any epidata): the relations the tree writes (`Spec.Reading.Node.written`) are, up to
  order, exactly the edges of the cells as `buildBranches` renders them (`edgeWritten`), plus the
  implicit null label of unlabelled cells. Invariants behind it: keys distinct, every cell but the
  top has exactly one incoming node edge (`Cfg.Deg`), every noted site has an establishable edge
  (`Cfg.J1`), forest (`Cfg.Forest`);
  `Cfg.traverse` is the exactly-once traversal argument.

The loop fuel: the real loop needs Θ(n²) rounds. With k blocked instance triples `(xᵢ :instance a)`
followed by a chain `(y_{k-1} :R y_k) … (a :R y₁)` in reverse order (n = 2k triples) Python runs the
loop ≈ k²/2 + 2k times (k = 5: 25) and raises LayoutError('incomplete configuration'); with a fuel
linear in n (`2 * data.length + 2 = 22`) the model ends in `other "configure: fuel"` instead.
`Layout.lean` passes `(n+1)² + 1`; `quad5_layout3` runs the family member k = 5.
-/
namespace Penman
open Cfg

/-! ## totality: no exception other than LayoutError -/

/-- `configureNode`: any two fuels above `data.length` give the same result -/
theorem configureNode_fuel_irrelevant (m : Model) (f f' : Nat) (var : Str) (data : List Datum) (st : St) (s : Bool)
    (h : data.length < f) (h' : data.length < f') :
    configureNode m f var data st s = configureNode m f' var data st s :=
  Cfg.cn_fuel m f f' var data st s h h'

/-- every round of the loop strictly decreases `psi` -/
theorem round_decreases {m : Model} {a b : List Datum × List Datum × St} (h : Round m a b) :
    psi b.1 b.2.1 < psi a.1 a.2.1 := Cfg.round_psi h

/-- with fuel above `psi` the loop never reports fuel exhaustion (nor any other
    non-layout error), and its result does not depend on the fuel -/
theorem configureLoop_fuel_suffices (m : Model) (fuel fuel' : Nat) (data skipped : List Datum) (st : St)
    (h : psi data skipped < fuel) (h' : psi data skipped < fuel') :
    (∀ s, configureLoop m fuel data skipped st ≠ .error (.other s)) ∧
    configureLoop m fuel data skipped st = configureLoop m fuel' data skipped st :=
  ⟨Cfg.loop_no_other m fuel data skipped st h, Cfg.loop_fuel m fuel fuel' data skipped st h h'⟩

/-- the fuel `configure` passes to the loop exceeds `psi` of the initial state -/
theorem configure_loop_fuel (data : List Datum) (n : Nat) (h : data.length ≤ n) :
    psi (stripPops data) [] < (n + 1) * (n + 1) + 1 := Cfg.psi_start data n h

/-- the store `configure` builds is a forest and `buildNode` succeeds on it -/
theorem buildNode_total {m : Model} {g : Graph} {top : Str} {st : St} (h : storeOf m g top = .ok st) (v : Str) :
    Forest st.cells ∧ ∃ n, buildNode st.cells (2 * st.cells.length + 2) v = .ok n :=
  ⟨(Cfg.storeOf_good h).forest, Cfg.buildNode_ok (Cfg.storeOf_good h).forest v⟩

/-- `configure` is `storeOf` followed by `buildNode` -/
theorem configure_pipeline (m : Model) (g : Graph) (top : Option Str) : configure m g top =
    if g.triples.isEmpty then .ok { node := .mk g.getTop .nil, metadata := g.metadata } else
    match topOf g top with
    | none => .error (.layout 0)
    | some t => if t ∉ g.variables then .error (.layout 0) else
      (storeOf m g t).bind fun st2 =>
        (buildNode st2.cells (2 * st2.cells.length + 2) t).bind fun node =>
          .ok { node := node, metadata := g.metadata } := Cfg.configure_eq m g top

/-- **C06, totality.** For every graph, top and model: success, a LayoutError, or outside the
    modelled domain — never any other exception. -/
theorem configure_no_other (m : Model) (g : Graph) (top : Option Str) :
    (∃ T, configure m g top = .ok T) ∨ (∃ k, configure m g top = .error (.layout k)) ∨
    (∃ w, configure m g top = .error (.unmodelled w)) := Cfg.configure_no_other m g top

theorem configure_ne_other (m : Model) (g : Graph) (top : Option Str) (s : String) :
    configure m g top ≠ .error (.other s) := Cfg.configure_ne_other m g top s

/-! ## which error -/

theorem configure_error_kind (m : Model) (g : Graph) (top : Option Str) (e : PyErr)
    (h : configure m g top = .error e) :
    e = .layout 0 ∨ e = .layout 1 ∨ e = .layout 3 ∨ ∃ w, e = .unmodelled w :=
  Cfg.configure_error_kind m g top e h

theorem configure_layout0_iff (m : Model) (g : Graph) (top : Option Str) :
    configure m g top = .error (.layout 0) ↔
      (g.triples.isEmpty = false ∧ ∀ t, topOf g top = some t → t ∉ g.variables) :=
  Cfg.configure_layout0_iff m g top

/-! ## content preservation -/

/-- **C03/C06, content.** If `configure` succeeds on a non-empty graph, the tree is built from a
    cell store whose denoted triples are the graph's triples up to order, per-triple inversion,
    and dropped null instances. -/
theorem configure_sound_triples {m : Model} {g : Graph} {top : Option Str} {T : Tree}
    (hr : ∀ t ∈ g.triples, RoleOK2 m t) (hne : g.triples.isEmpty = false)
    (h : configure m g top = .ok T) :
    ∃ t st node, topOf g top = some t ∧ t ∈ g.variables ∧ storeOf m g t = .ok st ∧
      buildNode st.cells (2 * st.cells.length + 2) t = .ok node ∧
      T = { node := node, metadata := g.metadata } ∧
      ∃ l1, Pre m g.triples l1 ∧ Sim m l1 (placed st.cells) := by
  rcases configure_cases m g top with ⟨he, _⟩ | ⟨_, _, h'⟩ | ⟨t, _, ht, htv, ⟨e, _, h'⟩ | ⟨st, node, hs, _, hb, h'⟩⟩
  · rw [he] at hne; simp at hne
  · rw [h'] at h; simp at h
  · rw [h'] at h; simp at h
  · rw [h'] at h; simp only [Except.ok.injEq] at h
    exact ⟨t, st, node, ht, htv, hs, hb, h.symm, Cfg.storeOf_sound hs hr⟩

/-- roles written with their colon satisfy the role hypothesis -/
theorem roleOK2_of_colon (m : Model) (t : Triple) (h : t.role.head? = some ':') : RoleOK2 m t :=
  Cfg.roleOK2_of_colon m t h

/-- unfolding of `Sim`: an explicit list of "expressed as" choices -/
theorem sim_iff (m : Model) (l1 l2 : List Triple) :
    Sim m l1 l2 ↔ ∃ l, Corr m l1 l ∧ l.Perm l2 := Iff.rfl

/-- a constant equal to 0 is not a null instance, so it is never dropped -/
theorem zero_not_dropped (v : Str) : ¬ NullInst ⟨v, CONCEPT_ROLE, .num "0".toList⟩ := by
  intro h; simp [NullInst, Atom.isMissing] at h

/-! ## from the store to the tree -/

/-- **store → tree.** Without alignment markers the triples written in the configured tree are a
    permutation of the triples placed in the store, and the tree has one node per cell. -/
theorem configure_tree_triples {m : Model} {g : Graph} {top : Option Str} {T : Tree}
    (hr : ∀ t ∈ g.triples, RoleOK2 m t) (hna : NoAlign g) (hne : g.triples.isEmpty = false)
    (h : configure m g top = .ok T) :
    ∃ t st, topOf g top = some t ∧ storeOf m g t = .ok st ∧ T.node.var = some t ∧
      T.node.edgeTriples.Perm (placed st.cells) ∧
      T.node.vars.Perm (ckeys st.cells) ∧ (ckeys st.cells).Nodup := by
  obtain ⟨t, st, node, ht, _, hs, hb, rfl, _⟩ := configure_sound_triples hr hne h
  obtain ⟨_, hv, _, hnd, hvar⟩ := Cfg.storeOf_tree hr hs hb
  exact ⟨t, st, ht, hs, hvar, Cfg.storeOf_tree_triples hr hna hs hb, hv, hnd⟩

/-- alignment-agnostic form: what the tree writes is what the cells hold -/
theorem configure_tree_written {m : Model} {g : Graph} {top : Option Str} {T : Tree}
    (hr : ∀ t ∈ g.triples, RoleOK2 m t) (hne : g.triples.isEmpty = false)
    (h : configure m g top = .ok T) :
    ∃ t st, topOf g top = some t ∧ storeOf m g t = .ok st ∧
      (Spec.Reading.Node.written T.node).Perm (flat ownW st.cells) := by
  obtain ⟨t, st, node, ht, _, hs, hb, rfl, _⟩ := configure_sound_triples hr hne h
  exact ⟨t, st, ht, hs, (Cfg.storeOf_tree hr hs hb).1⟩

/-- **C03/C06, content, at the level of the returned tree.** The triples written in the tree are
    the graph's triples up to order, each possibly inverted by `preconfigure`, then kept, inverted
    once, or (null instance) dropped — nothing duplicated, nothing else dropped. -/
theorem configure_sound_tree {m : Model} {g : Graph} {top : Option Str} {T : Tree}
    (hr : ∀ t ∈ g.triples, RoleOK2 m t) (hna : NoAlign g) (hne : g.triples.isEmpty = false)
    (h : configure m g top = .ok T) :
    ∃ l1, Pre m g.triples l1 ∧ Sim m l1 T.node.edgeTriples := by
  obtain ⟨t, st, node, ht, _, hs, hb, rfl, l1, hpre, hsim⟩ := configure_sound_triples hr hne h
  exact ⟨l1, hpre, hsim.perm_right (Cfg.storeOf_tree_triples hr hna hs hb).symm⟩

/-! ## success ⇔ connected -/

/-- C06: if the top is a variable and every variable is weakly connected to it, encoding succeeds -/
theorem configure_complete {m : Model} {g : Graph} {top : Option Str} {t : Str} (hn : NoInstOf m g)
    (hpush : PushSrcOK g) (ht : topOf g top = some t) (htv : t ∈ g.variables)
    (hreach : ∀ v ∈ g.variables, Reach g t v) : ∃ T, configure m g top = .ok T :=
  Cfg.configure_complete hn hpush ht htv hreach

/-- C06: if encoding succeeds, the top is a variable and (given `TopOK`) every variable is weakly
    connected to it -/
theorem configure_success_connected {m : Model} {g : Graph} {top : Option Str} {T : Tree}
    (hn : NoInstOf m g) (hpv : PushVars g) (hne : g.triples.isEmpty = false)
    (h : configure m g top = .ok T) :
    ∃ t, topOf g top = some t ∧ t ∈ g.variables ∧ (TopOK g t → ∀ v ∈ g.variables, Reach g t v) :=
  Cfg.configure_success_connected hn hpv hne h

/-- C06: encoding succeeds exactly when the top is a variable and every variable is weakly connected to it -/
theorem configure_ok_iff {m : Model} {g : Graph} {top : Option Str} {t : Str}
    (hn : NoInstOf m g) (hpush : PushSrcOK g) (hpv : PushVars g) (hne : g.triples.isEmpty = false)
    (ht : topOf g top = some t) (htop : TopOK g t) :
    (∃ T, configure m g top = .ok T) ↔ (t ∈ g.variables ∧ ∀ v ∈ g.variables, Reach g t v) := by
  constructor
  · rintro ⟨T, h⟩
    obtain ⟨t', ht', htv, hr⟩ := Cfg.configure_success_connected hn hpv hne h
    rw [ht] at ht'; simp only [Option.some.injEq] at ht'; subst ht'
    exact ⟨htv, hr htop⟩
  · rintro ⟨htv, hr⟩
    exact Cfg.configure_complete hn hpush ht htv hr

/-- the failing side, with the error named -/
theorem configure_error_iff {m : Model} {g : Graph} {top : Option Str} {t : Str}
    (hn : NoInstOf m g) (hpush : PushSrcOK g) (hpv : PushVars g) (hne : g.triples.isEmpty = false)
    (ht : topOf g top = some t) (htop : TopOK g t) :
    (∃ k, configure m g top = .error (.layout k)) ↔ ¬ (t ∈ g.variables ∧ ∀ v ∈ g.variables, Reach g t v) := by
  rw [← configure_ok_iff hn hpush hpv hne ht htop]
  constructor
  · rintro ⟨k, h⟩ ⟨T, h'⟩; rw [h] at h'; simp at h'
  · intro hno
    rcases Cfg.configure_no_other m g top with h | h | ⟨w, h⟩
    · exact absurd h hno
    · exact h
    · exfalso
      -- `unmodelled` only comes from `preconfigure`, excluded by `PushSrcOK`
      rcases configure_cases m g top with ⟨he, _⟩ | ⟨_, _, h'⟩ | ⟨t', _, _, _, ⟨e, hs, h'⟩ | ⟨st, node, _, _, _, h'⟩⟩
      · rw [he] at hne; simp at hne
      · rw [h'] at h; simp at h
      · rw [h'] at h; simp only [Except.error.injEq] at h; subst h
        rcases Cfg.storeOf_err_layout hpush hs with h | h <;> cases h
      · rw [h'] at h; simp at h

/-! ## non-vacuity: a concrete graph with stale, contradictory markers -/

namespace C06Examples

/-- decidable views of a result (`Tree` has no `DecidableEq`) -/
def errOf {α : Type} (r : Except PyErr α) : Option PyErr := match r with | .error e => some e | .ok _ => none
theorem eq_error {α : Type} {r : Except PyErr α} {e : PyErr} (h : errOf r = some e) : r = .error e := by
  cases r with
  | error e' => simp [errOf] at h; rw [h]
  | ok _ => simp [errOf] at h
theorem eq_ok {α : Type} {r : Except PyErr α} (h : errOf r = none) : ∃ T, r = .ok T := by
  cases r with
  | error e' => simp [errOf] at h
  | ok T => exact ⟨T, rfl⟩

/-- success of `configure` from success of the (kernel-evaluable) store computation -/
theorem configure_ok_of_store {m : Model} {g : Graph} {top : Option Str} {t : Str}
    (hne : g.triples.isEmpty = false) (ht : topOf g top = some t) (htv : t ∈ g.variables)
    (hs : errOf (storeOf m g t) = none) : ∃ T, configure m g top = .ok T := by
  rcases configure_cases m g top with ⟨he, _⟩ | ⟨_, hno, _⟩ | ⟨t', _, ht', _, ⟨e, hs', _⟩ | ⟨st, node, _, _, _, h⟩⟩
  · rw [he] at hne; simp at hne
  · exact absurd htv (hno t ht)
  · rw [ht] at ht'; simp only [Option.some.injEq] at ht'; subst ht'
    rw [hs'] at hs; simp [errOf] at hs
  · exact ⟨_, h⟩

def T (s r : String) (t : Atom) : Triple := ⟨s.toList, r.toList, t⟩
def S (s : String) : Atom := .str s.toList
attribute [eval_unfold] T S

/-- `(b / bark-01 :ARG0 (d / dog :quant 0 :ARG1-of b) :polarity None)` with a `Push(b)` on a triple
    whose source is `b`, surplus `POP`s, a `Push(d)` on `d`'s own instance triple and an alignment -/
def g1 : Graph :=
  { triples := [T "b" ":instance" (S "bark-01"), T "b" ":ARG0" (S "d"), T "d" ":instance" (S "dog"),
                T "d" ":quant" (.num "0".toList), T "d" ":ARG1-of" (S "b"), T "b" ":polarity" .none],
    epidata := [(T "b" ":ARG0" (S "d"), [.push "b".toList, .pop, .aln none [3]]),
                (T "d" ":instance" (S "dog"), [.pop, .push "d".toList, .pop])] }
attribute [eval_unfold] g1

theorem g1_ok : NoInstOf {} g1 ∧ PushSrcOK g1 := by eval_decide
example : NoInstOf {} g1 := g1_ok.1
example : PushSrcOK g1 := g1_ok.2
example : PushVars g1 := by eval_decide
example : TopOK g1 "b".toList := by decide
example : TopOK g1 "d".toList := by decide
example : ∀ t ∈ g1.triples, RoleOK2 {} t := by eval_decide
example : ∀ t ∈ g1.triples, t.role.head? = some ':' := by eval_decide
example : g1.triples.isEmpty = false := by decide
example : topOf g1 none = some "b".toList := by decide +kernel
theorem g1_variables : g1.variables = ["b".toList, "d".toList] := by decide +kernel
example : g1.variables = ["b".toList, "d".toList] := g1_variables

theorem g1_adj : Adj g1 "b".toList "d".toList :=
  ⟨T "b" ":ARG0" (S "d"), by eval_decide, by eval_decide, by decide +kernel, by decide +kernel, Or.inl ⟨rfl, rfl⟩⟩

theorem g1_adj' : Adj g1 "d".toList "b".toList :=
  let ⟨t, ht, hr, hb, hd, e⟩ := g1_adj
  ⟨t, ht, hr, hd, hb, e.symm⟩

theorem g1_connected_b : ∀ v ∈ g1.variables, Reach g1 "b".toList v := by
  intro v hv
  have h : v = "b".toList ∨ v = "d".toList := by
    rw [g1_variables] at hv; simpa using hv
  rcases h with rfl | rfl
  · exact Reach.refl
  · exact Reach.step Reach.refl g1_adj

theorem g1_connected_d : ∀ v ∈ g1.variables, Reach g1 "d".toList v := by
  intro v hv
  have h : v = "b".toList ∨ v = "d".toList := by
    rw [g1_variables] at hv; simpa using hv
  rcases h with rfl | rfl
  · exact Reach.step Reach.refl g1_adj'
  · exact Reach.refl

/-- the theorems apply: `g1` encodes from either top -/
example : ∃ T, configure {} g1 none = .ok T :=
  configure_complete (t := "b".toList) g1_ok.1 g1_ok.2 (by decide +kernel) (by decide +kernel) g1_connected_b
example : ∃ T, configure {} g1 (some "d".toList) = .ok T :=
  configure_complete (t := "d".toList) g1_ok.1 g1_ok.2 (by decide +kernel) (by decide +kernel) g1_connected_d

example : NoAlign { g1 with epidata := [(T "b" ":ARG0" (S "d"), [.push "b".toList, .pop])] } := by eval_decide

/-- a disconnected graph and a bad top: the error cases are inhabited -/
def g2 : Graph := { triples := [T "a" ":instance" (S "x"), T "b" ":instance" (S "y")] }
attribute [eval_unfold] g2
example : configure {} g2 none = .error (.layout 1) := eq_error (by decide +kernel)
example : configure {} g2 (some "q".toList) = .error (.layout 0) := eq_error (by decide +kernel)
example : configure {} { triples := [T "a" ":instance" (S "x"), T "b" ":instance" (S "a")] } none
    = .error (.layout 3) := eq_error (by decide +kernel)

/-- the quadratic family at k = 5: 10 triples, 25 rounds -/
def quad5 : Graph :=
  { triples := [T "x0" ":instance" (S "a"), T "x1" ":instance" (S "a"), T "x2" ":instance" (S "a"),
                T "x3" ":instance" (S "a"), T "x4" ":instance" (S "a"),
                T "y4" ":R" (S "y5"), T "y3" ":R" (S "y4"), T "y2" ":R" (S "y3"), T "y1" ":R" (S "y2"),
                T "a" ":R" (S "y1")],
    top := some "a".toList }
attribute [eval_unfold] quad5
theorem quad5_layout3 : configure {} quad5 none = .error (.layout 3) := eq_error (by eval_decide)
/-- a fuel of `2 * n + 2 = 22` is too small for this input -/
example : ((preconfigure {} quad5.epidata quad5.triples []).bind fun data =>
    configureLoop {} (2 * data.length + 2)
      (stripPops (configureNode {} (data.length + 1) "a".toList data (st0 quad5 "a".toList) false).1) []
      (configureNode {} (data.length + 1) "a".toList data (st0 quad5 "a".toList) false).2.1)
      = .error (.other "configure: fuel") := eq_error (by eval_decide)

/-! ### the hypotheses of `configure_ok_iff` are needed (all three behave the same on the Python code) -/

/-- without `NoInstOf`: weakly connected, yet LayoutError (`:instance-of` met at its target becomes
    the target's concept, its source is never made available) -/
def gA : Graph :=
  { triples := [T "b" ":instance" (S "x"), T "a" ":instance-of" (S "b"), T "a" ":R" (S "c")],
    top := some "b".toList }
attribute [eval_unfold] gA
theorem noInstOf_needed :
    configure {} gA none = .error (.layout 1) ∧ (∀ v ∈ gA.variables, Reach gA "b".toList v) ∧ ¬ NoInstOf {} gA := by
  refine ⟨eq_error (by eval_decide), ?_, by eval_decide⟩
  intro v hv
  have h : v = "b".toList ∨ v = "a".toList := by
    have : gA.variables = ["b".toList, "a".toList] := by decide +kernel
    rw [this] at hv; simpa using hv
  rcases h with rfl | rfl
  · exact Reach.refl
  · exact Reach.step Reach.refl
      ⟨T "a" ":instance-of" (S "b"), by eval_decide, by eval_decide, by decide, by decide +kernel, Or.inr ⟨rfl, rfl⟩⟩

/-- without `PushVars`: `Push(k)` on the constant `k` makes it a node through which `b` is attached
    (boundary O14): success although `b` is not connected to `a` through variables -/
def gB : Graph :=
  { triples := [T "a" ":instance" (S "x"), T "a" ":R" (S "k"), T "b" ":S" (S "k"), T "b" ":instance" (S "y")],
    epidata := [(T "a" ":R" (S "k"), [.push "k".toList])] }
attribute [eval_unfold] gB
theorem pushVars_needed :
    (∃ T, configure {} gB none = .ok T) ∧ ¬ Reach gB "a".toList "b".toList ∧ ¬ PushVars gB := by
  refine ⟨configure_ok_of_store (t := "a".toList) (by decide) (by decide) (by decide) (by eval_decide),
    ?_, by eval_decide⟩
  have hdec : ∀ t ∈ gB.triples, ∀ c ∈ gB.variables, t.role ≠ CONCEPT_ROLE →
      ((t.src = "a".toList ∧ t.tgt = .str c) ∨ (t.src = c ∧ t.tgt = .str "a".toList)) → c = "a".toList := by
    decide +kernel
  have key : ∀ v, Reach gB "a".toList v → v = "a".toList := by
    intro v h
    induction h with
    | refl => rfl
    | step _ hadj ih =>
      subst ih
      obtain ⟨t, ht, hr, _, hc, hdir⟩ := hadj
      exact hdec t ht _ hc hr hdir
  intro h
  have := key _ h
  simp at this

/-- without `TopOK`: an explicit top with no triple is a variable connected to nothing, and
    encoding from another top still succeeds -/
def gC : Graph := { triples := [T "a" ":instance" (S "x")], top := some "z".toList }
attribute [eval_unfold] gC
theorem isolated_explicit_top_succeeds :
    (∃ T, configure {} gC (some "a".toList) = .ok T) ∧ "z".toList ∈ gC.variables ∧
      ¬ Reach gC "a".toList "z".toList ∧ ¬ TopOK gC "a".toList := by
  refine ⟨configure_ok_of_store (t := "a".toList) (by decide) (by decide) (by eval_decide) (by decide +kernel),
    by eval_decide, ?_, by decide⟩
  intro h
  generalize hz : "z".toList = z at h
  cases h with
  | refl => exact absurd hz (by decide)
  | step _ hadj =>
    obtain ⟨t, ht, hr, _⟩ := hadj
    simp only [gC, List.mem_singleton] at ht
    subst ht
    exact hr rfl

end C06Examples

end Penman
