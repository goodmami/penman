/-
# C07 — the parser accepts exactly the documented language and fails cleanly
(with the token-level parts of C01 "parse ∘ format" and C19 "triples round trip")

Property text → theorems (all about the token-level parser of `Penman.Parse`;
the lexer is C08's business):

* "parsing one graph, iterating over graphs, and parsing a triple conjunction
  each either return a result or raise the decode error — never another
  exception, never a hang"
  → `parse_total`, `iterparse_total`, `parseTriples_total`; the model's only
  other outcome is running out of fuel (`.other "RecursionError"`, `.other "fuel"`),
  excluded by `parseNode_fuel`, and the fuel is irrelevant above the number of
  tokens: `parseNode_fuel_irrelevant`, `parseTriples_fuel_irrelevant`
  (termination itself: all model functions are structurally recursive).
* "Acceptance, the resulting tree, and on rejection the reported line and
  column … agree with an independent recogniser of that grammar"
  → `parse_eq_spec` (node level, fuel `toks.length + 1`; any larger fuel by
  `parseNode_fuel_irrelevant`),
  `parseTree_eq_spec`, `parseToks_eq_spec` (one graph with comments),
  `iterparse_eq_spec` (iteration). The recogniser is `Spec.Automaton`
  (iterative, explicit stack, one transition per token).
* "accepts exactly the documented language" — besides the automaton, the
  grammar is also given declaratively: a well-formed concrete syntax tree
  (`CNode` / `CEdges` with `CNode.wf`, in `Proofs/ParseRoundTrip.lean`) is
  exactly a derivation of
  `Node := '(' Var ('/' Concept Alignment?)? Edge* ')'`,
  `Edge := Role Alignment? (Atom Alignment? | Node)` with the three extensions
  (`()`, missing concept, missing target — the latter two are automatically
  followed by a ROLE or `)`), `TreeToks t ts` says `ts` is the token list of
  such a derivation with abstract tree `t`.
  → `parse_accepts_iff` (parser ⇔ grammar), `automaton_accepts_iff`
  (automaton ⇔ grammar).
* "the first token at which the documented grammar plus its documented
  robustness extensions fails, or the end of the last token when input runs out"
  → `error_position` (kind 1: the token is in the input, what precedes it is
  a viable prefix of the language, with it it is not), `error_position_eof`
  (kind 0: position = end of the last token, the whole input is a viable
  prefix but contains no complete graph), `error_kinds`.
* C01, token level: `parse_toks` (canonical token list of a `WfTree`),
  `parse_treeToks` (any token list related to the tree by `TreeToks`:
  arbitrary positions, ALIGNMENT tokens split off, SYMBOL or STRING atoms),
  `parseToks_treeToks` (with leading comments, on the top-level function).
* metadata: `parseComments_leading`, `commentMeta_entries` (right to left!),
  `commentMeta_fmtLine`, `metadata_fmtLines`.
* C19, token level: `parseTriples_toks`.

For the triple conjunction, totality and
fuel-irrelevance follow from its agreement with the machine of
`Spec.TripleAutomaton` (`Proofs/ParseTriples.lean`; the statements about that
machine are in C07t), and its accepted language is characterised from the
inside by `parseTriples_toks` (all spacing variants).
-/
import Penman.Spec.Automaton
import Penman.Format
import Penman.Proofs.ParseLemmas
import Penman.Proofs.ParseRoundTrip
import Penman.Proofs.ParseComplete
import Penman.Proofs.ParseMeta
import Penman.Proofs.ParseTriples
import Penman.Proofs.Eval
namespace Penman.C07
open Penman.Spec.Automaton

/-! ## concrete inputs used in the non-vacuity examples -/

def tk (ty : TokTy) (s : String) (off : Nat) : Tok := ⟨ty, s.toList, 1, off⟩

/-- the tokens of `(a / b :ARG0 (c / d) :mod-of a)` -/
def exToks : List Tok :=
  [tk .LPAREN "(" 0, tk .SYMBOL "a" 1, tk .SLASH "/" 3, tk .SYMBOL "b" 5, tk .ROLE ":ARG0" 7,
   tk .LPAREN "(" 13, tk .SYMBOL "c" 14, tk .SLASH "/" 16, tk .SYMBOL "d" 18, tk .RPAREN ")" 19,
   tk .ROLE ":mod-of" 21, tk .SYMBOL "a" 29, tk .RPAREN ")" 30]

def exNode : Node :=
  .mk (some "a".toList) (.atom "/".toList (.str "b".toList)
    (.sub ":ARG0".toList (.mk (some "c".toList) (.atom "/".toList (.str "d".toList) .nil))
      (.atom ":mod-of".toList (.str "a".toList) .nil)))

/-- the tokens of `(a / b :ARG0 (c / d) / x)` : the second `/` (offset 21) is wrong -/
def badToks : List Tok :=
  [tk .LPAREN "(" 0, tk .SYMBOL "a" 1, tk .SLASH "/" 3, tk .SYMBOL "b" 5, tk .ROLE ":ARG0" 7,
   tk .LPAREN "(" 13, tk .SYMBOL "c" 14, tk .SLASH "/" 16, tk .SYMBOL "d" 18, tk .RPAREN ")" 19,
   tk .SLASH "/" 21, tk .SYMBOL "x" 23, tk .RPAREN ")" 24]

/-- the tokens of `(a / b :ARG0 (c` : input runs out after the `c` at offset 14 -/
def cutToks : List Tok := exToks.take 7

/-- `# ::id 1 ::snt x` then the graph -/
def cmToks : List Tok := ⟨.COMMENT, "# ::id 1 ::snt x".toList, 1, 0⟩ :: exToks.map (fun t => { t with lineno := 2 })

def isSp (c : Char) : Bool := c = ' ' || c = '\t'

attribute [eval_unfold] tk exToks exNode badToks cutToks cmToks

/-! ## 1. totality, no other exception, fuel -/

/-- with fuel above the number of tokens `parseNode` never reports anything
    but a tree or a decode error (in particular not the model's
    `.other "RecursionError"` for exhausted fuel) -/
theorem parseNode_fuel (c : PCtx) (f : Nat) (toks : List Tok) (hf : toks.length < f) :
    (∃ x, parseNode c f toks = .ok x) ∨ (∃ l k n, parseNode c f toks = .error (.decode l k n)) := by
  rw [parseNode_eq_loop c f toks hf]; exact toExcept_ok_or_decode c _

theorem parseNode_fuel_irrelevant (c : PCtx) (f g : Nat) (toks : List Tok)
    (hf : toks.length < f) (hg : toks.length < g) : parseNode c f toks = parseNode c g toks := by
  rw [parseNode_eq_loop c f toks hf, parseNode_eq_loop c g toks hg]

example : exToks.length < 14 ∧ exToks.length < 100 := by decide

/-- `parse` : a tree or the decode error -/
theorem parse_total (isSpace : Char → Bool) (toks : List Tok) :
    (∃ t, parseToks isSpace toks = .ok t) ∨ (∃ l k n, parseToks isSpace toks = .error (.decode l k n)) := by
  rw [parseToks_eq, report_eq_toExcept]
  rcases toExcept_ok_or_decode ⟨eofPos toks⟩ (run true toks) with ⟨x, h⟩ | ⟨l, k, n, h⟩
  · exact .inl ⟨_, by rw [h]; rfl⟩
  · exact .inr ⟨l, k, n, by rw [h]; rfl⟩

/-- `iterparse` : the generator ends normally or raises the decode error
    (never the model's `.other "fuel"`) -/
theorem iterparse_total (isSpace : Char → Bool) (toks : List Tok) :
    (iterparseToks isSpace toks).2 = none ∨ ∃ l k n, (iterparseToks isSpace toks).2 = some (.decode l k n) := by
  rw [iterparseToks_eq]
  cases (runAll toks).2 with
  | ended => exact .inl rfl
  | rejectAt t => exact .inr ⟨_, _, _, rfl⟩
  | exhausted => exact .inr ⟨_, _, _, rfl⟩

/-- `parse_triples` : a list of triples or the decode error -/
theorem parseTriples_total (toks : List Tok) :
    (∃ r, parseTriplesToks toks = .ok r) ∨ (∃ l k n, parseTriplesToks toks = .error (.decode l k n)) :=
  parseTriplesLoop_total _ _ _ _ _ (Nat.lt_succ_self _)

theorem parseTriples_fuel_irrelevant (c : PCtx) (f g : Nat) (strip : Bool) (toks : List Tok) (acc : List Triple)
    (hf : toks.length < f) (hg : toks.length < g) :
    parseTriplesLoop c f strip toks acc = parseTriplesLoop c g strip toks acc :=
  parseTriplesLoop_fuel c f g strip toks acc hf hg

/-! ## 2. agreement with the independent recogniser -/

/-- **`parseNode` is the automaton** : same tree and remainder, or the same
    error position (`all` is the whole input, for the end-of-input position) -/
theorem parse_eq_spec (all toks : List Tok) :
    parseNode ⟨eofPos all⟩ (toks.length + 1) toks = (run false toks).report all := by
  rw [parseNode_eq_loop _ _ _ (Nat.lt_succ_self _), report_eq_toExcept]

example : parseNode ⟨eofPos exToks⟩ (exToks.length + 1) exToks = .ok (exNode, []) := by
  eval_rfl
example : run false exToks = .accept exNode [] := by eval_rfl
example : (run false badToks).report badToks = .error (.decode 1 21 1) := rfl
example : (run false cutToks).report cutToks = .error (.decode 1 15 0) := rfl

/-- `_parse` (comments, then a node) against the automaton started with
    comments allowed; the metadata is what `commentMeta` decodes from the
    leading COMMENT tokens (characterised in section 5) -/
theorem parseTree_eq_spec (all : List Tok) (isSpace : Char → Bool) (toks : List Tok) :
    parseTree ⟨eofPos all⟩ isSpace toks =
      ((run true toks).report all).map (fun x => (⟨x.1, metaOf isSpace toks []⟩, x.2)) := by
  rw [parseTree_eq, report_eq_toExcept]

/-- `parse` -/
theorem parseToks_eq_spec (isSpace : Char → Bool) (toks : List Tok) :
    parseToks isSpace toks = ((run true toks).report toks).map (fun x => ⟨x.1, metaOf isSpace toks []⟩) :=
  parseToks_eq isSpace toks

example : (parseToks isSp cmToks).map (·.metadata) = .ok [("snt".toList, "x".toList), ("id".toList, "1".toList)] := by
  eval_rfl

/-- `iterparse` : the trees yielded are those of `runAll`, and the error (if
    any) is the one reported for the reason `runAll` stopped -/
theorem iterparse_eq_spec (isSpace : Char → Bool) (toks : List Tok) :
    iterparseToks isSpace toks = ((runAll toks).1.map (mkTree isSpace), (runAll toks).2.error? toks) :=
  iterparseToks_eq isSpace toks

example : (iterparseToks isSp (exToks ++ badToks)).1.map (·.node.var) = [some ['a']]
    ∧ (iterparseToks isSp (exToks ++ badToks)).2 = some (.decode 1 21 1) := ⟨rfl, rfl⟩

/-- **the parser accepts exactly the sentences of the documented grammar**
    (with the robustness extensions), and returns the tree of the derivation -/
theorem parse_accepts_iff (c : PCtx) (f : Nat) (toks : List Tok) (hf : toks.length < f) (t : Node)
    (rest : List Tok) :
    parseNode c f toks = .ok (t, rest) ↔ ∃ ts, TreeToks t ts ∧ toks = ts ++ rest :=
  parseNode_ok_iff c f toks hf t rest

/-- … and so does the automaton -/
theorem automaton_accepts_iff (toks : List Tok) (t : Node) (rest : List Tok) :
    run false toks = .accept t rest ↔ ∃ ts, TreeToks t ts ∧ toks = ts ++ rest := by
  rw [← parseNode_ok_iff ⟨(0, 0)⟩ (toks.length + 1) toks (Nat.lt_succ_self _) t rest,
    parseNode_eq_loop _ _ _ (Nat.lt_succ_self _)]
  cases run false toks <;> simp [Outcome.toExcept]

/-! ## 3. the position of an error -/

/-- only the two kinds of decode error occur -/
theorem error_kinds (isSpace : Char → Bool) (toks : List Tok) (l k n : Nat)
    (h : parseToks isSpace toks = .error (.decode l k n)) : n = 0 ∨ n = 1 := by
  rcases parseToks_decode h with ⟨_, _, _, _, h1⟩ | ⟨_, _, h0⟩
  · exact .inr h1
  · exact .inl h0

/-- **error position, kind 1** : the reported `(l, k)` is the position of a
    token `t` of the input such that the tokens before `t` are a viable prefix
    of the language (they can be completed to an accepted input) and adding
    `t` makes them non-viable: `t` is the first token at which the grammar
    (with its robustness extensions) fails -/
theorem error_position (isSpace : Char → Bool) (toks : List Tok) (l k : Nat)
    (h : parseToks isSpace toks = .error (.decode l k 1)) :
    ∃ pre t post, toks = pre ++ t :: post ∧ l = t.lineno ∧ k = t.offset ∧
      run true toks = .rejectAt t ∧ Viable true pre ∧ ¬ Viable true (pre ++ [t]) := by
  rcases parseToks_decode h with ⟨t, hr, hl, hk, -⟩ | ⟨_, _, h0⟩
  · obtain ⟨pre, post, e, v, nv⟩ := run_rejectAt true toks t hr
    exact ⟨pre, t, post, e, hl, hk, hr, v, nv⟩
  · cases h0

example : parseToks isSp badToks = .error (.decode 1 21 1) := rfl

/-- **error position, kind 0** : the position is the end of the last token;
    the whole input is a viable prefix, and no graph is complete -/
theorem error_position_eof (isSpace : Char → Bool) (toks : List Tok) (l k : Nat)
    (h : parseToks isSpace toks = .error (.decode l k 0)) :
    (l, k) = eofPos toks ∧ run true toks = .exhausted ∧ Viable true toks ∧ ¬ Accepts true toks := by
  rcases parseToks_decode h with ⟨_, _, _, _, h1⟩ | ⟨hr, e, -⟩
  · cases h1
  · refine ⟨e, hr, run_exhausted true toks hr, ?_⟩
    rintro ⟨n, rest, ha⟩; rw [hr] at ha; cases ha

example : parseToks isSp cutToks = .error (.decode 1 15 0) := rfl

/-- the same for a node (no comments), any context, enough fuel -/
theorem error_position_node (c : PCtx) (f : Nat) (toks : List Tok) (hf : toks.length < f) (l k : Nat)
    (h : parseNode c f toks = .error (.decode l k 1)) :
    ∃ pre t post, toks = pre ++ t :: post ∧ l = t.lineno ∧ k = t.offset ∧
      Viable false pre ∧ ¬ Viable false (pre ++ [t]) := by
  rw [parseNode_eq_loop c f toks hf] at h
  rcases toExcept_decode h with ⟨t, hr, hl, hk, -⟩ | ⟨_, _, h0⟩
  · obtain ⟨pre, post, e, v, nv⟩ := run_rejectAt false toks t hr
    exact ⟨pre, t, post, e, hl, hk, v, nv⟩
  · cases h0

example : parseNode ⟨(9, 9)⟩ 20 badToks = .error (.decode 1 21 1) := rfl

/-! ## 4. token-level round trip (C01) -/

/-- **parsing the token list of a tree gives back the tree** — for every
    `rest` (the closing parenthesis delimits the node) and every fuel ≥ the
    size of the tree. `sh` fixes how role / atom texts are cut into
    ROLE / SYMBOL / STRING + ALIGNMENT tokens. -/
theorem parse_toks (c : PCtx) (sh : TokShape) (t : Node) (rest : List Tok) (f : Nat)
    (h : t.WfTree sh = true) (hf : t.size ≤ f) :
    parseNode c f (t.toks sh ++ rest) = .ok (t, rest) :=
  Penman.parse_toks c sh t rest f h hf

example : exNode.WfTree .plain = true ∧ exNode.size ≤ 14 := by eval_decide

/-- a shape that cuts `~…` suffixes off: `b~1` is the SYMBOL `b` and the ALIGNMENT `~1` -/
def tildeShape : TokShape :=
  ⟨fun s => match (partitionStr ['~'] s) with
            | (core, true, a) => (core, some ('~' :: a))
            | (core, false, _) => (core, none),
   fun s => startsWith ['"'] s⟩

def alnNode : Node :=
  .mk (some ['a']) (.atom ['/'] (.str "b~1".toList) (.atom ":x~e.2".toList (.str "\"s\"~3".toList)
    (.atom ":y".toList .none (.sub ":z".toList (.mk none .nil) .nil))))
attribute [eval_unfold] alnNode

example : alnNode.WfTree tildeShape = true := by eval_decide
example : (alnNode.toks tildeShape).map (fun t => (t.ty, String.ofList t.text)) =
    [(.LPAREN, "("), (.SYMBOL, "a"), (.SLASH, "/"), (.SYMBOL, "b"), (.ALIGNMENT, "~1"),
     (.ROLE, ":x"), (.ALIGNMENT, "~e.2"), (.STRING, "\"s\""), (.ALIGNMENT, "~3"),
     (.ROLE, ":y"), (.ROLE, ":z"), (.LPAREN, "("), (.RPAREN, ")"), (.RPAREN, ")")] := by eval_decide

example : (Branches.atom ":x".toList (.str "y~1".toList) .nil).WfTree tildeShape = true := by eval_decide

/-- the same for any token list related to the tree (`TreeToks` : arbitrary
    positions and texts, built by the rules `TreeToks.node`, `.node_slash`,
    `.node_concept`, `.empty`, `EdgesToks.atom_str`, `.atom_none`, `.sub`, …) -/
theorem parse_treeToks (c : PCtx) (t : Node) (ts rest : List Tok) (f : Nat) (h : TreeToks t ts)
    (hf : t.size ≤ f) : parseNode c f (ts ++ rest) = .ok (t, rest) :=
  parseNode_treeToks c t ts rest f h hf

/-- edge lists: the next token must be the closing `)` (which `parseEdges` consumes) -/
theorem parseEdges_toks (c : PCtx) (sh : TokShape) (bs : Branches) (rp : Tok) (rest : List Tok) (f : Nat)
    (h : bs.WfTree sh = true) (hrp : rp.ty = .RPAREN) (hf : bs.size ≤ f) :
    parseEdges c f (bs.toks sh ++ rp :: rest) = .ok (bs, rest) :=
  parseEdges_edgesToks c bs _ rp rest f (bs.edgesToks sh h) hrp hf

/-- on the top-level function, with leading comments: the fuel `parse` uses suffices -/
theorem parseToks_treeToks (isSpace : Char → Bool) (cs : List Tok) (t : Node) (ts rest : List Tok)
    (hcs : ∀ x ∈ cs, x.ty = .COMMENT) (h : TreeToks t ts) :
    parseToks isSpace (cs ++ (ts ++ rest)) =
      .ok ⟨t, cs.foldl (fun md x => commentMeta isSpace (x.text.length + 1) x.text md) []⟩ := by
  obtain ⟨k, hw, rfl, rfl⟩ := h
  obtain ⟨m, ms, e, hm⟩ := k.head rest hw
  have hm' : m.ty ≠ .COMMENT := by simp [hm]
  simp only [parseToks, parseTree, parseComments_eq, e]
  rw [(leadingComments_append cs m ms hcs hm').2, metaOf_append isSpace cs m ms hcs hm']
  simp only [reduceCtorEq, if_false, bind, Except.bind]
  rw [← e, parseNode_cst_top _ k rest hw]
  rfl

/-- the token list `exToks` (with its real positions) is related to `exNode` -/
theorem exToks_treeToks : TreeToks exNode exToks :=
  ⟨.mk (tk .LPAREN "(" 0) (tk .SYMBOL "a" 1) (some (tk .SLASH "/" 3, some ⟨tk .SYMBOL "b" 5, none⟩))
    (.sub ⟨tk .ROLE ":ARG0" 7, none⟩
      (.mk (tk .LPAREN "(" 13) (tk .SYMBOL "c" 14) (some (tk .SLASH "/" 16, some ⟨tk .SYMBOL "d" 18, none⟩)) .nil
        (tk .RPAREN ")" 19))
      (.atom ⟨tk .ROLE ":mod-of" 21, none⟩ (some ⟨tk .SYMBOL "a" 29, none⟩) .nil)) (tk .RPAREN ")" 30),
    by decide, rfl, rfl⟩

example : parseToks isSp ([⟨.COMMENT, "# ::id 1".toList, 1, 0⟩] ++ (exToks ++ badToks))
    = .ok ⟨exNode, [("id".toList, "1".toList)]⟩ :=
  parseToks_treeToks isSp _ exNode exToks badToks (by decide) exToks_treeToks

example : run false (exToks ++ badToks) = .accept exNode badToks :=
  (automaton_accepts_iff _ _ _).2 ⟨exToks, exToks_treeToks, rfl⟩

example : parseNode ⟨(0, 0)⟩ 50 (exToks ++ badToks) = .ok (exNode, badToks) :=
  parse_treeToks _ exNode exToks badToks 50 exToks_treeToks (by decide)

/-! ## 5. metadata comments -/

/-- `_parse_comments` consumes exactly the leading COMMENT tokens, folding
    `commentMeta` over them; it fails (end of input) iff nothing follows -/
theorem parseComments_leading (c : PCtx) (isSpace : Char → Bool) (toks : List Tok) (md : AList Str Str) :
    parseComments c isSpace toks md =
      if afterComments toks = [] then .error c.eofErr
      else .ok ((leadingComments toks).foldl
                  (fun md t => commentMeta isSpace (t.text.length + 1) t.text md) md,
                afterComments toks) :=
  parseComments_eq c isSpace toks md

/-- **one comment** `pre ::k1 v1 ::k2 v2 … ::kn vn` (`pre` without `::`; keys
    without blank; no `::` inside an entry or across its left boundary):
    the entries are stored from RIGHT TO LEFT, `kn` first, with Python `dict`
    semantics (`AList.set` : an existing key keeps its position and gets the
    new value, a new key is appended).  So new keys of one line appear in
    reverse order, and of two equal keys on one line the LEFT one wins. -/
theorem commentMeta_entries (isSpace : Char → Bool) (pre : Str) (es : List MetaEntry) (md : AList Str Str)
    (hpre : hasSep pre = false) (hes : ∀ e ∈ es, e.ok = true) :
    commentMeta isSpace ((metaLine pre es).length + 1) (metaLine pre es) md
      = es.foldr (fun e md => md.set e.1 (e.value isSpace)) md :=
  commentMeta_metaLine isSpace pre es _ md hpre hes (by have := metaLine_length pre es; omega)

example : metaLine "# ".toList [("id".toList, some "1 ".toList), ("snt".toList, some "x".toList)]
    = "# ::id 1 ::snt x".toList := by eval_decide
example : ∀ e ∈ [("id".toList, some "1 ".toList), ("snt".toList, some "x".toList)], MetaEntry.ok e = true := by
  eval_decide
example : commentMeta isSp 17 "# ::id 1 ::snt x".toList [] = [("snt".toList, "x".toList), ("id".toList, "1".toList)] := by
  eval_decide

/-- **round trip of the line `format` writes for one key** :
    `# ::key value` ↦ `(key, value.rstrip())`, `# ::key` ↦ `(key, '')` -/
theorem commentMeta_fmtLine (isSpace : Char → Bool) (kv : Str × Str) (md : AList Str Str)
    (hok : (fmtEntry kv).ok = true) :
    let line := "# ::".toList ++ kv.1 ++ (if kv.2.isEmpty then kv.2 else ' ' :: kv.2)
    commentMeta isSpace (line.length + 1) line md = md.set kv.1 (rstripBy isSpace kv.2) :=
  Penman.commentMeta_fmtLine isSpace kv md _ hok (by omega)

example : (fmtEntry ("snt".toList, "the boy: he sleeps".toList)).ok = true := by eval_decide

/-- a dictionary written one `# ::key value` line per key (distinct keys,
    well-formed entries, values equal to their own `rstrip`) is read back
    unchanged, in order -/
theorem metadata_fmtLines (isSpace : Char → Bool) (md : AList Str Str) (cs : List Tok)
    (hcs : cs.map (·.text) = formatMeta md)
    (hnd : (md.map (·.1)).Pairwise (· ≠ ·))
    (hok : ∀ kv ∈ md, (fmtEntry kv).ok = true ∧ rstripBy isSpace kv.2 = kv.2) :
    cs.foldl (fun d x => commentMeta isSpace (x.text.length + 1) x.text d) [] = md := by
  have h1 : cs.foldl (fun d x => commentMeta isSpace (x.text.length + 1) x.text d) []
      = (cs.map (·.text)).foldl (fun d s => commentMeta isSpace (s.length + 1) s d) [] := by
    rw [List.foldl_map]
  rw [h1, hcs, formatMeta, List.foldl_map]
  have := foldl_fmtLines isSpace md [] (by simpa using hnd) hok
  simpa using this

example : let md : AList Str Str := [("id".toList, "7".toList), ("snt".toList, "a: b".toList), ("e".toList, [])]
    (md.map (·.1)).Pairwise (· ≠ ·) ∧ (∀ kv ∈ md, (fmtEntry kv).ok = true ∧ rstripBy isSp kv.2 = kv.2)
    ∧ formatMeta md = ["# ::id 7".toList, "# ::snt a: b".toList, "# ::e".toList] := by eval_decide

/-! ## 6. triple conjunctions (C19) -/

/-- **the tokens of `role(src, tgt) ^ role(…`, in any mix of the spacing
    variants** (`a,b` / `a,`+`b` / `a`+`,`+`b` / `a`+`,b` / no target;
    `^` alone or glued to the next role) **parse to the triple list**, roles
    with a leading colon; whatever follows is ignored if it does not start
    with a `^` SYMBOL -/
theorem parseTriples_toks {trs : List Triple} {ts : List Tok} (h : ConjToks false trs ts)
    (rest : List Tok) (hst : StopsAt rest) : parseTriplesToks (ts ++ rest) = .ok trs :=
  parseTriplesToks_conj h rest hst

/-- the tokens of `instance(a, b) ^ ARG0(a , c)` -/
def trToks : List Tok :=
  [tk .SYMBOL "instance" 0, tk .LPAREN "(" 8, tk .SYMBOL "a," 9, tk .SYMBOL "b" 12, tk .RPAREN ")" 13,
   tk .SYMBOL "^" 15, tk .SYMBOL "ARG0" 17, tk .LPAREN "(" 21, tk .SYMBOL "a" 22, tk .SYMBOL "," 24,
   tk .SYMBOL "c" 26, tk .RPAREN ")" 27]

def trTriples : List Triple :=
  [⟨"a".toList, ":instance".toList, .str "b".toList⟩, ⟨"a".toList, ":ARG0".toList, .str "c".toList⟩]
attribute [eval_unfold] trToks trTriples

example : ConjToks false trTriples trToks := by
  refine ConjToks.sep false _ [tk .SYMBOL "instance" 0, tk .LPAREN "(" 8, tk .SYMBOL "a," 9, tk .SYMBOL "b" 12,
    tk .RPAREN ")" 13] (tk .SYMBOL "^" 15) _ _ ?_ rfl rfl (ConjToks.last false _ _ ?_)
  · exact ⟨"instance".toList, _, _, _, [tk .SYMBOL "a," 9, tk .SYMBOL "b" 12], HeadTok.plain (tk .SYMBOL "instance" 0) rfl, rfl, rfl,
      ArgToks.commaLeft _ (tk .SYMBOL "b" 12) rfl rfl rfl, by decide, rfl, rfl⟩
  · exact ⟨"ARG0".toList, _, _, _, [tk .SYMBOL "a" 22, tk .SYMBOL "," 24, tk .SYMBOL "c" 26], HeadTok.plain (tk .SYMBOL "ARG0" 17) rfl, rfl, rfl,
      ArgToks.spaced _ _ (tk .SYMBOL "c" 26) rfl rfl rfl rfl rfl, by decide, rfl, rfl⟩

example : parseTriplesToks trToks = .ok trTriples := by
  eval_rfl

/-- `instance(a,b) ^ARG0(a ,c)` : glued variants -/
example : ConjToks false trTriples
    [tk .SYMBOL "instance" 0, tk .LPAREN "(" 8, tk .SYMBOL "a,b" 9, tk .RPAREN ")" 12,
     tk .SYMBOL "^ARG0" 14, tk .LPAREN "(" 19, tk .SYMBOL "a" 20, tk .SYMBOL ",c" 22, tk .RPAREN ")" 24] := by
  refine ConjToks.glue false _ [tk .SYMBOL "instance" 0, tk .LPAREN "(" 8, tk .SYMBOL "a,b" 9, tk .RPAREN ")" 12]
    _ _ ?_ (ConjToks.last true _ _ ?_)
  · exact ⟨"instance".toList, _, _, _, [tk .SYMBOL "a,b" 9], HeadTok.plain (tk .SYMBOL "instance" 0) rfl, rfl, rfl,
      ArgToks.glued _ "b".toList rfl rfl (by decide), by decide, rfl, rfl⟩
  · exact ⟨"ARG0".toList, _, _, _, [tk .SYMBOL "a" 20, tk .SYMBOL ",c" 22],
      HeadTok.caret (tk .SYMBOL "^ARG0" 14) _ rfl rfl (by decide), rfl, rfl,
      ArgToks.commaRight _ _ "c".toList rfl rfl rfl rfl (by decide), by decide, rfl, rfl⟩

end Penman.C07
