/-
# C07t — triple conjunctions against an independent recogniser (the `parse_triples` part of C07)

Property text (C07, the part about `parse_triples`) → theorems:

* "parsing a triple conjunction either returns a result or raises the decode
  error"  → already `C07.parseTriples_total`; here it is also a corollary of
  `triples_eq_spec` (`triples_total'`), the machine having only these outcomes.
* "Acceptance, the result, and on rejection the reported line and column …
  agree with an independent recogniser of that grammar"
  → `triples_eq_spec` : `parseTriplesToks toks = TripleAutomaton.run toks` for
  ALL token lists — results, error positions and error kinds.  The recogniser
  is `Spec.TripleAutomaton` (iterative finite-state machine, one transition
  per token; it does not import `Penman.Parse`).  `triples_eq_spec_loop` is the
  same from inside the model's loop (any context, any fuel above the number of
  tokens).
  The grammar  Conj := Triple ('^' Triple)* ;  Triple := Role '(' Source ','? Target? ')'
  is recognised with the documented lexical quirks (comma glued to source /
  target / both / alone; `^` alone or glued to the role; roles get a leading
  `:`; anything but a `^…` SYMBOL after a `)` ends the conjunction and the
  rest is ignored).  `automaton_accepts_conj` links the machine to the
  declarative token grammar `ConjToks` of C07 §6.
* "the first token at which the documented grammar fails, or the end of the
  last token when input runs out"
  → `triples_error_position` (kind 1: the token is in the input, the tokens
  before it are a viable prefix, with it they are not),
  `triples_error_position_eof` (kind 0: position = `eofPos` of the whole
  input, the whole input is a viable prefix but no conjunction is complete),
  `triples_error_kinds`.
-/
import Penman.Spec.TripleAutomaton
import Penman.Proofs.TripleAutomaton
import Penman.Proofs.Eval
namespace Penman.C07t
open Penman.Spec.TripleAutomaton Penman.TripleAut

deriving instance DecidableEq for Except

/-! ## concrete inputs used in the non-vacuity examples -/

def tk (ty : TokTy) (s : String) (off : Nat) : Tok := ⟨ty, s.toList, 1, off⟩

/-- the tokens of `instance(a, b) ^ ARG0(a , c)` -/
def trToks : List Tok :=
  [tk .SYMBOL "instance" 0, tk .LPAREN "(" 8, tk .SYMBOL "a," 9, tk .SYMBOL "b" 12, tk .RPAREN ")" 13,
   tk .SYMBOL "^" 15, tk .SYMBOL "ARG0" 17, tk .LPAREN "(" 21, tk .SYMBOL "a" 22, tk .SYMBOL "," 24,
   tk .SYMBOL "c" 26, tk .RPAREN ")" 27]

/-- the tokens of `instance(a,b) ^ARG0(a ,c)` : glued variants -/
def gluedToks : List Tok :=
  [tk .SYMBOL "instance" 0, tk .LPAREN "(" 8, tk .SYMBOL "a,b" 9, tk .RPAREN ")" 12,
   tk .SYMBOL "^ARG0" 14, tk .LPAREN "(" 19, tk .SYMBOL "a" 20, tk .SYMBOL ",c" 22, tk .RPAREN ")" 24]

def trTriples : List Triple :=
  [⟨"a".toList, ":instance".toList, .str "b".toList⟩, ⟨"a".toList, ":ARG0".toList, .str "c".toList⟩]

/-- the tokens of `instance(a b)` : the `b` (offset 11) has no comma -/
def badToks : List Tok :=
  [tk .SYMBOL "instance" 0, tk .LPAREN "(" 8, tk .SYMBOL "a" 9, tk .SYMBOL "b" 11, tk .RPAREN ")" 12]

/-- the tokens of `instance(a, b) ^ ARG0(a,` : input runs out after `a,` (offset 22, 2 characters) -/
def cutToks : List Tok := trToks.take 8 ++ [tk .SYMBOL "a," 22]

/-- the tokens of `instance(a, "x") ( junk` : what follows the conjunction is ignored -/
def restToks : List Tok :=
  [tk .SYMBOL "instance" 0, tk .LPAREN "(" 8, tk .SYMBOL "a," 9, tk .STRING "\"x\"" 12, tk .RPAREN ")" 15,
   tk .LPAREN "(" 17, tk .SYMBOL "junk" 19]

attribute [eval_unfold] tk trToks gluedToks trTriples badToks cutToks restToks

/-! ## 1. agreement with the independent recogniser -/

/-- **`parse_triples` is the machine** : same triple list, or the same error
    position and kind — for every token list -/
theorem triples_eq_spec (toks : List Tok) : parseTriplesToks toks = run toks :=
  parseTriplesToks_eq toks

example : run trToks = .ok trTriples := by eval_decide
example : parseTriplesToks trToks = .ok trTriples := by eval_decide
example : run gluedToks = .ok trTriples := by eval_decide
example : run badToks = .error (.decode 1 11 1) := by decide +kernel
example : run cutToks = .error (.decode 1 24 0) := by decide +kernel
example : run [] = .error (.decode 0 0 0) := by decide
example : run restToks = .ok [⟨"a".toList, ":instance".toList, .str "\"x\"".toList⟩] := by eval_decide
/-- no target: `a`, `a,`, `a ,` -/
example : run [tk .SYMBOL "top" 0, tk .LPAREN "(" 3, tk .SYMBOL "a" 4, tk .RPAREN ")" 5, tk .SYMBOL "^" 7,
      tk .SYMBOL "top" 9, tk .LPAREN "(" 12, tk .SYMBOL "a," 13, tk .RPAREN ")" 15, tk .SYMBOL "^top" 17,
      tk .LPAREN "(" 21, tk .SYMBOL "a" 22, tk .SYMBOL "," 24, tk .RPAREN ")" 25]
    = .ok [⟨['a'], ":top".toList, .none⟩, ⟨['a'], ":top".toList, .none⟩, ⟨['a'], ":top".toList, .none⟩] := by eval_decide
/-- a `^` glued to the FIRST role is part of the role (recorded behaviour) -/
example : run [tk .SYMBOL "^r" 0, tk .LPAREN "(" 2, tk .SYMBOL "a,b" 3, tk .RPAREN ")" 6]
    = .ok [⟨['a'], ":^r".toList, .str ['b']⟩] := by eval_decide

/-- the same from inside the model's loop: any context `c` (its end-of-input
    position), any fuel above the number of tokens, any triples already read -/
theorem triples_eq_spec_loop (c : PCtx) (f : Nat) (toks : List Tok) (acc : List Triple)
    (hf : toks.length < f) :
    parseTriplesLoop c f false toks acc = (loop ⟨.expectRole, acc.reverse⟩ toks).toExcept c :=
  parseTriplesLoop_eq c f toks acc hf

example : trToks.length < 13 := by decide

/-- a triple list or the decode error, nothing else (from the machine) -/
theorem triples_total' (toks : List Tok) :
    (∃ r, parseTriplesToks toks = .ok r) ∨ (∃ l k n, parseTriplesToks toks = .error (.decode l k n)) := by
  rw [triples_eq_spec, run]
  cases runOutcome toks with
  | accept trs => exact .inl ⟨trs, rfl⟩
  | rejectAt t => exact .inr ⟨_, _, _, rfl⟩
  | exhausted => exact .inr ⟨_, _, _, rfl⟩

/-- the machine accepts the declarative token grammar of C07 §6 (`ConjToks` :
    all spacing variants), whatever follows if it does not start with a `^` SYMBOL -/
theorem automaton_accepts_conj {trs : List Triple} {ts : List Tok} (h : ConjToks false trs ts)
    (rest : List Tok) (hst : StopsAt rest) : run (ts ++ rest) = .ok trs := by
  rw [← triples_eq_spec]; exact parseTriplesToks_conj h rest hst

example : StopsAt [tk .LPAREN "(" 17, tk .SYMBOL "junk" 19] := by simp [StopsAt, tk]

/-! ## 2. the position of an error -/

/-- only the two kinds of decode error occur -/
theorem triples_error_kinds (toks : List Tok) (l k n : Nat)
    (h : parseTriplesToks toks = .error (.decode l k n)) : n = 0 ∨ n = 1 := by
  rcases parseTriplesToks_decode h with ⟨_, _, _, _, h1⟩ | ⟨_, _, h0⟩
  · exact .inr h1
  · exact .inl h0

/-- **error position, kind 1** : the reported `(l, k)` is the position of a
    token `t` of the input such that the tokens before `t` are a viable prefix
    (they can be completed to an accepted conjunction) and adding `t` makes
    them non-viable: `t` is the first token at which the grammar fails -/
theorem triples_error_position (toks : List Tok) (l k : Nat)
    (h : parseTriplesToks toks = .error (.decode l k 1)) :
    ∃ pre t post, toks = pre ++ t :: post ∧ l = t.lineno ∧ k = t.offset ∧
      runOutcome toks = .rejectAt t ∧ Viable pre ∧ ¬ Viable (pre ++ [t]) := by
  rcases parseTriplesToks_decode h with ⟨t, hr, hl, hk, -⟩ | ⟨_, _, h0⟩
  · obtain ⟨pre, post, e, v, nv⟩ := TripleAut.run_rejectAt toks t hr
    exact ⟨pre, t, post, e, hl, hk, hr, v, nv⟩
  · cases h0

example : parseTriplesToks badToks = .error (.decode 1 11 1) := by decide +kernel

/-- **error position, kind 0** : the position is the end of the last token of
    the whole input; the whole input is a viable prefix, and no conjunction
    is complete -/
theorem triples_error_position_eof (toks : List Tok) (l k : Nat)
    (h : parseTriplesToks toks = .error (.decode l k 0)) :
    (l, k) = eofPos toks ∧ runOutcome toks = .exhausted ∧ Viable toks ∧ ¬ Accepts toks := by
  rcases parseTriplesToks_decode h with ⟨_, _, _, _, h1⟩ | ⟨hr, e, -⟩
  · cases h1
  · refine ⟨e, hr, TripleAut.run_exhausted toks hr, ?_⟩
    rintro ⟨trs, ha⟩; rw [hr] at ha; cases ha

example : parseTriplesToks cutToks = .error (.decode 1 24 0) := by decide +kernel
example : eofPos cutToks = (1, 24) := by decide +kernel

end Penman.C07t


