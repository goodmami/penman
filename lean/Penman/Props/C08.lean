/-
# C08 — Tokens tile the input and follow the documented lexical grammar

Model: `Penman/Lexer.lean` (`lexLine`, `lexLines`, `lexStr`, `splitLines`) with the tables
`Penman.Generated.lexCfg`.  Specification: `Penman/Spec/LexSpec.lean` (written without
reference to the scanners).  Lemmas: `Penman/Proofs/LexLemmas.lean`.

Clause of the property text ↦ theorem(s)

* *"the tokens produced are non-overlapping, in order"* ↦ `lex_tiles` (the recursive
  `Tiling`: each token starts at or after the end of the previous one), `tiles_sorted`.
* *"carry the exact line number, column and text of the span they cover"* ↦ `lex_tiles`,
  `tiles_tokens` (`lineno = n`, `text = line[offset, offset+len)`, `text ≠ ""`, in bounds),
  `lineno_enumerate`, `lexStr_lineno` (line numbers are `enumerate(lines, 1)`).
* *"together cover every character except ASCII space, tab, CR, LF, VT and FF … no other
  character is ever skipped or treated as a separator"* ↦ `tiles_cover` (every character
  not in `cfg.blank` lies inside a token), `reassemble` (`line = g₀ t₀ g₁ t₁ … gₖ` with all
  `gᵢ` blank and `offset tᵢ = |g₀ t₀ … gᵢ|`), `generated_tables` (`blank` is exactly those six).
  *"outside strings and comments"*: blanks inside a STRING / COMMENT token are covered by that
  token; the gap condition speaks of uncovered characters only.
* *"Each token's class is the one the documented lexical grammar assigns"* ↦ `lex_spec`
  (`TokOk`: the class is the FIRST class of the alternation order that has any match at that
  offset, and the text is the longest = greedy match of that class), unpacked in
  `tok_class_sound`, `tok_first_class`, `tok_longest`, and class by class in
  `symbol_maximal`, `role_maximal`, `comment_to_eol`, `string_is_unique_literal`;
  `scanner_is_longest_match` / `scanner_fails_iff` relate every scanner to its grammar.
* uniqueness of the specification ↦ `lex_unique`.
* `splitLines` ↦ `splitLines_spec`, `splitLines_unique`, `splitLines_join`.
* well-formedness of the generated tables ↦ `cfg_wf`; instances `lex_spec_penman`,
  `lex_spec_triple`.

All theorems are general in `cfg` (hypothesis `CfgWf cfg`, decidable) and in the alternation
`order` (hypothesis `UNEXPECTED ∈ order`, implied by `orderWf order` = "UNEXPECTED is last").
`lex_tiles` does not need `CfgWf` at all.

The greedy regex match is specified as the *longest* match; for these alternation-free,
deterministic patterns the two coincide — for ALIGNMENT this uses that prefix letters and digits
are disjoint and `,` `.` are not digits, which is part of `CfgWf`.
-/
import Penman.Proofs.LexLemmas
import Penman.Generated
import Penman.Proofs.Eval

namespace Penman.C08
open Penman Penman.Spec Penman.Lex

/-! ## the generated tables -/

theorem cfg_wf : CfgWf Generated.lexCfg = true := by decide +kernel

/-- the generated tables are the documented ones -/
theorem generated_tables :
    Generated.lexCfg.blank = " \t\r\n\x0b\x0c".toList ∧
    Generated.lexCfg.symExcl = " \t\r\n\x0b\x0c\"()/:~".toList ∧
    Generated.lexCfg.roleExcl = " \t\r\n\x0b\x0c\"()/:~".toList ∧
    Generated.lexCfg.strExcl = "\"\\".toList ∧
    Generated.lexCfg.alnPrefix = [('a', 'z'), ('A', 'Z')] ∧
    Generated.lexCfg.alnDigit = [('0', '9')] ∧
    Generated.lexCfg.penmanOrder =
      [.COMMENT, .STRING, .LPAREN, .RPAREN, .SLASH, .ROLE, .SYMBOL, .ALIGNMENT, .UNEXPECTED] ∧
    Generated.lexCfg.tripleOrder = [.COMMENT, .STRING, .LPAREN, .RPAREN, .SYMBOL, .UNEXPECTED] := by
  eval_decide

theorem unexpected_mem_of_orderWf {order : List TokTy} (h : orderWf order = true) :
    TokTy.UNEXPECTED ∈ order := orderWf_mem h

/-! ## tiling -/

/-- The tokens of a line tile it: in order, non-overlapping, exact lineno/offset/text,
    non-empty, all gaps (before, between, after) blank.  Needs only that `UNEXPECTED` is
    one of the alternatives. -/
theorem lex_tiles {cfg : LexCfg} {order : List TokTy} (hU : TokTy.UNEXPECTED ∈ order) (n : Nat)
    (line : Str) : Tiling cfg n line (lexLine cfg order n line) :=
  tiling_iff_from.mpr (lexAux_genFrom hU n (fun _ _ _ _ _ => trivial) _ 0 line (by omega))

example : TokTy.UNEXPECTED ∈ Generated.lexCfg.penmanOrder := by decide

/-- every token of a tiling: line number, non-empty text, exact text at its offset, in bounds -/
theorem tiles_tokens {cfg : LexCfg} {n : Nat} {line : Str} {toks : List Tok}
    (h : Tiling cfg n line toks) : ∀ t ∈ toks,
      t.lineno = n ∧ t.text ≠ [] ∧ t.text = (line.drop t.offset).take t.text.length ∧
      t.offset + t.text.length ≤ line.length :=
  fun t ht => (tilingFrom_mem toks 0 h t ht).2

/-- tokens are in order and do not overlap -/
theorem tiles_sorted {cfg : LexCfg} {n : Nat} {line : Str} {toks : List Tok}
    (h : Tiling cfg n line toks) :
    toks.Pairwise (fun a b => a.offset + a.text.length ≤ b.offset) :=
  tilingFrom_sorted toks 0 h

/-- every non-blank character is inside a token: nothing but blanks is ever skipped -/
theorem tiles_cover {cfg : LexCfg} {n : Nat} {line : Str} {toks : List Tok}
    (h : Tiling cfg n line toks) (i : Nat) (hi : i < line.length) (hnb : line[i] ∉ cfg.blank) :
    ∃ t ∈ toks, t.offset ≤ i ∧ i < t.offset + t.text.length :=
  tilingFrom_covered toks 0 h i hi (Nat.zero_le _) hnb

example : ∃ t ∈ lexLine Generated.lexCfg Generated.lexCfg.penmanOrder 1 "(a b)".toList,
    t.offset ≤ 3 ∧ 3 < t.offset + t.text.length :=
  tiles_cover (lex_tiles (by decide) 1 _) 3 (by decide) (by decide)

/-- the line is the interleaving of blank gaps and token texts, and every token's offset is
    the length of what precedes it -/
theorem reassemble {cfg : LexCfg} {n : Nat} {line : Str} {toks : List Tok}
    (h : Tiling cfg n line toks) :
    ∃ gaps : List Str, gaps.length = toks.length + 1 ∧ (∀ g ∈ gaps, ∀ c ∈ g, c ∈ cfg.blank) ∧
      interleave gaps toks = line ∧
      ∀ (i : Nat) (hi : i < toks.length),
        toks[i].offset = (interleave (gaps.take (i+1)) (toks.take i)).length := by
  obtain ⟨gaps, h1, h2, h3, h4⟩ := genFrom_reassemble toks 0 line (tiling_iff_from.mp h)
  exact ⟨gaps, h1, h2, h3, fun i hi => by simpa using h4 i hi⟩

example : ∃ gaps : List Str, interleave gaps
      (lexLine Generated.lexCfg Generated.lexCfg.penmanOrder 1 " (a  b) ".toList) = " (a  b) ".toList := by
  obtain ⟨gaps, _, _, h, _⟩ := reassemble (lex_tiles (cfg := Generated.lexCfg)
    (order := Generated.lexCfg.penmanOrder) (by decide) 1 " (a  b) ".toList)
  exact ⟨gaps, h⟩

/-! ## classification -/

/-- **Main theorem.**  The tokens of a line satisfy the full specification: they tile the line
    and each token is what the ordered alternation of the documented grammar yields at its
    offset. -/
theorem lex_spec {cfg : LexCfg} (hwf : CfgWf cfg = true) {order : List TokTy}
    (hU : TokTy.UNEXPECTED ∈ order) (n : Nat) (line : Str) :
    LexSpec cfg order n line (lexLine cfg order n line) :=
  lexLine_spec (CfgWf.toP hwf) hU n line

theorem lex_spec_penman (n : Nat) (line : Str) :
    LexSpec Generated.lexCfg Generated.lexCfg.penmanOrder n line
      (lexLine Generated.lexCfg Generated.lexCfg.penmanOrder n line) :=
  lex_spec cfg_wf (by decide) n line

theorem lex_spec_triple (n : Nat) (line : Str) :
    LexSpec Generated.lexCfg Generated.lexCfg.tripleOrder n line
      (lexLine Generated.lexCfg Generated.lexCfg.tripleOrder n line) :=
  lex_spec cfg_wf (by decide) n line

/-- the specification has exactly one solution: it determines the token list -/
theorem lex_unique {cfg : LexCfg} (hwf : CfgWf cfg = true) {order : List TokTy} {n : Nat}
    {line : Str} {a b : List Tok} (ha : LexSpec cfg order n line a)
    (hb : LexSpec cfg order n line b) : a = b :=
  specFrom_unique (CfgWf.toP hwf) a b 0 line (lexSpec_iff_from.mp ha) (lexSpec_iff_from.mp hb)

example (toks : List Tok)
    (h : LexSpec Generated.lexCfg Generated.lexCfg.penmanOrder 1 "(a / b)".toList toks) :
    toks = lexLine Generated.lexCfg Generated.lexCfg.penmanOrder 1 "(a / b)".toList :=
  lex_unique cfg_wf h (lex_spec_penman _ _)

/-- hence: a token list satisfies the specification iff it is the lexer's output -/
theorem lex_spec_iff {cfg : LexCfg} (hwf : CfgWf cfg = true) {order : List TokTy}
    (hU : TokTy.UNEXPECTED ∈ order) (n : Nat) (line : Str) (toks : List Tok) :
    LexSpec cfg order n line toks ↔ toks = lexLine cfg order n line :=
  ⟨fun h => lex_unique hwf h (lex_spec hwf hU n line), fun h => h ▸ lex_spec hwf hU n line⟩

/-- soundness: the text of a token is in the language of its class -/
theorem tok_class_sound {cfg : LexCfg} {order : List TokTy} {n : Nat} {line : Str}
    {toks : List Tok} (h : LexSpec cfg order n line toks) : ∀ t ∈ toks, Lang cfg t.ty t.text :=
  fun t ht => by
    obtain ⟨_, _, _, _, hm⟩ := h.2 t ht
    exact hm.1.2.1

/-- the class is the first in the alternation order with a match at the token's offset -/
theorem tok_first_class {cfg : LexCfg} {order : List TokTy} {n : Nat} {line : Str}
    {toks : List Tok} (h : LexSpec cfg order n line toks) : ∀ t ∈ toks,
      ∃ pre post, order = pre ++ t.ty :: post ∧
        ∀ ty ∈ pre, ∀ m, ¬ Matches cfg ty (line.drop t.offset) m :=
  fun t ht => by
    obtain ⟨pre, post, h1, h2, _⟩ := h.2 t ht
    exact ⟨pre, post, h1, h2⟩

/-- the text is the longest match of the token's class at its offset -/
theorem tok_longest {cfg : LexCfg} {order : List TokTy} {n : Nat} {line : Str}
    {toks : List Tok} (h : LexSpec cfg order n line toks) : ∀ t ∈ toks,
      IsMatch cfg t.ty (line.drop t.offset) t.text :=
  fun t ht => by
    obtain ⟨_, _, _, _, hm⟩ := h.2 t ht
    exact hm

/-- SYMBOL tokens are maximal: the next character (if any) is not a name character -/
theorem symbol_maximal {cfg : LexCfg} {order : List TokTy} {n : Nat} {line : Str}
    {toks : List Tok} (h : LexSpec cfg order n line toks) {t : Tok} (ht : t ∈ toks)
    (hty : t.ty = .SYMBOL) :
    ∀ c, (line.drop (t.offset + t.text.length)).head? = some c → c ∈ cfg.symExcl := by
  have := tok_longest h t ht
  rw [hty] at this
  intro c hc
  exact isMatch_symbol_maximal this c (by rwa [List.drop_drop])

example : ∀ c, ("ab c".toList.drop (0 + 2)).head? = some c → c ∈ Generated.lexCfg.symExcl :=
  symbol_maximal (lex_spec_penman 1 "ab c".toList) (t := ⟨.SYMBOL, "ab".toList, 1, 0⟩)
    (by eval_decide) rfl

/-- ROLE tokens are maximal -/
theorem role_maximal {cfg : LexCfg} {order : List TokTy} {n : Nat} {line : Str}
    {toks : List Tok} (h : LexSpec cfg order n line toks) {t : Tok} (ht : t ∈ toks)
    (hty : t.ty = .ROLE) :
    ∀ c, (line.drop (t.offset + t.text.length)).head? = some c → c ∈ cfg.roleExcl := by
  have := tok_longest h t ht
  rw [hty] at this
  intro c hc
  exact isMatch_role_maximal this c (by rwa [List.drop_drop])

example : ∀ c, ("x :r(".toList.drop (2 + 2)).head? = some c → c ∈ Generated.lexCfg.roleExcl :=
  role_maximal (lex_spec_penman 1 "x :r(".toList) (t := ⟨.ROLE, ":r".toList, 1, 2⟩)
    (by eval_decide) rfl

/-- a COMMENT token extends to the end of the line (a final LF excluded) -/
theorem comment_to_eol {cfg : LexCfg} {order : List TokTy} {n : Nat} {line : Str}
    {toks : List Tok} (h : LexSpec cfg order n line toks) {t : Tok} (ht : t ∈ toks)
    (hty : t.ty = .COMMENT) :
    line.drop t.offset = t.text ∨ line.drop t.offset = t.text ++ ['\n'] := by
  have := tok_longest h t ht
  rw [hty] at this
  exact isMatch_comment_rest this

example : "a # b\n".toList.drop 2 = "# b".toList ∨ "a # b\n".toList.drop 2 = "# b".toList ++ ['\n'] :=
  comment_to_eol (lex_spec_penman 1 "a # b\n".toList) (t := ⟨.COMMENT, "# b".toList, 1, 2⟩)
    (by eval_decide) rfl

/-- a STRING token is the one and only string literal starting at its offset -/
theorem string_is_unique_literal {cfg : LexCfg} (hwf : CfgWf cfg = true) {order : List TokTy}
    {n : Nat} {line : Str} {toks : List Tok} (h : LexSpec cfg order n line toks) {t : Tok}
    (ht : t ∈ toks) (hty : t.ty = .STRING) {m : Str} (hm : IsString cfg m)
    (hp : m <+: line.drop t.offset) : m = t.text := by
  have := tok_longest h t ht
  rw [hty] at this
  exact isMatch_string_unique (CfgWf.toP hwf) this hm hp

example (m : Str) (hm : IsString Generated.lexCfg m) (hp : m <+: "x \"a\\\"b\" \"".toList.drop 2) :
    m = "\"a\\\"b\"".toList :=
  string_is_unique_literal cfg_wf (lex_spec_penman 1 "x \"a\\\"b\" \"".toList)
    (t := ⟨.STRING, "\"a\\\"b\"".toList, 1, 2⟩) (by eval_decide) rfl hm hp

/-- each scanner computes exactly the longest match of its class … -/
theorem scanner_is_longest_match {cfg : LexCfg} (hwf : CfgWf cfg = true) (ty : TokTy) (s m : Str) :
    scanTy cfg ty s = some m ↔ IsMatch cfg ty s m :=
  scanTy_some_iff (CfgWf.toP hwf)

/-- … and fails exactly when the class has no match -/
theorem scanner_fails_iff {cfg : LexCfg} (hwf : CfgWf cfg = true) (ty : TokTy) (s : Str) :
    scanTy cfg ty s = none ↔ ∀ m, ¬ Matches cfg ty s m :=
  scanTy_none_iff (CfgWf.toP hwf)

/-! ## line numbers and line splitting -/

/-- `_lex` numbers the lines with `enumerate(lines, 1)` -/
theorem lineno_enumerate (cfg : LexCfg) (order : List TokTy) (lines : List Str) :
    lexLines cfg order lines =
      ((lines.zipIdx 1).map fun p => lexLine cfg order p.2 p.1).flatten :=
  lexLinesFrom_eq cfg order lines 1

theorem lexStr_lineno (cfg : LexCfg) (order : List TokTy) (s : Str) :
    lexStr cfg order s =
      (((splitLines s).zipIdx 1).map fun p => lexLine cfg order p.2 p.1).flatten :=
  lineno_enumerate cfg order (splitLines s)

/-- `splitLines` splits exactly at LF, CRLF and lone CR -/
theorem splitLines_spec (s : Str) : Splits s (splitLines s) := splitLines_splits s

theorem splitLines_unique {s : Str} {ps : List Str} (h : Splits s ps) : ps = splitLines s :=
  splits_eq_splitLines h

example : Splits "a\r\nb".toList ["a".toList, "b".toList] :=
  .crlf "a".toList "b".toList _ ⟨by decide, by decide⟩ (.last _ ⟨by decide, by decide⟩)

/-- re-joining the pieces with the removed terminators gives the string back; no piece
    contains `\n` or `\r` -/
theorem splitLines_join (s : Str) :
    ∃ terms : List Str, terms.length + 1 = (splitLines s).length ∧
      (∀ t ∈ terms, t = ['\n'] ∨ t = ['\r', '\n'] ∨ t = ['\r']) ∧
      joinWith (splitLines s) terms = s ∧ ∀ p ∈ splitLines s, '\n' ∉ p ∧ '\r' ∉ p :=
  splits_join (splitLines_splits s)

/-! ## non-vacuity -/

/-- a line with a token of every class but UNEXPECTED, fully lexed (graph pattern) -/
example : lexLine Generated.lexCfg Generated.lexCfg.penmanOrder 1
      "(a / b~e.1 :ARG0 \"x \\\" y\" # c".toList =
    [⟨.LPAREN, "(".toList, 1, 0⟩, ⟨.SYMBOL, "a".toList, 1, 1⟩, ⟨.SLASH, "/".toList, 1, 3⟩,
     ⟨.SYMBOL, "b".toList, 1, 5⟩, ⟨.ALIGNMENT, "~e.1".toList, 1, 6⟩,
     ⟨.ROLE, ":ARG0".toList, 1, 11⟩, ⟨.STRING, "\"x \\\" y\"".toList, 1, 17⟩,
     ⟨.COMMENT, "# c".toList, 1, 26⟩] := by eval_decide

/-- … and it satisfies the specification (instance of `lex_spec_penman`) -/
example : LexSpec Generated.lexCfg Generated.lexCfg.penmanOrder 1
      "(a / b~e.1 :ARG0 \"x \\\" y\" # c".toList
      (lexLine Generated.lexCfg Generated.lexCfg.penmanOrder 1
        "(a / b~e.1 :ARG0 \"x \\\" y\" # c".toList) := lex_spec_penman _ _

/-- upper-case alignment prefix, several indices, VT/FF as separators, exotic spaces are
    *not* separators (NBSP, U+3000, U+2028, U+0085 are part of the symbol) -/
example : (lexLine Generated.lexCfg Generated.lexCfg.penmanOrder 7
      "x~E.1,22\x0b:r\x0c\"\"y\u00a0z\u3000\u2028\u0085w".toList).map (fun t => (t.ty, t.text, t.offset)) =
    [(.SYMBOL, "x".toList, 0), (.ALIGNMENT, "~E.1,22".toList, 1), (.ROLE, ":r".toList, 9),
     (.STRING, "\"\"".toList, 12), (.SYMBOL, "y\u00a0z\u3000\u2028\u0085w".toList, 14)] := by eval_decide

/-- the triple pattern has no ROLE/ALIGNMENT/SLASH: `~`, `/`, `:` come out UNEXPECTED -/
example : (lexLine Generated.lexCfg Generated.lexCfg.tripleOrder 3
      "i(a, b~1) ^ :x".toList).map (fun t => (t.ty, t.text, t.offset)) =
    [(.SYMBOL, "i".toList, 0), (.LPAREN, "(".toList, 1), (.SYMBOL, "a,".toList, 2),
     (.SYMBOL, "b".toList, 5), (.UNEXPECTED, "~".toList, 6), (.SYMBOL, "1".toList, 7),
     (.RPAREN, ")".toList, 8), (.SYMBOL, "^".toList, 10), (.UNEXPECTED, ":".toList, 12),
     (.SYMBOL, "x".toList, 13)] := by eval_decide

/-- an unterminated string is not a STRING: the quote is UNEXPECTED -/
example : (lexLine Generated.lexCfg Generated.lexCfg.penmanOrder 1 "\"ab\\\"".toList).map
      (fun t => (t.ty, t.text, t.offset)) =
    [(.UNEXPECTED, "\"".toList, 0), (.SYMBOL, "ab\\".toList, 1), (.UNEXPECTED, "\"".toList, 4)] := by
  eval_decide

/-- grammar predicates are inhabited by non-trivial values -/
example : IsAlignment Generated.lexCfg "~e.1,23".toList :=
  ⟨"e.".toList, "1".toList, ",23".toList, rfl, .inr ⟨'e', by decide, .inr rfl⟩,
    ⟨by decide, by decide⟩, .cons "23".toList [] ⟨by decide, by decide⟩ .nil⟩

example : IsString Generated.lexCfg "\"x \\\" y\"".toList :=
  ⟨_, rfl, .plain 'x' _ (by decide) (.plain ' ' _ (by decide) (.esc '"' _ (by decide)
    (.plain ' ' _ (by decide) (.plain 'y' _ (by decide) .close))))⟩

/-- line splitting and numbering -/
example : splitLines "a\r\nb\rc\n\nd".toList = ["a".toList, "b".toList, "c".toList, [], "d".toList] := by
  eval_decide

example : (lexStr Generated.lexCfg Generated.lexCfg.penmanOrder "(a\r\n:b\r\rc)".toList).map
      (fun t => (t.ty, t.lineno, t.offset)) =
    [(.LPAREN, 1, 0), (.SYMBOL, 1, 1), (.ROLE, 2, 0), (.SYMBOL, 4, 0), (.RPAREN, 4, 1)] := by eval_decide

/-- the separator lemmas apply to concrete input (hypotheses are satisfiable) -/
example (rest : Str) (n off : Nat) :
    lexAux Generated.lexCfg Generated.lexCfg.penmanOrder n (("ab".toList ++ ')' :: rest).length + 1) off
        ("ab".toList ++ ')' :: rest) =
      ⟨.SYMBOL, "ab".toList, n, off⟩ ::
        lexAux Generated.lexCfg Generated.lexCfg.penmanOrder n ((')' :: rest).length + 1) (off + 2)
          (')' :: rest) :=
  lexAux_symbol (CfgWf.toP cfg_wf) (by decide) (by decide) ⟨by decide, by decide⟩ (by decide)
    (by intro c hc; simp at hc; subst hc; decide) n _ off (by omega)

end Penman.C08
