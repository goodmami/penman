import Penman.Proofs.FramingInline
import Penman.Generated
import Penman.Proofs.Eval
/-!
# C09 — the same text means the same graphs in every container and stream framing

Model functions: `splitLines`, `lexLine`, `lexLinesFrom`, `lexLines`, `lexStr`, `scanComment`,
`lexAux`, `firstMatch` (Penman/Lexer.lean, tables `Generated.lexCfg`), `fileLines`
(Penman/Main.lean), `parseTree`, `parseComments`, `commentMeta`, `iterparseLoop`,
`iterparseToks`, `eofPos` (Penman/Parse.lean).  Helper lemmas: Penman/Proofs/Framing*.lean.

Specification vocabulary (all decidable; defined in Proofs/FramingSplit, FramingLex, FramingLines,
FramingMeta, Framing and FramingInline, namespace `Penman.Framing`):
* `NoBreak s` / `NoLF s` : no LF and no CR / no LF in `s`.
* `splitLinesT s` : `splitLines` that also returns the terminator removed after each piece
  (`[]` after the last); `TermsOk` : every pair but the last carries `"\n"`, `"\r\n"` or `"\r"`
  (`IsTerm`), the last `[]`; `MunchOk` : no lone-CR terminator directly before an LF;
  `countBreaks s` : number of terminators, CRLF counted once; `keepends s` : the lines of `s`
  with the terminators they have in `s` (`str.splitlines(keepends=True)` restricted to the
  three terminators).
* `SepChar cfg c` : in the tables `cfg` the character `c` is skipped between tokens, ends ROLE
  and SYMBOL runs, cannot occur in an ALIGNMENT and has no lexical role of its own;
  `LexWf cfg := SepChar cfg '\n' ∧ SepChar cfg '\r'`  (`lexWf_generated`, by kernel evaluation).
* `tailTok rs t` : `t` with `rs` appended to its text if `t` is a COMMENT; `tailLast rs` : the
  same applied to the last token of a list only.
* `ParenStop cfg` : `)` ends ROLE, SYMBOL and ALIGNMENT matches, `"` cannot start a SYMBOL and
  is not skipped; `OrderOk order` : the alternation starts COMMENT, STRING and contains
  UNEXPECTED (`parenStop_generated`, `orderOk_generated`); `ClosedLine cfg order l` : `l` ends in
  `)`, has no LF and no COMMENT / UNEXPECTED token; `ClosedLast cfg order x` : the last line of
  the text `x` is closed and `x` does not end in CR.
* `MetaStable text` : after the last `::` of the comment `text` there is a space (or there is
  no `::`); `CommentsStable toks` : every COMMENT token of `toks` is `MetaStable`.

Clause of the property text                              ↦ theorem(s)
-------------------------------------------------------------------------------------------
"in string … input … only LF, CRLF and CR end a line"    ↦ `split_spec` (no piece contains LF/CR;
                                                            pieces ++ removed terminators = text;
                                                            terminators are LF/CRLF/CR; #pieces =
                                                            #terminators + 1; VT, FF, NEL, LS, FS …
                                                            never split), `split_exact` (the
                                                            decomposition is the only one),
                                                            `split_lf_only`, `split_single_iff`
"… and file input alike"                                 ↦ `file_lines_spec` (`fileLines` = the same
                                                            pieces, LF appended, empty last piece
                                                            dropped), `framing_tokens`
a terminating LF changes no token, text, offset          ↦ `trailing_newline_irrelevant`
                                                            (`…_generated` for the real tables)
a terminating CRLF / CR: only a final COMMENT grows       ↦ `trailing_crlf`, `trailing_cr`
… and its metadata is unchanged                          ↦ `trailing_cr_meta`; hypothesis needed:
                                                            `crlf_key_only_counterexample` (F: real
                                                            penman behaves the same)
"decodes to the same sequence of graphs whether one      ↦ `framing_tokens` (identical token lists,
 string, a list of lines with or without terminators,      line numbers included), `framing_indep`
 or read from a file"                                       (same trees, same error), for CRLF/CR
                                                            terminators `framing_indep_keepends`
                                                            (same trees, error iff error),
                                                            `framing_indep_crlf` (every line with
                                                            CRLF) and `framing_keepends_lf`;
                                                            `framing_indep_generated` for the real
                                                            tables
"every metadata comment stays attached to the graph      ↦ `parse_frame`, `iterparse_concat`
 that follows it"; "returns equal graphs in order"
"with blank-line separation, with none [one newline],    ↦ `dumps_loads_framing` (texts joined by
 and when written to a file [final newline]"               k+1 newlines, optional final newline;
                                                            `dumps_loads_framing_file` through a
                                                            file);
                                                            blanks or nothing on the same line:
                                                            `dumps_loads_inline`; token level:
                                                            `iterparse_concat`,
                                                            `blank_line_no_tokens`,
                                                            `positions_irrelevant`
recorded behaviour O8                                    ↦ `trailing_comment_error` + example

Findings.
* F (counterexample, `crlf_key_only_counterexample`): when the lines are handed over *with*
  CRLF (or CR) terminators, `.` in `\#.*$` matches the CR, the COMMENT token ends in CR, and a
  comment whose last key has no value — `# ::snt\r\n` — yields the metadata key `"snt\r"`
  instead of `"snt"` (a value would be `rstrip`ped; a key is not).  Same text as one string or
  read from a file gives `"snt"`.  Real penman (`iterparse(['# ::id 1 ::snt\r\n','(a / b)'])`)
  shows the same difference.  Hence `framing_indep_keepends` needs `CommentsStable`.
* With CRLF-terminated lines a decode error "end of input" after a trailing comment is reported
  one column further right (the swallowed CR); therefore `framing_indep_keepends` states
  "error iff error", not equality of the error value.
* `parse_frame` holds for *every* continuation `rest`, not only those starting with COMMENT or
  LPAREN: a successful `_parse` never looks past its closing parenthesis.
* Separators on the same line (blanks, or nothing) between two serialised graphs need the
  first text to end in a closed line (`ClosedLast`): `dumps_loads_inline`.
-/
namespace Penman.C09
open Penman Penman.Framing

/- decidable equality of trees, for the `decide` examples only -/
deriving instance DecidableEq for Node, Branches
deriving instance DecidableEq for Tree
deriving instance DecidableEq for Except

/-! ## hypothesis on the tables -/

theorem lexWf_generated : LexWf Generated.lexCfg := by decide +kernel

/-- a Unicode `isspace` for the examples -/
def pySpace (c : Char) : Bool := c ∈ Generated.spaceChars

abbrev gcfg : LexCfg := Generated.lexCfg
abbrev gorder : List TokTy := Generated.lexCfg.penmanOrder

/-- the running example and its containers -/
def sample : Str := "# ::snt a b\n(a / b)\r\n(c / d)".toList

/-! ## `splitLines` -/

/-- `splitLines` splits at LF, CRLF, CR and nowhere else. -/
theorem split_spec (s : Str) :
    (∀ l ∈ splitLines s, NoBreak l) ∧
    (splitLinesT s).map Prod.fst = splitLines s ∧
    ((splitLinesT s).map fun p => p.1 ++ p.2).flatten = s ∧
    TermsOk (splitLinesT s) ∧ MunchOk (splitLinesT s) ∧
    (splitLines s).length = countBreaks s + 1 ∧
    ((splitLinesT s).filter fun p => !p.2.isEmpty).length = countBreaks s ∧
    (NoBreak s → splitLines s = [s]) :=
  ⟨splitLines_noBreak s, splitLinesT_fst s, splitLinesT_join s, splitLinesT_terms s,
   splitLinesT_munch s, splitLines_length s, splitLinesT_count s, splitLines_noBreak_eq s⟩

example : splitLinesT "a\r\n\rb\n\nc\r".toList =
    [("a".toList, "\r\n".toList), ([], "\r".toList), ("b".toList, "\n".toList),
     ([], "\n".toList), ("c".toList, "\r".toList), ([], [])] ∧
    countBreaks "a\r\n\rb\n\nc\r".toList = 5 := by eval_decide

/-- VT, FF, NEL (U+0085), LS (U+2028), PS (U+2029), FS, GS, RS never split -/
example : NoBreak "a\x0bb\x0cc\u0085d e f\x1cg\x1dh\x1ei".toList ∧
    splitLines "a\x0bb\x0cc\u0085d e f\x1cg\x1dh\x1ei".toList =
      ["a\x0bb\x0cc\u0085d e f\x1cg\x1dh\x1ei".toList] := by eval_decide

example : splitLines sample = ["# ::snt a b".toList, "(a / b)".toList, "(c / d)".toList] := by
  delta sample; eval_decide

/-- the decomposition computed by `splitLines` is the only one into break-free pieces and
    LF / CRLF / CR terminators (longest terminator first) -/
theorem split_exact (ps : List (Str × Str)) (s : Str) (h1 : ∀ p ∈ ps, NoBreak p.1)
    (h2 : TermsOk ps) (h3 : MunchOk ps) (h4 : (ps.map fun p => p.1 ++ p.2).flatten = s) :
    splitLinesT s = ps ∧ splitLines s = ps.map Prod.fst := by
  have := splitLinesT_unique ps s h1 h2 h3 h4
  exact ⟨this, by rw [← splitLinesT_fst, this]⟩

example : (∀ p ∈ [("x".toList, "\r".toList), ("y".toList, [])], NoBreak p.1) ∧
    TermsOk [("x".toList, "\r".toList), ("y".toList, [])] ∧
    MunchOk [("x".toList, "\r".toList), ("y".toList, [])] := by decide +kernel

/-- a single piece iff the text has no LF and no CR -/
theorem split_single_iff (s : Str) : splitLines s = [s] ↔ NoBreak s := splitLines_singleton_iff s

/-- LF-only text: `splitLines` is `str.split('\n')`, joining with LF restores the text, and
    the number of pieces is the number of LF characters plus one -/
theorem split_lf_only (s : Str) (h : '\r' ∉ s) :
    splitLines s = splitChar '\n' s ∧ joinStr ['\n'] (splitLines s) = s ∧
    (splitLines s).length = s.count '\n' + 1 :=
  ⟨splitLines_lfOnly s h, splitLines_join_lf s h, by
    rw [splitLines_length, countBreaks_lfOnly s h]⟩

example : '\r' ∉ "(a / b)\n\n(c / d)\n".toList := by eval_decide

/-- `fileLines` (an open text file iterated by lines, universal newlines): the same pieces,
    each followed by LF, except that the last piece has no LF and is dropped when empty -/
theorem file_lines_spec (s : Str) : ∃ init last, splitLines s = init ++ [last] ∧
    fileLines s = init.map (· ++ ['\n']) ++ (if last.isEmpty then [] else [last]) := by
  obtain ⟨init, last, h⟩ := splitLines_concat s
  exact ⟨init, last, h, fileLines_eq s init last h⟩

example : fileLines sample = ["# ::snt a b\n".toList, "(a / b)\n".toList, "(c / d)".toList] ∧
    fileLines "(a / b)\r\n".toList = ["(a / b)\n".toList] := by delta sample; eval_decide

/-! ## one line and its terminator -/

/-- A terminating LF is irrelevant: tokens, texts and offsets are identical.
    (A COMMENT stops before the LF: `scanComment_tail`; a STRING cannot be closed by it:
    `scanString_append`; ROLE, SYMBOL, ALIGNMENT … stop at it: `scanTy_append`; the LF itself
    yields no token: `lexFrom_seps`.) -/
theorem trailing_newline_irrelevant (cfg : LexCfg) (h : SepChar cfg '\n') (order : List TokTy)
    (n : Nat) (l : Str) (hl : NoLF l) :
    lexLine cfg order n (l ++ ['\n']) = lexLine cfg order n l :=
  lexLine_lf cfg order n l hl h

/-- instance at the generated tables -/
theorem trailing_newline_irrelevant_generated (order : List TokTy) (n : Nat) (l : Str)
    (hl : NoLF l) :
    lexLine Generated.lexCfg order n (l ++ ['\n']) = lexLine Generated.lexCfg order n l :=
  trailing_newline_irrelevant _ lexWf_generated.1 order n l hl

example : NoLF "(a :r \"x\\\"y\" # ::k v".toList ∧
    (lexLine gcfg gorder 1 "(a :r \"x\\\"y\" # ::k v".toList).length = 5 ∧
    lexLine gcfg gorder 1 "\"ab\n".toList = lexLine gcfg gorder 1 "\"ab".toList := by
  eval_decide

/-- A terminating CRLF: all tokens are the same, except that a COMMENT at the end of the line
    (the only place where one can be) has the CR appended to its text. -/
theorem trailing_crlf (cfg : LexCfg) (h : LexWf cfg) (order : List TokTy) (n : Nat) (l : Str)
    (hl : NoLF l) :
    lexLine cfg order n (l ++ ['\r', '\n']) = tailLast ['\r'] (lexLine cfg order n l) ∧
    (∀ t ∈ (lexLine cfg order n l).dropLast, t.ty ≠ .COMMENT) := by
  refine ⟨?_, lexLine_comment_last cfg order n l hl⟩
  rw [lexLine_crlf cfg order n l hl h.1 h.2]
  exact map_tailTok_eq_tailLast _ _ (lexLine_comment_last cfg order n l hl)

/-- the same for a lone CR terminator -/
theorem trailing_cr (cfg : LexCfg) (h : LexWf cfg) (order : List TokTy) (n : Nat) (l : Str)
    (hl : NoLF l) :
    lexLine cfg order n (l ++ ['\r']) = tailLast ['\r'] (lexLine cfg order n l) := by
  rw [lexLine_cr cfg order n l hl h.2]
  exact map_tailTok_eq_tailLast _ _ (lexLine_comment_last cfg order n l hl)

example : lexLine gcfg gorder 1 "(a) # c\r\n".toList =
      tailLast ['\r'] (lexLine gcfg gorder 1 "(a) # c".toList) ∧
    (lexLine gcfg gorder 1 "(a) # c\r\n".toList).getLast? =
      some ⟨.COMMENT, "# c\r".toList, 1, 4⟩ := by eval_decide

/-- The CR swallowed by a COMMENT does not change the metadata, provided the comment's last
    key is followed by a space (`MetaStable`): the CR then ends a value and is `rstrip`ped. -/
theorem trailing_cr_meta (isSpace : Char → Bool) (hsp : isSpace '\r' = true) (text : Str)
    (md : AList Str Str) (h : MetaStable text) :
    commentMeta isSpace ((text ++ ['\r']).length + 1) (text ++ ['\r']) md =
      commentMeta isSpace (text.length + 1) text md :=
  commentMeta_tail isSpace text ['\r'] md (cr_swallowed hsp) h

example : MetaStable "# ::id 1 ::snt a b".toList ∧ pySpace '\r' = true ∧
    commentMeta pySpace 100 "# ::id 1 ::snt a b\r".toList [] =
      [("snt".toList, "a b".toList), ("id".toList, "1".toList)] := by eval_decide

/-- F — the hypothesis `MetaStable` is needed: a key without value keeps the CR. -/
theorem crlf_key_only_counterexample :
    ¬ MetaStable "# ::id 1 ::snt".toList ∧
    (iterparseToks pySpace (lexStr gcfg gorder "# ::id 1 ::snt\r\n(a / b)".toList)).1.map
        (·.metadata) = [[("snt".toList, []), ("id".toList, "1".toList)]] ∧
    (iterparseToks pySpace
        (lexLines gcfg gorder ["# ::id 1 ::snt\r\n".toList, "(a / b)".toList])).1.map
        (·.metadata) = [[("snt\r".toList, []), ("id".toList, "1".toList)]] := by
  eval_decide

/-! ## the token stream of a text in its containers -/

/-- One string, the list of its lines, the lines each followed by LF, and the lines of the
    text read as a file give the same token list: types, texts, line numbers, offsets. -/
theorem framing_tokens (cfg : LexCfg) (h : SepChar cfg '\n') (order : List TokTy) (s : Str) :
    lexStr cfg order s = lexLines cfg order (splitLines s) ∧
    lexLines cfg order ((splitLines s).map (· ++ ['\n'])) = lexStr cfg order s ∧
    lexLines cfg order (fileLines s) = lexStr cfg order s :=
  ⟨rfl, lexLines_map_lf cfg order h s, lexLines_fileLines cfg order h s⟩

/-- lines followed by CRLF: the same tokens, COMMENT texts end in CR -/
theorem framing_tokens_crlf (cfg : LexCfg) (h : LexWf cfg) (order : List TokTy) (s : Str) :
    lexLines cfg order ((splitLines s).map (· ++ ['\r', '\n'])) =
      (lexStr cfg order s).map (tailTok ['\r']) :=
  lexLines_map_crlf cfg order h.1 h.2 s

/-- The same trees (metadata included) and the same error, if any, for: the string, the list
    of lines, the lines with LF terminators, the text read from a file. -/
theorem framing_indep (cfg : LexCfg) (h : SepChar cfg '\n') (order : List TokTy)
    (isSpace : Char → Bool) (s : Str) :
    iterparseToks isSpace (lexLines cfg order (splitLines s)) =
      iterparseToks isSpace (lexStr cfg order s) ∧
    iterparseToks isSpace (lexLines cfg order ((splitLines s).map (· ++ ['\n']))) =
      iterparseToks isSpace (lexStr cfg order s) ∧
    iterparseToks isSpace (lexLines cfg order (fileLines s)) =
      iterparseToks isSpace (lexStr cfg order s) := by
  obtain ⟨_, h2, h3⟩ := framing_tokens cfg h order s
  exact ⟨rfl, by rw [h2], by rw [h3]⟩

/-- instance at the generated tables -/
theorem framing_indep_generated (isSpace : Char → Bool) (s : Str) :
    iterparseToks isSpace (lexLines gcfg gorder ((splitLines s).map (· ++ ['\n']))) =
      iterparseToks isSpace (lexStr gcfg gorder s) ∧
    iterparseToks isSpace (lexLines gcfg gorder (fileLines s)) =
      iterparseToks isSpace (lexStr gcfg gorder s) :=
  ⟨(framing_indep gcfg lexWf_generated.1 gorder isSpace s).2.1,
   (framing_indep gcfg lexWf_generated.1 gorder isSpace s).2.2⟩

/- Without `CommentsStable` the statement is false:
     `(iterparseToks isSpace (lexLines cfg order (keepends s))).1 =
        (iterparseToks isSpace (lexStr cfg order s)).1`
   fails for `s = "# ::id 1 ::snt\r\n(a / b)"` (`crlf_key_only_counterexample`). -/

/-- The lines handed over with the terminators they have in the text (LF, CRLF, CR, none on
    the last): the same trees, metadata included, and an error iff an error — provided every
    metadata comment is `MetaStable` (see `crlf_key_only_counterexample`). -/
theorem framing_indep_keepends (cfg : LexCfg) (h : LexWf cfg) (order : List TokTy)
    (isSpace : Char → Bool) (hsp : isSpace '\r' = true) (s : Str)
    (hst : CommentsStable (lexStr cfg order s)) :
    (iterparseToks isSpace (lexLines cfg order (keepends s))).1 =
      (iterparseToks isSpace (lexStr cfg order s)).1 ∧
    (iterparseToks isSpace (lexLines cfg order (keepends s))).2.isSome =
      (iterparseToks isSpace (lexStr cfg order s)).2.isSome := by
  have := iterparseToks_sim isSpace _ _ (lsim_lexLines_keepends isSpace cfg order h hsp s hst)
  exact ⟨this.1.symm, this.2.symm⟩

/-- the same for lines that all end in CRLF -/
theorem framing_indep_crlf (cfg : LexCfg) (h : LexWf cfg) (order : List TokTy)
    (isSpace : Char → Bool) (hsp : isSpace '\r' = true) (s : Str)
    (hst : CommentsStable (lexStr cfg order s)) :
    (iterparseToks isSpace (lexLines cfg order ((splitLines s).map (· ++ ['\r', '\n'])))).1 =
      (iterparseToks isSpace (lexStr cfg order s)).1 ∧
    (iterparseToks isSpace (lexLines cfg order ((splitLines s).map (· ++ ['\r', '\n'])))).2.isSome =
      (iterparseToks isSpace (lexStr cfg order s)).2.isSome := by
  rw [framing_tokens_crlf cfg h order s]
  have := iterparseToks_sim isSpace _ _ (lsim_map_tailTok isSpace ['\r'] (cr_swallowed hsp)
    (lexStr cfg order s) hst)
  exact ⟨this.1.symm, this.2.symm⟩

/-- without CR in the text the lines with their terminators give identical tokens -/
theorem framing_keepends_lf (cfg : LexCfg) (h : SepChar cfg '\n') (order : List TokTy) (s : Str)
    (hs : '\r' ∉ s) : lexLines cfg order (keepends s) = lexStr cfg order s :=
  lexLines_keepends_lfOnly cfg order h s hs

/-- the running example: hypotheses hold, the text has two graphs, and all containers agree -/
example : CommentsStable (lexStr gcfg gorder sample) ∧ pySpace '\r' = true ∧
    keepends sample = ["# ::snt a b\n".toList, "(a / b)\r\n".toList, "(c / d)".toList] ∧
    (iterparseToks pySpace (lexStr gcfg gorder sample)).1.map (·.metadata) =
      [[("snt".toList, "a b".toList)], []] ∧
    (iterparseToks pySpace (lexStr gcfg gorder sample)).2 = none ∧
    iterparseToks pySpace (lexLines gcfg gorder (keepends sample)) =
      iterparseToks pySpace (lexStr gcfg gorder sample) ∧
    iterparseToks pySpace (lexLines gcfg gorder (fileLines sample)) =
      iterparseToks pySpace (lexStr gcfg gorder sample) ∧
    iterparseToks pySpace (lexLines gcfg gorder ((splitLines sample).map (· ++ ['\r', '\n']))) =
      iterparseToks pySpace (lexStr gcfg gorder sample) := by delta sample; eval_decide

/-! ## several graphs in one stream -/

/-- The frame property: if a token list parses completely as `T`, then followed by any `rest`
    (and under any error context) it parses as `T` and leaves exactly `rest`. -/
theorem parse_frame (isSpace : Char → Bool) (c : PCtx) (ts : List Tok) (T : Tree)
    (h : parseTree c isSpace ts = .ok (T, [])) (c' : PCtx) (rest : List Tok) :
    parseTree c' isSpace (ts ++ rest) = .ok (T, rest) :=
  parseTree_frame h c' rest

/-- If each `tsₖ` parses completely as `Tₖ`, `iterparse` on the concatenation yields exactly
    `[T₁, …, Tₙ]`, in order, without error: every block of metadata comments stays attached to
    the graph that follows it.  Separators play no role because they produce no tokens. -/
theorem iterparse_concat (isSpace : Char → Bool) (gs : List (List Tok × Tree))
    (h : ∀ p ∈ gs, parseTree ⟨eofPos p.1⟩ isSpace p.1 = .ok (p.2, [])) :
    iterparseToks isSpace (gs.map (·.1)).flatten = (gs.map (·.2), none) :=
  iterparseToks_concat isSpace gs (fun p hp => ⟨_, h p hp⟩)

/-- separators (blanks for the generated tables) produce no tokens -/
theorem blank_line_no_tokens (cfg : LexCfg) (order : List TokTy) (n : Nat) (l : Str)
    (h : ∀ c ∈ l, SepChar cfg c) : lexLine cfg order n l = [] :=
  lexLine_seps cfg order n l h

example : (∀ c ∈ " \t\r\x0b\x0c \n".toList, SepChar gcfg c) := by eval_decide

/-- line numbers and offsets are invisible to a successful parse: token streams that agree in
    types and texts (comments: in metadata) give the same trees, and an error iff an error -/
theorem positions_irrelevant (isSpace : Char → Bool) (ts ts' : List Tok)
    (h : LSim isSpace [] ts ts') :
    (iterparseToks isSpace ts).1 = (iterparseToks isSpace ts').1 ∧
    (iterparseToks isSpace ts).2.isSome = (iterparseToks isSpace ts').2.isSome :=
  iterparseToks_sim isSpace ts ts' h

/-- Serialise-then-load framing.  Texts `sₖ` (the serialisations) that each parse completely as
    `Tₖ`, joined by `k+1` newlines — `k = 1`: blank-line separation as written by `dumps`,
    `k = 0`: no blank line — with or without a final newline (as written to a file by `dump`):
    loading returns exactly `[T₁, …, Tₙ]`, in order, without error, for every lexer table. -/
theorem dumps_loads_framing (isSpace : Char → Bool) (cfg : LexCfg) (order : List TokTy) (k : Nat)
    (trail : Str) (ht : trail = [] ∨ trail = ['\n']) (gs : List (Str × Tree))
    (hcr : ∀ p ∈ gs, p.1.getLast? ≠ some '\r')
    (hp : ∀ p ∈ gs, parseTree ⟨eofPos (lexStr cfg order p.1)⟩ isSpace (lexStr cfg order p.1) =
      .ok (p.2, [])) :
    iterparseToks isSpace
        (lexStr cfg order (joinStr ('\n' :: List.replicate k '\n') (gs.map (·.1)) ++ trail)) =
      (gs.map (·.2), none) :=
  iterparse_join isSpace cfg order k trail ht gs hcr (fun p h => ⟨_, hp p h⟩)

/-- … and the same through a file -/
theorem dumps_loads_framing_file (isSpace : Char → Bool) (cfg : LexCfg) (hc : SepChar cfg '\n')
    (order : List TokTy) (k : Nat) (trail : Str) (ht : trail = [] ∨ trail = ['\n'])
    (gs : List (Str × Tree)) (hcr : ∀ p ∈ gs, p.1.getLast? ≠ some '\r')
    (hp : ∀ p ∈ gs, parseTree ⟨eofPos (lexStr cfg order p.1)⟩ isSpace (lexStr cfg order p.1) =
      .ok (p.2, [])) :
    iterparseToks isSpace (lexLines cfg order
        (fileLines (joinStr ('\n' :: List.replicate k '\n') (gs.map (·.1)) ++ trail))) =
      (gs.map (·.2), none) := by
  rw [lexLines_fileLines cfg order hc]
  exact dumps_loads_framing isSpace cfg order k trail ht gs hcr hp

/-- two serialised graphs with metadata: the hypotheses of `dumps_loads_framing` hold -/
def g1 : Str := "# ::id 1\n# ::snt a b\n(a / alpha\n   :ARG0 (b / beta))".toList
def g2 : Str := "# ::id 2\n(c / gamma)".toList

def T1 : Tree := (iterparseToks pySpace (lexStr gcfg gorder g1)).1.headD ⟨.mk none .nil, []⟩
def T2 : Tree := (iterparseToks pySpace (lexStr gcfg gorder g2)).1.headD ⟨.mk none .nil, []⟩

example :
    parseTree ⟨eofPos (lexStr gcfg gorder g1)⟩ pySpace (lexStr gcfg gorder g1) = .ok (T1, []) ∧
    parseTree ⟨eofPos (lexStr gcfg gorder g2)⟩ pySpace (lexStr gcfg gorder g2) = .ok (T2, []) ∧
    T1.metadata = [("id".toList, "1".toList), ("snt".toList, "a b".toList)] ∧
    T2.metadata = [("id".toList, "2".toList)] ∧
    g1.getLast? ≠ some '\r' ∧ g2.getLast? ≠ some '\r' ∧
    iterparseToks pySpace (lexStr gcfg gorder (g1 ++ "\n\n".toList ++ g2 ++ "\n".toList)) =
      ([T1, T2], none) ∧
    iterparseToks pySpace (lexStr gcfg gorder (g1 ++ " ".toList ++ g2)) = ([T1, T2], none) := by
  delta T1 T2 g1 g2; eval_decide

/-- Serialise-then-load with the graphs on the same line, separated by blanks (space, TAB, VT,
    FF) or by nothing at all.  Each text must end in a *closed line* (`ClosedLast`: its last line
    ends in `)` and has no COMMENT and no UNEXPECTED token — true of every serialisation, where
    comments come first); the tables must satisfy `ParenStop` and the alternation `OrderOk`
    (both decidable, instantiated below). -/
theorem dumps_loads_inline (isSpace : Char → Bool) (cfg : LexCfg) (hp : ParenStop cfg)
    (order : List TokTy) (ho : OrderOk order) (sp : Str) (hsp : ∀ c ∈ sp, SepChar cfg c)
    (hnb : NoBreak sp) (gs : List (Str × Tree)) (hcl : ∀ p ∈ gs, ClosedLast cfg order p.1)
    (hpt : ∀ p ∈ gs, parseTree ⟨eofPos (lexStr cfg order p.1)⟩ isSpace (lexStr cfg order p.1) =
      .ok (p.2, [])) :
    iterparseToks isSpace (lexStr cfg order (joinStr sp (gs.map (·.1)))) =
      (gs.map (·.2), none) :=
  iterparse_join_inline isSpace cfg hp order ho sp hsp hnb gs hcl (fun p h => ⟨_, hpt p h⟩)

theorem parenStop_generated : ParenStop Generated.lexCfg := by decide +kernel
theorem orderOk_generated :
    OrderOk Generated.lexCfg.penmanOrder ∧ OrderOk Generated.lexCfg.tripleOrder := by decide +kernel

example : ClosedLast gcfg gorder g1 ∧ ClosedLast gcfg gorder g2 ∧
    (∀ c ∈ " \t".toList, SepChar gcfg c) ∧ NoBreak " \t".toList ∧
    iterparseToks pySpace (lexStr gcfg gorder (joinStr [] [g1, g2])) = ([T1, T2], none) := by
  delta T1 T2 g1 g2; eval_decide

/-- the closedness hypothesis is needed: a comment (or an unterminated string) on the last line
    swallows what follows -/
example : ¬ ClosedLast gcfg gorder "(a / b) # c".toList ∧
    ¬ ClosedLast gcfg gorder "(a / \"b)".toList ∧
    iterparseToks pySpace (lexStr gcfg gorder ("(a / b) # c".toList ++ "(c / d)".toList)) =
      ([⟨.mk (some "a".toList) (.atom "/".toList (.str "b".toList) .nil), []⟩],
        some (.decode 1 18 0)) ∧
    (iterparseToks pySpace
      (lexStr gcfg gorder ("(a / \"b)".toList ++ " ".toList ++ "(c / \"d\")".toList))).1 = [] := by
  eval_decide

/-! ## recorded behaviour O8 -/

/-- O8: COMMENT tokens after the last graph are not silently dropped: `iterparse` yields all
    the graphs and then raises a decode error "end of input" (kind 0) positioned at the end of
    the last token. -/
theorem trailing_comment_error (isSpace : Char → Bool) (gs : List (List Tok × Tree))
    (h : ∀ p ∈ gs, parseTree ⟨eofPos p.1⟩ isSpace p.1 = .ok (p.2, []))
    (cs : List Tok) (hne : cs ≠ []) (hcs : ∀ t ∈ cs, t.ty = .COMMENT) :
    iterparseToks isSpace ((gs.map (·.1)).flatten ++ cs) =
      (gs.map (·.2), some (.decode (eofPos ((gs.map (·.1)).flatten ++ cs)).1
        (eofPos ((gs.map (·.1)).flatten ++ cs)).2 0)) :=
  iterparseToks_trailing_comments isSpace gs (fun p hp => ⟨_, h p hp⟩) cs hne hcs

example : (iterparseToks pySpace (lexStr gcfg gorder "(a / b)\n# x".toList)).1.length = 1 ∧
    (iterparseToks pySpace (lexStr gcfg gorder "(a / b)\n# x".toList)).2 =
      some (.decode 2 3 0) ∧
    (iterparseToks pySpace (lexLines gcfg gorder ["(a / b)\r\n".toList, "# x\r\n".toList])).2 =
      some (.decode 2 4 0) := by eval_decide

end Penman.C09
