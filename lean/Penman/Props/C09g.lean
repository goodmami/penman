import Penman.Proofs.DumpsLoads
import Penman.Props.C03Text
import Penman.Props.C09
import Penman.Proofs.Eval
/-!
# C09, graph level — `loads(dumps(gs)) ≅ gs`, `load(dump(gs, file)) ≅ gs`

Property text (C09, last sentence): *"Serialising a list of graphs and loading it back returns equal
graphs in order - with blank-line separation, with none, and when written to a file - and every
metadata comment stays attached to the graph that follows it."*

`Props/C09.lean` proves this for TEXTS that are assumed to parse completely; this file discharges that
assumption for the texts `encode` produces and composes with `C03_text` (graph → text → graph), so that
the statement is about the Python functions `dumps` / `dump` / `loads` / `load` of `penman/codec.py`.

Model (`Penman/Spec/DumpsLoads.lean`; `encode`, `decode`: `Proofs/EncodeDecode.lean`):
* `encodeAll m gs i c` = `[codec.encode(g, indent=i, compact=c) for g in gs]` (`top = None`; the first
  failing `encode` is the error);
* `dumps m gs i c` = `'\n\n'.join(…)`; `dumpsSep sep` = the same with another separator;
* `dumpFile m gs i c` = what `_dump_stream` writes (`dumpStream`: `print(s₀)`, then `print(); print(s)`
  for every further text) — `dumpStream_join`: it is the `'\n\n'`-join followed by one `'\n'`;
* `loads cfg isSpace isAlpha m s` = `list(codec.iterdecode(s))`: `iterparseToks` over
  `lexStr cfg cfg.penmanOrder s`, `interpret` on every yielded tree in order; the first `interpret` error
  of a yielded tree wins, then the error `iterparse` raises, if any (`loadToks`; `loads_ok_iff`: for
  SUCCESS this is the same as "no parse error and every `interpret` succeeds");
* `loadFile …  s` = `load(fh)` for a file of content `s`: the same over `lexLines … (fileLines s)`.

Hypothesis on every graph: `Encodable cfg isSpace m g` = the hypotheses of `C03_text` with `top = None`
(`WfGraph`, `GraphTextOK`, `PushVars`, `PushSrcOK`; the graph's own top is a variable from which every
variable is reachable — all decidable except connectivity, as in C03).  On the tables: `FmtCfgWf cfg`
(C01), for files `SepChar cfg '\n'` (C09), for the same-line case `ParenStop cfg`, `OrderOk` (C09); all
hold for the generated tables (`…_generated`).  Conclusion for the `k`-th graph: `SameGraph m gs[k] gs'[k]` = the conclusion of
`C03_text` (same top, same variables, same triples as a multiset after one de-inversion with constants
by their written form, every loaded triple is the written form of a dumped one or its inversion, and
the SAME metadata).

Clause of the property text ↦ theorem(s)
* the step `Props/C09.lean` assumed: an encoded text parses completely and does not end in CR
  ↦ `encode_parses_completely` (`_parse` on its tokens returns the written form of the configured tree
  with its metadata and leaves NOTHING over, under every error context; the text ends in `)`, so not
  in CR; its last line is closed, `ClosedLast`).
* every framing below, from ONE encoding of the graphs and with ONE list of loaded graphs
  ↦ `C09_framings` (the theorems that follow are its instances).
* "Serialising a list of graphs and loading it back returns equal graphs in order … with blank-line
  separation" ↦ `C09_dumps_loads` (`dumps` / `loads`), `C09_dumps_loads_generated`.
* "… and when written to a file" ↦ `C09_dump_load_file` (`dumpFile` / `loadFile`); also
  `C09_newlines` with `trail = "\n"` (the text of `dumps` plus a final newline, as a string or a file).
* "… with none [no blank line]" ↦ `C09_newlines` (separator = `k+1` newlines: `k = 0` a single newline,
  `k = 1` = `dumps`; with or without a final newline; loaded as a string AND as a file);
  separator on the SAME LINE (blanks, or nothing at all) ↦ `C09_inline`.
* "every metadata comment stays attached to the graph that follows it" ↦ the clause
  `SameGraph.metadata : gs'[k].metadata = gs[k].metadata` (keys, values, order) in each theorem.
* the empty list ↦ `C09_empty`.

FINDINGS
* No metadata restriction is needed in the same-line case: a comment may FOLLOW a graph on the same
  line (`… ) # ::id 2` — the comment runs to the end of the line and the next graph starts on the next
  line); what cannot happen is a graph following a comment on the same line, and an encoded text never
  ends in a comment line (`encode_parses_completely`: its last line is closed).  So `C09_inline` holds
  for all `Encodable` graphs, with metadata on every graph.
* `loads` is modelled with Python's interleaving (`interpret` of a yielded tree runs before the next
  tree is parsed).  The simpler "parse error first" model agrees with it on every successful load
  (`loads_ok_iff`); they differ only in WHICH error is reported when both kinds occur.
-/
namespace Penman.C09g
open Penman Penman.Spec Penman.Cfg Penman.C03Text Penman.Framing

/-! ## an encoded text parses completely -/

/-- **the text of an encoded graph parses completely**: whenever `configure` succeeds on a well-formed,
    character-level well-formed graph, `_parse` on the tokens of the text returns the written form of
    the configured tree with its metadata and leaves NOTHING over (under every error context, in
    particular `⟨eofPos toks⟩`); the text ends in `)`, hence not in CR, and its last line is closed. -/
theorem encode_parses_completely {cfg : LexCfg} (hcfg : FmtCfgWf cfg = true) (isSpace : Char → Bool)
    {m : Model} {g : Graph} {top : Option Str} {T : Tree} (hw : ModelWf m) (hg : WfGraph m g)
    (htx : GraphTextOK cfg isSpace m g) (hpv : PushVars g) (h : configure m g top = .ok T)
    (i : Indent) (c : Bool) :
    ∃ s, encode m g top i c = .ok s ∧
      parseTree ⟨eofPos (lexStr cfg cfg.penmanOrder s)⟩ isSpace (lexStr cfg cfg.penmanOrder s) =
        .ok (⟨writtenForm T.node, T.metadata⟩, []) ∧
      (∀ ctx, parseTree ctx isSpace (lexStr cfg cfg.penmanOrder s) =
        .ok (⟨writtenForm T.node, T.metadata⟩, [])) ∧
      s.getLast? = some ')' ∧ s.getLast? ≠ some '\r' ∧ ClosedLast cfg cfg.penmanOrder s := by
  obtain ⟨h1, h2, h3, h4, h5⟩ :=
    Penman.C09g.encode_parses_completely_aux hcfg isSpace hw hg htx hpv h i c
  exact ⟨_, h1, h2 _, h2, h3, h4, h5⟩

/-- `loads` succeeds exactly when `iterparse` raises nothing and every tree is interpreted -/
theorem loads_ok_iff (cfg : LexCfg) (isSpace isAlpha : Char → Bool) (m : Model) (s : Str) (gs' : List Graph) :
    loads cfg isSpace isAlpha m s = .ok gs' ↔
      (iterparseToks isSpace (lexStr cfg cfg.penmanOrder s)).2 = none ∧
      mapE (interpret isAlpha m) (iterparseToks isSpace (lexStr cfg cfg.penmanOrder s)).1 = .ok gs' :=
  loadToks_ok_iff isSpace isAlpha m _ gs'

/-- what `dump` writes: the `'\n\n'`-join of the texts followed by one line feed (nothing for `[]`) -/
theorem dumpStream_join (ss : List Str) :
    dumpStream ss = joinStr ['\n', '\n'] ss ++ (if ss = [] then [] else ['\n']) := dumpStream_eq ss

example : dumpStream ["(a)".toList, "(b)".toList, "(c)".toList] = "(a)\n\n(b)\n\n(c)\n".toList := by eval_decide

/-! ## every framing at once -/

/-- The graphs are encoded to texts `ss`, and ONE list `gs'` of graphs is what every framing of
    these texts loads to: joined by `k+1` newlines with or without a final newline, as a string and
    as a file, and joined on the same line by separators `sp`.  The `j`-th loaded graph has the
    content and the metadata of the `j`-th dumped one. -/
theorem C09_framings {cfg : LexCfg} (hcfg : FmtCfgWf cfg = true) (isSpace isAlpha : Char → Bool)
    {m : Model} (hw : ModelWf m) (hnoop : m.noop = false) (gs : List Graph)
    (h : ∀ g ∈ gs, Encodable cfg isSpace m g) (i : Indent) (c : Bool) :
    ∃ ss gs', encodeAll m gs i c = .ok ss ∧
      (∀ (k : Nat) (trail : Str), trail = [] ∨ trail = ['\n'] →
        loads cfg isSpace isAlpha m (joinStr ('\n' :: List.replicate k '\n') ss ++ trail) = .ok gs' ∧
        (SepChar cfg '\n' →
          loadFile cfg isSpace isAlpha m (joinStr ('\n' :: List.replicate k '\n') ss ++ trail) =
            .ok gs')) ∧
      (ParenStop cfg → OrderOk cfg.penmanOrder → ∀ sp : Str, (∀ c ∈ sp, SepChar cfg c) →
        Framing.NoBreak sp → loads cfg isSpace isAlpha m (joinStr sp ss) = .ok gs') ∧
      gs'.length = gs.length ∧
      ∀ (j : Nat) (hj : j < gs.length) (hj' : j < gs'.length), SameGraph m gs[j] gs'[j] := by
  obtain ⟨ps, gs', a1, a2, a3, e, f⟩ := encodeAll_roundtrip hcfg isSpace isAlpha hw hnoop i c gs h
  have hcr : ∀ p ∈ ps, p.1.getLast? ≠ some '\r' := fun p hp => getLast_ne_cr (a2 p hp).1
  have hpt : ∀ p ∈ ps, parseTree ⟨eofPos (lexStr cfg cfg.penmanOrder p.1)⟩ isSpace
      (lexStr cfg cfg.penmanOrder p.1) = .ok (p.2, []) := fun p hp => (a2 p hp).2.2 _
  refine ⟨_, gs', a1, fun k trail ht => ⟨?_, fun hc => ?_⟩, fun hp ho sp hsp hnb => ?_, e, f⟩
  · exact loadToks_of_iterparse isSpace isAlpha m _ _ gs'
      (C09.dumps_loads_framing isSpace cfg _ k trail ht ps hcr hpt) a3
  · exact loadToks_of_iterparse isSpace isAlpha m _ _ gs'
      (C09.dumps_loads_framing_file isSpace cfg hc _ k trail ht ps hcr hpt) a3
  · exact loadToks_of_iterparse isSpace isAlpha m _ _ gs'
      (C09.dumps_loads_inline isSpace cfg hp _ ho sp hsp hnb ps (fun p hp => (a2 p hp).2.1) hpt) a3

/-! ## newline separation -/

/-- **Separator = `k+1` newlines** (`k = 1`: the blank line of `dumps`; `k = 0`: a single newline, no
    blank line), with or without a final newline, loaded as a string and as a file: the graphs come
    back in order, each with the content and the metadata of the graph it was dumped from. -/
theorem C09_newlines {cfg : LexCfg} (hcfg : FmtCfgWf cfg = true) (isSpace isAlpha : Char → Bool)
    {m : Model} (hw : ModelWf m) (hnoop : m.noop = false) (gs : List Graph)
    (h : ∀ g ∈ gs, Encodable cfg isSpace m g) (i : Indent) (c : Bool) (k : Nat) (trail : Str)
    (ht : trail = [] ∨ trail = ['\n']) :
    ∃ s gs', dumpsSep ('\n' :: List.replicate k '\n') m gs i c = .ok s ∧
      loads cfg isSpace isAlpha m (s ++ trail) = .ok gs' ∧
      (SepChar cfg '\n' → loadFile cfg isSpace isAlpha m (s ++ trail) = .ok gs') ∧
      gs'.length = gs.length ∧
      ∀ (j : Nat) (hj : j < gs.length) (hj' : j < gs'.length), SameGraph m gs[j] gs'[j] := by
  obtain ⟨ss, gs', e, hn, _, hl, hs⟩ := C09_framings hcfg isSpace isAlpha hw hnoop gs h i c
  exact ⟨_, gs', by rw [dumpsSep, e]; rfl, (hn k trail ht).1, (hn k trail ht).2, hl, hs⟩

/-- **`loads(dumps(gs))`.**  For graphs satisfying the hypotheses of `C03_text`, every indentation and
    compactness setting: `dumps` succeeds, `loads` of its text succeeds, and returns as many graphs, the
    `j`-th of which has the top, the variables, the triples (multiset, after one de-inversion, constants
    by their written form) and the METADATA of the `j`-th dumped graph. -/
theorem C09_dumps_loads {cfg : LexCfg} (hcfg : FmtCfgWf cfg = true) (isSpace isAlpha : Char → Bool)
    {m : Model} (hw : ModelWf m) (hnoop : m.noop = false) (gs : List Graph)
    (h : ∀ g ∈ gs, Encodable cfg isSpace m g) (i : Indent) (c : Bool) :
    ∃ s gs', dumps m gs i c = .ok s ∧ loads cfg isSpace isAlpha m s = .ok gs' ∧
      gs'.length = gs.length ∧
      ∀ (j : Nat) (hj : j < gs.length) (hj' : j < gs'.length), SameGraph m gs[j] gs'[j] := by
  obtain ⟨s, gs', h1, h2, _, h4, h5⟩ :=
    C09_newlines hcfg isSpace isAlpha hw hnoop gs h i c 1 [] (.inl rfl)
  rw [List.append_nil] at h2
  exact ⟨s, gs', h1, h2, h4, h5⟩

/-- **`load(file)` after `dump(gs, file)`**: the same through a file (every text followed by a newline,
    an empty line between two texts; the file iterated by lines). -/
theorem C09_dump_load_file {cfg : LexCfg} (hcfg : FmtCfgWf cfg = true) (hlf : SepChar cfg '\n')
    (isSpace isAlpha : Char → Bool) {m : Model} (hw : ModelWf m) (hnoop : m.noop = false)
    (gs : List Graph) (h : ∀ g ∈ gs, Encodable cfg isSpace m g) (i : Indent) (c : Bool) :
    ∃ s gs', dumpFile m gs i c = .ok s ∧ loadFile cfg isSpace isAlpha m s = .ok gs' ∧
      loads cfg isSpace isAlpha m s = .ok gs' ∧ gs'.length = gs.length ∧
      ∀ (j : Nat) (hj : j < gs.length) (hj' : j < gs'.length), SameGraph m gs[j] gs'[j] := by
  obtain ⟨ss, gs', e, hn, _, hl, hs⟩ := C09_framings hcfg isSpace isAlpha hw hnoop gs h i c
  obtain ⟨trail, ht, e'⟩ := dumpStream_trail ss
  refine ⟨_, gs', by rw [dumpFile, e]; rfl, ?_, ?_, hl, hs⟩
  · rw [e']
    exact (hn 1 trail ht).2 hlf
  · rw [e']
    exact (hn 1 trail ht).1

/-! ## the same line -/

/-- **Separator on the same line**: blanks that are no line breaks (space, TAB, …), or nothing at all.
    Needs `ParenStop` / `OrderOk` of the lexer tables (C09; decidable, true of the generated tables).
    No restriction on metadata: the comments of the next graph follow the closing parenthesis of the
    previous one on the same line and still belong to the next graph. -/
theorem C09_inline {cfg : LexCfg} (hcfg : FmtCfgWf cfg = true) (hp : ParenStop cfg)
    (ho : OrderOk cfg.penmanOrder) (isSpace isAlpha : Char → Bool)
    {m : Model} (hw : ModelWf m) (hnoop : m.noop = false) (gs : List Graph)
    (h : ∀ g ∈ gs, Encodable cfg isSpace m g) (i : Indent) (c : Bool) (sp : Str)
    (hsp : ∀ c ∈ sp, SepChar cfg c) (hnb : Framing.NoBreak sp) :
    ∃ s gs', dumpsSep sp m gs i c = .ok s ∧ loads cfg isSpace isAlpha m s = .ok gs' ∧
      gs'.length = gs.length ∧
      ∀ (j : Nat) (hj : j < gs.length) (hj' : j < gs'.length), SameGraph m gs[j] gs'[j] := by
  obtain ⟨ss, gs', e, _, hi, hl, hs⟩ := C09_framings hcfg isSpace isAlpha hw hnoop gs h i c
  exact ⟨_, gs', by rw [dumpsSep, e]; rfl, hi hp ho sp hsp hnb, hl, hs⟩

/-! ## the empty list -/

/-- no graph: `dumps([]) = ''`, `dump([], file)` writes nothing, and both load as `[]` -/
theorem C09_empty (cfg : LexCfg) (isSpace isAlpha : Char → Bool) (m : Model) (i : Indent) (c : Bool) :
    dumps m [] i c = .ok [] ∧ dumpFile m [] i c = .ok [] ∧
    loads cfg isSpace isAlpha m [] = .ok [] ∧ loadFile cfg isSpace isAlpha m [] = .ok [] :=
  ⟨rfl, rfl, rfl, rfl⟩

/-! ## the generated tables -/

theorem C09_dumps_loads_generated (isSpace isAlpha : Char → Bool) {m : Model} (hw : ModelWf m)
    (hnoop : m.noop = false) (gs : List Graph)
    (h : ∀ g ∈ gs, Encodable Generated.lexCfg isSpace m g) (i : Indent) (c : Bool) :
    ∃ s sf gs', dumps m gs i c = .ok s ∧ loads Generated.lexCfg isSpace isAlpha m s = .ok gs' ∧
      dumpFile m gs i c = .ok sf ∧ loadFile Generated.lexCfg isSpace isAlpha m sf = .ok gs' ∧
      gs'.length = gs.length ∧
      ∀ (j : Nat) (hj : j < gs.length) (hj' : j < gs'.length), SameGraph m gs[j] gs'[j] := by
  obtain ⟨ss, gs', e, hn, _, hl, hs⟩ :=
    C09_framings C01.fmt_cfg_wf isSpace isAlpha hw hnoop gs h i c
  obtain ⟨trail, ht, e'⟩ := dumpStream_trail ss
  refine ⟨_, _, gs', by rw [dumps, dumpsSep, e]; rfl, ?_, by rw [dumpFile, e]; rfl, ?_, hl, hs⟩
  · have := (hn 1 [] (.inl rfl)).1
    rwa [List.append_nil] at this
  · rw [e']
    exact (hn 1 trail ht).2 C09.lexWf_generated.1

theorem C09_inline_generated (isSpace isAlpha : Char → Bool) {m : Model} (hw : ModelWf m)
    (hnoop : m.noop = false) (gs : List Graph)
    (h : ∀ g ∈ gs, Encodable Generated.lexCfg isSpace m g) (i : Indent) (c : Bool) (sp : Str)
    (hsp : ∀ c ∈ sp, c = ' ' ∨ c = '\t') :
    ∃ s gs', dumpsSep sp m gs i c = .ok s ∧ loads Generated.lexCfg isSpace isAlpha m s = .ok gs' ∧
      gs'.length = gs.length ∧
      ∀ (j : Nat) (hj : j < gs.length) (hj' : j < gs'.length), SameGraph m gs[j] gs'[j] :=
  C09_inline C01.fmt_cfg_wf C09.parenStop_generated C09.orderOk_generated.1 isSpace isAlpha hw hnoop gs h
    i c sp (fun c hc => by rcases hsp c hc with rfl | rfl <;> decide +kernel)
    (fun c hc => by rcases hsp c hc with rfl | rfl <;> decide)

/-! ## non-vacuity: two graphs with metadata under the default model -/

namespace Examples
open Penman.C03Text.Examples

/-- `(c / gamma :polarity - :mod "x y")` with metadata `::id 2`, `::snt c d` -/
def g2 : Graph :=
  { triples := [T "c" ":instance" (S "gamma"), T "c" ":polarity" (S "-"), T "c" ":mod" (S "\"x y\"")],
    metadata := [("id".toList, "2".toList), ("snt".toList, "c d".toList)] }

attribute [eval_unfold] g2

/-- `gx` (C03Text: a re-entrancy, two inversions, a number, a string with a blank, stale layout
    markers; metadata `::id 1`, `::snt a b`) satisfies the hypothesis -/
theorem gx_encodable : Encodable Generated.lexCfg isSp Generated.defaultModel gx :=
  have hd : "d".toList ∈ gx.variables := gx_vars.1 ▸ List.mem_cons_self ..
  ⟨gx_ok.1, gx_ok.2, gx_push.1, gx_push.2.1, "d".toList, gx_vars.2, hd, gx_conn _ hd⟩

theorem g2_encodable : Encodable Generated.lexCfg isSp Generated.defaultModel g2 :=
  have h : WfGraph Generated.defaultModel g2 ∧ GraphTextOK Generated.lexCfg isSp Generated.defaultModel g2 ∧
      PushVars g2 ∧ PushSrcOK g2 ∧ g2.getTop = some "c".toList ∧ g2.variables = ["c".toList] := by eval_decide
  ⟨h.1, h.2.1, h.2.2.1, h.2.2.2.1, "c".toList, h.2.2.2.2.1, h.2.2.2.2.2 ▸ List.mem_cons_self .., by
    intro v hv
    rw [h.2.2.2.2.2] at hv; simp only [List.mem_singleton] at hv; subst hv; exact Reach.refl⟩

theorem both_encodable : ∀ g ∈ [gx, g2], Encodable Generated.lexCfg isSp Generated.defaultModel g := by
  intro g hg
  simp only [List.mem_cons, List.mem_nil_iff, or_false] at hg
  rcases hg with rfl | rfl
  · exact gx_encodable
  · exact g2_encodable

/-- all theorems apply to `[gx, g2]`, for every indentation and compactness setting -/
example (i : Indent) (c : Bool) :
    ∃ s sf gs', dumps Generated.defaultModel [gx, g2] i c = .ok s ∧
      loads Generated.lexCfg isSp isAsciiAlpha Generated.defaultModel s = .ok gs' ∧
      dumpFile Generated.defaultModel [gx, g2] i c = .ok sf ∧
      loadFile Generated.lexCfg isSp isAsciiAlpha Generated.defaultModel sf = .ok gs' ∧
      gs'.length = 2 ∧
      ∀ (j : Nat) (hj : j < [gx, g2].length) (hj' : j < gs'.length),
        SameGraph Generated.defaultModel [gx, g2][j] gs'[j] :=
  C09_dumps_loads_generated isSp isAsciiAlpha C13.modelWf_default (by decide) [gx, g2] both_encodable i c

/-- a single newline, a blank, nothing at all between the two texts -/
example (i : Indent) (c : Bool) :
    (∃ s gs', dumpsSep ['\n'] Generated.defaultModel [gx, g2] i c = .ok s ∧
      loads Generated.lexCfg isSp isAsciiAlpha Generated.defaultModel s = .ok gs' ∧ gs'.length = 2) ∧
    (∃ s gs', dumpsSep [' '] Generated.defaultModel [gx, g2] i c = .ok s ∧
      loads Generated.lexCfg isSp isAsciiAlpha Generated.defaultModel s = .ok gs' ∧ gs'.length = 2) ∧
    (∃ s gs', dumpsSep [] Generated.defaultModel [gx, g2] i c = .ok s ∧
      loads Generated.lexCfg isSp isAsciiAlpha Generated.defaultModel s = .ok gs' ∧ gs'.length = 2) := by
  refine ⟨?_, ?_, ?_⟩
  · obtain ⟨s, gs', h1, h2, _, h4, _⟩ := C09_newlines C01.fmt_cfg_wf isSp isAsciiAlpha C13.modelWf_default
      (by decide) [gx, g2] both_encodable i c 0 [] (.inl rfl)
    rw [List.append_nil] at h2
    exact ⟨s, gs', h1, h2, h4⟩
  · obtain ⟨s, gs', h1, h2, h4, _⟩ := C09_inline_generated isSp isAsciiAlpha C13.modelWf_default
      (by decide) [gx, g2] both_encodable i c [' '] (by simp)
    exact ⟨s, gs', h1, h2, h4⟩
  · obtain ⟨s, gs', h1, h2, h4, _⟩ := C09_inline_generated isSp isAsciiAlpha C13.modelWf_default
      (by decide) [gx, g2] both_encodable i c [] (by simp)
    exact ⟨s, gs', h1, h2, h4⟩

/-! ### through the real functions -/

theorem g2_configure : configure Generated.defaultModel g2 none =
    .ok ⟨.mk (some "c".toList) (.atom "/".toList (S "gamma") (.atom ":polarity".toList (S "-")
      (.atom ":mod".toList (S "\"x y\"") .nil))), g2.metadata⟩ :=
  configure_of_store (t := "c".toList) (by decide) rfl (by decide)
    (cells := [("c".toList, [E "/" (.atom (S "gamma")), E ":polarity" (.atom (S "-")),
      E ":mod" (.atom (S "\"x y\""))])]) (by eval_decide)
    (by simp [buildNode, buildBranches, AList.get?, applyEpis, bind, Except.bind, pure, Except.pure, E, S])

def g2Text : Str := "# ::id 2\n# ::snt c d\n(c / gamma\n   :polarity -\n   :mod \"x y\")".toList

theorem g2_encode : encode Generated.defaultModel g2 none (some (-1)) false = .ok g2Text :=
  encode_of_configure g2_configure (by delta g2Text; eval_decide)

theorem encodeAll_example :
    encodeAll Generated.defaultModel [gx, g2] (some (-1)) false = .ok [gxText, g2Text] :=
  mapE_cons_ok gx_encode (mapE_cons_ok g2_encode rfl)

/-- the text `dumps` produces (default options) … -/
theorem dumps_example : dumps Generated.defaultModel [gx, g2] (some (-1)) false =
    .ok (gxText ++ "\n\n".toList ++ g2Text) := by
  rw [dumps, dumpsSep, encodeAll_example]; rfl

/-- … what `dump` writes … -/
theorem dumpFile_example : dumpFile Generated.defaultModel [gx, g2] (some (-1)) false =
    .ok (gxText ++ "\n\n".toList ++ g2Text ++ "\n".toList) := by
  rw [dumpFile, encodeAll_example, Except.map, dumpStream_eq]; rfl

/-- the two texts with nothing between them, with a blank line between them and as the file that
    `dump` writes load to the same graphs (`C09_framings`) -/
theorem framings_example :
    loads Generated.lexCfg isSp isAsciiAlpha Generated.defaultModel (gxText ++ "\n\n".toList ++ g2Text) =
      loads Generated.lexCfg isSp isAsciiAlpha Generated.defaultModel (gxText ++ g2Text) ∧
    loadFile Generated.lexCfg isSp isAsciiAlpha Generated.defaultModel
        (gxText ++ "\n\n".toList ++ g2Text ++ "\n".toList) =
      loads Generated.lexCfg isSp isAsciiAlpha Generated.defaultModel (gxText ++ g2Text) := by
  obtain ⟨ss, gs', e, hn, hi, _⟩ := C09_framings C01.fmt_cfg_wf isSp isAsciiAlpha C13.modelWf_default
    (by decide) [gx, g2] both_encodable (some (-1)) false
  rw [encodeAll_example] at e
  rw [← Except.ok.inj e] at hn hi
  have h0 := hi C09.parenStop_generated C09.orderOk_generated.1 [] (by simp) (fun _ h => nomatch h)
  have h1 := (hn 1 [] (.inl rfl)).1
  have h2 := (hn 1 ['\n'] (.inr rfl)).2 C09.lexWf_generated.1
  simp only [joinStr, List.replicate, List.append_nil] at h0 h1 h2
  rw [show "\n\n".toList = ['\n', '\n'] from rfl, show "\n".toList = ['\n'] from rfl, h0]
  exact ⟨h1, h2⟩

/-- what they load to: two graphs, in order, each with ITS metadata; the triples (`0` and `7` are
    strings, both inverted edges are de-inverted).  On one line, nothing between the texts: the comments
    of the second graph follow the `)` of the first and stay with the second graph -/
theorem loads_example :
    (loads Generated.lexCfg isSp isAsciiAlpha Generated.defaultModel
        (gxText ++ g2Text)).toOption.map (·.map fun g => (g.top, g.metadata)) =
      some [(some "d".toList, gx.metadata), (some "c".toList, g2.metadata)] ∧
    (loads Generated.lexCfg isSp isAsciiAlpha Generated.defaultModel
        (gxText ++ g2Text)).toOption.map (·.map fun g => g.triples) =
      some [[T "d" ":instance" (S "dog"), T "d" ":quant" (S "0"), T "b" ":ARG1" (S "d"),
             T "b" ":ARG0" (S "d"), T "b" ":instance" (S "bark-01"), T "b" ":mod-of" (S "7"),
             T "d" ":name" (S "\"a b\"")], g2.triples] := by
  delta gxText g2Text; eval_decide

/-- … and what they load to: two graphs, in order, each with ITS metadata -/
example :
    (loads Generated.lexCfg isSp isAsciiAlpha Generated.defaultModel
        (gxText ++ "\n\n".toList ++ g2Text)).toOption.map (·.map fun g => (g.top, g.metadata)) =
      some [(some "d".toList, gx.metadata), (some "c".toList, g2.metadata)] := by
  rw [framings_example.1]; exact loads_example.1

/-- through the file: the triples (`0` and `7` are strings, both inverted edges are de-inverted) -/
example :
    (loadFile Generated.lexCfg isSp isAsciiAlpha Generated.defaultModel
        (gxText ++ "\n\n".toList ++ g2Text ++ "\n".toList)).toOption.map (·.map fun g => g.triples) =
      some [[T "d" ":instance" (S "dog"), T "d" ":quant" (S "0"), T "b" ":ARG1" (S "d"),
             T "b" ":ARG0" (S "d"), T "b" ":instance" (S "bark-01"), T "b" ":mod-of" (S "7"),
             T "d" ":name" (S "\"a b\"")], g2.triples] := by
  rw [framings_example.2]; exact loads_example.2

/-- the same texts on one line, nothing between them: the comments of the second graph follow the
    `)` of the first and stay with the second graph -/
example :
    (loads Generated.lexCfg isSp isAsciiAlpha Generated.defaultModel
        (gxText ++ g2Text)).toOption.map (·.map fun g => (g.top, g.metadata)) =
      some [(some "d".toList, gx.metadata), (some "c".toList, g2.metadata)] :=
  loads_example.1

/-- the hypothesis excludes something: a disconnected graph is not `Encodable` (and `dumps` fails) -/
example : (dumps Generated.defaultModel [gx, gdis] none false).toOption = none := by
  have h : (encode Generated.defaultModel gdis none none false).toOption = none := by decide +kernel
  simp only [dumps, dumpsSep, encodeAll, mapE]
  cases h' : encode Generated.defaultModel gdis none none false with
  | ok s => rw [h'] at h; simp [Except.toOption] at h
  | error e =>
    cases encode Generated.defaultModel gx none none false <;> simp [Except.map, Except.toOption]

end Examples

end Penman.C09g
