import Penman.Proofs.ResetVars
import Penman.Proofs.ResetIso
import Penman.Proofs.Eval
/-!
# C10 — relabelling variables is a graph isomorphism

Python: `penman/tree.py` (`Tree.reset_variables`, `_map_vars`,
`_default_variable_prefix`, `_nodes`).  Model: `Penman/Tree.lean`
(`Fmt.render`, `pickVar`, `buildVarmap`, `Node.mapVars`, `Node.resetVariables`)
and `interpret` of `Penman/Layout.lean`.

Clause of the property text ↦ theorem:

* "renames variables by a bijection chosen from the node concepts in
  depth-first order" ↦ `varmap_injective` (key list = tree variables in
  first-occurrence DFS order; values pairwise distinct, hence the map is
  injective; each new name is the rendering, with the prefix of the concept of
  the first node carrying the variable, of the least index not yet taken).
* "with any format" ↦ `renderInj_progressive` (every template mentioning `{i}`
  or `{j}`, with arbitrary literals / prefixes / further index pieces, renders
  distinct indices differently; this is an equivalence: `renderInj_iff`),
  `pickVar_terminates` (pigeonhole: the collision loop stops within
  `|used| + 1` rounds), `reset_total` (the model never reports a hang for a
  progressive template and fails only with `KeyError` for a node without
  variable).  Negative boundary (Python hangs): the `example` with template
  `[.pre]` after `reset_total`.
* "applies it consistently at every definition and every reference (including
  references that carry an alignment), and touches nothing else: roles,
  constants, strings and concepts — even a concept spelled like a variable —
  are unchanged" ↦ `reset_shape` (the result is the shape-preserving total
  renaming `RV.renNode vm`) together with `renaming_clauses` (what `renNode`
  does at each position) and `aln_split` (stem/alignment split).
* "Provided no constant is spelled like a newly generated name, interpreting
  the relabelled tree equals renaming the interpretation of the original" ↦
  `reset_iso` (triples, top, epidata incl. `Push` markers, metadata; also when
  `interpret` fails: the same error).  Hypothesis `WfReset` is decidable; the
  `example`s (a)–(d) at the end of the file show that each of its clauses is needed.
  `newNames_clean` derives the name clauses of `WfReset` from a template and
  lower-casing table without `'~'`/`'"'`.
-/
namespace Penman
open RV

/-! ## formats -/

/-- every template that mentions `{i}` or `{j}` is injective in the index, whatever
    literals, prefixes and further index pieces surround it -/
theorem renderInj_progressive (fmt : Fmt) (h : fmt.progressive = true) : RenderInj fmt :=
  renderInj_of_progressive h

/-- … and no other template is -/
theorem renderInj_iff (fmt : Fmt) : RenderInj fmt ↔ fmt.progressive = true :=
  renderInj_iff_progressive fmt

example (s : Str) : RenderInj [.pre, .j] ∧ RenderInj [.pre, .i] ∧ RenderInj [.lit s, .i] ∧
    RenderInj [.pre, .lit s, .i] ∧ RenderInj [.i, .lit s, .j, .pre, .i] :=
  ⟨renderInj_progressive _ rfl, renderInj_progressive _ rfl, renderInj_progressive _ rfl,
   renderInj_progressive _ rfl, renderInj_progressive _ rfl⟩

/-- the collision loop terminates within `used.length + 1` rounds, with a name
    not in `used`: the rendering of the least non-colliding index -/
theorem pickVar_terminates (fmt : Fmt) (h : RenderInj fmt) (pre : Str) (used : List Str) :
    ∃ v k, pickVar fmt pre used (used.length + 1) 0 = some v ∧ v ∉ used ∧
      v = fmt.render pre k ∧ k ≤ used.length ∧ ∀ k', k' < k → fmt.render pre k' ∈ used :=
  pickVar_total h pre used

example : pickVar [.pre, .j] ['a'] [['a'], "a2".toList, "a4".toList] 4 0 = some "a3".toList := by
  eval_decide

/-! ## the variable map -/

/-- The map built by the first pass: its keys are the tree's variables in
    depth-first first-occurrence order; its values are pairwise distinct, so it
    is injective; entry `k` is named by the rendering — with the prefix of the
    concept of the first node carrying that variable — of the least index whose
    rendering was not taken by the entries before it. -/
theorem varmap_injective (isAlpha : Char → Bool) (lower : Char → Str) (fmt : Fmt) (n : Node)
    (vm : AList Str Str) (h : buildVarmap isAlpha lower fmt n.nodes [] [] = some vm) :
    AList.keys vm = dedup n.vars ∧ (AList.keys vm).Nodup ∧ (∀ x, x ∈ AList.keys vm ↔ x ∈ n.vars) ∧
    (vm.map (·.2)).Nodup ∧
    (∀ a b x, AList.get? vm a = some x → AList.get? vm b = some x → a = b) ∧
    ∀ (k : Nat) (hk : k < vm.length), ∃ bs i,
      AList.get? n.nodes vm[k].1 = some bs ∧
      vm[k].2 = fmt.render (defaultPrefix isAlpha lower bs.concept) i ∧
      vm[k].2 ∉ (vm.take k).map (·.2) ∧
      ∀ i', i' < i → fmt.render (defaultPrefix isAlpha lower bs.concept) i' ∈ (vm.take k).map (·.2) := by
  obtain ⟨ext, h1, h2, h3⟩ := buildVarmap_spec n.nodes [] [] vm h (by simp [avals])
  simp only [List.nil_append] at h1
  subst h1
  have hk : AList.keys vm = dedup n.vars := by
    rw [h2, List.filter_eq_self.2 (by simp [AList.keys])]; rfl
  have hn : (avals vm).Nodup := by simpa using ExtOk.nodup_vals h3 (by simp [avals])
  refine ⟨hk, hk ▸ dedup_nodup _, fun x => by rw [hk]; exact mem_dedup, hn,
    fun a b x => get?_inj_of_nodup_vals hn, ?_⟩
  exact fun k hk => ExtOk.index h3 k hk

/-- with a progressive template the model never reports a hang; the only
    failure is the `KeyError` Python raises for a node without variable -/
theorem reset_total (isAlpha : Char → Bool) (lower : Char → Str) (fmt : Fmt) (n : Node)
    (hp : fmt.progressive = true) :
    (∃ vm, buildVarmap isAlpha lower fmt n.nodes [] [] = some vm) ∧
    (nodeAllVars n = true → ∃ n', n.resetVariables isAlpha lower fmt = .ok n') ∧
    (nodeAllVars n = false → n.resetVariables isAlpha lower fmt = .error (.other "KeyError")) := by
  obtain ⟨vm, hvm⟩ := Option.isSome_iff_exists.1 (buildVarmap_total (isAlpha := isAlpha)
    (lower := lower) hp n.nodes [] [])
  have hkeys := (varmap_injective isAlpha lower fmt n vm hvm).2.2.1
  refine ⟨⟨vm, hvm⟩, ?_, ?_⟩
  · intro hall
    have : nodeMappable vm n = true := (nodeMappable_iff vm n).2 ⟨hall, fun v hv => (hkeys v).2 hv⟩
    exact ⟨renNode vm n, by simp [Node.resetVariables, hvm, node_mapVars_eq, this]⟩
  · intro hall
    have : nodeMappable vm n = false := by
      cases h : nodeMappable vm n with
      | false => rfl
      | true => rw [((nodeMappable_iff vm n).1 h).1] at hall; cases hall
    simp [Node.resetVariables, hvm, node_mapVars_eq, this]

/-- a sample tree `(v1 / v1 :ARG0 v1~e.5 :ARG1 (x / value :mod "v") :ARG2-of (y / Vim :ref x~2 :ref z))` -/
def c10Tree : Node :=
  .mk (some "v1".toList) (.atom ['/'] (.str "v1".toList)
    (.atom ":ARG0".toList (.str "v1~e.5".toList)
    (.sub ":ARG1".toList (.mk (some "x".toList) (.atom ['/'] (.str "value".toList)
        (.atom ":mod".toList (.str "\"v\"".toList) .nil)))
    (.sub ":ARG2-of".toList (.mk (some "y".toList) (.atom ['/'] (.str "Vim".toList)
        (.atom ":ref".toList (.str "x~2".toList) (.atom ":ref".toList (.str "z".toList) .nil)))) .nil))))

def c10Lower (c : Char) : Str := [c.toLower]
attribute [eval_unfold] c10Tree

/-- all three concepts start with `v`: the names collide and are resolved in DFS order -/
example : buildVarmap isAsciiAlpha c10Lower [.pre, .j] c10Tree.nodes [] [] =
    some [("v1".toList, "v".toList), ("x".toList, "v2".toList), ("y".toList, "v3".toList)] := by
  eval_decide

example : nodeAllVars c10Tree = true := by decide

/-- boundary (Python hangs): a template without `{i}`/`{j}` and two nodes with one prefix -/
example : (match c10Tree.resetVariables isAsciiAlpha c10Lower [.pre] with
    | .error (.unmodelled _) => true | _ => false) = true := by decide +kernel

/-! ## shape -/

/-- `reset_variables` returns the shape-preserving renaming `renNode vm` of the
    tree by the map of `varmap_injective`; every node had a variable. -/
theorem reset_shape (isAlpha : Char → Bool) (lower : Char → Str) (fmt : Fmt) (n n' : Node)
    (h : n.resetVariables isAlpha lower fmt = .ok n') :
    ∃ vm, buildVarmap isAlpha lower fmt n.nodes [] [] = some vm ∧ n' = renNode vm n ∧
      nodeAllVars n = true ∧ n'.vars = n.vars.map (renVar vm) ∧
      ∀ v ∈ n.vars, ∃ nv, AList.get? vm v = some nv ∧ renVar vm v = nv := by
  simp only [Node.resetVariables] at h
  split at h
  · cases h
  · rename_i vm hvm
    rw [node_mapVars_eq] at h
    split at h
    · rename_i hmp
      injection h with h
      subst h
      have hm := (nodeMappable_iff vm n).1 hmp
      refine ⟨vm, hvm, rfl, hm.1, renNode_vars vm n, ?_⟩
      intro v hv
      obtain ⟨nv, hnv⟩ := Option.isSome_iff_exists.1 (get?_isSome_iff.2 (hm.2 v hv))
      exact ⟨nv, hnv, by simp [renVar, hnv]⟩
    · cases h

/-- What the renaming does, position by position: node variables are replaced
    by their images; roles are kept; the target of a `/` branch is kept even if
    it is spelled like a variable; `None` and numbers are kept; a string target
    of another role whose stem (text before the first `'~'`) is a key is
    replaced by the image followed by the alignment, verbatim; any other string
    is kept. -/
theorem renaming_clauses (vm : AList Str Str) :
    (∀ v bs, renNode vm (.mk v bs) = .mk (v.map (renVar vm)) (renBranches vm bs)) ∧
    renBranches vm .nil = .nil ∧
    (∀ r a rest, renBranches vm (.atom r a rest) = .atom r (renAtom vm r a) (renBranches vm rest)) ∧
    (∀ r n rest, renBranches vm (.sub r n rest) = .sub r (renNode vm n) (renBranches vm rest)) ∧
    (∀ a, renAtom vm ['/'] a = a) ∧
    (∀ r, renAtom vm r .none = .none) ∧
    (∀ r t, renAtom vm r (.num t) = .num t) ∧
    (∀ r s nv, r ≠ ['/'] → AList.get? vm (alnStem s) = some nv →
      renAtom vm r (.str s) = .str (nv ++ alnSuffix s)) ∧
    (∀ r s, AList.get? vm (alnStem s) = none → renAtom vm r (.str s) = .str s) :=
  ⟨fun _ _ => rfl, rfl, fun _ _ _ => rfl, fun _ _ _ => rfl, renAtom_concept vm, renAtom_none vm,
   renAtom_num vm,
   fun _ _ _ hr h => renAtom_ref hr h, fun _ _ h => renAtom_other h⟩

/-- stem and alignment of a string: `s = stem ++ suffix`, the stem has no `'~'`
    and the suffix is empty or starts with `'~'` -/
theorem aln_split (s : Str) :
    s = alnStem s ++ alnSuffix s ∧ '~' ∉ alnStem s ∧
      (alnSuffix s = [] ∨ ∃ rest, alnSuffix s = '~' :: rest) :=
  ⟨(partition_tilde_spec s).1, (partition_tilde_spec s).2.1, alnSuffix_shape s⟩

/-- finding F7 repaired: the aligned re-entrancy follows its variable; the
    concept spelled `v1` and the quoted string stay; `z` (no node) stays -/
example : (match c10Tree.resetVariables isAsciiAlpha c10Lower [.pre, .j] with
    | .ok n' => n' ==
      .mk (some "v".toList) (.atom ['/'] (.str "v1".toList)
        (.atom ":ARG0".toList (.str "v~e.5".toList)
        (.sub ":ARG1".toList (.mk (some "v2".toList) (.atom ['/'] (.str "value".toList)
            (.atom ":mod".toList (.str "\"v\"".toList) .nil)))
        (.sub ":ARG2-of".toList (.mk (some "v3".toList) (.atom ['/'] (.str "Vim".toList)
            (.atom ":ref".toList (.str "v2~2".toList) (.atom ":ref".toList (.str "z".toList) .nil)))) .nil))))
    | _ => false) = true := by eval_decide

/-! ## isomorphism -/

/-- Hypotheses of `reset_iso` (decidable):
    * old variables do not start with `'"'`; new names contain no `'~'` and do
      not start with `'"'` (they must read back as variables);
    * `nodeIsoOk`: no string constant (before its alignment) on a non-`/` role is
      spelled like a new name — the property's own proviso; a variable reference
      or nested node hangs on a role that does not yield an `:instance` triple
      (as written or deinverted), and a nested node does not hang on `/`. -/
def WfReset (m : Model) (vm : AList Str Str) (n : Node) : Bool :=
  (AList.keys vm).all (fun k => k.head? != some '"') &&
  (vm.map (·.2)).all (fun nv => !nv.contains '~' && nv.head? != some '"') &&
  nodeIsoOk m vm (n.vars.map (renVar vm)) n

/-- Interpreting the relabelled tree is renaming the interpretation of the
    original: sources, variable targets of non-instance triples, the top, `Push`
    markers and the epidata keys are mapped by the variable map; everything else
    (roles, constants, concepts, alignments, metadata) is unchanged; when
    `interpret` fails on the original it fails identically on the relabelled
    tree. -/
theorem reset_iso (isAlpha isAlpha' : Char → Bool) (lower : Char → Str) (fmt : Fmt) (m : Model)
    (n n' : Node) (md : AList Str Str) (vm : AList Str Str)
    (hvm : buildVarmap isAlpha lower fmt n.nodes [] [] = some vm)
    (h : n.resetVariables isAlpha lower fmt = .ok n')
    (hwf : WfReset m vm n = true) :
    interpret isAlpha' m ⟨n', md⟩ = (interpret isAlpha' m ⟨n, md⟩).map (renGraph vm) := by
  obtain ⟨vm', hvm', hn', hall, _, _⟩ := reset_shape isAlpha lower fmt n n' h
  rw [hvm] at hvm'
  injection hvm' with hvm'
  subst hvm'
  subst hn'
  obtain ⟨_, _, hkeys, hnodup, _, _⟩ := varmap_injective isAlpha lower fmt n vm hvm
  simp only [WfReset, Bool.and_eq_true, List.all_eq_true, bne_iff_ne, ne_eq, Bool.not_eq_true',
    List.contains_eq_mem, decide_eq_false_iff_not] at hwf
  obtain ⟨⟨hq, hnews⟩, hiso⟩ := hwf
  have hv : VmOk vm n.vars :=
    { keys := fun x => (hkeys x).symm
      inj := hnodup
      keysQ := hq
      newsOk := fun k nv hg => hnews nv (List.mem_map.2 ⟨(k, nv), mem_of_get? hg, rfl⟩) }
  have hmp : nodeMappable vm n = true :=
    (nodeMappable_iff vm n).2 ⟨hall, fun v hv' => (hkeys v).2 hv'⟩
  exact interpret_ren isAlpha' m vm n md hv hmp hiso

/-- the name clauses of `WfReset` hold whenever the template's literals and the
    lower-casing table produce neither `'~'` nor `'"'` -/
theorem newNames_clean (isAlpha : Char → Bool) (lower : Char → Str) (fmt : Fmt) (n : Node)
    (vm : AList Str Str) (hvm : buildVarmap isAlpha lower fmt n.nodes [] [] = some vm)
    (hf : fmtClean fmt = true) (hl : ∀ c, isAlpha c = true → cleanStr (lower c) = true) :
    (vm.map (·.2)).all (fun nv => !nv.contains '~' && nv.head? != some '"') = true := by
  simp only [List.all_eq_true, List.mem_map, Bool.and_eq_true, Bool.not_eq_true',
    List.contains_eq_mem, decide_eq_false_iff_not, bne_iff_ne, ne_eq]
  rintro nv ⟨e, he, rfl⟩
  obtain ⟨k, hk, rfl⟩ := List.mem_iff_getElem.1 he
  obtain ⟨bs, i, _, h2, _⟩ := (varmap_injective isAlpha lower fmt n vm hvm).2.2.2.2.2 k hk
  rw [h2]
  exact cleanStr_spec (render_clean hf (defaultPrefix_clean hl _) i)

def c10Vm : AList Str Str :=
  [("v1".toList, "v".toList), ("x".toList, "v2".toList), ("y".toList, "v3".toList)]
attribute [eval_unfold] c10Vm

/-- non-vacuity: the sample tree (concept spelled like a variable, aligned
    re-entrancies, quoted string, inverted role, colliding prefixes) satisfies
    every hypothesis of `reset_iso` -/
example : buildVarmap isAsciiAlpha c10Lower [.pre, .j] c10Tree.nodes [] [] = some c10Vm ∧
    (c10Tree.resetVariables isAsciiAlpha c10Lower [.pre, .j]).toBool = true ∧
    WfReset {} c10Vm c10Tree = true ∧
    (interpret isAsciiAlpha {} ⟨c10Tree, []⟩).toBool = true := by eval_decide

/-! ### each clause of `WfReset` is needed (counterexamples, by evaluation) -/

/-- the triples of `interpret (reset t)` and of `rename (interpret t)` -/
def c10Sides (fmt : Fmt) (n : Node) : Option (List Triple) × Option (List Triple) :=
  match buildVarmap isAsciiAlpha c10Lower fmt n.nodes [] [],
        n.resetVariables isAsciiAlpha c10Lower fmt with
  | some vm, .ok n' =>
    ((interpret isAsciiAlpha {} ⟨n', []⟩).toOption.map (·.triples),
     ((interpret isAsciiAlpha {} ⟨n, []⟩).map (renGraph vm)).toOption.map (·.triples))
  | _, _ => (none, none)

/-- (a) a constant spelled like a new name — the property's proviso:
    `(x / foo :ARG0-of f)` becomes `(f / foo :ARG0-of f)`, whose constant `f` now
    reads as a re-entrancy and is deinverted -/
example :
    let t : Node := .mk (some ['x']) (.atom ['/'] (.str "foo".toList)
      (.atom ":ARG0-of".toList (.str ['f']) .nil))
    WfReset {} [(['x'], ['f'])] t = false ∧
    c10Sides [.pre, .j] t =
      (some [⟨['f'], ":instance".toList, .str "foo".toList⟩, ⟨['f'], ":ARG0".toList, .str ['f']⟩],
       some [⟨['f'], ":instance".toList, .str "foo".toList⟩, ⟨['f'], ":ARG0-of".toList, .str ['f']⟩]) := by
  eval_decide

/-- (b) a variable reference on an explicit `:instance` role is relabelled by
    `_map_vars` although, in the graph, an instance target is a concept:
    `(x / A :instance y :ARG0 (y / B))` -/
example :
    let t : Node := .mk (some ['x']) (.atom ['/'] (.str ['A'])
      (.atom ":instance".toList (.str ['y'])
      (.sub ":ARG0".toList (.mk (some ['y']) (.atom ['/'] (.str ['B']) .nil)) .nil)))
    WfReset {} [(['x'], ['a']), (['y'], ['b'])] t = false ∧
    (c10Sides [.pre, .j] t).1 ≠ (c10Sides [.pre, .j] t).2 := by
  decide +kernel

/-- (c) a template whose literal contains `'~'`: the new name `f~0` reads back as
    `f` with an alignment: `(x / foo :ARG0 (y / bar :ARG1 x))` with `{prefix}~{i}` -/
example :
    let t : Node := .mk (some ['x']) (.atom ['/'] (.str "foo".toList)
      (.sub ":ARG0".toList (.mk (some ['y']) (.atom ['/'] (.str "bar".toList)
        (.atom ":ARG1".toList (.str ['x']) .nil))) .nil))
    WfReset {} [(['x'], "f~0".toList), (['y'], "b~0".toList)] t = false ∧
    (c10Sides [.pre, .lit ['~'], .i] t).1 ≠ (c10Sides [.pre, .lit ['~'], .i] t).2 := by
  eval_decide

/-- (d) an old variable starting with `'"'`: `_map_vars` splits the quoted string
    `"a~b"~1` at its first `'~'` and finds the "variable" `"a`:
    `(x / foo :ARG0 "a~b"~1 :ARG1 ("a / bar))` -/
example :
    let t : Node := .mk (some ['x']) (.atom ['/'] (.str "foo".toList)
      (.atom ":ARG0".toList (.str "\"a~b\"~1".toList)
      (.sub ":ARG1".toList (.mk (some "\"a".toList) (.atom ['/'] (.str "bar".toList) .nil)) .nil)))
    WfReset {} [(['x'], ['f']), ("\"a".toList, ['b'])] t = false ∧
    (c10Sides [.pre, .j] t).1 ≠ (c10Sides [.pre, .j] t).2 := by
  eval_decide

end Penman

