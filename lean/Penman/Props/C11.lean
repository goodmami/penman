/-
  # C11 — Edge reification and dereification are mutually inverse

  Property text, clause by clause, and the theorem(s) covering it
  (`m : Model`, `g : Graph` arbitrary unless a hypothesis says otherwise):

  * "every model whose reification table is unambiguous for the roles used"
      `ReifWf m` (decidable table condition), `Unambiguous m r` (decidable);
      `amr_reifWf`, `amr_unambiguous` (36 of the 37 table entries, i.e. every one of the 35 AMR roles but `:superset`),
      `amr_superset_ambiguous`; `noop_reifWf` (no reifications: the no-op case).
  * "every well-formed graph that contains no collapsible reified node"
      `WfGraph g` (decidable), `NoCollapsible m g` (decidable).
  * "reifying all reifiable edges"                    `C11_reify_total` (never raises, ANY graph/model)
  * "leaves no reifiable role"                        `C11_reify_no_reifiable`
  * "introduces only fresh variables"                 `C11_reify_keeps` (fresh, pairwise distinct,
                                                      spelled `_`/`_N`), `C11_reify_fresh_shape`
  * "keeps the top and all other triples"             `C11_reify_keeps` (in-place replacement by
                                                      the three triples, order kept, same top)
  * "dereifying the result restores the original graph"
                                                      `C11_inverse_triples` (triples as lists, top)
  * "down to the identical encoded text, alignments included"
                                                      `C11_inverse_epidata` (marker lists, up to the
                                                      normal form `normEpis`), `normEpis_decoded`
                                                      (identity on decoded-shape lists),
                                                      `C11_text` (identical `configure` tree, hence
                                                      identical `format` text, for every top)
  * "Dereifying never collapses a node that has another relation, is the top,
     or is referenced elsewhere"                      `C11_dereify_guard`, `C11_dereify_removed`

  Hypotheses that the property text leaves implicit and that are NECESSARY
  (each with a counterexample below, all reproduced on the real code):
  * `FreshSafe g` — no constant target spelled `_`, `_2`, …  (`reify_edges` picks
    names fresh w.r.t. the variables only): `(a / x :mod _)`.
  * distinct reifiable triples (marker level only): `(a / x :mod~1 7 :mod 7)`.
  * `PushVars g` — every `Push` names a variable (marker level; `exPushFresh`).
  * `Unambiguous` — finding F4: `(a / x :superset 7)` (since fix F20 the reified
    node is left alone instead of producing `(7 :subset a)`).
  * `HasInst g` — since fix F20 (`exNoNode`).
-/
import Penman.Proofs.Transform
import Penman.Generated
import Penman.Proofs.Eval
namespace Penman
open Generated

/-- A well-formed graph: roles carry their colon and the marker table is a
    dictionary (both true of every Python `Graph`), `Push` markers name
    variables, no constant is spelled like a generated variable, and every
    source has a node (`HasInst`; needed since fix F20: the source of a reified
    relation must still be a variable of the reified graph, `exNoNode`). -/
def WfGraph (g : Graph) : Prop :=
  RolesColon g ∧ EpiKeysNodup g ∧ PushVars g ∧ FreshSafe g ∧ HasInst g

instance (g : Graph) : Decidable (WfGraph g) := by unfold WfGraph; infer_instance

/-- all reifiable roles used in the graph are unambiguous in the model -/
def RolesUnambiguous (m : Model) (g : Graph) : Prop :=
  ∀ t ∈ g.triples, m.isReifiable t.role = true → Unambiguous m t.role

instance (m : Model) (g : Graph) : Decidable (RolesUnambiguous m g) := by
  unfold RolesUnambiguous; infer_instance

/-- the reifiable triples are pairwise distinct -/
def ReifiableNodup (m : Model) (g : Graph) : Prop :=
  (g.triples.filter (fun t => m.isReifiable t.role)).Nodup

instance (m : Model) (g : Graph) : Decidable (ReifiableNodup m g) := by
  unfold ReifiableNodup; infer_instance

/-- the AMR reification table is well formed, and unambiguous for every role but `:superset` -/
theorem amr_reifs_facts : ReifWf amrModel ∧
    (∀ rf ∈ amrModel.reifs, rf.role ≠ ":superset".toList → Unambiguous amrModel rf.role) ∧
    ¬ Unambiguous amrModel ":superset".toList := by eval_decide

theorem amr_reifWf : ReifWf amrModel := amr_reifs_facts.1
theorem noop_reifWf : ReifWf noopModel := by decide +kernel

/-- every reifiable AMR role except `:superset` is unambiguous -/
theorem amr_unambiguous :
    ∀ rf ∈ amrModel.reifs, rf.role ≠ ":superset".toList → Unambiguous amrModel rf.role :=
  amr_reifs_facts.2.1

/-- `:superset` is ambiguous: `include-91` lists `:subset` first, with swapped roles -/
theorem amr_superset_ambiguous : ¬ Unambiguous amrModel ":superset".toList := amr_reifs_facts.2.2

/-- a role that is not reifiable is trivially unambiguous -/
theorem unambiguous_of_not_reifiable {m : Model} {r : Str} (h : m.isReifiable r = false) :
    Unambiguous m r := by
  unfold Unambiguous
  cases hf : m.reifs.find? (·.role = r) with
  | none => trivial
  | some rf => rw [isReifiable_of_find? hf] at h; simp at h

/-- `reify_edges` never raises (for ANY graph and model; `node_contexts` is total
    after fix F19 and the `ModelError` of `Model.reify` is unreachable behind
    the `is_role_reifiable` guard). -/
theorem C11_reify_total (m : Model) (g : Graph) : ∃ g1, reifyEdges m g = .ok g1 :=
  reifyEdges_total m g

/-- **What reification does.** The result is obtained by replacing, in place,
    each reifiable triple `t` by the three triples
    `(v, src_role, t.src) (v, :instance, concept) (v, tgt_role, t.tgt)` of the first
    reification of its role (first and third swapped when `t` appears inverted),
    keeping every other triple; the new variables `v` are pairwise distinct, not
    variables of `g`, spelled `_`/`_N`; the top is kept. -/
theorem C11_reify_keeps {m : Model} {g g1 : Graph} (hm : ReifWf m) (hg : RolesColon g)
    (h : reifyEdges m g = .ok g1) :
    ∃ evs : List Ev, evs.map Ev.orig = g.triples ∧ g1.triples = evs.flatMap Ev.out ∧
      (∀ e ∈ evs, EvOk m g e) ∧ (evs.flatMap Ev.newVar).Nodup ∧
      (∀ v ∈ evs.flatMap Ev.newVar, v ∉ g.variables ∧ isGenName v = true) ∧
      g1.getTop = g.getTop ∧ g1.top = g.getTop ∧ g1.metadata = AList.ofList g.metadata := by
  obtain ⟨rev, st, hrun, ho, rfl⟩ := reifyEdges_ok h
  have hperm := flatMap_reverse_perm rev Ev.newVar
  exact ⟨rev.reverse, ho, reifyResult_triples hm hg hrun, evOk_rev hrun,
    hperm.nodup_iff.mpr (run_newVars hrun).1,
    fun v hv => (run_newVars hrun).2 v (hperm.mem_iff.mp hv), reifyResult_getTop hrun ho, rfl, rfl⟩

/-- each new variable is `freshVar` of the variables of `g` and the earlier new
    variables, i.e. `_` or the first free `_N`, `N ≥ 2` (see `freshVar_shape`) -/
theorem C11_reify_fresh_shape {m : Model} {g : Graph} :
    ∃ evs : List Ev, evs.map Ev.orig = g.triples ∧
      (∃ g1, reifyEdges m g = .ok g1) ∧
      ∀ pre t rf v inv post, evs = pre ++ .reif t rf v inv :: post →
        v = freshVar ((pre.flatMap Ev.newVar).reverse ++ g.variables) := by
  obtain ⟨rev, st, hrun, ho, h'⟩ := reifyEdges_result m g
  refine ⟨rev.reverse, ho, ⟨_, h'⟩, ?_⟩
  intro pre t rf v inv post hevs
  have : rev = post.reverse ++ .reif t rf v inv :: pre.reverse := by
    have := congrArg List.reverse hevs
    simpa using this
  have hs := run_shape hrun post.reverse t rf v inv pre.reverse this
  rw [hs, newVar_reverse]

/-- **No reifiable role is left.** (`RolesColon` is necessary: a role `mod` without
    its colon is not reifiable, but `Graph(...)` turns it into `:mod`.) -/
theorem C11_reify_no_reifiable {m : Model} {g g1 : Graph} (hm : ReifWf m) (hg : RolesColon g)
    (h : reifyEdges m g = .ok g1) : ∀ t ∈ g1.triples, m.isReifiable t.role = false := by
  obtain ⟨evs, _, ht, hok, _⟩ := C11_reify_keeps hm hg h
  intro t1 h1
  rw [ht, List.mem_flatMap] at h1
  obtain ⟨e, he, h1⟩ := h1
  exact ev_out_not_reifiable hm (hok e he) t1 h1

/-- **C11, triples level.** Dereifying the reified graph succeeds and restores
    the triples (as lists) and the top. -/
theorem C11_inverse_triples {m : Model} {g g1 : Graph} (hm : ReifWf m) (hw : WfGraph g)
    (hnc : NoCollapsible m g) (hu : RolesUnambiguous m g) (h1 : reifyEdges m g = .ok g1) :
    ∃ g2, dereifyEdges m g1 = .ok g2 ∧ g2.triples = g.triples ∧ g2.getTop = g.getTop := by
  obtain ⟨hg, hk, hp, hf, hi⟩ := hw
  obtain ⟨rev, st, hrun, ho, rfl⟩ := reifyEdges_ok h1
  obtain ⟨g2, a, b, c, _⟩ := reify_dereify_triples hm hg hk hp hf hi hrun ho hnc hu
  exact ⟨g2, a, b, c⟩

/-- **C11, marker level.** Every non-reifiable triple keeps its marker entry;
    every reified triple gets its marker list back in the normal form `normEpis`
    (last role alignment, alignments, last `Push`, `POP`s). -/
theorem C11_inverse_epidata {m : Model} {g g1 g2 : Graph} (hm : ReifWf m) (hw : WfGraph g)
    (hnc : NoCollapsible m g) (hu : RolesUnambiguous m g) (hnd : ReifiableNodup m g)
    (h1 : reifyEdges m g = .ok g1) (h2 : dereifyEdges m g1 = .ok g2) :
    ∀ k ∈ g.triples, AList.get? g2.epidata k =
      if m.isReifiable k.role then some (normEpis ((AList.get? g.epidata k).getD []))
      else AList.get? g.epidata k := by
  obtain ⟨hg, hk, hp, hf, hi⟩ := hw
  obtain ⟨rev, st, hrun, ho, rfl⟩ := reifyEdges_ok h1
  exact reify_dereify_epidata hm hg hk hp hf hi hrun ho hnc hu hnd h2

/-- the marker lists of the reifiable triples have the shape `interpret` produces -/
def DecodedMarkers (m : Model) (g : Graph) : Prop :=
  ∀ t ∈ g.triples, m.isReifiable t.role = true → DecodedShape ((AList.get? g.epidata t).getD [])

/-- **C11, text level.** For marker lists of the decoded shape the round trip
    gives the identical `configure` tree for every choice of top — hence the
    identical `format` text (`encode = format ∘ configure`). -/
theorem C11_text {m : Model} {g g1 g2 : Graph} (hm : ReifWf m) (hw : WfGraph g)
    (hnc : NoCollapsible m g) (hu : RolesUnambiguous m g) (hnd : ReifiableNodup m g)
    (hds : DecodedMarkers m g) (hmd : (AList.keys g.metadata).Nodup)
    (h1 : reifyEdges m g = .ok g1) (h2 : dereifyEdges m g1 = .ok g2) (top : Option Str) :
    configure m g2 top = configure m g top := by
  have hep := C11_inverse_epidata hm hw hnc hu hnd h1 h2
  obtain ⟨hg, hk, hp, hf, hi⟩ := hw
  obtain ⟨rev, st, hrun, ho, rfl⟩ := reifyEdges_ok h1
  obtain ⟨g2', a, b, c, d⟩ := reify_dereify_triples hm hg hk hp hf hi hrun ho hnc hu
  rw [h2] at a
  simp only [Except.ok.injEq] at a
  subst a
  apply configure_congr m top b (variables_eq_of_top_triples d b) c
  · rw [(dereifyEdges_ok h2).2.2.1]
    show AList.ofList (AList.ofList g.metadata) = g.metadata
    rw [AList.ofList_of_nodup _ hmd, AList.ofList_of_nodup _ hmd]
  · intro t ht
    rw [hep t ht]
    by_cases hr : m.isReifiable t.role = true
    · rw [if_pos hr, Option.getD_some, normEpis_decoded (hds t ht hr)]
    · rw [if_neg hr]

/-- **Guard.** A variable that is the top, or is the target of a relation, or does
    not have exactly two relations is never collapsed by `dereify_edges`: all its
    triples are kept. -/
theorem C11_dereify_guard {m : Model} {g g' : Graph} (h : dereifyEdges m g = .ok g') (x : Str)
    (hx : g.getTop = some x ∨ (∃ t ∈ g.triples, t.role ≠ CONCEPT_ROLE ∧ t.tgt = .str x) ∨
      (otherOf g.triples x).length ≠ 2) :
    ∀ t ∈ g.triples, t.src = x → { t with role := ensureColon t.role } ∈ g'.triples :=
  dereify_guard h x hx

/-- conversely: a triple that disappears belonged to a node that is not the top,
    is not referenced and has exactly two relations -/
theorem C11_dereify_removed {m : Model} {g g' : Graph} (h : dereifyEdges m g = .ok g') (t : Triple)
    (ht : t ∈ g.triples) (hgone : { t with role := ensureColon t.role } ∉ g'.triples) :
    g.getTop ≠ some t.src ∧ (∀ t' ∈ g.triples, t'.role ≠ CONCEPT_ROLE → t'.tgt ≠ .str t.src) ∧
      (otherOf g.triples t.src).length = 2 :=
  dereify_removed h t ht hgone

/-- `dereify_edges` is total: it never raises, for any graph and model (after
    fix F20 a node whose dereified triple would get a non-variable source is
    left alone) -/
theorem C11_dereify_total (m : Model) (g : Graph) : ∃ g', dereifyEdges m g = .ok g' :=
  dereifyEdges_total m g

/-- the source of every triple `dereify_edges` creates is a variable of the graph -/
theorem C11_dereify_src_var {m : Model} {g : Graph} {x : Str} {ag : Agenda}
    (h : collapseOf m g x = some ag) : ag.dereified.src ∈ g.variables :=
  (collapseOf_some h).2.2.2.2

section Examples

private def tr (s r t : String) : Triple := ⟨s.toList, r.toList, .str t.toList⟩

attribute [eval_unfold] tr

/-- `(c / chapter :mod~1 7~2)` as decoded: alignments on the reifiable triple -/
def exChapter : Graph :=
  Graph.mk' [tr "c" ":instance" "chapter", tr "c" ":mod" "7"] (some "c".toList)
    [(tr "c" ":instance" "chapter", []), (tr "c" ":mod" "7", [.roleAln none [1], .aln none [2]])] []
attribute [eval_unfold] exChapter

theorem exChapter_facts : WfGraph exChapter ∧ RolesUnambiguous amrModel exChapter ∧
    ReifiableNodup amrModel exChapter ∧
    (reifyEdges amrModel exChapter).toOption.map (·.triples) =
      some [tr "c" ":instance" "chapter", tr "_" ":ARG1" "c", tr "_" ":instance" "have-mod-91",
        tr "_" ":ARG2" "7"] ∧
    ((reifyEdges amrModel exChapter >>= dereifyEdges amrModel).toOption.map
      fun g2 => (g2.triples, AList.get? g2.epidata (tr "c" ":mod" "7"))) =
      some (exChapter.triples, some [.roleAln none [1], .aln none [2]]) := by eval_decide

example : WfGraph exChapter := exChapter_facts.1
example : NoCollapsible amrModel exChapter := by decide +kernel
example : RolesUnambiguous amrModel exChapter := exChapter_facts.2.1
example : ReifiableNodup amrModel exChapter := exChapter_facts.2.2.1

/-- the reified graph: `(c / chapter :ARG1-of (_ / have-mod-91~1 :ARG2 7~2))` -/
example : (reifyEdges amrModel exChapter).toOption.map (·.triples) =
    some [tr "c" ":instance" "chapter", tr "_" ":ARG1" "c", tr "_" ":instance" "have-mod-91",
      tr "_" ":ARG2" "7"] := exChapter_facts.2.2.2.1

/-- round trip on the example: triples and the markers of `(c :mod 7)` -/
example : ((reifyEdges amrModel exChapter >>= dereifyEdges amrModel).toOption.map
      fun g2 => (g2.triples, AList.get? g2.epidata (tr "c" ":mod" "7"))) =
    some (exChapter.triples, some [.roleAln none [1], .aln none [2]]) := exChapter_facts.2.2.2.2

/-- an inverted reifiable edge with pre-existing variables `_` and `_2`:
    `(_ / x :mod-of (_2 / y))`, decoded as `(_2 :mod _)` with `Push(_2)` -/
def exInverted : Graph :=
  Graph.mk' [tr "_" ":instance" "x", tr "_2" ":mod" "_", tr "_2" ":instance" "y"] (some "_".toList)
    [(tr "_" ":instance" "x", []), (tr "_2" ":mod" "_", [.push "_2".toList]),
     (tr "_2" ":instance" "y", [.pop])] []
attribute [eval_unfold] exInverted

theorem exInverted_facts : (WfGraph exInverted ∧ NoCollapsible amrModel exInverted ∧
      RolesUnambiguous amrModel exInverted ∧ ReifiableNodup amrModel exInverted) ∧
    ((reifyEdges amrModel exInverted).toOption.map (·.triples)) =
      some [tr "_" ":instance" "x", tr "_3" ":ARG2" "_", tr "_3" ":instance" "have-mod-91",
        tr "_3" ":ARG1" "_2", tr "_2" ":instance" "y"] ∧
    ((reifyEdges amrModel exInverted >>= dereifyEdges amrModel).toOption.map
      fun g2 => (g2.triples, AList.get? g2.epidata (tr "_2" ":mod" "_"))) =
      some (exInverted.triples, some [.push "_2".toList]) := by eval_decide

example : WfGraph exInverted ∧ NoCollapsible amrModel exInverted ∧
    RolesUnambiguous amrModel exInverted ∧ ReifiableNodup amrModel exInverted := exInverted_facts.1

example : ((reifyEdges amrModel exInverted).toOption.map (·.triples)) =
    some [tr "_" ":instance" "x", tr "_3" ":ARG2" "_", tr "_3" ":instance" "have-mod-91",
      tr "_3" ":ARG1" "_2", tr "_2" ":instance" "y"] := exInverted_facts.2.1

example : ((reifyEdges amrModel exInverted >>= dereifyEdges amrModel).toOption.map
      fun g2 => (g2.triples, AList.get? g2.epidata (tr "_2" ":mod" "_"))) =
    some (exInverted.triples, some [.push "_2".toList]) := exInverted_facts.2.2

/-- **F4.** `(a / x :superset 7)`: the hypothesis `Unambiguous` fails. Without fix
    F20 the round trip yields `(7 :subset a)`; with it the dereified source `7` is
    not a variable, so the reified node is LEFT ALONE: dereify is the identity on
    the reified graph, and the round trip is still not the identity. -/
def exSuperset : Graph :=
  Graph.mk' [tr "a" ":instance" "x", tr "a" ":superset" "7"] (some "a".toList) [] []
attribute [eval_unfold] exSuperset

theorem exSuperset_facts :
    (WfGraph exSuperset ∧ NoCollapsible amrModel exSuperset ∧
    ¬ RolesUnambiguous amrModel exSuperset) ∧
    (((reifyEdges amrModel exSuperset >>= dereifyEdges amrModel).toOption.map (·.triples)) =
    (reifyEdges amrModel exSuperset).toOption.map (·.triples)) ∧
    (((reifyEdges amrModel exSuperset >>= dereifyEdges amrModel).toOption.map (·.triples)) =
    some [tr "a" ":instance" "x", tr "_" ":ARG1" "a", tr "_" ":instance" "include-91",
      tr "_" ":ARG2" "7"]) := by eval_decide

example : WfGraph exSuperset ∧ NoCollapsible amrModel exSuperset ∧
    ¬ RolesUnambiguous amrModel exSuperset := exSuperset_facts.1
example : ((reifyEdges amrModel exSuperset >>= dereifyEdges amrModel).toOption.map (·.triples)) =
    (reifyEdges amrModel exSuperset).toOption.map (·.triples) := exSuperset_facts.2.1
example : ((reifyEdges amrModel exSuperset >>= dereifyEdges amrModel).toOption.map (·.triples)) =
    some [tr "a" ":instance" "x", tr "_" ":ARG1" "a", tr "_" ":instance" "include-91",
      tr "_" ":ARG2" "7"] := exSuperset_facts.2.2

/-- **`FreshSafe` is necessary.** `(a / x :mod _)`: the constant `_` becomes a
    reference to the new node `_`, which is then "referenced elsewhere" and is
    not collapsed: dereifying does not restore the graph. -/
def exUnderscore : Graph :=
  Graph.mk' [tr "a" ":instance" "x", tr "a" ":mod" "_"] (some "a".toList) [] []
attribute [eval_unfold] exUnderscore

theorem exUnderscore_facts :
    (¬ FreshSafe exUnderscore ∧ RolesColon exUnderscore ∧ EpiKeysNodup exUnderscore ∧
    PushVars exUnderscore ∧ HasInst exUnderscore ∧ NoCollapsible amrModel exUnderscore ∧
    RolesUnambiguous amrModel exUnderscore) ∧
    (((reifyEdges amrModel exUnderscore >>= dereifyEdges amrModel).toOption.map (·.triples)) =
    some [tr "a" ":instance" "x", tr "_" ":ARG1" "a", tr "_" ":instance" "have-mod-91",
      tr "_" ":ARG2" "_"]) := by eval_decide

example : ¬ FreshSafe exUnderscore ∧ RolesColon exUnderscore ∧ EpiKeysNodup exUnderscore ∧
    PushVars exUnderscore ∧ HasInst exUnderscore ∧ NoCollapsible amrModel exUnderscore ∧
    RolesUnambiguous amrModel exUnderscore := exUnderscore_facts.1
example : ((reifyEdges amrModel exUnderscore >>= dereifyEdges amrModel).toOption.map (·.triples)) =
    some [tr "a" ":instance" "x", tr "_" ":ARG1" "a", tr "_" ":instance" "have-mod-91",
      tr "_" ":ARG2" "_"] := exUnderscore_facts.2

/-- **Distinct reifiable triples are necessary at the marker level.**
    `(a / x :mod~1 7 :mod 7)`: the triples come back, the alignment does not. -/
def exDuplicate : Graph :=
  Graph.mk' [tr "a" ":instance" "x", tr "a" ":mod" "7", tr "a" ":mod" "7"] (some "a".toList)
    [(tr "a" ":mod" "7", [.roleAln none [1]])] []
attribute [eval_unfold] exDuplicate

theorem exDuplicate_facts :
    (WfGraph exDuplicate ∧ NoCollapsible amrModel exDuplicate ∧
    RolesUnambiguous amrModel exDuplicate ∧ ¬ ReifiableNodup amrModel exDuplicate) ∧
    (((reifyEdges amrModel exDuplicate >>= dereifyEdges amrModel).toOption.map
      fun g2 => (g2.triples, AList.get? g2.epidata (tr "a" ":mod" "7"))) =
    some (exDuplicate.triples, some [])) := by eval_decide

example : WfGraph exDuplicate ∧ NoCollapsible amrModel exDuplicate ∧
    RolesUnambiguous amrModel exDuplicate ∧ ¬ ReifiableNodup amrModel exDuplicate := exDuplicate_facts.1
example : ((reifyEdges amrModel exDuplicate >>= dereifyEdges amrModel).toOption.map
      fun g2 => (g2.triples, AList.get? g2.epidata (tr "a" ":mod" "7"))) =
    some (exDuplicate.triples, some []) := exDuplicate_facts.2

/-- **`HasInst` is necessary (since fix F20).** `a` has no node and is not the
    top: after reification `a` is no longer a variable, so the new node is left
    alone by `dereify_edges`. -/
def exNoNode : Graph :=
  Graph.mk' [tr "b" ":instance" "y", tr "a" ":mod" "7"] (some "b".toList) [] []
attribute [eval_unfold] exNoNode

theorem exNoNode_facts :
    (¬ HasInst exNoNode ∧ RolesColon exNoNode ∧ EpiKeysNodup exNoNode ∧ PushVars exNoNode ∧
    FreshSafe exNoNode ∧ NoCollapsible amrModel exNoNode ∧ RolesUnambiguous amrModel exNoNode) ∧
    (((reifyEdges amrModel exNoNode >>= dereifyEdges amrModel).toOption.map (·.triples)) =
    some [tr "b" ":instance" "y", tr "_" ":ARG1" "a", tr "_" ":instance" "have-mod-91",
      tr "_" ":ARG2" "7"]) := by eval_decide

example : ¬ HasInst exNoNode ∧ RolesColon exNoNode ∧ EpiKeysNodup exNoNode ∧ PushVars exNoNode ∧
    FreshSafe exNoNode ∧ NoCollapsible amrModel exNoNode ∧ RolesUnambiguous amrModel exNoNode := exNoNode_facts.1
example : ((reifyEdges amrModel exNoNode >>= dereifyEdges amrModel).toOption.map (·.triples)) =
    some [tr "b" ":instance" "y", tr "_" ":ARG1" "a", tr "_" ":instance" "have-mod-91",
      tr "_" ":ARG2" "7"] := exNoNode_facts.2

/-- **`PushVars` is necessary at the marker level.** A `Push` naming the (not yet
    existing) variable `_` on the reifiable triple makes the agenda pick the wrong
    "second" triple: the triples come back, the alignment `~3` is lost. -/
def exPushFresh : Graph :=
  Graph.mk' [tr "a" ":instance" "x", tr "a" ":mod" "7"] (some "a".toList)
    [(tr "a" ":mod" "7", [.aln none [3], .push "_".toList])] []
attribute [eval_unfold] exPushFresh

theorem exPushFresh_facts :
    (¬ PushVars exPushFresh ∧ RolesColon exPushFresh ∧ EpiKeysNodup exPushFresh ∧
    FreshSafe exPushFresh ∧ HasInst exPushFresh ∧ NoCollapsible amrModel exPushFresh ∧
    RolesUnambiguous amrModel exPushFresh ∧ ReifiableNodup amrModel exPushFresh) ∧
    (((reifyEdges amrModel exPushFresh >>= dereifyEdges amrModel).toOption.map
      fun g2 => (g2.triples, AList.get? g2.epidata (tr "a" ":mod" "7"))) =
    some (exPushFresh.triples, some [.push "_".toList])) := by eval_decide

example : ¬ PushVars exPushFresh ∧ RolesColon exPushFresh ∧ EpiKeysNodup exPushFresh ∧
    FreshSafe exPushFresh ∧ HasInst exPushFresh ∧ NoCollapsible amrModel exPushFresh ∧
    RolesUnambiguous amrModel exPushFresh ∧ ReifiableNodup amrModel exPushFresh := exPushFresh_facts.1
example : ((reifyEdges amrModel exPushFresh >>= dereifyEdges amrModel).toOption.map
      fun g2 => (g2.triples, AList.get? g2.epidata (tr "a" ":mod" "7"))) =
    some (exPushFresh.triples, some [.push "_".toList]) := exPushFresh_facts.2

/-- the guard: the top `v` of `(v / have-mod-91 :ARG1 a :ARG2 7)` is not collapsed -/
def exTop : Graph :=
  Graph.mk' [tr "v" ":instance" "have-mod-91", tr "v" ":ARG1" "a", tr "v" ":ARG2" "7"]
    (some "v".toList) [] []

example : (dereifyEdges amrModel exTop).toOption.map (·.triples) = some exTop.triples := by decide +kernel

end Examples

end Penman
