/-
  # C12 — Every transformation returns a well-formed graph that serialises faithfully

  Property text, clause by clause, and the theorem(s) covering it:

  * "Each graph transformation (reify edges, dereify edges, reify attributes,
     indicate branches) … accepts any well-formed connected graph … without raising"
        `C12_reifyEdges`, `C12_dereifyEdges`, `C12_reifyAttributes` (no side condition;
        `reify_edges`, `dereify_edges`, `reify_attributes` are TOTAL on all graphs:
        `C11_reify_total`, `C12_dereifyEdges_total`),
        `C12_indicateBranches` (side condition `PushSrcOk`);
        `C12_no_python_error` : for ANY graph the only possible failure is the
        `AssertionError` of `indicate_branches` (exactly when `BranchErr`);
        `C12_markerless` : none of the four fails on a graph without markers
        ("hand-built without markers").
  * "returns a graph with the same top that is again well-formed and connected:
     every source is a variable with a node"
        the same four theorems: `WfC g'` (= `RolesColon ∧ HasInst ∧ Connected`)
        and `g'.getTop = g.getTop`.
  * "and every composition of them"            `C12_program` (any program; the side
        condition `PushSrcOk` must hold on the graph each `indicateBranches` step is
        applied to — a decidable predicate; programs without `indicateBranches`
        need none: `C12_program_no_branches`)
  * "it encodes without error"                  `C12_encodes` (see below)
  * "Reifying attributes leaves no attribute"   `C12_attributes_none`
  * "contracting the new nodes gives back the original triples"
                                                `C12_attributes_contract`, `C12_attributes_fresh`
  * "indicating branches adds exactly one top-role triple per nested node"
                                                `C12_branches_shape`, `C12_branches_count`,
                                                `C12_branches_count_push` (under `PushWf`)
  * "removing them gives back the original"     `C12_branches_remove`

  * "and decodes to itself"                     `C12dec.C12_decodes`, `C12dec.C12_decodes_program`
        (`Props/C12dec.lean`: at the level of text, under `Hyps` and the side conditions `SideDec`)

  Hypotheses the property text leaves implicit (counterexamples below):
  * `indicate_branches` on a `Push` that names the source of a relation whose
    target is a constant creates a source without a node, and raises
    `AssertionError` if that target is not a string. Hence `PushSrcOk`.
  * "removing the top-role triples gives back the original" needs an input
    without top-role triples (`exTopIn`).
  * "one top-role triple per nested node" needs `PushWf` (`exPushOdd`).
  * `reify_edges` on a graph whose top has no instance triple loses the top as a
    source (`exNoInst`): `HasInst` is needed for connectivity.
  * finding F4': without fix F20 `dereify_edges` turns the constant `7` of
    `(a / x :ARG2-of (v / have-mod-91 :ARG1 7))` into a source; with it the node is left alone
    (`exF4'`).
-/
import Penman.Proofs.Transform
import Penman.Generated
import Penman.Proofs.Eval
namespace Penman
open Generated

/-- `reify_edges`: total, well-formedness, connectivity and top preserved -/
theorem C12_reifyEdges {m : Model} (hm : ReifWf m) (g : Graph) (hw : WfC g) :
    ∃ g', reifyEdges m g = .ok g' ∧ WfC g' ∧ g'.getTop = g.getTop :=
  reifyEdges_wfc hm g hw

/-- `reify_attributes`: pure, well-formedness, connectivity and top preserved -/
theorem C12_reifyAttributes (g : Graph) (hw : WfC g) :
    WfC (reifyAttributes g) ∧ (reifyAttributes g).getTop = g.getTop :=
  reifyAttributes_wfc g hw

/-- `dereify_edges`: total; well-formedness, connectivity and top preserved for
    every well-formed connected graph (after fix F20 the source of every
    dereified triple is a variable of the graph, hence a node) -/
theorem C12_dereifyEdges {m : Model} (hm : ReifWf m) (g : Graph) (hw : WfC g) :
    ∃ g', dereifyEdges m g = .ok g' ∧ WfC g' ∧ g'.getTop = g.getTop :=
  dereifyEdges_wfc hm g hw

/-- `dereify_edges` never raises, for any graph and model -/
theorem C12_dereifyEdges_total (m : Model) (g : Graph) : ∃ g', dereifyEdges m g = .ok g' :=
  dereifyEdges_total m g

/-- the top is kept by `dereify_edges` whenever it succeeds (no hypothesis) -/
theorem C12_dereifyEdges_top {m : Model} {g g' : Graph} (h : dereifyEdges m g = .ok g') :
    g'.getTop = g.getTop := dereifyEdges_getTop h

/-- `indicate_branches`: under the side condition it succeeds and preserves
    well-formedness, connectivity and top -/
theorem C12_indicateBranches {m : Model} (htr : TopRoleOk m) (g : Graph) (hw : WfC g)
    (hs : PushSrcOk g) :
    ∃ g', indicateBranches m g = .ok g' ∧ WfC g' ∧ g'.getTop = g.getTop :=
  indicateBranches_wfc htr g hw hs

/-- For ANY graph and model, the only step that can fail is `indicate_branches`,
    with its `AssertionError`, exactly on a triple whose first `Push` names its
    source while its target is not a string. `reify_edges`, `dereify_edges` and
    `reify_attributes` are total. -/
theorem C12_no_python_error {m : Model} {x : Xf} {g : Graph} {e : PyErr} (h : x.run m g = .error e) :
    x = .indicateBranches ∧ e = .other "AssertionError" ∧ ∃ t ∈ g.triples, BranchErr g t :=
  step_error h

/-- On a graph without markers none of the four transformations fails
    (`indicate_branches` inserts nothing there: `branchIns_markerless`). -/
theorem C12_markerless {m : Model} {g : Graph} (hep : g.epidata = []) (x : Xf) :
    ∃ g', x.run m g = .ok g' := by
  cases h : x.run m g with
  | ok g' => exact ⟨g', rfl⟩
  | error e =>
    obtain ⟨_, _, t, _, hb⟩ := step_error h
    exact absurd hb (branchIns_markerless (m := m) hep t).2

/-- **Every program of transformations** maps a well-formed connected graph to a
    well-formed connected graph with the same top, without raising, provided
    `PushSrcOk` holds on the graph each `indicateBranches` step is applied to
    (`SideAlong`; the other three steps have no side condition). No restriction on
    how often `indicateBranches` occurs is needed for these clauses. -/
theorem C12_program {m : Model} (hm : ReifWf m) (htr : TopRoleOk m) (p : List Xf) (g : Graph)
    (hw : WfC g) (hs : SideAlong m p g) :
    ∃ g', runProg m p g = .ok g' ∧ WfC g' ∧ g'.getTop = g.getTop :=
  prog_wfc hm htr p g hw hs

/-- programs without `indicateBranches` need no side condition -/
theorem C12_program_no_branches {m : Model} (hm : ReifWf m) (htr : TopRoleOk m) (p : List Xf)
    (hp : ∀ x ∈ p, x ≠ .indicateBranches) (g : Graph) (hw : WfC g) :
    ∃ g', runProg m p g = .ok g' ∧ WfC g' ∧ g'.getTop = g.getTop := by
  apply prog_wfc hm htr p g hw
  clear hw
  induction p generalizing g with
  | nil => trivial
  | cons x r ih =>
    refine ⟨?_, fun g' _ => ih (fun y hy => hp y (by simp [hy])) g'⟩
    have := hp x (by simp)
    cases x <;> first | trivial | exact absurd rfl this

/-- every role of the AMR reification table (and `:TOP`) is a declared role other than `:instance` -/
theorem amr_roles_declared :
    ∀ r ∈ C12dec.tableRoles amrModel, amrModel.hasRole1 r = true ∧ r ≠ CONCEPT_ROLE := by
  eval_decide [C12dec.tableRoles]

theorem amr_tableInvOK : TableInvOK amrModel := tableInvOK_of_declared amr_roles_declared
theorem noop_tableInvOK : TableInvOK noopModel := by decide +kernel

/-- a graph that is well-formed, connected, has string targets and no role
    inverting to `:instance` encodes: `configure` succeeds (by C06's
    `configure_complete`) -/
theorem C12_encOK_configure {m : Model} {g : Graph} (h : EncOK m g) :
    ∃ T, configure m g none = .ok T := encOK_configure h

/-- **"it encodes without error".** Every program of transformations maps a
    graph satisfying `EncOK` (well-formed, connected, relation targets are
    strings, no role inverts to `:instance`) to a graph that again satisfies
    `EncOK` — in particular `configure` succeeds on the result — provided the
    model's tables are sane (`ReifWf`, `TopRoleOk`, `TableInvOK`, all decidable and
    true of the AMR and no-op models) and `PushSrcOk` holds where
    `indicateBranches` is applied. -/
theorem C12_encodes {m : Model} (hm : ReifWf m) (htr : TopRoleOk m) (hti : TableInvOK m)
    (p : List Xf) (g : Graph) (he : EncOK m g) (hs : SideAlong m p g) :
    ∃ g' T, runProg m p g = .ok g' ∧ EncOK m g' ∧ g'.getTop = g.getTop ∧
      configure m g' none = .ok T := by
  obtain ⟨g', h1, h2, h3⟩ := prog_encOK hm htr hti p g he hs
  obtain ⟨T, hT⟩ := encOK_configure h2
  exact ⟨g', T, h1, h2, h3, hT⟩

/-- the same for one step, under its side condition on the graph it is applied to -/
theorem C12_encodes_step {m : Model} (hm : ReifWf m) (htr : TopRoleOk m) (hti : TableInvOK m)
    (x : Xf) (g : Graph) (he : EncOK m g) (hs : x.Side g) :
    ∃ g' T, x.run m g = .ok g' ∧ EncOK m g' ∧ configure m g' none = .ok T := by
  obtain ⟨g', h1, h2, _⟩ := step_encOK hm htr hti x g he hs
  obtain ⟨T, hT⟩ := encOK_configure h2
  exact ⟨g', T, h1, h2, hT⟩

/-- **No attribute is left** (for ANY graph). -/
theorem C12_attributes_none (g : Graph) : (reifyAttributes g).attributes = [] :=
  reifyAttributes_no_attributes g

/-- **Contracting the new nodes gives back the original triples**: every pair
    `(s, r, v), (v, :instance, c)` with `v` not a variable of `g` ↦ `(s, r, c)`. -/
theorem C12_attributes_contract (g : Graph) (hg : RolesColon g) :
    contractAttrs (fun v => decide (v ∉ g.variables)) (reifyAttributes g).triples = g.triples :=
  reifyAttributes_contract g hg

/-- the shape of the result: in-place replacement of each attribute by the two
    triples; the new variables are pairwise distinct and fresh -/
theorem C12_attributes_fresh (g : Graph) :
    ∃ evs : List AEv, evs.map AEv.orig = g.triples ∧
      (reifyAttributes g).triples =
        (evs.flatMap AEv.out).map (fun t => { t with role := ensureColon t.role }) ∧
      (evs.flatMap AEv.newVar).Nodup ∧ (∀ v ∈ evs.flatMap AEv.newVar, v ∉ g.variables) ∧
      (∀ e ∈ evs, AEvOk g (evs.flatMap AEv.newVar ++ g.variables) e) :=
  reifyAttributes_triples g

/-- **Shape**: the result is the input with `branchIns m g t` inserted directly
    before each triple `t`, where `branchIns` is empty, or the single triple
    `(t.src, topRole, t.tgt)` when the first `Push` of `t` names its target, or
    `(s, topRole, t.src)` when it names its source and `t.tgt = s` is a string. -/
theorem C12_branches_shape {m : Model} {g g' : Graph} (h : indicateBranches m g = .ok g') :
    g'.triples = (g.triples.flatMap (fun t => branchIns m g t ++ [t])).map
        (fun t => { t with role := ensureColon t.role }) ∧
    ∀ t, (branchIns m g t = [] ∧
        ¬ (∃ pv, getPushedVariable g t = some pv ∧
            (Atom.str pv = t.tgt ∨ (pv = t.src ∧ ∃ s, t.tgt = .str s)))) ∨
      (branchIns m g t = [⟨t.src, m.topRole, t.tgt⟩] ∧
        ∃ pv, getPushedVariable g t = some pv ∧ Atom.str pv = t.tgt) ∨
      (∃ s, t.tgt = .str s ∧ branchIns m g t = [⟨s, m.topRole, .str t.src⟩] ∧
        getPushedVariable g t = some t.src ∧ Atom.str t.src ≠ t.tgt) :=
  ⟨(indicateBranches_ok h).1, branchIns_spec m g⟩

/-- **Removing the top-role triples gives back the original** (input without
    top-role triples). -/
theorem C12_branches_remove {m : Model} {g g' : Graph} (h : indicateBranches m g = .ok g')
    (htr : TopRoleOk m) (hg : RolesColon g) (hno : ∀ t ∈ g.triples, t.role ≠ m.topRole) :
    g'.triples.filter (fun t => t.role ≠ m.topRole) = g.triples :=
  (indicateBranches_filter h htr.1 hg hno).1

/-- **Exactly one top-role triple is added per triple for which `branchIns` is not empty.** -/
theorem C12_branches_count {m : Model} {g g' : Graph} (h : indicateBranches m g = .ok g')
    (htr : TopRoleOk m) (hg : RolesColon g) (hno : ∀ t ∈ g.triples, t.role ≠ m.topRole) :
    (g'.triples.filter (fun t => t.role = m.topRole)).length =
      (g.triples.filter (fun t => branchIns m g t ≠ [])).length :=
  (indicateBranches_filter h htr.1 hg hno).2

/-- when the `Push` markers sit on relations and name an end of their triple
    (`PushWf`), the number of top-role triples added is the number of triples
    carrying a `Push`, i.e. one per nested node -/
theorem C12_branches_count_push {m : Model} {g g' : Graph} (h : indicateBranches m g = .ok g')
    (htr : TopRoleOk m) (hg : RolesColon g) (hno : ∀ t ∈ g.triples, t.role ≠ m.topRole)
    (hw : PushWf g) :
    (g'.triples.filter (fun t => t.role = m.topRole)).length =
      (g.triples.filter (fun t => (getPushedVariable g t).isSome)).length := by
  rw [C12_branches_count h htr hg hno]
  congr 1
  apply List.filter_congr
  intro t ht
  have hb := indicateBranches_ok_iff.mp ⟨g', h⟩ t ht
  have := branchIns_ne_nil_iff (m := m) hw ht hb
  by_cases hp : (getPushedVariable g t).isSome = true
  · simp [hp, this.mpr hp]
  · have hn : ¬ branchIns m g t ≠ [] := fun hne => hp (this.mp hne)
    simp only [ne_eq, Decidable.not_not] at hn
    simp [hp, hn]

section Examples

private def tr (s r t : String) : Triple := ⟨s.toList, r.toList, .str t.toList⟩

attribute [eval_unfold] tr

example : TopRoleOk amrModel ∧ TopRoleOk noopModel := by decide +kernel

/-- `(w / want-01 :ARG0 (b / boy) :mod 7)` as decoded -/
def exWant : Graph :=
  Graph.mk' [tr "w" ":instance" "want-01", tr "w" ":ARG0" "b", tr "b" ":instance" "boy",
      tr "w" ":mod" "7"] (some "w".toList)
    [(tr "w" ":instance" "want-01", []), (tr "w" ":ARG0" "b", [.push "b".toList]),
     (tr "b" ":instance" "boy", [.pop]), (tr "w" ":mod" "7", [])] []
attribute [eval_unfold] exWant

theorem exWant_wfc : WfC exWant := by
  refine ⟨by decide, by decide, "w".toList, by decide,
    ⟨tr "w" ":instance" "want-01", by decide, rfl⟩, ?_⟩
  have hb : Reach exWant "w".toList "b".toList :=
    Reach.single ⟨tr "w" ":ARG0" "b", by decide, by decide, Or.inl ⟨rfl, rfl⟩⟩
      ⟨tr "b" ":instance" "boy", by decide, rfl⟩
  intro t ht
  have : t.src = "w".toList ∨ t.src = "b".toList := by
    revert t; decide
  rcases this with h | h <;> rw [h]
  · exact Reach.refl
  · exact hb

example : PushSrcOk exWant ∧ PushWf exWant ∧
    (∀ t ∈ exWant.triples, t.role ≠ amrModel.topRole) := by decide +kernel

/-- **`PushWf` is necessary for "one top-role triple per nested node".** A `Push`
    that names neither end of its triple gets no top-role triple; a `Push` on an
    instance triple gets one that points to the concept. -/
def exPushOdd : Graph :=
  Graph.mk' [tr "a" ":instance" "x", tr "a" ":mod" "7"] (some "a".toList)
    [(tr "a" ":instance" "x", [.push "x".toList]), (tr "a" ":mod" "7", [.push "b".toList])] []
attribute [eval_unfold] exPushOdd

example : ¬ PushWf exPushOdd ∧ PushSrcOk exPushOdd := by eval_decide
example : (indicateBranches amrModel exPushOdd).toOption.map (·.triples) =
    some [tr "a" ":TOP" "x", tr "a" ":instance" "x", tr "a" ":mod" "7"] := by decide +kernel

theorem exWant_pipeline : StrTargets exWant ∧ Cfg.NoInstOf amrModel exWant ∧
    PushSrcOk (reifyAttributes ((reifyEdges amrModel exWant).toOption.getD default)) ∧
    ((runProg amrModel [.reifyEdges, .reifyAttributes, .indicateBranches] exWant).toOption.map
      (·.triples)) =
    some [tr "w" ":instance" "want-01", tr "w" ":TOP" "b", tr "w" ":ARG0" "b", tr "b" ":instance" "boy",
      tr "w" ":TOP" "_", tr "_" ":ARG1" "w", tr "_" ":instance" "have-mod-91",
      tr "_" ":TOP" "_2", tr "_" ":ARG2" "_2", tr "_2" ":instance" "7"] := by eval_decide

example : EncOK amrModel exWant := ⟨exWant_wfc, exWant_pipeline.1, exWant_pipeline.2.1⟩

/-- the whole command-line pipeline applies to `exWant` -/
example : SideAlong amrModel [.reifyEdges, .reifyAttributes, .indicateBranches] exWant := by
  refine ⟨trivial, fun g1 h1 => ⟨trivial, fun g2 h2 => ⟨?_, fun _ _ => trivial⟩⟩⟩
  have e1 : g1 = (reifyEdges amrModel exWant).toOption.getD default := by
    simp only [Xf.run] at h1; rw [h1]; rfl
  simp only [Xf.run, Except.ok.injEq] at h2
  subst h2
  rw [e1]
  exact exWant_pipeline.2.2.1

example : ((runProg amrModel [.reifyEdges, .reifyAttributes, .indicateBranches] exWant).toOption.map
    (·.triples)) =
    some [tr "w" ":instance" "want-01", tr "w" ":TOP" "b", tr "w" ":ARG0" "b", tr "b" ":instance" "boy",
      tr "w" ":TOP" "_", tr "_" ":ARG1" "w", tr "_" ":instance" "have-mod-91",
      tr "_" ":TOP" "_2", tr "_" ":ARG2" "_2", tr "_2" ":instance" "7"] := exWant_pipeline.2.2.2

example : (reifyAttributes exWant).triples =
    [tr "w" ":instance" "want-01", tr "w" ":ARG0" "b", tr "b" ":instance" "boy", tr "w" ":mod" "_",
      tr "_" ":instance" "7"] := by eval_decide

/-- **F4' (fix F20).** `(a / x :ARG2-of (v / have-mod-91 :ARG1 7))`:
    without the fix `dereify_edges` returns `(a / x) (7 :mod a)`, whose source `7`
    has no node; with it `7` is not a variable, the node `v` is left alone and
    `dereify_edges` is the identity on the graph. -/
def exF4' : Graph :=
  Graph.mk' [tr "a" ":instance" "x", tr "v" ":ARG2" "a", tr "v" ":instance" "have-mod-91",
    tr "v" ":ARG1" "7"] (some "a".toList) [] []
attribute [eval_unfold] exF4'

theorem exF4'_facts :
    (RolesColon exF4' ∧ HasInst exF4') ∧
    ((dereifyEdges amrModel exF4').toOption.map (·.triples) = some exF4'.triples) ∧
    (((dereifyEdges amrModel exF4').toOption.map fun g' => decide (HasInst g')) = some true) := by eval_decide

example : RolesColon exF4' ∧ HasInst exF4' := exF4'_facts.1
example : (dereifyEdges amrModel exF4').toOption.map (·.triples) = some exF4'.triples := exF4'_facts.2.1
example : ((dereifyEdges amrModel exF4').toOption.map fun g' => decide (HasInst g')) = some true := exF4'_facts.2.2

/-- the same node with a variable as `:ARG1` IS collapsed (inverted orientation) -/
def exF4ok : Graph :=
  Graph.mk' [tr "a" ":instance" "x", tr "v" ":ARG2" "a", tr "v" ":instance" "have-mod-91",
    tr "v" ":ARG1" "b", tr "b" ":instance" "y"] (some "a".toList) [] []
attribute [eval_unfold] exF4ok

example : (dereifyEdges amrModel exF4ok).toOption.map (·.triples) =
    some [tr "a" ":instance" "x", tr "b" ":mod" "a", tr "b" ":instance" "y"] := by eval_decide

/-- **`PushSrcOk` is necessary.** A `Push` naming the source of an attribute:
    `indicate_branches` makes the constant `k` a source without a node … -/
def exPushSrc : Graph :=
  Graph.mk' [tr "a" ":instance" "x", tr "a" ":mod" "k"] (some "a".toList)
    [(tr "a" ":mod" "k", [.push "a".toList])] []
attribute [eval_unfold] exPushSrc

example : RolesColon exPushSrc ∧ HasInst exPushSrc ∧ ¬ PushSrcOk exPushSrc := by eval_decide
example : ((indicateBranches amrModel exPushSrc).toOption.map fun g' => (g'.triples, decide (HasInst g')))
    = some ([tr "a" ":instance" "x", tr "k" ":TOP" "a", tr "a" ":mod" "k"], false) := by decide +kernel

/-- … and raises `AssertionError` when that target is not a string. -/
def exAssert : Graph :=
  Graph.mk' [tr "a" ":instance" "x", ⟨"a".toList, ":mod".toList, .none⟩] (some "a".toList)
    [(⟨"a".toList, ":mod".toList, .none⟩, [.push "a".toList])] []
attribute [eval_unfold] exAssert

example : indicateBranches amrModel exAssert = .error (.other "AssertionError") := by
  rw [indicateBranches_eq, branchFold, if_pos (by decide)]; rfl

/-- **An input with a top-role triple**: removing the top-role triples does not
    give back the original. -/
def exTopIn : Graph :=
  Graph.mk' [tr "a" ":instance" "x", tr "a" ":TOP" "b", tr "b" ":instance" "y"] (some "a".toList) [] []
attribute [eval_unfold] exTopIn

example : ((indicateBranches amrModel exTopIn).toOption.map fun g' =>
    decide (g'.triples.filter (fun t => t.role ≠ amrModel.topRole) = exTopIn.triples)) = some false := by
  decide +kernel

/-- **`HasInst` is needed for connectivity under `reify_edges`**: the top `a` of
    `[(a :mod 7)]` is not a source afterwards. -/
def exNoInst : Graph := Graph.mk' [tr "a" ":mod" "7"] none [] []
attribute [eval_unfold] exNoInst

example : ((reifyEdges amrModel exNoInst).toOption.map fun g' =>
    (g'.getTop, g'.triples.map (·.src))) =
    some (some "a".toList, ["_".toList, "_".toList, "_".toList]) := by eval_decide

end Examples

end Penman
