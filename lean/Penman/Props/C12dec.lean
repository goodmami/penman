/-
  # C12 (last clause) — the result of every transformation "encodes without error and DECODES TO ITSELF"

  Property C12: "Every transformation returns a well-formed graph that serialises faithfully: each
  transformation's result encodes without error and decodes to itself."  `Props/C12.lean` proves
  everything up to "encodes without error" (`C12_encodes`); this file proves "decodes to itself" by
  composing the transformations with the text-level round trip `C03Text.C03_text`.

  Clause ↦ theorem
  * the result of EACH transformation satisfies the hypotheses of `C03_text` again
        ↦ `C12dec_reifyEdges`, `C12dec_dereifyEdges`, `C12dec_reifyAttributes`,
          `C12dec_indicateBranches` (one step: `C12dec_step`), `hyps_c03text` (what `Hyps` gives);
  * "… encodes without error and decodes to itself" (top, variables, triples as a multiset up to
    one de-inversion and the written form of numbers, provenance, metadata), for every
    indentation and compactness                       ↦ `C12_decodes` (one step, any of the four),
          `C12_decodes_reifyEdges` / `_dereifyEdges` / `_reifyAttributes` / `_indicateBranches`;
  * "… and every composition of them"                 ↦ `C12_decodes_program` (side conditions
          checked along the way: `SideAlongDec`), `C12dec_program`.

  Hypotheses (`Hyps cfg isSpace m g`; all decidable except connectivity)
  * `WfGraph m g`, `GraphTextOK cfg isSpace m g`, `Connected g` : those of `C03_text` / C12.
  * `EpiAll g` : `NoAlign`, `PushVars`, `PushSrcOK` asked of EVERY entry of the marker table, not only of
    the entries whose key is a triple (a transformation may create the triple a stale entry belongs
    to: `exStale`).  For a marker table that is a dictionary keyed by triples of the graph — every
    decoded graph — it IS `NoAlign ∧ PushVars ∧ PushSrcOK` (`epiAll_of_keys`).
  * tables: `ModelWf m`, `m.noop = false`, `FmtCfgWf cfg` (C03); `ReifWf m`, `TopRoleOk m` (C12);
    `TableOK cfg m` (decidable): role / source role / target role of every reification and the
    top role are colon-prefixed ROLE texts without `~`, inversion-canonical, with a ROLE text as
    inversion, never inverting to `:instance`; every reification concept is a non-empty SYMBOL / STRING
    text; `_` and the digits are name characters (so the generated variables `_`, `_2`, … are SYMBOL
    texts).  True of the AMR and default models with the generated lexer tables (`tableOK_amr`,
    `tableOK_default`; for AMR through `TableFast`: every table role is a DECLARED role
    of the model and a ROLE text, `Proofs/TransformDecodeTables.lean`).
  * side conditions, on the graph each step is applied to (`SideDec`, decidable):
    `PushSrcOk` for `indicate_branches` (as in C12); `DerefSide` for `dereify_edges`: in its result
    every `Push` still names a variable and `Push(source)` sits on string targets — needed because
    `dereify_edges` removes variables (`exDerefPush`).  It is implied by the decidable condition
    `DerefPushIn` on the INPUT (`C12dec_derefSide_of_pushIn`: no surviving `Push` names a collapsed
    node; the markers moved onto a dereified triple `(s :role c)` contain `Push(s)` only if `c` is a
    string), in particular when there is no `Push` marker at all (`derefSide_of_noPush`); both hold
    for the decoded examples below.  `FreshSafe` and "no top-role triple in
    the input" are NOT needed for this clause.

  The four problem spots
  (a) ALIGNMENTS.  `WfGraph.noAlign` (inside `Hyps`) forbids alignment markers, because `C03_text` does.
      The theorems are therefore stated for graphs WITHOUT alignments; they say nothing
      about aligned graphs (for which `reify_edges` turns a role alignment into an alignment of the new
      node label).  Covering them needs a text-level round trip with alignments, which does not exist.
      What is proved here: no transformation INTRODUCES an alignment (`EpiAll` of the result).
  (b) DUPLICATE TRIPLES are harmless: `WfGraph` does not ask `g.triples.Nodup` (only: one node label
      per variable).  `dereify_edges` may create a second copy of an existing triple (`exDup`); the
      theorems apply, the permutation in the conclusion is a MULTISET equality, and the real code
      agrees: `penman.decode(penman.encode(g))` of `(b / boy :mod 7 :mod 7)` gives both copies back.
      No hypothesis excluding duplicates in the result is needed.
  (c) new variables `_`, `_N` are SYMBOL texts (`srcOK_genName`, from `GenOK`); new roles come from the
      table (`TableOK`); the `:TOP` triples of `indicate_branches` have a variable as target
      (`atomOK_var`) and, for `Push(source)`, a variable with a node as source (`PushSrcOk`).
  (d) markers written by the transformations: `Push(v)` on the first reified triple — whose target is a
      string also in the inverted orientation (`appearsInverted_true`) —, the migrated markers on the
      last one (they cannot push the fresh variable), `Push(v)` / `POP` of `reify_attributes`:
      `run_markOK`, `arun_markOK`.

  (`AList.set_of_not_mem_xf` of `Proofs/Transform/Basic.lean` carries its suffix so that the transform
  proofs and `Proofs/RearrangeInterp.lean` (lemma `AList.set_of_not_mem`) can be imported together, as
  `Props/C20genStages` and `Props/C20vars` do.)
-/
import Penman.Proofs.TransformDecode
import Penman.Proofs.TransformDecodeTables
import Penman.Proofs.TransformDecodeDerefIn
import Penman.Props.C11
import Penman.Props.C12
import Penman.Props.C13
import Penman.Proofs.Eval
namespace Penman.C12dec
open Penman Penman.Spec Penman.C03Text Generated

/-- the hypotheses of `C03_text` on a graph, with the marker conditions on every entry of the table -/
def Hyps (cfg : LexCfg) (isSpace : Char → Bool) (m : Model) (g : Graph) : Prop :=
  Cfg.WfGraph m g ∧ GraphTextOK cfg isSpace m g ∧ EpiAll g ∧ Connected g

/-- "`g` encodes without error and decodes to itself": for every indentation and compactness the text
    of `g` decodes to a graph with the same top, the same variables, the same triples (as a multiset,
    after one de-inversion, constants by their written form), every decoded triple being the written
    form of a triple of `g` or its inversion, and the same metadata -/
def RoundTrip (cfg : LexCfg) (isSpace isAlpha : Char → Bool) (m : Model) (g : Graph) : Prop :=
  ∀ (i : Indent) (c : Bool), ∃ s g'', encode m g none i c = .ok s ∧
    decode cfg isSpace isAlpha m s = .ok g'' ∧ g''.getTop = g.getTop ∧
    (∀ x, x ∈ g''.variables ↔ x ∈ g.variables) ∧
    (g''.triples.map (Cfg.deinvert1 m g)).Perm ((g.triples.map writtenTriple).map (Cfg.deinvert1 m g)) ∧
    (∀ x ∈ g''.triples, ∃ t0 ∈ g.triples, x = writtenTriple t0 ∨ x = m.invert (writtenTriple t0)) ∧
    g''.metadata = g.metadata

section
variable {cfg : LexCfg} {isSpace : Char → Bool} {m : Model} {g : Graph}

theorem Hyps.decOK (h : Hyps cfg isSpace m g) : DecOK cfg isSpace m g := decOK_iff.mpr h
theorem DecOK.hyps (h : DecOK cfg isSpace m g) : Hyps cfg isSpace m g := decOK_iff.mp h

/-- `Hyps` gives every graph-side hypothesis of `C03_text` -/
theorem hyps_c03text (h : Hyps cfg isSpace m g) :
    Cfg.WfGraph m g ∧ GraphTextOK cfg isSpace m g ∧ Cfg.NoAlign g ∧ Cfg.PushVars g ∧ Cfg.PushSrcOK g ∧
    ∃ t, Cfg.topOf g none = some t ∧ t ∈ g.variables ∧ ∀ v ∈ g.variables, Cfg.Reach g t v := by
  have hd := h.decOK
  obtain ⟨t, hgt, htv, hr⟩ := connected_cfgReach hd.conn
  exact ⟨h.1, h.2.1, hd.noAlign, hd.pushVars, hd.pushSrcOK, t, by simpa [Cfg.topOf] using hgt, htv, hr⟩

/-- a graph satisfying `Hyps` decodes to itself (this is `C03_text` from the graph's own top) -/
theorem hyps_roundTrip (hcfg : FmtCfgWf cfg = true) (isAlpha : Char → Bool) (hw : ModelWf m)
    (hnoop : m.noop = false) (h : Hyps cfg isSpace m g) : RoundTrip cfg isSpace isAlpha m g :=
  fun i c => decOK_decodes hcfg isSpace isAlpha hw hnoop h.decOK i c

theorem C12dec_reifyEdges (hm : ReifWf m) (htab : TableOK cfg m) (h : Hyps cfg isSpace m g) :
    ∃ g', reifyEdges m g = .ok g' ∧ Hyps cfg isSpace m g' ∧ g'.getTop = g.getTop := by
  obtain ⟨g', hr⟩ := reifyEdges_total m g
  obtain ⟨h1, h2⟩ := reifyEdges_decOK hm htab h.decOK hr
  exact ⟨_, hr, h1.hyps, h2⟩

theorem C12dec_reifyAttributes (htab : TableOK cfg m) (h : Hyps cfg isSpace m g) :
    Hyps cfg isSpace m (reifyAttributes g) ∧ (reifyAttributes g).getTop = g.getTop :=
  ⟨(reifyAttributes_decOK htab h.decOK).1.hyps, (reifyAttributes_decOK htab h.decOK).2⟩

theorem C12dec_dereifyEdges (hm : ReifWf m) (htab : TableOK cfg m) (h : Hyps cfg isSpace m g)
    (hs : DerefSide m g) :
    ∃ g', dereifyEdges m g = .ok g' ∧ Hyps cfg isSpace m g' ∧ g'.getTop = g.getTop := by
  obtain ⟨g', hr⟩ := dereifyEdges_total m g
  obtain ⟨h1, h2⟩ := dereifyEdges_decOK hm htab h.decOK hs hr
  exact ⟨g', hr, h1.hyps, h2⟩

theorem C12dec_indicateBranches (htr : TopRoleOk m) (htab : TableOK cfg m) (h : Hyps cfg isSpace m g)
    (hs : PushSrcOk g) :
    ∃ g', indicateBranches m g = .ok g' ∧ Hyps cfg isSpace m g' ∧ g'.getTop = g.getTop := by
  obtain ⟨g', hr⟩ := indicateBranches_ok_iff.mpr (pushSrcOk_noErr hs)
  obtain ⟨h1, h2⟩ := indicateBranches_decOK htr htab h.decOK hs hr
  exact ⟨g', hr, h1.hyps, h2⟩

/-- the side condition of `dereify_edges` follows from a condition on its input -/
theorem C12dec_derefSide_of_pushIn (h : Hyps cfg isSpace m g) (hp : DerefPushIn m g) : DerefSide m g :=
  derefSide_of_pushIn h.2.2.1 hp

theorem C12dec_step (hm : ReifWf m) (htr : TopRoleOk m) (htab : TableOK cfg m) (x : Xf)
    (h : Hyps cfg isSpace m g) (hs : SideDec m x g) :
    ∃ g', x.run m g = .ok g' ∧ Hyps cfg isSpace m g' ∧ g'.getTop = g.getTop := by
  obtain ⟨g', h1, h2, h3⟩ := step_decOK hm htr htab x g h.decOK hs
  exact ⟨g', h1, h2.hyps, h3⟩

theorem C12dec_program (hm : ReifWf m) (htr : TopRoleOk m) (htab : TableOK cfg m) (p : List Xf)
    (h : Hyps cfg isSpace m g) (hs : SideAlongDec m p g) :
    ∃ g', runProg m p g = .ok g' ∧ Hyps cfg isSpace m g' ∧ g'.getTop = g.getTop := by
  obtain ⟨g', h1, h2, h3⟩ := prog_decOK hm htr htab p g h.decOK hs
  exact ⟨g', h1, h2.hyps, h3⟩

/-- **C12, "decodes to itself", one transformation** (any of the four): the result `g'` of the step
    encodes, and its text decodes to a graph with the top, variables, triples (multiset, one
    de-inversion, written constants) and metadata of `g'`. -/
theorem C12_decodes (hcfg : FmtCfgWf cfg = true) (isAlpha : Char → Bool) (hw : ModelWf m)
    (hnoop : m.noop = false) (hm : ReifWf m) (htr : TopRoleOk m) (htab : TableOK cfg m) (x : Xf)
    (h : Hyps cfg isSpace m g) (hs : SideDec m x g) {g' : Graph} (hrun : x.run m g = .ok g') :
    ∀ (i : Indent) (c : Bool), ∃ s g'', encode m g' none i c = .ok s ∧
      decode cfg isSpace isAlpha m s = .ok g'' ∧ g''.getTop = g'.getTop ∧
      (∀ x, x ∈ g''.variables ↔ x ∈ g'.variables) ∧
      (g''.triples.map (Cfg.deinvert1 m g')).Perm
        ((g'.triples.map writtenTriple).map (Cfg.deinvert1 m g')) ∧
      (∀ x ∈ g''.triples, ∃ t0 ∈ g'.triples, x = writtenTriple t0 ∨ x = m.invert (writtenTriple t0)) ∧
      g''.metadata = g'.metadata := by
  obtain ⟨g1, h1, h2, _⟩ := C12dec_step hm htr htab x h hs
  rw [hrun] at h1
  simp only [Except.ok.injEq] at h1
  subst h1
  exact hyps_roundTrip hcfg isAlpha hw hnoop h2

/-- each step succeeds (so `C12_decodes` is about something) and keeps the top -/
theorem C12_decodes_total (hcfg : FmtCfgWf cfg = true) (isAlpha : Char → Bool) (hw : ModelWf m)
    (hnoop : m.noop = false) (hm : ReifWf m) (htr : TopRoleOk m) (htab : TableOK cfg m) (x : Xf)
    (h : Hyps cfg isSpace m g) (hs : SideDec m x g) :
    ∃ g', x.run m g = .ok g' ∧ g'.getTop = g.getTop ∧ RoundTrip cfg isSpace isAlpha m g' := by
  obtain ⟨g', h1, h2, h3⟩ := C12dec_step hm htr htab x h hs
  exact ⟨g', h1, h3, hyps_roundTrip hcfg isAlpha hw hnoop h2⟩

theorem C12_decodes_reifyEdges (hcfg : FmtCfgWf cfg = true) (isAlpha : Char → Bool) (hw : ModelWf m)
    (hnoop : m.noop = false) (hm : ReifWf m) (htab : TableOK cfg m) (h : Hyps cfg isSpace m g)
    {g' : Graph} (hrun : reifyEdges m g = .ok g') : RoundTrip cfg isSpace isAlpha m g' :=
  hyps_roundTrip hcfg isAlpha hw hnoop (reifyEdges_decOK hm htab h.decOK hrun).1.hyps

theorem C12_decodes_reifyAttributes (hcfg : FmtCfgWf cfg = true) (isAlpha : Char → Bool) (hw : ModelWf m)
    (hnoop : m.noop = false) (htab : TableOK cfg m) (h : Hyps cfg isSpace m g) :
    RoundTrip cfg isSpace isAlpha m (reifyAttributes g) :=
  hyps_roundTrip hcfg isAlpha hw hnoop (C12dec_reifyAttributes htab h).1

theorem C12_decodes_dereifyEdges (hcfg : FmtCfgWf cfg = true) (isAlpha : Char → Bool) (hw : ModelWf m)
    (hnoop : m.noop = false) (hm : ReifWf m) (htab : TableOK cfg m) (h : Hyps cfg isSpace m g)
    (hs : DerefSide m g) {g' : Graph} (hrun : dereifyEdges m g = .ok g') :
    RoundTrip cfg isSpace isAlpha m g' :=
  hyps_roundTrip hcfg isAlpha hw hnoop (dereifyEdges_decOK hm htab h.decOK hs hrun).1.hyps

theorem C12_decodes_indicateBranches (hcfg : FmtCfgWf cfg = true) (isAlpha : Char → Bool) (hw : ModelWf m)
    (hnoop : m.noop = false) (htr : TopRoleOk m) (htab : TableOK cfg m) (h : Hyps cfg isSpace m g)
    (hs : PushSrcOk g) {g' : Graph} (hrun : indicateBranches m g = .ok g') :
    RoundTrip cfg isSpace isAlpha m g' :=
  hyps_roundTrip hcfg isAlpha hw hnoop (indicateBranches_decOK htr htab h.decOK hs hrun).1.hyps

/-- **C12, "decodes to itself", every composition**: every program of transformations runs without
    error on a graph satisfying `Hyps` (side conditions checked along the way), keeps the top, and
    its result encodes and decodes to itself. -/
theorem C12_decodes_program (hcfg : FmtCfgWf cfg = true) (isAlpha : Char → Bool) (hw : ModelWf m)
    (hnoop : m.noop = false) (hm : ReifWf m) (htr : TopRoleOk m) (htab : TableOK cfg m) (p : List Xf)
    (h : Hyps cfg isSpace m g) (hs : SideAlongDec m p g) :
    ∃ g', runProg m p g = .ok g' ∧ g'.getTop = g.getTop ∧
      ∀ (i : Indent) (c : Bool), ∃ s g'', encode m g' none i c = .ok s ∧
        decode cfg isSpace isAlpha m s = .ok g'' ∧ g''.getTop = g'.getTop ∧
        (∀ x, x ∈ g''.variables ↔ x ∈ g'.variables) ∧
        (g''.triples.map (Cfg.deinvert1 m g')).Perm
          ((g'.triples.map writtenTriple).map (Cfg.deinvert1 m g')) ∧
        (∀ x ∈ g''.triples, ∃ t0 ∈ g'.triples, x = writtenTriple t0 ∨ x = m.invert (writtenTriple t0)) ∧
        g''.metadata = g'.metadata := by
  obtain ⟨g', h1, h2, h3⟩ := C12dec_program hm htr htab p h hs
  exact ⟨g', h1, h3, hyps_roundTrip hcfg isAlpha hw hnoop h2⟩

/-- programs without `dereify_edges` and `indicate_branches` need no side condition -/
theorem sideAlongDec_reify (p : List Xf) (hp : ∀ x ∈ p, x = .reifyEdges ∨ x = .reifyAttributes) :
    ∀ g, SideAlongDec m p g := by
  induction p with
  | nil => intro g; trivial
  | cons x r ih =>
    intro g
    refine ⟨?_, fun g' _ => ih (fun y hy => hp y (by simp [hy])) g'⟩
    rcases hp x (by simp) with rfl | rfl <;> trivial

end

/-- every role of the AMR reification table (and `:TOP`) is a declared role (`amr_roles_declared`) … -/
theorem amr_tableRoles_declared : ∀ r ∈ tableRoles amrModel, amrModel.hasRole1 r = true :=
  fun r hr => (amr_roles_declared r hr).1
/-- … and a colon-prefixed ROLE text without `~`; the concepts are target texts -/
theorem amr_tableTexts : OfOK lexCfg = true ∧
    (∀ r ∈ tableRoles amrModel, r.head? = some ':' ∧ '~' ∉ r ∧ roleB lexCfg r = true) ∧
    (∀ rf ∈ amrModel.reifs, ConceptOK lexCfg rf.concept) ∧ GenOK lexCfg := by
  eval_decide [tableRoles]
theorem amr_tableRoles_text : ∀ r ∈ tableRoles amrModel,
    r.head? = some ':' ∧ '~' ∉ r ∧ roleB lexCfg r = true := amr_tableTexts.2.1
theorem amr_concepts : ∀ rf ∈ amrModel.reifs, ConceptOK lexCfg rf.concept := amr_tableTexts.2.2.1

theorem tableFast_amr : TableFast lexCfg amrModel :=
  ⟨amr_tableTexts.1, fun r hr => ⟨amr_tableRoles_declared r hr, amr_tableRoles_text r hr⟩,
    amr_concepts, amr_tableTexts.2.2.2⟩

theorem tableOK_amr : TableOK lexCfg amrModel := tableOK_of_fast tableFast_amr
theorem tableOK_default : TableOK lexCfg defaultModel := by decide +kernel
theorem reifWf_amr : ReifWf amrModel ∧ TopRoleOk amrModel := ⟨amr_reifWf, by decide +kernel⟩
theorem reifWf_default : ReifWf defaultModel ∧ TopRoleOk defaultModel := by decide +kernel

section Examples

/-- Python's `str.isspace` on the generated table -/
def isSp (c : Char) : Bool := spaceChars.contains c

private def tr (s r t : String) : Triple := ⟨s.toList, r.toList, .str t.toList⟩

attribute [eval_unfold] tr

/-- `(w / want-01 :ARG0 (b / boy) :mod 5 :ARG1 (g / go-02 :ARG0 b))` as `penman.decode` gives it
    under the AMR model (triples, top and markers replayed on the real code) -/
def exWant2 : Graph :=
  Graph.mk' [tr "w" ":instance" "want-01", tr "w" ":ARG0" "b", tr "b" ":instance" "boy",
      tr "w" ":mod" "5", tr "w" ":ARG1" "g", tr "g" ":instance" "go-02", tr "g" ":ARG0" "b"]
    (some "w".toList)
    [(tr "w" ":instance" "want-01", []), (tr "w" ":ARG0" "b", [.push "b".toList]),
     (tr "b" ":instance" "boy", [.pop]), (tr "w" ":mod" "5", []),
     (tr "w" ":ARG1" "g", [.push "g".toList]), (tr "g" ":instance" "go-02", []),
     (tr "g" ":ARG0" "b", [.pop])] []
attribute [eval_unfold] exWant2

theorem exWant2_connected : Connected exWant2 := by
  refine ⟨"w".toList, by decide, ⟨tr "w" ":instance" "want-01", by decide, rfl⟩, ?_⟩
  have hb : Reach exWant2 "w".toList "b".toList :=
    Reach.single ⟨tr "w" ":ARG0" "b", by decide, by decide, Or.inl ⟨rfl, rfl⟩⟩
      ⟨tr "b" ":instance" "boy", by decide, rfl⟩
  have hg : Reach exWant2 "w".toList "g".toList :=
    Reach.single ⟨tr "w" ":ARG1" "g", by decide, by decide, Or.inl ⟨rfl, rfl⟩⟩
      ⟨tr "g" ":instance" "go-02", by decide, rfl⟩
  intro t ht
  have : t.src = "w".toList ∨ t.src = "b".toList ∨ t.src = "g".toList := by
    revert t; decide
  rcases this with h | h | h <;> rw [h]
  · exact Reach.refl
  · exact hb
  · exact hg

theorem exWant2_decOKd : DecOKd lexCfg isSp amrModel exWant2 := by eval_decide

theorem exWant2_hyps : Hyps lexCfg isSp amrModel exWant2 :=
  (DecOK.of_d exWant2_decOKd exWant2_connected).hyps

/-- its marker table is a dictionary keyed by its triples, so `EpiAll` is just C03's three conditions -/
example : EpiKeysNodup exWant2 ∧ (∀ k ∈ AList.keys exWant2.epidata, k ∈ exWant2.triples) ∧
    Cfg.NoAlign exWant2 ∧ Cfg.PushVars exWant2 ∧ Cfg.PushSrcOK exWant2 := by eval_decide

theorem exWant2_pipeline :
    PushSrcOk (reifyAttributes ((reifyEdges amrModel exWant2).toOption.getD default)) ∧
    ((runProg amrModel [.reifyEdges, .reifyAttributes, .indicateBranches] exWant2).toOption.map
      (·.triples)) =
    some [tr "w" ":instance" "want-01", tr "w" ":TOP" "b", tr "w" ":ARG0" "b", tr "b" ":instance" "boy",
      tr "w" ":TOP" "_", tr "_" ":ARG1" "w", tr "_" ":instance" "have-mod-91",
      tr "_" ":TOP" "_2", tr "_" ":ARG2" "_2", tr "_2" ":instance" "5",
      tr "w" ":TOP" "g", tr "w" ":ARG1" "g", tr "g" ":instance" "go-02", tr "g" ":ARG0" "b"] := by eval_decide

/-- the side conditions of the command-line pipeline hold along the way -/
theorem exWant2_side :
    SideAlongDec amrModel [.reifyEdges, .reifyAttributes, .indicateBranches] exWant2 := by
  refine ⟨trivial, fun g1 h1 => ⟨trivial, fun g2 h2 => ⟨?_, fun _ _ => trivial⟩⟩⟩
  have e1 : g1 = (reifyEdges amrModel exWant2).toOption.getD default := by
    simp only [Xf.run] at h1; rw [h1]; rfl
  simp only [Xf.run, Except.ok.injEq] at h2
  subst h2
  rw [e1]
  exact exWant2_pipeline.1

/-- **non-vacuity of `C12_decodes_program`**: the pipeline `reify-edges, reify-attributes,
    indicate-branches` on `exWant2` under AMR; every hypothesis by kernel evaluation (connectivity by hand) -/
example : ∃ g', runProg amrModel [.reifyEdges, .reifyAttributes, .indicateBranches] exWant2 = .ok g' ∧
    g'.getTop = some "w".toList ∧ RoundTrip lexCfg isSp isAsciiAlpha amrModel g' := by
  obtain ⟨g', h1, h2, h3⟩ := C12_decodes_program (isSpace := isSp) C01.fmt_cfg_wf isAsciiAlpha
    C13.modelWf_amr (by decide) reifWf_amr.1 reifWf_amr.2 tableOK_amr
    [.reifyEdges, .reifyAttributes, .indicateBranches] exWant2_hyps exWant2_side
  exact ⟨g', h1, h2.trans (by decide), h3⟩

/-- … whose result is what the real code returns (replayed: 14 triples, two new nodes `_`, `_2`) -/
example : ((runProg amrModel [.reifyEdges, .reifyAttributes, .indicateBranches] exWant2).toOption.map
    (·.triples)) =
    some [tr "w" ":instance" "want-01", tr "w" ":TOP" "b", tr "w" ":ARG0" "b", tr "b" ":instance" "boy",
      tr "w" ":TOP" "_", tr "_" ":ARG1" "w", tr "_" ":instance" "have-mod-91",
      tr "_" ":TOP" "_2", tr "_" ":ARG2" "_2", tr "_2" ":instance" "5",
      tr "w" ":TOP" "g", tr "w" ":ARG1" "g", tr "g" ":instance" "go-02", tr "g" ":ARG0" "b"] :=
  exWant2_pipeline.2

/-- every single step applies to `exWant2` (non-vacuity of `C12_decodes`) -/
example (x : Xf) (hx : x ≠ .dereifyEdges) : ∃ g', x.run amrModel exWant2 = .ok g' ∧
    RoundTrip lexCfg isSp isAsciiAlpha amrModel g' := by
  have hs : SideDec amrModel x exWant2 := by
    cases x with
    | reifyEdges => trivial
    | reifyAttributes => trivial
    | dereifyEdges => exact absurd rfl hx
    | indicateBranches => show PushSrcOk _; eval_decide
  obtain ⟨g', h1, _, h3⟩ := C12_decodes_total (isSpace := isSp) C01.fmt_cfg_wf isAsciiAlpha
    C13.modelWf_amr (by decide) reifWf_amr.1 reifWf_amr.2 tableOK_amr x exWant2_hyps hs
  exact ⟨g', h1, h3⟩

/-- `(b / boy :mod 7 :ARG1-of (h / have-mod-91 :ARG2 7))` as decoded under AMR: collapsing `h` creates
    a SECOND copy of `(b :mod 7)` -/
def exDup : Graph :=
  Graph.mk' [tr "b" ":instance" "boy", tr "b" ":mod" "7", tr "h" ":ARG1" "b",
      tr "h" ":instance" "have-mod-91", tr "h" ":ARG2" "7"] (some "b".toList)
    [(tr "b" ":instance" "boy", []), (tr "b" ":mod" "7", []), (tr "h" ":ARG1" "b", [.push "h".toList]),
     (tr "h" ":instance" "have-mod-91", []), (tr "h" ":ARG2" "7", [.pop])] []
attribute [eval_unfold] exDup

theorem exDup_connected : Connected exDup := by
  refine ⟨"b".toList, by decide, ⟨tr "b" ":instance" "boy", by decide, rfl⟩, ?_⟩
  have hh : Reach exDup "b".toList "h".toList :=
    Reach.single ⟨tr "h" ":ARG1" "b", by decide, by decide, Or.inr ⟨rfl, rfl⟩⟩
      ⟨tr "h" ":instance" "have-mod-91", by decide, rfl⟩
  intro t ht
  have : t.src = "b".toList ∨ t.src = "h".toList := by
    revert t; decide
  rcases this with h | h <;> rw [h]
  · exact Reach.refl
  · exact hh

theorem exDup_facts : DecOKd lexCfg isSp amrModel exDup ∧
    (DerefSide amrModel exDup ∧ DerefPushIn amrModel exDup) ∧
    ((dereifyEdges amrModel exDup).toOption.map (fun g' => (g'.triples, g'.epidata)) =
      some ([tr "b" ":instance" "boy", tr "b" ":mod" "7", tr "b" ":mod" "7"],
        [(tr "b" ":instance" "boy", []), (tr "b" ":mod" "7", [.pop])])) ∧
    ¬ ((dereifyEdges amrModel exDup).toOption.getD default).triples.Nodup := by eval_decide

theorem exDup_hyps : Hyps lexCfg isSp amrModel exDup :=
  (DecOK.of_d exDup_facts.1 exDup_connected).hyps

example : DerefSide amrModel exDup ∧ DerefPushIn amrModel exDup := exDup_facts.2.1

/-- the result has the duplicate (as in the real code: `[(b :instance boy), (b :mod 7), (b :mod 7)]`,
    markers `{(b :mod 7): [POP]}`) … -/
example : (dereifyEdges amrModel exDup).toOption.map (fun g' => (g'.triples, g'.epidata)) =
    some ([tr "b" ":instance" "boy", tr "b" ":mod" "7", tr "b" ":mod" "7"],
      [(tr "b" ":instance" "boy", []), (tr "b" ":mod" "7", [.pop])]) := exDup_facts.2.2.1

/-- … and **decodes to itself, both copies** (the permutation is a multiset equality): problem spot
    (b) is not a problem, and `C12_decodes` is non-vacuous for `dereify_edges` -/
example : ∃ g', dereifyEdges amrModel exDup = .ok g' ∧ ¬ g'.triples.Nodup ∧
    RoundTrip lexCfg isSp isAsciiAlpha amrModel g' := by
  obtain ⟨g', h1, _, h3⟩ := C12_decodes_total (isSpace := isSp) C01.fmt_cfg_wf isAsciiAlpha
    C13.modelWf_amr (by decide) reifWf_amr.1 reifWf_amr.2 tableOK_amr .dereifyEdges exDup_hyps
    exDup_facts.2.1.1
  refine ⟨g', h1, ?_, h3⟩
  have e : g' = (dereifyEdges amrModel exDup).toOption.getD default := by
    simp only [Xf.run] at h1; rw [h1]; rfl
  rw [e]
  exact exDup_facts.2.2.2

/-! ### the side condition of `dereify_edges` is not implied -/

/-- the same node `h`, with a stale `Push(h)` left on the node label of `b` (allowed by `PushVars`:
    `h` is a variable): after `dereify_edges` the marker names no variable any more.
    (The real `configure` ignores a `Push` on a node label, so here `PushVars` — a hypothesis of C03 /
    C06 — is merely sufficient; replayed: the result encodes to `(b / boy :mod 7)` and decodes back.) -/
def exDerefPush : Graph :=
  Graph.mk' [tr "b" ":instance" "boy", tr "h" ":ARG1" "b", tr "h" ":instance" "have-mod-91",
      tr "h" ":ARG2" "7"] (some "b".toList)
    [(tr "b" ":instance" "boy", [.push "h".toList]), (tr "h" ":ARG1" "b", [.push "h".toList]),
     (tr "h" ":instance" "have-mod-91", []), (tr "h" ":ARG2" "7", [.pop])] []
attribute [eval_unfold] exDerefPush

theorem exDerefPush_facts :
    (DecOKd lexCfg isSp amrModel exDerefPush ∧ ¬ DerefSide amrModel exDerefPush ∧
    ¬ DerefPushIn amrModel exDerefPush) ∧
    (((dereifyEdges amrModel exDerefPush).toOption.map fun g' => decide (Cfg.PushVars g')) =
    some false) := by eval_decide

example : DecOKd lexCfg isSp amrModel exDerefPush ∧ ¬ DerefSide amrModel exDerefPush ∧
    ¬ DerefPushIn amrModel exDerefPush := exDerefPush_facts.1
example : ((dereifyEdges amrModel exDerefPush).toOption.map fun g' => decide (Cfg.PushVars g')) =
    some false := exDerefPush_facts.2

/-! ### stale marker entries matter: why `EpiAll` speaks of every entry -/

/-- `(a / x :ARG0 (b / y))` with a marker entry for the triple `(a :TOP b)`, which is NOT a triple of the
    graph: C03's `NoAlign` holds, `indicate_branches` creates that triple, and the result violates it -/
def exStale : Graph :=
  Graph.mk' [tr "a" ":instance" "x", tr "a" ":ARG0" "b", tr "b" ":instance" "y"] (some "a".toList)
    [(tr "a" ":ARG0" "b", [.push "b".toList]), (tr "b" ":instance" "y", [.pop]),
     (tr "a" ":TOP" "b", [.aln none [1]])] []
attribute [eval_unfold] exStale

example : Cfg.NoAlign exStale ∧ Cfg.PushVars exStale ∧ Cfg.PushSrcOK exStale ∧ ¬ EpiAll exStale ∧
    PushSrcOk exStale := by eval_decide
example : ((indicateBranches amrModel exStale).toOption.map fun g' => decide (Cfg.NoAlign g')) =
    some false := by decide +kernel

/-! ### the hypotheses exclude something -/

/-- an alignment marker, a `Push` of a non-variable, a role with `~`: not `Hyps` -/
example : ¬ EpiAll (Graph.mk' [tr "a" ":instance" "x"] none [(tr "a" ":instance" "x", [.aln none [1]])] []) := by
  decide
example : ¬ EpiAll (Graph.mk' [tr "a" ":instance" "x", tr "a" ":mod" "7"] none
    [(tr "a" ":mod" "7", [.push "7".toList])] []) := by decide
example : ¬ TripleOK lexCfg amrModel (tr "a" ":mod~1" "7") := by decide +kernel

end Examples

end Penman.C12dec
