import Penman.Proofs.Role
import Penman.Generated
import Penman.Proofs.Eval
/-!
# C13 — role inversion and canonicalisation obey their algebra under every model

Model functions: `Model.hasRole1/hasRole/isRoleInverted/invertRole/invert/deinvert/
canonLoop/canonInversion/canonRole` (Penman/Model.lean) and `canonNode/canonBranches/
canonicalizeRoles` (Penman/Transform.lean). Specification vocabulary (`ModelWf`,
`addColon`, `ofPow`, `ofCount`, `base`, `Node.sameShape`, `rolePart`, `alnPart`,
`RoleRewritten`) is in Penman/Spec/Role.lean.

Clause of the property text                          ↦ theorem(s)
---------------------------------------------------------------------------------------
(hypothesis) well-formed tables, decidable           ↦ `ModelWf` ; `modelWf_default`,
                                                        `modelWf_amr`, `modelWf_noop`,
                                                        `noDefinedPair_iff`
canonicalising always returns (loop fuel suffices,   ↦ `canon_terminates`,
  for EVERY model, no hypothesis)                       `canonInversion_terminates`
"canonicalising is idempotent"                       ↦ `canon_idem`
"adds the leading colon"                             ↦ `canon_colon` (+ `canon_norm_last`,
                                                        which exposes `addColon`)
"removes inversions only in pairs"                   ↦ `canon_parity`, `canon_parity_removes`,
                                                        `base_ofCount_spec`, `canonInversion_idem`
"applies a model-defined normalisation last"         ↦ `canon_norm_last`
"a defined role is never considered inverted"        ↦ `defined_not_inv`
"on canonical roles inverting is an involution that  ↦ `inv_involutive`
  flips inverted-ness"
"inverting a triple swaps source and target"         ↦ `invert_swaps`, `invert_invert`
"deinverting an inverted triple equals inverting it" ↦ `deinvert_inverted`,
                                                        `deinvert_result_not_inverted`
"a non-inverted triple is returned unchanged"        ↦ `deinvert_noninverted`
"under the no-op model deinverting is the identity"  ↦ `noop_deinvert_id`, `noopModel_deinvert_id`
"canonicalising a tree changes role text only"       ↦ `canon_tree_total`, `canon_tree_shape`,
                                                        `canon_tree_alignment`, `canon_tree_vars`,
                                                        `canonicalizeRoles_shape`
"... and is idempotent"                              ↦ `canon_tree_idem`, `canonicalizeRoles_idem`
necessity of each `ModelWf` clause (negations)       ↦ section `Negations`

Which clause of `ModelWf` each theorem really uses:
* `noDefinedPair` (no `r` with `r` and `r-of` both defined): only `inv_involutive` and its
  corollaries (`invert_invert`, `deinvert_result_not_inverted`).
* `slashOk` (slash + `-of` is not defined) and `normOk`: `canon_idem`, `canon_colon`, tree idempotence.
* nothing: termination, parity, `defined_not_inv`, triple laws, tree shape.

Python's `$`-before-newline quirk is part of `hasRole1` and is handled in full generality:
no theorem assumes the role is free of line feeds. (The only place it matters is the
decidable formulation of `noDefinedPair`, which tests `hasRole1 (s minus "-of")` — including
the quirk — for each literal `s` ending in `-of`; a role `r ++ "-of"` never ends in a line
feed, so it can only be matched exactly, by a literal.)

About the bound in `canon_terminates`: the loop does at most `|r|/6` removing steps followed
by at most (number of literal alternatives) appending steps, plus one confirming step, so
`|r| + |pats| + 2` already suffices; `canonFuel = |r| + 2·|pats| + 4` is never too small and
there is no counterexample table.
-/
namespace Penman.C13
open Penman.Role

/-- a small AMR-like table used for the non-vacuity examples -/
def miniModel : Model :=
  { roles := [.digit ":ARG".toList, .lit ":mod".toList, .lit ":domain".toList,
              .lit ":consist-of".toList, .digits ":op".toList],
    norm := [(":mod-of".toList, ":domain".toList), (":domain-of".toList, ":mod".toList)] }

attribute [eval_unfold] miniModel

/-! ## `ModelWf` holds of the generated tables -/

theorem modelWf_default : ModelWf Generated.defaultModel := by eval_decide
theorem modelWf_amr : ModelWf Generated.amrModel := by eval_decide
theorem modelWf_noop : ModelWf Generated.noopModel := by eval_decide
theorem modelWf_mini : ModelWf miniModel := by eval_decide

/-- clause (i) of `ModelWf`, the decidable check over the finitely many literal alternatives
    ending in `-of`, is exactly: no role `r` such that `r` and `r ++ "-of"` are both defined -/
theorem noDefinedPair_iff (m : Model) :
    m.noDefinedPair = true ↔ ∀ r, m.hasRole1 r = true → m.hasRole1 (r ++ ofStr) = false :=
  Role.noDefinedPair_iff

/-! ## termination (unconditional) -/

/-- `canonicalize_role` terminates for every model and role: `canonFuel` always suffices. -/
theorem canon_terminates (m : Model) (r : Str) : ∃ r', m.canonRole r = some r' :=
  canonRole_terminates m r

theorem canonInversion_terminates (m : Model) (r : Str) : ∃ r', m.canonInversion r = some r' :=
  Role.canonInversion_terminates m r

-- the appending branch of the loop really occurs (AMR defines `:consist-of`)
example : Generated.amrModel.canonRole ":consist".toList = some ":consist-of-of".toList := by
  eval_decide

/-! ## canonicalisation of one role -/

theorem canon_idem {m : Model} (hw : ModelWf m) {r r' : Str} (h : m.canonRole r = some r') :
    m.canonRole r' = some r' :=
  canonRole_idem hw.2.1 hw.2.2 h

example : miniModel.canonRole "ARG0-of-of-of".toList = some ":ARG0-of".toList := by eval_decide
example : miniModel.canonRole "mod-of-of-of".toList = some ":domain".toList := by eval_decide

theorem canon_colon {m : Model} (hw : ModelWf m) {r r' : Str} (h : m.canonRole r = some r') :
    r' = ['/'] ∨ r'.head? = some ':' :=
  canonRole_colon hw.2.1 hw.2.2 h

example : miniModel.canonRole "/".toList = some "/".toList := by eval_decide
example : miniModel.canonRole [] = some ":".toList := by eval_decide

/-- `canonRole` = add the colon, canonicalise inversions, and LAST look the result up in the
    normalisation table. -/
theorem canon_norm_last {m : Model} {r r' : Str} :
    m.canonRole r = some r' ↔
      ∃ r1, m.canonInversion (addColon r) = some r1 ∧ r' = (AList.get? m.norm r1).getD r1 :=
  canonRole_iff

example : miniModel.canonInversion (addColon "mod-of-of-of".toList) = some ":mod-of".toList
    ∧ AList.get? miniModel.norm ":mod-of".toList = some ":domain".toList := by eval_decide

/-- `base`/`ofCount` decompose a role into a base not ending in `-of` and its trailing `-of`s. -/
theorem base_ofCount_spec (r : Str) :
    r = base r ++ ofPow (ofCount r) ∧ endsWith ofStr (base r) = false :=
  base_spec r

example : base ":a-of-of-of".toList = ":a".toList ∧ ofCount ":a-of-of-of".toList = 3 := by eval_decide

/-- The inversion-canonicalisation step keeps the base, keeps the parity of the number of
    trailing `-of`, and more precisely either removes `j` pairs or appends `j` pairs
    (the Python loop appends `-of-of` as long as `current ++ "-of"` is a defined role). -/
theorem canon_parity {m : Model} {r r' : Str} (h : m.canonInversion r = some r') :
    base r' = base r ∧ ofCount r' % 2 = ofCount r % 2 ∧
    ∃ j, r = r' ++ ofPow (2*j) ∨ r' = r ++ ofPow (2*j) := by
  obtain ⟨j, hj⟩ := canonInversion_pairs h
  refine ⟨?_, ?_, j, hj⟩
  · rcases hj with hj | hj <;> rw [hj, base_append_ofPow]
  · rcases hj with hj | hj <;> rw [hj, ofCount_append_ofPow] <;> omega

/-- If `r ++ "-of"` is not itself a defined role, pairs are only removed, never added. -/
theorem canon_parity_removes {m : Model} {r r' : Str} (hno : m.hasRole1 (r ++ ofStr) = false)
    (h : m.canonInversion r = some r') :
    ∃ j, r = r' ++ ofPow (2*j) ∧ ofCount r = ofCount r' + 2*j := by
  obtain ⟨j, hj⟩ := canonInversion_removes hno h
  refine ⟨j, hj, ?_⟩
  conv => lhs; rw [hj]
  rw [ofCount_append_ofPow]

/-- the inversion step is idempotent for every model -/
theorem canonInversion_idem {m : Model} {r r' : Str} (h : m.canonInversion r = some r') :
    m.canonInversion r' = some r' :=
  Role.canonInversion_idem h

example : miniModel.canonInversion ":ARG1-of-of-of-of-of".toList = some ":ARG1-of".toList := by eval_decide
example : miniModel.canonInversion ":consist".toList = some ":consist-of-of".toList
    ∧ miniModel.hasRole1 (":consist".toList ++ ofStr) = true := by eval_decide
example : miniModel.hasRole1 (":ARG1-of-of-of".toList ++ ofStr) = false := by eval_decide

/-! ## inverted-ness -/

theorem defined_not_inv {m : Model} {r : Str} (h : m.hasRole1 r = true) :
    m.isRoleInverted r = false := by
  simp [Model.isRoleInverted, h]

example : miniModel.hasRole1 ":consist-of".toList = true := by eval_decide
-- the `$` quirk: a defined role followed by one line feed is still "defined"
example : miniModel.hasRole1 ":mod\n".toList = true := by eval_decide

/-- On a fixed point of the inversion canonicalisation, inverting twice is the identity and
    inverting flips `is_role_inverted`. -/
theorem inv_involutive {m : Model} (hw : ModelWf m) {r : Str} (h : m.canonInversion r = some r) :
    m.invertRole (m.invertRole r) = r ∧
    m.isRoleInverted (m.invertRole r) = !m.isRoleInverted r :=
  Role.inv_involutive hw.1 h

example : miniModel.canonInversion ":consist-of".toList = some ":consist-of".toList
    ∧ miniModel.canonInversion ":ARG0-of".toList = some ":ARG0-of".toList
    ∧ miniModel.canonInversion ":mod\n".toList = some ":mod\n".toList := by eval_decide

/-! ## triples -/

theorem invert_swaps (m : Model) {t : Triple} {s : Str} (ht : t.tgt = .str s) :
    m.invert t = ⟨s, m.invertRole t.role, .str t.src⟩ := by
  simp [Model.invert, ht]

theorem invert_invert {m : Model} (hw : ModelWf m) {t : Triple} {s : Str} (ht : t.tgt = .str s)
    (hr : m.canonInversion t.role = some t.role) : m.invert (m.invert t) = t := by
  rw [invert_swaps m ht, invert_swaps m rfl, (inv_involutive hw hr).1, ← ht]

theorem deinvert_inverted {m : Model} (hn : m.noop = false) {t : Triple}
    (hi : m.isRoleInverted t.role = true) : m.deinvert t = m.invert t := by
  simp [Model.deinvert, hn, hi]

theorem deinvert_noninverted {m : Model} {t : Triple} (hi : m.isRoleInverted t.role = false) :
    m.deinvert t = t := by
  simp [Model.deinvert, hi]

/-- on canonical roles the deinverted triple is never inverted -/
theorem deinvert_result_not_inverted {m : Model} (hw : ModelWf m) (hn : m.noop = false)
    {t : Triple} {s : Str} (ht : t.tgt = .str s) (hr : m.canonInversion t.role = some t.role) :
    m.isRoleInverted (m.deinvert t).role = false := by
  cases hi : m.isRoleInverted t.role with
  | false => rw [deinvert_noninverted hi, hi]
  | true =>
    rw [deinvert_inverted hn hi, invert_swaps m ht]
    show m.isRoleInverted (m.invertRole t.role) = false
    rw [(inv_involutive hw hr).2, hi]; rfl

theorem noop_deinvert_id {m : Model} (hn : m.noop = true) (t : Triple) : m.deinvert t = t := by
  simp [Model.deinvert, hn]

theorem noopModel_deinvert_id (t : Triple) : Generated.noopModel.deinvert t = t :=
  noop_deinvert_id rfl t

example : miniModel.noop = false
    ∧ miniModel.isRoleInverted ":ARG0-of".toList = true
    ∧ miniModel.isRoleInverted ":consist-of".toList = false
    ∧ miniModel.deinvert ⟨['a'], ":ARG0-of".toList, .str ['b']⟩ = ⟨['b'], ":ARG0".toList, .str ['a']⟩
    ∧ miniModel.deinvert ⟨['a'], ":consist-of".toList, .str ['b']⟩
        = ⟨['a'], ":consist-of".toList, .str ['b']⟩ := by eval_decide

/-! ## trees -/

/-- the walk never fails -/
theorem canon_tree_total (m : Model) (n : Node) : ∃ n', canonNode m n = .ok n' :=
  canonNode_total m n

/-- same variables, same atomic targets, same nesting; each role token is rewritten by
    `RoleRewritten`: the part before the first `'~'` is canonicalised, the alignment part
    (`""` or `"~…"`) is appended verbatim. -/
theorem canon_tree_shape {m : Model} {n n' : Node} (h : canonNode m n = .ok n') :
    Node.sameShape (RoleRewritten m) n n' :=
  canonNode_shape m n n' h

/-- under `ModelWf` the rewritten token splits again into the canonical role and the very
    same alignment part -/
theorem canon_tree_alignment {m : Model} (hw : ModelWf m) {role role' : Str}
    (h : RoleRewritten m role role') :
    m.canonRole (rolePart role) = some (rolePart role') ∧ alnPart role' = alnPart role := by
  obtain ⟨c, hc, rfl⟩ := h
  have hnt := canonRole_noTilde hw.2.2 (rolePart_noTilde role) hc
  obtain ⟨h1, h2⟩ := partition_rebuild hnt (alnPart_cases role)
  rw [h1, h2]; exact ⟨hc, rfl⟩

mutual
theorem sameShape_vars_node {R : Str → Str → Prop} : ∀ (n n' : Node), Node.sameShape R n n' →
    n.nodes.map (·.1) = n'.nodes.map (·.1)
  | .mk v bs, .mk v' bs', h => by
    obtain ⟨rfl, hb⟩ := h
    simp only [Node.nodes, List.map_append, sameShape_vars_branches bs bs' hb]
    cases v <;> rfl
theorem sameShape_vars_branches {R : Str → Str → Prop} : ∀ (b b' : Branches),
    Branches.sameShape R b b' → b.nodes.map (·.1) = b'.nodes.map (·.1)
  | .nil, .nil, _ => rfl
  | .atom _ _ rest, .atom _ _ rest', h => by
    simp only [Branches.nodes]; exact sameShape_vars_branches rest rest' h.2.2
  | .sub _ n rest, .sub _ n' rest', h => by
    simp only [Branches.nodes, List.map_append, sameShape_vars_node n n' h.2.1,
      sameShape_vars_branches rest rest' h.2.2]
  | .nil, .atom .., h | .nil, .sub .., h | .atom .., .nil, h | .atom .., .sub .., h
  | .sub .., .nil, h | .sub .., .atom .., h => h.elim
end

/-- in particular the variables of the tree, in depth-first order, are unchanged -/
theorem canon_tree_vars {m : Model} {n n' : Node} (h : canonNode m n = .ok n') :
    n'.nodes.map (·.1) = n.nodes.map (·.1) :=
  (sameShape_vars_node n n' (canon_tree_shape h)).symm

theorem canon_tree_idem {m : Model} (hw : ModelWf m) {n n' : Node} (h : canonNode m n = .ok n') :
    canonNode m n' = .ok n' :=
  canonNode_idem hw.2.1 hw.2.2 h

theorem canonicalizeRoles_ok {m : Model} {t t' : Tree} :
    canonicalizeRoles m t = .ok t' ↔ ∃ n', canonNode m t.node = .ok n' ∧ t' = { t with node := n' } := by
  unfold canonicalizeRoles
  cases canonNode m t.node with
  | error e => simp [bind, Except.bind]
  | ok n' => simp [bind, Except.bind, pure, Except.pure, eq_comm]

theorem canonicalizeRoles_shape {m : Model} {t t' : Tree} (h : canonicalizeRoles m t = .ok t') :
    t'.metadata = t.metadata ∧ Node.sameShape (RoleRewritten m) t.node t'.node := by
  obtain ⟨n', hn, rfl⟩ := canonicalizeRoles_ok.1 h
  exact ⟨rfl, canon_tree_shape hn⟩

theorem canonicalizeRoles_total (m : Model) (t : Tree) : ∃ t', canonicalizeRoles m t = .ok t' := by
  obtain ⟨n', hn⟩ := canon_tree_total m t.node
  exact ⟨_, canonicalizeRoles_ok.2 ⟨n', hn, rfl⟩⟩

theorem canonicalizeRoles_idem {m : Model} (hw : ModelWf m) {t t' : Tree}
    (h : canonicalizeRoles m t = .ok t') : canonicalizeRoles m t' = .ok t' := by
  obtain ⟨n', hn, rfl⟩ := canonicalizeRoles_ok.1 h
  exact canonicalizeRoles_ok.2 ⟨n', canon_tree_idem hw hn, rfl⟩

/-- `(a / x :ARG0-of-of-of~e.1 (b / y :mod-of 5))` ↦ `(a / x :ARG0-of~e.1 (b / y :domain 5))` -/
example :
    canonNode miniModel
      (.mk (some ['a']) (.atom ['/'] (.str ['x'])
        (.sub "ARG0-of-of-of~e.1".toList
          (.mk (some ['b']) (.atom ['/'] (.str ['y']) (.atom ":mod-of".toList (.num ['5']) .nil)))
          .nil)))
    = .ok
      (.mk (some ['a']) (.atom ['/'] (.str ['x'])
        (.sub ":ARG0-of~e.1".toList
          (.mk (some ['b']) (.atom ['/'] (.str ['y']) (.atom ":domain".toList (.num ['5']) .nil)))
          .nil))) := by
  eval_rfl

/-! ## Negations: what happens outside `ModelWf` -/
section Negations

/-- a normalisation chain `:a ↦ :b ↦ :c` -/
def chainModel : Model := { norm := [(":a".toList, ":b".toList), (":b".toList, ":c".toList)] }
attribute [eval_unfold] chainModel

example : ¬ ModelWf chainModel := by eval_decide
/-- `canonicalize_role` is not idempotent on a chain -/
example : chainModel.canonRole ":a".toList = some ":b".toList
    ∧ chainModel.canonRole ":b".toList ≠ some ":b".toList := by eval_decide

/-- both `:X` and `:X-of` defined -/
def pairModel : Model := { roles := [.lit ":X".toList, .lit ":X-of".toList] }
attribute [eval_unfold] pairModel

example : ¬ ModelWf pairModel := by eval_decide
/-- `invert_role` is not an involution on the canonical role `:X`, and does not flip `:X-of` -/
example : pairModel.canonInversion ":X".toList = some ":X".toList
    ∧ pairModel.invertRole (pairModel.invertRole ":X".toList) = ":X-of-of".toList
    ∧ pairModel.isRoleInverted (pairModel.invertRole ":X".toList) = pairModel.isRoleInverted ":X".toList := by
  eval_decide

/-- slash followed by `-of` is a defined role: clauses (i) and (ii) hold, (iii) fails -/
def slashModel : Model := { roles := [.lit ('/' :: ofStr)] }
attribute [eval_unfold] slashModel

example : slashModel.noDefinedPair = true ∧ slashModel.normOk = true ∧ ¬ ModelWf slashModel := by eval_decide
/-- then `canonicalize_role("/")` has no colon and is not a fixed point -/
example : slashModel.canonRole ['/'] = some ('/' :: ofStr ++ ofStr)
    ∧ slashModel.canonRole ('/' :: ofStr ++ ofStr) = some ":/".toList := by eval_decide

/-- a normalisation value without colon that IS a fixed point of `canonRole` -/
def noColonModel : Model := { norm := [(":b".toList, "b".toList)] }
attribute [eval_unfold] noColonModel

example : noColonModel.noDefinedPair = true ∧ noColonModel.slashOk = true
    ∧ noColonModel.canonRole "b".toList = some "b".toList ∧ ¬ ModelWf noColonModel := by eval_decide

/-- a normalisation value containing `'~'`: every value is a coloned fixed point of `canonRole`,
    yet the tree walk is not idempotent on the role token `:b` -/
def tildeModel : Model := { norm := [(":b".toList, ":a~y".toList), (":a".toList, ":c".toList)] }
attribute [eval_unfold] tildeModel

example : tildeModel.canonRole ":a~y".toList = some ":a~y".toList
    ∧ tildeModel.canonRole ":c".toList = some ":c".toList ∧ ¬ ModelWf tildeModel := by eval_decide
example : (canonBranches.canonRoleText tildeModel ":b".toList).toOption = some ":a~y".toList
    ∧ (canonBranches.canonRoleText tildeModel ":a~y".toList).toOption = some ":c~y".toList := by eval_decide

end Negations

end Penman.C13
