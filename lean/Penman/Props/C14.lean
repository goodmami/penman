/-
  # C14 — Layout diagnostics agree with the text the graph was decoded from

  Model functions: `nodeContexts` (`penman.layout.node_contexts`), `getPushedVariable`
  (`get_pushed_variable`), `appearsInverted` (`appears_inverted`) on `g = interpret … t`.
  Reference: `Reading.writer` of `Penman.Spec.Reading`, computed directly from the tree:
  per written relation its triple, the variable of the node that wrote it, the variable of
  the nested node it opens, and whether it was written inverted (the reading swapped it).

  Clause of the property text                                     ↦ theorem
  --------------------------------------------------------------------------------------
  "for every graph decoded from a well-formed tree"               ↦ hypothesis `WfLayout` (decidable),
                                                                     which also gives that decoding succeeds
  "the node context reported for each triple is the variable of
   the tree node whose branch list (or concept) wrote it — never
   unknown"                                                       ↦ `C14` clause 2 (`nodeContexts g = .ok (… some ctx …)`),
                                                                     `writer_ctx_is_writing_node`
  "the pushed variable of a triple is the variable of the nested
   node that branch opened, if any"                               ↦ `C14` clauses 3, 4
  "a triple whose source and target differ is reported as
   appearing inverted exactly when the text wrote it from its
   target's node with an inverted role"                           ↦ `C14` clause 5 + `writer_swapped_iff`
  "On graphs without markers the diagnostics answer
   unknown/False instead of raising"                              ↦ `getPushedVariable_markerless`,
                                                                     `nodeContexts_markerless`,
                                                                     `appearsInverted_markerless`, and for *every* graph
                                                                     `nodeContexts_total`, `appearsInverted_total`

  `WfLayout isAlpha m t` := the tree has a reading `r` (every node has a variable, alignment
  strings parse) and `r.Layoutable`:
    (1) the denoted triples are pairwise distinct          (else `epimap` drops the later markers),
    (2) every role is written with its colon               (else markers are filed under a key that is
                                                            not a triple of the graph: C04, OBSERVATION),
    (3) no nested node has the empty string as variable    (Python: `if pushed:`),
    (4) no relation written inverted denotes an `:instance` triple (`:instance-of (b / …)`; an
        instance triple is only eligible for its source's context).
  "Variables defined once" and "no inverted self-loop" are NOT needed (the
  self-loop case is excluded by the property's own "source and target differ").
  Each of (1)–(4) is necessary: see the counterexamples at the end (all by kernel evaluation).

  Fix F19 (in /repo and in the model): on corrupted markers `node_contexts` answers unknown
  where it raised IndexError; `nodeContexts_total` covers every graph, `exCorrupt` is the
  concrete one.

  Nothing is left unproved in this file.
-/
import Penman.Proofs.Decoded
import Penman.Generated
import Penman.Proofs.Eval
namespace Penman.Props.C14
open Penman Penman.Spec.Reading Penman.Interp

/-- well-formedness for layout diagnostics (decidable) -/
def WfLayout (isAlpha : Char → Bool) (m : Model) (t : Tree) : Prop :=
  match read isAlpha m t.node with
  | .ok r => r.Layoutable
  | .error _ => False

instance (isAlpha : Char → Bool) (m : Model) (t : Tree) : Decidable (WfLayout isAlpha m t) := by
  unfold WfLayout; split <;> infer_instance

/-- **C14.** For a well-formed tree decoding succeeds, and with `g` the decoded graph and
    `r.writer` the list (triple, writing node, opened node, written inverted) read off the tree:
    1. the triples of `g` are those of `writer`, in order;
    2. `node_contexts(g)` is the writing node of each triple — never `None`, never an error;
    3. `get_pushed_variable(g, triple)` is the opened node of that relation (or `None`);
    4. … and `None` for any triple not in `g`;
    5. for a triple whose source and target differ, `appears_inverted(g, triple)` is exactly
       "written inverted". -/
theorem C14 (isAlpha : Char → Bool) (m : Model) (t : Tree) (hwf : WfLayout isAlpha m t) :
    ∃ g r, interpret isAlpha m t = .ok g ∧ read isAlpha m t.node = .ok r ∧
      g.triples = r.writer.map (·.1) ∧
      nodeContexts g = .ok (r.writer.map fun w => some w.2.1) ∧
      (∀ w ∈ r.writer, getPushedVariable g w.1 = w.2.2.1) ∧
      (∀ tr, tr ∉ g.triples → getPushedVariable g tr = none) ∧
      (∀ w ∈ r.writer, Atom.str w.1.src ≠ w.1.tgt → appearsInverted g w.1 = .ok w.2.2.2) := by
  unfold WfLayout at hwf
  cases hr : read isAlpha m t.node with
  | error e => simp [hr] at hwf
  | ok r =>
    simp only [hr] at hwf
    obtain ⟨g, hg⟩ := interpret_defined hr
    obtain ⟨v, ds, es, D⟩ := decoded hg
    rw [D.rd] at hr; cases hr
    have hcol : ∀ d ∈ ds, colon d.triple = d.triple := fun d hd => by
      have := hwf.2.1 d hd; simp only [colon, this]
    have hw : Reading.writer ⟨some v, ds⟩ = ds.map fun d => (d.triple, d.ctx, d.opens, d.swapped) := by
      apply List.map_congr_left; intro d hd; rw [hcol d hd]
    refine ⟨g, ⟨some v, ds⟩, hg, rfl, ?_, ?_, ?_, ?_, ?_⟩
    · rw [hw, D.triples_eq hwf]; simp
    · rw [hw, D.nodeContexts hwf]; simp
    · intro w hwm
      rw [hw] at hwm
      obtain ⟨d, hd, rfl⟩ := List.mem_map.1 hwm
      exact D.pushed hwf hd
    · intro tr htr
      rw [D.triples_eq hwf] at htr
      exact D.pushed_none htr
    · intro w hwm hne
      rw [hw] at hwm
      obtain ⟨d, hd, rfl⟩ := List.mem_map.1 hwm
      exact D.appearsInverted hwf hd hne

/-- the `ctx` component of `writer` is, by construction, the variable of the node in whose
    branch list (or as whose implied node label) the relation is written: it is copied from
    `Written.ctx`, which `Node.written` sets to the variable of the enclosing node. -/
theorem writer_ctx_is_writing_node (isAlpha : Char → Bool) (m : Model) (vars : List Str) (w : Written) (d : Denoted)
    (h : denote isAlpha m vars w = .ok d) : w.ctx = some d.ctx ∧
      (d.opens = match w.tgt with | .opens v => v | .atom _ => none) := by
  obtain ⟨hc, -, hs⟩ := denote_shape h
  refine ⟨hc, ?_⟩
  cases hs with
  | opens nv h1 h2 => rw [h1, h2]
  | null h1 h2 => rw [h1, h2]
  | str raw h1 h2 => rw [h1, h2]

/-- "written inverted": the relation was swapped iff the triple's *target* is the writing node
    and the role as written is an inverted one (and the model deinverts); otherwise the
    writing node is the triple's source. -/
theorem writer_swapped_iff (isAlpha : Char → Bool) (m : Model) (vars : List Str) (w : Written) (d : Denoted)
    (h : denote isAlpha m vars w = .ok d) :
    (d.swapped = true → d.triple.tgt = .str d.ctx ∧ m.isRoleInverted (roleName w.role) = true ∧
        d.triple.role = m.invertRole (roleName w.role)) ∧
    (d.swapped = false → d.triple.src = d.ctx ∧ d.triple.role = roleName w.role) := by
  obtain ⟨-, -, hs⟩ := denote_shape h
  cases hs with
  | opens nv h1 h2 h3 h4 =>
    constructor
    · intro hsw; rw [hsw] at h4 h3
      have := h3.symm; simp only [Bool.and_eq_true] at this
      simp [h4, orientTriple, Model.invert, this.2]
    · intro hsw; rw [hsw] at h4; simp [h4, orientTriple]
  | null h1 h2 h3 h4 => simp [h3, h4]
  | str raw h1 h2 h3 h4 =>
    constructor
    · intro hsw; rw [hsw] at h4 h3
      have := h3.symm; simp only [Bool.and_eq_true] at this
      simp [h4, orientTriple, Model.invert, this.1.2]
    · intro hsw; rw [hsw] at h4; simp [h4, orientTriple]

/-! ## every graph: the diagnostics never raise -/

/-- `node_contexts` returns (one entry per triple) for EVERY graph, whatever its markers -/
theorem nodeContexts_total (g : Graph) : ∃ l, nodeContexts g = .ok l ∧ l.length = g.triples.length :=
  ⟨_, nodeContexts_eq_run g, by rw [run_length, countT_eventsG]⟩

/-- `appears_inverted` returns for EVERY graph and triple -/
theorem appearsInverted_total (g : Graph) (t : Triple) : ∃ b, appearsInverted g t = .ok b :=
  ⟨_, appearsInverted_eq g t⟩

/-! ## marker-less graphs -/

theorem getPushedVariable_markerless (g : Graph) (h : g.epidata = []) (t : Triple) :
    getPushedVariable g t = none := by
  simp [getPushedVariable, h, AList.get?]

/-- without markers the context is the top for as long as the top is eligible
    (source, or variable target of a non-instance triple), and unknown from then on -/
theorem nodeContexts_markerless (g : Graph) (h : g.epidata = []) :
    nodeContexts g = .ok (match g.getTop with
      | some c => topWhileEligible g.variables c g.triples
      | none => List.replicate g.triples.length none) := by
  rw [nodeContexts_eq_run, eventsG_markerless g h]
  cases hc : g.getTop with
  | some c => simp only [run_markerless]
  | none =>
    cases ht : g.triples with
    | nil => rfl
    | cons a l => simp [run, countT_map_t]

/-- without markers `appears_inverted` is `False` for instance triples and attributes, and for an
    edge it is decided by the (marker-less) node contexts alone: never an error -/
theorem appearsInverted_markerless (g : Graph) (h : g.epidata = []) (t : Triple) :
    appearsInverted g t = .ok
      (if t.role = CONCEPT_ROLE || !g.isVar t.tgt then false
       else invertedScan t (match g.getTop with
          | some c => topWhileEligible g.variables c g.triples
          | none => List.replicate g.triples.length none) g.triples) := by
  have hc := nodeContexts_markerless g h
  rw [nodeContexts_eq_run] at hc
  simp only [Except.ok.injEq] at hc
  rw [appearsInverted_eq, getPushedVariable_markerless g h, hc]

/-! ## non-vacuity -/

private def s (x : String) : Str := x.toList
private def T (src role tgt : String) : Triple := ⟨s src, s role, .str (s tgt)⟩

attribute [eval_unfold] s T

/-- docstring example of `node_contexts`:
    `(a / alpha :attr val :ARG0 (b / beta :ARG0 (g / gamma)) :ARG0-of g)`;
    `(g / gamma))` closes two node contexts on one triple (two POPs) -/
def exDoc : Tree := ⟨.mk (some (s "a")) (.atom (s "/") (.str (s "alpha")) (.atom (s ":attr") (.str (s "val"))
  (.sub (s ":ARG0") (.mk (some (s "b")) (.atom (s "/") (.str (s "beta"))
      (.sub (s ":ARG0") (.mk (some (s "g")) (.atom (s "/") (.str (s "gamma")) .nil)) .nil)))
  (.atom (s ":ARG0-of") (.str (s "g")) .nil)))), []⟩
attribute [eval_unfold] exDoc

example : WfLayout isAsciiAlpha Generated.defaultModel exDoc := by eval_decide
example : WfLayout isAsciiAlpha Generated.amrModel exDoc := by eval_decide

example : ((read isAsciiAlpha Generated.defaultModel exDoc.node).map (·.writer)).toOption =
    some [(T "a" ":instance" "alpha", s "a", none, false), (T "a" ":attr" "val", s "a", none, false),
          (T "a" ":ARG0" "b", s "a", some (s "b"), false), (T "b" ":instance" "beta", s "b", none, false),
          (T "b" ":ARG0" "g", s "b", some (s "g"), false), (T "g" ":instance" "gamma", s "g", none, false),
          (T "g" ":ARG0" "a", s "a", none, true)] := by eval_decide

/-- the docstring's expected output, computed by the model -/
example : ((interpret isAsciiAlpha Generated.defaultModel exDoc) >>= nodeContexts).toOption =
    some [some (s "a"), some (s "a"), some (s "a"), some (s "b"), some (s "b"), some (s "g"), some (s "a")] := by
  eval_decide

example : ((interpret isAsciiAlpha Generated.defaultModel exDoc).map fun g =>
      (g.triples.map fun tr => (appearsInverted g tr).toOption)).toOption =
    some [some false, some false, some false, some false, some false, some false, some true] := by eval_decide

/-- deep nesting, a concept-less node with edges, an inverted nested node, three closes at once:
    `(a :ARG0 (b :ARG1-of (c / x :ARG2 (d))) :mod a2)` -/
def exDeep : Tree := ⟨.mk (some (s "a"))
  (.sub (s ":ARG0") (.mk (some (s "b"))
    (.sub (s ":ARG1-of") (.mk (some (s "c")) (.atom (s "/") (.str (s "x"))
      (.sub (s ":ARG2") (.mk (some (s "d")) .nil) .nil))) .nil))
  (.atom (s ":mod") (.str (s "a2")) .nil)), []⟩
attribute [eval_unfold] exDeep

example : WfLayout isAsciiAlpha Generated.defaultModel exDeep := by eval_decide
example : ((interpret isAsciiAlpha Generated.defaultModel exDeep) >>= nodeContexts).toOption =
    some [some (s "a"), some (s "a"), some (s "b"), some (s "b"), some (s "c"), some (s "c"), some (s "d"),
          some (s "a")] := by eval_decide

/-! ### marker-less and corrupted graphs -/

def exBare : Graph := { triples := [T "a" ":instance" "x", T "a" ":ARG0" "b", T "b" ":instance" "y"] }
attribute [eval_unfold] exBare

example : exBare.epidata = [] := rfl
example : (nodeContexts exBare).toOption = some [some (s "a"), some (s "a"), none] := by eval_decide
example : (appearsInverted exBare (T "a" ":ARG0" "b")).toOption = some false := by eval_decide

/-- a POP on the first triple empties the stack: before fix F19 `node_contexts` raised
    `IndexError: list index out of range` at `stack[-1]` for the second triple; with the fix the
    context is unknown from there on -/
def exCorrupt : Graph :=
  { triples := [T "a" ":instance" "x", T "a" ":ARG0" "b"],
    epidata := [(T "a" ":instance" "x", [.pop])] }
attribute [eval_unfold] exCorrupt

example : (nodeContexts exCorrupt).toOption = some [some (s "a"), none] := by eval_decide
example : (appearsInverted exCorrupt (T "a" ":ARG0" "b")).toOption = some false := by eval_decide

/-! ### each clause of `Layoutable` is necessary -/

/-- (1) duplicate triple, the second occurrence opens a node: `(a / x :R b :R (b / y))`.
    The Push of the second `(a :R b)` is dropped with its markers, `b`'s triples get no context. -/
def exDup : Tree := ⟨.mk (some (s "a")) (.atom (s "/") (.str (s "x")) (.atom (s ":R") (.str (s "b"))
  (.sub (s ":R") (.mk (some (s "b")) (.atom (s "/") (.str (s "y")) .nil)) .nil))), []⟩
attribute [eval_unfold] exDup
example : ¬ WfLayout isAsciiAlpha Generated.defaultModel exDup := by eval_decide
example : ((interpret isAsciiAlpha Generated.defaultModel exDup) >>= nodeContexts).toOption =
    some [some (s "a"), some (s "a"), some (s "a"), none] := by eval_decide

/-- (2) role without colon (the docstring example of `interpret`): see C04, OBSERVATION -/
def exNoColon : Tree := ⟨.mk (some (s "b")) (.atom (s "/") (.str (s "bark-01"))
  (.sub (s "ARG0") (.mk (some (s "d")) (.atom (s "/") (.str (s "dog")) .nil)) .nil)), []⟩
attribute [eval_unfold] exNoColon
example : ¬ WfLayout isAsciiAlpha Generated.defaultModel exNoColon := by eval_decide
example : ((interpret isAsciiAlpha Generated.defaultModel exNoColon) >>= nodeContexts).toOption =
    some [some (s "b"), some (s "b"), none] := by eval_decide

/-- (3) a nested node whose variable is the empty string: `Push('')` is falsy, its POP is not -/
def exEmptyVar : Tree := ⟨.mk (some (s "a")) (.atom (s "/") (.str (s "x"))
  (.sub (s ":R") (.mk (some []) (.atom (s "/") (.str (s "y")) .nil))
  (.atom (s ":mod") (.str (s "z")) .nil))), []⟩
attribute [eval_unfold] exEmptyVar
example : ¬ WfLayout isAsciiAlpha Generated.defaultModel exEmptyVar := by eval_decide
example : ((interpret isAsciiAlpha Generated.defaultModel exEmptyVar) >>= nodeContexts).toOption =
    some [some (s "a"), some (s "a"), none, none] := by eval_decide

/-- (4) `:instance-of` on a node: `(a / x :instance-of (b / y))` denotes `(b :instance a)`,
    which is only eligible for context `b` (real code: `['a', None, None]`) -/
def exInstOf : Tree := ⟨.mk (some (s "a")) (.atom (s "/") (.str (s "x"))
  (.sub (s ":instance-of") (.mk (some (s "b")) (.atom (s "/") (.str (s "y")) .nil)) .nil)), []⟩
attribute [eval_unfold] exInstOf
example : ¬ WfLayout isAsciiAlpha Generated.defaultModel exInstOf := by eval_decide
example : ((interpret isAsciiAlpha Generated.defaultModel exInstOf) >>= nodeContexts).toOption =
    some [some (s "a"), none, none] := by eval_decide

end Penman.Props.C14
