/-
  Penman.Props.C15 — "Graph queries partition the triples; graph set operations
  are set algebra" for the model of `penman/graph.py` in `Penman/Graph.lean`.

  All theorems hold for EVERY `Graph` value (no well-formedness hypothesis), with one
  exception that is forced and stated explicitly:

  * `EpiDict h` (= the keys of `h.epidata` are duplicate-free) is needed for the
    marker statement in the form "`h`'s entry wins" (`union_markers`,
    `union_markers_added`).  The model stores the Python `dict` `epidata` as an
    association list; a list with a repeated key is not the image of any `dict`.
    `dict.update` lets the LAST entry win while a lookup finds the FIRST, so for a
    non-dict list the statement is false (`union_markers_needs_dict`, by evaluation).
    The unconditional form is `union_markers_general` (last entry of `h` wins).
    `EpiDict` is decidable, holds for every graph built by `Graph.mk'`
    (`epiDict_mk'`) and is preserved by all four operators (`epiDict_preserved`).

  Map from the clauses of the property text to theorems
  ------------------------------------------------------
  "instances, edges and attributes partition the triples (each triple in exactly
   one, original order kept)"          → `partition` (filters by three pairwise
                                          exclusive, jointly exhaustive classes;
                                          sublists; lengths and per-triple
                                          occurrence counts add up; membership in
                                          exactly one)
  "edges are exactly the non-instance triples whose target is a variable"
                                        → `edges_char`, `edges_char'`,
                                          `attributes_char`, `instances_char`,
                                          `mem_variables`, `variables_nodup`
  "filters select sub-lists"            → `filters_sublist`
  "the implicit top is the first triple's source"
                                        → `implicit_top`, `explicit_top`
  "assigning a top that is not a variable is refused"
                                        → `setTop_refuses`, `setTop_accepts`,
                                          `setTop_none`
  "re-entrancy counts equal in-degree (plus one for the top) minus one"
                                        → `reentrancies_spec`
  "Union ... order-preserving set operations on triples that carry each added
   triple's markers along"              → `union_triples`, `union_mem`,
                                          `union_markers_general`, `union_markers`,
                                          `union_markers_added`, `union_top_metadata`
  "difference"                          → `difference_triples`, `difference_markers`
  "drop an explicit top once it no longer occurs in any remaining triple"
                                        → `difference_top`
  "leave operands untouched (except in-place forms)"
                                        → `operands_untouched` (+ remark there: the
                                          model is purely functional, so this is by
                                          construction)
  set algebra, all finite operation sequences
                                        → `or_idem`, `or_sub_cancel`, `or_comm_mem`,
                                          `or_assoc`, `sub_or_mem`, `sub_sub`,
                                          `ops_mem` (general, by induction over the
                                          sequence), `ops_triples` (order-preserving
                                          list form), `ops_nodup`, `eqv_equivalence`
  `Graph.__init__`                      → `mk'_facts`

  The `example`s are on the nine-triple graph `exG`
  (`(w / want-01 :ARG0 (b / boy :quant 2) :ARG1 (g / go-02 :ARG0 b :polarity - :time 10))`,
  re-entrancy on `b`) and a second graph `exH`; `exK`, `exG2` serve the difference examples.
-/
import Penman.Proofs.GraphLemmas
import Penman.Proofs.Eval
namespace Penman.C15

/-! ## the concrete graphs used in the non-vacuity examples -/

private def s (x : String) : Str := x.toList
def tI (v c : String) : Triple := ⟨s v, s ":instance", .str (s c)⟩
def tE (v r w : String) : Triple := ⟨s v, s r, .str (s w)⟩
def tN (v r n : String) : Triple := ⟨s v, s r, .num (s n)⟩

/-- nine triples; the role of the second one is given without its colon -/
def exTriples : List Triple :=
  [tI "w" "want-01", tE "w" "ARG0" "b", tI "b" "boy", tE "w" ":ARG1" "g", tI "g" "go-02",
   tE "g" ":ARG0" "b", tE "g" ":polarity" "-", tN "g" ":time" "10", tN "b" ":quant" "2"]

/-- the graph, built through `Graph.__init__`; the epidata list has a repeated key -/
def exG : Graph :=
  Graph.mk' exTriples none
    [(tE "w" ":ARG0" "b", [.push (s "b")]), (tN "b" ":quant" "2", []),
     (tN "b" ":quant" "2", [.pop])]
    [(s "snt", s "The boy wants to go.")]

/-- a second operand: shares one triple with `exG`, adds two, has markers for all three -/
def exH : Graph :=
  Graph.mk' [tE "g" ":ARG0" "b", tE "b" ":mod" "y", tI "y" "young"] (some (s "b"))
    [(tE "g" ":ARG0" "b", [.aln none [3]]), (tE "b" ":mod" "y", [.push (s "y")]),
     (tI "y" "young", [.pop])]
    [(s "id", s "2")]

attribute [eval_unfold] s tI tE tN exTriples exG exH

/-! ## partition -/

/-- `instances`, `edges`, `attributes` are the filters of `g.triples` by three classes
    (`isInstT`, `g.isEdgeT`, `g.isAttrT`) of which exactly one holds for every triple;
    hence each is a sublist (order kept), lengths and per-triple occurrence counts add
    up, and every triple of the graph is in exactly one of the three lists. -/
theorem partition (g : Graph) :
    (g.triples.filter isInstT = g.instances ∧ g.triples.filter g.isEdgeT = g.edges ∧
      g.triples.filter g.isAttrT = g.attributes) ∧
    (∀ t, (isInstT t = true ∧ g.isEdgeT t = false ∧ g.isAttrT t = false) ∨
          (isInstT t = false ∧ g.isEdgeT t = true ∧ g.isAttrT t = false) ∨
          (isInstT t = false ∧ g.isEdgeT t = false ∧ g.isAttrT t = true)) ∧
    (g.instances.Sublist g.triples ∧ g.edges.Sublist g.triples ∧
      g.attributes.Sublist g.triples) ∧
    g.triples.length = g.instances.length + g.edges.length + g.attributes.length ∧
    (∀ t, g.triples.count t = g.instances.count t + g.edges.count t + g.attributes.count t) ∧
    (∀ t ∈ g.triples,
      (t ∈ g.instances ∧ t ∉ g.edges ∧ t ∉ g.attributes) ∨
      (t ∉ g.instances ∧ t ∈ g.edges ∧ t ∉ g.attributes) ∨
      (t ∉ g.instances ∧ t ∉ g.edges ∧ t ∈ g.attributes)) := by
  refine ⟨⟨(instances_eq_filter g).symm, (edges_eq_filter g).symm,
      (attributes_eq_filter g).symm⟩, class_exclusive_exhaustive g, ?_, ?_, ?_, ?_⟩
  · rw [instances_eq_filter, edges_eq_filter, attributes_eq_filter]
    exact ⟨List.filter_sublist, List.filter_sublist, List.filter_sublist⟩
  · rw [instances_eq_filter, edges_eq_filter, attributes_eq_filter]
    exact length_partition g g.triples
  · intro t
    rw [instances_eq_filter, edges_eq_filter, attributes_eq_filter]
    exact count_partition g g.triples t
  · intro t ht
    rw [instances_eq_filter, edges_eq_filter, attributes_eq_filter]
    simp only [List.mem_filter, ht, true_and]
    rcases class_exclusive_exhaustive g t with h | h | h <;> simp [h.1, h.2.1, h.2.2]

example : exG.triples.length = 9 ∧
    exG.instances = [tI "w" "want-01", tI "b" "boy", tI "g" "go-02"] ∧
    exG.edges = [tE "w" ":ARG0" "b", tE "w" ":ARG1" "g", tE "g" ":ARG0" "b"] ∧
    exG.attributes = [tE "g" ":polarity" "-", tN "g" ":time" "10", tN "b" ":quant" "2"] := by
  eval_decide

/-! ## characterisations -/

theorem instances_char (g : Graph) (t : Triple) :
    t ∈ g.instances ↔ t ∈ g.triples ∧ t.role = CONCEPT_ROLE := by
  simp [instances_eq_filter, isInstT]

theorem edges_char (g : Graph) (t : Triple) :
    t ∈ g.edges ↔ t ∈ g.triples ∧ t.role ≠ CONCEPT_ROLE ∧ g.isVar t.tgt = true := by
  simp [edges_eq_filter, Graph.isEdgeT]

theorem attributes_char (g : Graph) (t : Triple) :
    t ∈ g.attributes ↔ t ∈ g.triples ∧ t.role ≠ CONCEPT_ROLE ∧ g.isVar t.tgt = false := by
  simp [attributes_eq_filter, Graph.isAttrT]

/-- a variable is a source of some triple, or the explicit top -/
theorem mem_variables (g : Graph) (v : Str) :
    v ∈ g.variables ↔ (∃ t ∈ g.triples, t.src = v) ∨ g.top = some v :=
  Penman.mem_variables g v

theorem variables_nodup (g : Graph) : g.variables.Nodup := Penman.variables_nodup g

/-- `edges_char` with "is a variable" spelled out -/
theorem edges_char' (g : Graph) (t : Triple) :
    t ∈ g.edges ↔ t ∈ g.triples ∧ t.role ≠ CONCEPT_ROLE ∧
      ∃ v, t.tgt = .str v ∧ ((∃ u ∈ g.triples, u.src = v) ∨ g.top = some v) := by
  rw [edges_char, isVar_iff]
  simp only [Penman.mem_variables]

example : tE "g" ":ARG0" "b" ∈ exG.edges ∧ tE "g" ":polarity" "-" ∉ exG.edges ∧
    exG.variables = [s "w", s "b", s "g"] ∧
    ({ exG with top := some (s "zz") }).variables = [s "w", s "b", s "g", s "zz"] := by
  eval_decide

/-! ## filters -/

/-- `edges(source, role, target)` / `attributes(...)` / `_filter_triples(...)` select, in
    order, exactly the entries matching the pattern (`none` = wildcard). -/
theorem filters_sublist (g : Graph) (src role : Option Str) (tgt : Option Atom) :
    (g.edges src role tgt = g.edges.filter (matchT src role tgt) ∧
      (g.edges src role tgt).Sublist g.edges ∧
      ∀ x, x ∈ g.edges src role tgt ↔ x ∈ g.edges ∧
        (∀ a, src = some a → a = x.src) ∧ (∀ r, role = some r → r = x.role) ∧
        (∀ a, tgt = some a → a = x.tgt)) ∧
    (g.attributes src role tgt = g.attributes.filter (matchT src role tgt) ∧
      (g.attributes src role tgt).Sublist g.attributes ∧
      ∀ x, x ∈ g.attributes src role tgt ↔ x ∈ g.attributes ∧
        (∀ a, src = some a → a = x.src) ∧ (∀ r, role = some r → r = x.role) ∧
        (∀ a, tgt = some a → a = x.tgt)) ∧
    (g.filterTriples src role tgt = g.triples.filter (matchT src role tgt) ∧
      (g.filterTriples src role tgt).Sublist g.triples) := by
  refine ⟨⟨edges_filtered g _ _ _, ?_, ?_⟩, ⟨attributes_filtered g _ _ _, ?_, ?_⟩,
    filterTriples_eq g _ _ _, ?_⟩
  · rw [edges_filtered]; exact List.filter_sublist
  · intro x; rw [edges_filtered, List.mem_filter, matchT_iff]
  · rw [attributes_filtered]; exact List.filter_sublist
  · intro x; rw [attributes_filtered, List.mem_filter, matchT_iff]
  · rw [filterTriples_eq]; exact List.filter_sublist

example : exG.edges none none (some (.str (s "b"))) = [tE "w" ":ARG0" "b", tE "g" ":ARG0" "b"] ∧
    exG.edges (some (s "w")) none none = [tE "w" ":ARG0" "b", tE "w" ":ARG1" "g"] ∧
    exG.attributes (some (s "g")) (some (s ":time")) none = [tN "g" ":time" "10"] := by
  eval_decide

/-! ## top -/

theorem implicit_top (g : Graph) (h : g.top = none) :
    g.getTop = g.triples.head?.map (·.src) := getTop_of_top_none h

theorem explicit_top (g : Graph) (t : Str) (h : g.top = some t) : g.getTop = some t :=
  getTop_of_top_some h

example : exG.top = none ∧ exG.getTop = some (s "w") ∧ exH.getTop = some (s "b") ∧
    (Graph.mk' [] none [] []).getTop = none := by decide

theorem setTop_refuses (g : Graph) (t : Str) (h : t ∉ g.variables) :
    g.setTop (some t) = .error .graph := by
  simp [Graph.setTop, h]

theorem setTop_accepts (g : Graph) (t : Str) (h : t ∈ g.variables) :
    g.setTop (some t) = .ok { g with top := some t } ∧
    ({ g with top := some t } : Graph).getTop = some t := by
  simp [Graph.setTop, h, Graph.getTop]

theorem setTop_none (g : Graph) : g.setTop none = .ok { g with top := none } := rfl

example : exG.setTop (some (s "boy")) = .error .graph :=
  setTop_refuses exG _ (by eval_decide)
example : exG.setTop (some (s "g")) = .ok { exG with top := some (s "g") } :=
  (setTop_accepts exG _ (by eval_decide)).1

/-! ## re-entrancies -/

/-- With `count v := (number of edges whose target is v) + (1 if v is the top)`
    (`Graph.reentCount`): `v` is listed iff `count v ≥ 2`, its value is `count v − 1`,
    and no key is listed twice. -/
theorem reentrancies_spec (g : Graph) :
    (∀ v, g.reentCount v =
        g.edges.countP (fun t => t.tgt = Atom.str v) + (if g.getTop = some v then 1 else 0)) ∧
    (∀ v, AList.get? g.reentrancies v =
        if 2 ≤ g.reentCount v then some (g.reentCount v - 1) else none) ∧
    (∀ v n, AList.get? g.reentrancies v = some n ↔ g.reentCount v = n + 1 ∧ 1 ≤ n) ∧
    (∀ v n, (v, n) ∈ g.reentrancies ↔ 2 ≤ g.reentCount v ∧ n = g.reentCount v - 1) ∧
    (AList.keys g.reentrancies).Nodup := by
  refine ⟨fun _ => rfl, reentrancies_get? g, ?_, mem_reentrancies g, reentrancies_keys_nodup g⟩
  intro v n
  rw [reentrancies_get?]
  by_cases h : 2 ≤ g.reentCount v
  · simp only [h, if_true, Option.some.injEq]; omega
  · simp only [h, if_false]
    constructor
    · intro h'; cases h'
    · intro h'; omega

example : exG.reentrancies = [(s "b", 1)] ∧ exG.reentCount (s "b") = 2 ∧
    exG.reentCount (s "w") = 1 ∧ exG.reentCount (s "g") = 1 ∧
    ({ exG with top := some (s "b") }).reentrancies = [(s "b", 2)] := by
  eval_decide

/-! ## union -/

/-- the `epidata` association list is the image of a Python `dict` -/
def EpiDict (g : Graph) : Prop := (AList.keys g.epidata).Nodup
instance (g : Graph) : Decidable (EpiDict g) := by unfold EpiDict; infer_instance

theorem union_triples (g h : Graph) :
    (g.ior h).triples = g.triples ++ h.triples.filter (fun t => t ∉ g.triples) ∧
    (g.or h).triples = g.triples ++ h.triples.filter (fun t => t ∉ g.triples) :=
  ⟨rfl, rfl⟩

theorem union_mem (g h : Graph) (t : Triple) :
    (t ∈ (g.ior h).triples ↔ t ∈ g.triples ∨ t ∈ h.triples) ∧
    (t ∈ (g.or h).triples ↔ t ∈ g.triples ∨ t ∈ h.triples) ∧
    g.triples.Sublist (g.or h).triples ∧
    (g.triples.Nodup → h.triples.Nodup → (g.or h).triples.Nodup) := by
  refine ⟨mem_ior_triples g h t, mem_or_triples g h t, ?_, ?_⟩
  · rw [or_triples, ior_triples]; exact List.sublist_append_left _ _
  · intro hg hh; exact ior_triples_nodup hg hh

/-- markers after a union, no hypothesis: the LAST entry of `h.epidata` for the triple,
    else `g`'s entry -/
theorem union_markers_general (g h : Graph) (t : Triple) :
    AList.get? (g.ior h).epidata t =
      (AList.get? h.epidata.reverse t).or (AList.get? g.epidata t) ∧
    (g.or h).epidata = (g.ior h).epidata ∧
    (t ∈ AList.keys (g.ior h).epidata ↔ t ∈ AList.keys g.epidata ∨ t ∈ AList.keys h.epidata) :=
  ⟨ior_epidata_get? g h t, rfl, mem_keys_ior_epidata g h t⟩

/-- markers after a union when `h.epidata` is a dict: `h`'s entry, else `g`'s -/
theorem union_markers (g h : Graph) (hh : EpiDict h) (t : Triple) :
    AList.get? (g.ior h).epidata t = (AList.get? h.epidata t).or (AList.get? g.epidata t) ∧
    AList.get? (g.or h).epidata t = (AList.get? h.epidata t).or (AList.get? g.epidata t) :=
  ⟨ior_epidata_get?_of_nodup g hh t, ior_epidata_get?_of_nodup g hh t⟩

/-- every triple for which `h` has markers — in particular every triple added from `h` —
    carries `h`'s markers along (no "is added" hypothesis is needed: `dict.update` also
    overwrites the markers of triples the operands share) -/
theorem union_markers_added (g h : Graph) (hh : EpiDict h) (t : Triple) (e : List Epi)
    (he : AList.get? h.epidata t = some e) :
    AList.get? (g.ior h).epidata t = some e ∧ AList.get? (g.or h).epidata t = some e := by
  have := union_markers g h hh t
  simp only [he, Option.some_or] at this
  exact this

/-- `EpiDict` cannot be dropped from `union_markers`: with a repeated key, `dict.update`
    semantics (last wins) and lookup (first found) disagree. -/
theorem union_markers_needs_dict :
    ∃ g h t, AList.get? (Graph.ior g h).epidata t ≠
      (AList.get? h.epidata t).or (AList.get? g.epidata t) :=
  ⟨{}, { triples := [tI "a" "x"], epidata := [(tI "a" "x", [.pop]), (tI "a" "x", [])] },
    tI "a" "x", by eval_decide⟩

theorem union_top_metadata (g h : Graph) :
    (g.ior h).top = g.top ∧ (g.ior h).metadata = g.metadata ∧
    (g.or h).top = g.top ∧ (g.or h).metadata = [] ∧
    (g.ior h).getTop = g.getTop.or (h.triples.head?.map (·.src)) :=
  ⟨rfl, rfl, rfl, rfl, ior_getTop g h⟩

theorem epiDict_mk' (ts : List Triple) (top : Option Str) (e : List (Triple × List Epi))
    (m : List (Str × Str)) : EpiDict (Graph.mk' ts top e m) :=
  AList.nodup_keys_ofList e

theorem epiDict_preserved (g h : Graph) (hg : EpiDict g) :
    EpiDict (g.ior h) ∧ EpiDict (g.or h) ∧ EpiDict (g.isub h) ∧ EpiDict (g.sub h) :=
  ⟨ior_epidata_keys_nodup hg h, ior_epidata_keys_nodup (g := { g with metadata := [] }) hg h,
   isub_epidata_keys_nodup hg h, isub_epidata_keys_nodup (g := { g with metadata := [] }) hg h⟩

example : EpiDict exG ∧ EpiDict exH ∧
    (exG.or exH).triples = exG.triples ++ [tE "b" ":mod" "y", tI "y" "young"] ∧
    (exG.or exH).triples.length = 11 ∧
    AList.get? (exG.or exH).epidata (tE "b" ":mod" "y") = some [.push (s "y")] ∧
    AList.get? (exG.or exH).epidata (tE "g" ":ARG0" "b") = some [.aln none [3]] ∧
    AList.get? (exG.or exH).epidata (tE "w" ":ARG0" "b") = some [.push (s "b")] ∧
    (exG.or exH).metadata = [] ∧ (exG.ior exH).metadata = exG.metadata ∧
    (exG.or exH).getTop = some (s "w") := by
  eval_decide

/-- an added triple (`b :mod y`) keeps its `Push(y)`; instantiates the hypotheses -/
example : (tE "b" ":mod" "y" ∈ exH.triples ∧ tE "b" ":mod" "y" ∉ exG.triples) ∧
    AList.get? (exG.ior exH).epidata (tE "b" ":mod" "y") = some [.push (s "y")] :=
  ⟨by eval_decide, (union_markers_added exG exH (by eval_decide) _ _ (by eval_decide)).1⟩

example : EpiDict ((exG.or exH).sub exK) :=
  (epiDict_preserved _ exK (epiDict_preserved exG exH (epiDict_mk' _ _ _ _)).2.1).2.2.2

/-! ## difference -/

theorem difference_triples (g h : Graph) (t : Triple) :
    (g.isub h).triples = g.triples.filter (fun t => t ∉ h.triples) ∧
    (g.sub h).triples = g.triples.filter (fun t => t ∉ h.triples) ∧
    (t ∈ (g.sub h).triples ↔ t ∈ g.triples ∧ t ∉ h.triples) ∧
    (g.sub h).triples.Sublist g.triples ∧
    (g.isub h).metadata = g.metadata ∧ (g.sub h).metadata = [] :=
  ⟨rfl, rfl, mem_sub_triples g h t, List.filter_sublist, rfl, rfl⟩

/-- marker entries are removed exactly for the triples of `h` -/
theorem difference_markers (g h : Graph) (t : Triple) :
    (g.isub h).epidata = g.epidata.filter (fun p => p.1 ∉ h.triples) ∧
    (g.sub h).epidata = (g.isub h).epidata ∧
    AList.get? (g.isub h).epidata t = (if t ∈ h.triples then none else AList.get? g.epidata t) ∧
    AList.keys (g.isub h).epidata = (AList.keys g.epidata).filter (fun t => t ∉ h.triples) :=
  ⟨rfl, rfl, isub_epidata_get? g h t, isub_epidata_keys g h⟩

/-- the explicit top survives iff it still occurs as a source or a (string) target of a
    remaining triple; an implicit top stays implicit -/
theorem difference_top (g h : Graph) :
    (g.isub h).top = g.top.filter (fun v => decide (occursIn v (g.isub h).triples)) ∧
    (g.sub h).top = (g.isub h).top ∧
    (∀ v, (g.isub h).top = some v ↔
      g.top = some v ∧ ∃ t ∈ g.triples, t ∉ h.triples ∧ (t.src = v ∨ t.tgt = Atom.str v)) ∧
    ((g.isub h).top = none ↔
      g.top = none ∨ ∃ v, g.top = some v ∧
        ∀ t ∈ g.triples, t ∉ h.triples → t.src ≠ v ∧ t.tgt ≠ Atom.str v) := by
  refine ⟨isub_top g h, rfl, ?_, ?_⟩
  · intro v
    rw [isub_top, Option.filter_eq_some_iff, decide_eq_true_eq]
    apply and_congr_right'
    unfold occursIn
    constructor
    · rintro ⟨t, ht, h3⟩
      rw [mem_isub_triples] at ht
      exact ⟨t, ht.1, ht.2, h3⟩
    · rintro ⟨t, h1, h2, h3⟩
      exact ⟨t, (mem_isub_triples _ _ _).2 ⟨h1, h2⟩, h3⟩
  · rw [isub_top, Option.filter_eq_none_iff]
    cases g.top with
    | none => simp
    | some w =>
      simp only [Option.some.injEq, reduceCtorEq, false_or, exists_eq_left', decide_eq_true_eq,
        forall_eq']
      unfold occursIn
      constructor
      · intro hw t h1 h2
        have ht := (mem_isub_triples g h t).2 ⟨h1, h2⟩
        exact ⟨fun e => hw ⟨t, ht, Or.inl e⟩, fun e => hw ⟨t, ht, Or.inr e⟩⟩
      · rintro hw ⟨t, ht, h3⟩
        rw [mem_isub_triples] at ht
        rcases h3 with h3 | h3
        · exact (hw t ht.1 ht.2).1 h3
        · exact (hw t ht.1 ht.2).2 h3

/-- `exK` removes everything that mentions `g`; `exG2` is `exG` with explicit top `g` -/
def exK : Graph := { triples := exG.triples.filter (fun t => t.src = s "g" || t.tgt = .str (s "g")) }
def exG2 : Graph := { exG with top := some (s "g") }

attribute [eval_unfold] exK exG2

example : (exG.sub exH).triples.length = 8 ∧ tE "g" ":ARG0" "b" ∉ (exG.sub exH).triples ∧
    (exG2.sub exK).triples =
      [tI "w" "want-01", tE "w" ":ARG0" "b", tI "b" "boy", tN "b" ":quant" "2"] ∧
    (exG2.sub exK).top = none ∧ (exG2.sub exK).getTop = some (s "w") ∧
    (exG2.sub exH).top = some (s "g") ∧
    AList.keys (exG.sub (exG)).epidata = [] ∧
    AList.keys ((exG.or exH).sub exG).epidata = [tE "b" ":mod" "y", tI "y" "young"] := by
  eval_decide

/-! ## operands untouched -/

/-- `g | h` is `g |= h` run on a copy of `g` whose metadata is cleared, likewise `-`.
    Remark: the model is purely functional — `Graph.or g h` returns a new value and `g`, `h`
    are immutable Lean values, so "operands are left untouched" holds by construction;
    the in-place forms `ior`/`isub` return the new state of `self` (the `Graph` that the
    Python name is rebound to), and `h` is never changed by any of the four. -/
theorem operands_untouched (g h : Graph) :
    g.or h = Graph.ior { g with metadata := [] } h ∧
    g.sub h = Graph.isub { g with metadata := [] } h := ⟨rfl, rfl⟩

/-! ## set algebra -/

/-- idempotence, even as lists -/
theorem or_idem (g : Graph) :
    (g.or g).triples = g.triples ∧ (∀ t, t ∈ (g.or g).triples ↔ t ∈ g.triples) ∧
    (g.or g).eqv g = true := by
  refine ⟨or_self_triples g, fun t => by rw [or_self_triples], ?_⟩
  rw [eqv_iff, or_self_triples]
  refine ⟨?_, rfl, fun _ => Iff.rfl⟩
  simp only [Graph.getTop, or_top, or_self_triples]

/-- `(g ∪ h) − h = g − h ⊆ g`, as an order-preserving sublist -/
theorem or_sub_cancel (g h : Graph) :
    ((g.or h).sub h).triples = g.triples.filter (fun t => t ∉ h.triples) ∧
    ((g.or h).sub h).triples.Sublist g.triples ∧
    (∀ t, t ∈ ((g.or h).sub h).triples → t ∈ g.triples) ∧
    (∀ t, t ∈ ((g.or h).sub h).triples ↔ t ∈ g.triples ∧ t ∉ h.triples) := by
  refine ⟨or_sub_cancel_triples g h, ?_, ?_, ?_⟩
  · rw [or_sub_cancel_triples]; exact List.filter_sublist
  · intro t ht; rw [or_sub_cancel_triples] at ht; exact (List.mem_filter.1 ht).1
  · intro t; rw [or_sub_cancel_triples]; simp

theorem or_comm_mem (g h : Graph) (t : Triple) :
    t ∈ (g.or h).triples ↔ t ∈ (h.or g).triples := by
  rw [mem_or_triples, mem_or_triples, or_comm]

/-- associativity holds even for the ordered lists, and for the whole `__eq__` relation -/
theorem or_assoc (g h k : Graph) :
    ((g.or h).or k).triples = (g.or (h.or k)).triples ∧
    (∀ t, t ∈ ((g.or h).or k).triples ↔ t ∈ g.triples ∨ t ∈ h.triples ∨ t ∈ k.triples) ∧
    ((g.or h).or k).eqv (g.or (h.or k)) = true := by
  refine ⟨or_assoc_triples g h k, fun t => ?_, ?_⟩
  · rw [mem_or_triples, mem_or_triples, _root_.or_assoc]
  · rw [eqv_iff]
    refine ⟨?_, by rw [or_assoc_triples], fun t => by rw [or_assoc_triples]⟩
    simp only [Graph.getTop, or_top, or_assoc_triples]

/-- removing then adding back: `(g − h) ∪ h = g ∪ h` as sets -/
theorem sub_or_mem (g h : Graph) (t : Triple) :
    t ∈ ((g.sub h).or h).triples ↔ t ∈ g.triples ∨ t ∈ h.triples := by
  rw [mem_or_triples, mem_sub_triples]
  by_cases hh : t ∈ h.triples <;> simp [hh]

/-- `(g − h) − k = g − (h ∪ k)` as lists -/
theorem sub_sub (g h k : Graph) :
    ((g.sub h).sub k).triples = (g.sub (h.or k)).triples ∧
    (∀ t, t ∈ ((g.sub h).sub k).triples ↔ t ∈ g.triples ∧ t ∉ h.triples ∧ t ∉ k.triples) := by
  refine ⟨sub_sub_triples g h k, fun t => ?_⟩
  rw [mem_sub_triples, mem_sub_triples, and_assoc]

/-- General statement for every finite sequence of operations `| h`, `- h`, `|= h`, `-= h`
    applied left to right to a start graph: membership in the result is membership in the
    corresponding set expression (`denoteOps` folds `S ↦ S ∪ h` / `S ↦ S \ h`). -/
theorem ops_mem (g : Graph) (ops : List GOp) (t : Triple) :
    t ∈ (applyOps g ops).triples ↔ denoteOps (fun x => x ∈ g.triples) ops t :=
  mem_applyOps g ops t

/-- ... and the result list itself is the fold of the two order-preserving list operations
    `l ↦ l ++ h.filter (∉ l)` and `l ↦ l.filter (∉ h)`. -/
theorem ops_triples (g : Graph) (ops : List GOp) :
    (applyOps g ops).triples = ops.foldl GOp.onList g.triples := applyOps_triples g ops

/-- duplicate-freeness (being a *set*) is preserved along any sequence -/
theorem ops_nodup (g : Graph) (ops : List GOp) (hg : g.triples.Nodup)
    (hops : ∀ op ∈ ops, op.arg.triples.Nodup) : (applyOps g ops).triples.Nodup := by
  induction ops generalizing g with
  | nil => exact hg
  | cons op r ih =>
    simp only [applyOps, List.foldl_cons] at ih ⊢
    apply ih
    · have h1 := hops op (List.mem_cons_self)
      cases op with
      | or h => exact ior_triples_nodup (g := { g with metadata := [] }) hg h1
      | ior h => exact ior_triples_nodup hg h1
      | sub h => exact isub_triples_nodup (g := { g with metadata := [] }) hg h
      | isub h => exact isub_triples_nodup hg h
    · intro op' hop'; exact hops op' (List.mem_cons_of_mem _ hop')

example : (applyOps exG [.or exH, .sub exK, .ior exK, .isub exH]).triples.Nodup :=
  ops_nodup exG _ (by eval_decide) (by eval_decide)

/-- `__eq__` is an equivalence relation whose triple part is set equality -/
theorem eqv_equivalence :
    (∀ g h : Graph, g.eqv h = true ↔ g.getTop = h.getTop ∧
        g.triples.length = h.triples.length ∧ ∀ t, t ∈ g.triples ↔ t ∈ h.triples) ∧
    (∀ g : Graph, g.eqv g = true) ∧
    (∀ g h : Graph, g.eqv h = true → h.eqv g = true) ∧
    (∀ g h k : Graph, g.eqv h = true → h.eqv k = true → g.eqv k = true) :=
  ⟨eqv_iff, eqv_refl, fun _ _ => eqv_symm, fun _ _ _ => eqv_trans⟩

example : (exG.or exG).eqv exG = true ∧
    ((exG.or exH).sub exH).triples.length = 8 ∧
    (applyOps exG [.or exH, .sub exK, .ior exK, .isub exH]).triples.length = 8 ∧
    tE "w" ":ARG1" "g" ∈ (applyOps exG [.or exH, .sub exK, .ior exK, .isub exH]).triples ∧
    tE "g" ":ARG0" "b" ∉ (applyOps exG [.or exH, .sub exK, .ior exK, .isub exH]).triples ∧
    exG.triples.Nodup ∧ exH.triples.Nodup ∧ exK.triples.Nodup ∧
    (exG.or exH).eqv (exH.or exG) = false := by
  eval_decide

/-- the general statement specialises to a readable set expression -/
example (g h k : Graph) (t : Triple) :
    t ∈ (applyOps g [.or h, .sub k, .or k, .isub h]).triples ↔
      (((t ∈ g.triples ∨ t ∈ h.triples) ∧ t ∉ k.triples) ∨ t ∈ k.triples) ∧ t ∉ h.triples :=
  ops_mem g _ t

/-! ## `Graph.__init__` -/

/-- every role gets a colon; a role that has one is unchanged; the constructor is
    idempotent (also on the epidata/metadata dict conversion); sources and targets and the
    number and order of triples are untouched -/
theorem mk'_facts (ts : List Triple) (top : Option Str) (e : List (Triple × List Epi))
    (m : List (Str × Str)) :
    (Graph.mk' ts top e m).triples = ts.map (fun t => { t with role := ensureColon t.role }) ∧
    (∀ r, ensureColon r = if r.head? = some ':' then r else ':' :: r) ∧
    (∀ t ∈ (Graph.mk' ts top e m).triples, startsWith [':'] t.role = true) ∧
    ((∀ t ∈ ts, startsWith [':'] t.role = true) → (Graph.mk' ts top e m).triples = ts) ∧
    (∀ r, ensureColon (ensureColon r) = ensureColon r) ∧
    (let g := Graph.mk' ts top e m; Graph.mk' g.triples g.top g.epidata g.metadata = g) ∧
    (Graph.mk' ts top e m).top = top ∧
    (∀ k, AList.get? (Graph.mk' ts top e m).epidata k = AList.get? e.reverse k) := by
  refine ⟨rfl, ensureColon_eq, ?_, ?_, ensureColon_idem, mk'_idem ts top e m, rfl, ?_⟩
  · intro t ht
    rw [mk'_triples, List.mem_map] at ht
    obtain ⟨u, _, rfl⟩ := ht
    exact ensureColon_startsWith u.role
  · intro hall
    rw [mk'_triples]
    conv => rhs; rw [← List.map_id ts]
    apply List.map_congr_left
    intro t ht
    simp [colonT, ensureColon_of_startsWith (hall t ht)]
  · intro k; rw [mk'_epidata, AList.get?_ofList]

example : exG.triples[1]? = some (tE "w" ":ARG0" "b") ∧ exTriples[1]? = some (tE "w" "ARG0" "b") ∧
    exG.epidata = [(tE "w" ":ARG0" "b", [.push (s "b")]), (tN "b" ":quant" "2", [.pop])] ∧
    ensureColon (s "ARG0") = s ":ARG0" ∧ ensureColon (s ":ARG0") = s ":ARG0" ∧
    ensureColon [] = [':'] := by
  eval_decide

end Penman.C15
