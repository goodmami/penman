import Penman.Proofs.Errors
import Penman.Proofs.SubRoles
import Penman.Proofs.CheckCli
import Penman.Generated
import Penman.Proofs.Eval
/-!
# C16 — model checking is sound and complete, and `--check` reports it in the exit status

Model functions: `neighbours`, `dfsLoop`, `reachable`, `sortStrs`, `Model.errors`
(Penman/Transform.lean), `Model.hasRole` (Penman/Model.lean), `interpret`
(Penman/Layout.lean), `checkGraph`, `processTree`, `processLoop`, `processInput`,
`mainRun` (Penman/Main.lean). Specification vocabulary (`Graph.IsSrc`, `Graph.Adj`,
`Reach`, `Graph.TopOk`, message codes `E_ROLE … E_TOPVAR`, `ParsedTrees`, `InputTrees`)
is in Penman/Spec/Reach.lean; `SubRolesOk` (decidable, on trees) is in
Penman/Proofs/InterpReach.lean, `errCtx` in Penman/Proofs/CheckCli.lean, `errList`
in Penman/Proofs/Errors.lean.

Clause of the property text                             ↦ theorem(s)
------------------------------------------------------------------------------------------
"`invalid role` for exactly the triples whose role the  ↦ `errors_role`
  model does not define (directly or as one inversion)"    (`Model.hasRole` IS "defined directly
                                                            or with one `-of` removed")
"`unreachable` for exactly the triples whose source is  ↦ `errors_unreach`, resting on
  not weakly connected to the top"                         `dfs_reach` (+ `dfs_fuel`: the worklist
                                                            finishes within the model's fuel
                                                            `n*n+n+2`; any fuel ≥ `1+n·|srcs|`
                                                            gives the same set)
"the empty/top messages exactly when they apply"        ↦ `errors_general`
nothing else is ever reported                           ↦ `errors_no_other`, `errors_spec`
the report is empty iff the graph is fine               ↦ `errors_empty_iff`
determinism of the order of the report                  ↦ `strLt_strict_total`, `sortStrs_sorted_perm`,
                                                            `sortStrs_perm_eq`, `unreach_order_indep`,
                                                            `errors_order`
"a graph decoded from a text with a non-empty top node  ↦ `decoded_only_role_errors` (needs the
  can only ever receive role errors"                       decidable hypothesis `SubRolesOk`),
                                                            `decoded_all_reachable`,
                                                            `subRolesOk_sufficient`;
                                                            WITHOUT the hypothesis the clause is
                                                            FALSE: `decoded_counterexample_*`
"`--check` exits non-zero exactly when at least one     ↦ `exit_status` (+ `exit_status_defined`:
  graph in any of its inputs has an error"                 when the hypothesis holds;
                                                            `exit_fuel`: the loop fuel suffices)
"records every offending triple in that graph's         ↦ `check_metadata`, `check_metadata_entry`,
  metadata"                                                `check_status`

## Finding (counterexample to the property text as written)

With repair F16 (`_dfs` does not follow instance triples) the clause "a graph decoded
from a text with a non-empty top node can only ever receive role errors" fails for texts
whose nested-node branch carries the instance role: `(a :instance (b / x))` decodes to
`(a :instance b) (b :instance x)`, and `(a :instance-of (b / x))` de-inverts to
`(b :instance a)`; in both `b` is not connected to `a` by any edge and `Model.errors`
reports `unreachable` (reproduced on the real code). `decoded_counterexample_instance` and
`decoded_counterexample_instance_of` below prove this of the model by evaluation. The
clause is proved under `SubRolesOk isAlpha m t.node`: no nested-node branch role becomes
`:instance` after `processRole`, de-inversion and `ensureColon`; `subRolesOk_sufficient`
gives the readable sufficient condition "the role text (alignment stripped) is none of
`:instance`, `instance`, `:instance-of`, `instance-of`".

The only deviation from the property text is the FALSE clause above.
-/
namespace Penman.C16

/-! ## reachability: `_dfs` -/

/-- `_dfs` computes weak connectivity (any top that is a source). -/
theorem dfs_reach (g : Graph) (top v : Str) (htop : g.IsSrc top) :
    v ∈ reachable g top ↔ Reach g top v :=
  Penman.dfs_reach g top v htop

/-- The worklist terminates before its fuel runs out: the model's fuel `n*n+n+2` is at
    least the bound `1 + n·|srcs|`, and every fuel beyond that bound yields the same set. -/
theorem dfs_fuel (g : Graph) (top : Str) (htop : g.IsSrc top) :
    1 + g.triples.length * g.srcs.length ≤
        g.triples.length * g.triples.length + g.triples.length + 2 ∧
    ∀ f, 1 + g.triples.length * g.srcs.length ≤ f →
      dfsLoop g g.srcs f [top] [] = reachable g top := by
  refine ⟨?_, fun f hf => reachable_fuel_indep g top htop f hf⟩
  have := Nat.mul_le_mul_left g.triples.length (length_srcs_le g)
  omega

/-- the docstring graph of `Model.errors`:
    `(a :instance alpha) (a :foo bar) (b :instance beta)` -/
def docGraph : Graph :=
  { triples := [⟨"a".toList, ":instance".toList, .str "alpha".toList⟩,
      ⟨"a".toList, ":foo".toList, .str "bar".toList⟩,
      ⟨"b".toList, ":instance".toList, .str "beta".toList⟩] }

/-- a connected graph: `(a :instance alpha) (a :ARG0 b) (b :instance beta) (c :ARG1 b)` -/
def connGraph : Graph :=
  { triples := [⟨"a".toList, ":instance".toList, .str "alpha".toList⟩,
      ⟨"a".toList, ":ARG0".toList, .str "b".toList⟩,
      ⟨"b".toList, ":instance".toList, .str "beta".toList⟩,
      ⟨"c".toList, ":ARG1".toList, .str "b".toList⟩] }

attribute [eval_unfold] docGraph connGraph

example : connGraph.IsSrc "a".toList := ⟨_, List.mem_cons_self .., rfl⟩
example : reachable connGraph "a".toList = ["c".toList, "b".toList, "a".toList] := by eval_decide
example : reachable docGraph "a".toList = ["a".toList] := by eval_decide
/-- hence, through `dfs_reach`, `c` is weakly connected to `a` (against edge direction) -/
example : Reach connGraph "a".toList "c".toList :=
  (dfs_reach connGraph _ _ ⟨_, List.mem_cons_self .., rfl⟩).1 (by eval_decide)
example : ¬ Reach docGraph "a".toList "b".toList := fun h =>
  absurd ((dfs_reach docGraph _ _ ⟨_, List.mem_cons_self .., rfl⟩).2 h) (by eval_decide)

/-! ## the error report -/

/-- "invalid role" is reported for exactly the triples whose role the model does not define
    (`Model.hasRole r` = `r` is defined, or ends in `-of` and is defined without it). -/
theorem errors_role (m : Model) (g : Graph) (t : Triple) :
    E_ROLE ∈ (AList.get? (m.errors g) (some t)).getD [] ↔
      t ∈ g.triples ∧ m.hasRole t.role = false :=
  Penman.errors_role m g t

/-- "unreachable" is reported for exactly the triples whose source is not weakly connected
    to the top (and the top is usable: set, not `''`, a source). -/
theorem errors_unreach (m : Model) (g : Graph) (t : Triple) :
    E_UNREACH ∈ (AList.get? (m.errors g) (some t)).getD [] ↔
      t ∈ g.triples ∧ ∃ top, g.TopOk top ∧ ¬ Reach g top t.src :=
  Penman.errors_unreach m g t

/-- the general messages, exactly when they apply -/
theorem errors_general (m : Model) (g : Graph) :
    (E_EMPTY ∈ (AList.get? (m.errors g) none).getD [] ↔ g.triples = []) ∧
    (E_NOTOP ∈ (AList.get? (m.errors g) none).getD [] ↔
      g.triples ≠ [] ∧ (g.getTop = none ∨ g.getTop = some [])) ∧
    (E_TOPVAR ∈ (AList.get? (m.errors g) none).getD [] ↔
      g.triples ≠ [] ∧ ∃ top, g.getTop = some top ∧ top ≠ [] ∧ ¬ g.IsSrc top) :=
  ⟨errors_general_empty m g, errors_general_notop m g, errors_general_topvar m g⟩

/-- no other message anywhere: triple contexts are triples of the graph and carry only
    0/1, the general context carries only 2/3/4 -/
theorem errors_no_other (m : Model) (g : Graph) (k : Option Triple) (c : Nat)
    (h : c ∈ (AList.get? (m.errors g) k).getD []) :
    (∃ t, k = some t ∧ t ∈ g.triples ∧ (c = E_ROLE ∨ c = E_UNREACH)) ∨
    (k = none ∧ (c = E_EMPTY ∨ c = E_NOTOP ∨ c = E_TOPVAR)) :=
  Penman.errors_no_other m g k c h

/-- all of the above in one statement: message `c` is recorded under context `k` iff the
    specification `ErrSpec` says so; every entry of the dict is non-empty and keys are unique -/
theorem errors_spec (m : Model) (g : Graph) :
    (∀ k c, c ∈ (AList.get? (m.errors g) k).getD [] ↔ ErrSpec m g k c) ∧
    (∀ p ∈ m.errors g, p.2 ≠ []) ∧ ((m.errors g).map (·.1)).Nodup :=
  ⟨mem_codes_errors_iff m g, (errors_wf m g).1, (errors_wf m g).2⟩

/-- the report is empty exactly when the graph is non-empty, every role is defined, and
    every source is weakly connected to a usable top -/
theorem errors_empty_iff (m : Model) (g : Graph) :
    m.errors g = [] ↔
      g.triples ≠ [] ∧ (∀ t ∈ g.triples, m.hasRole t.role = true) ∧
      ∃ top, g.TopOk top ∧ ∀ t ∈ g.triples, Reach g top t.src :=
  Penman.errors_empty_iff m g

/-- non-vacuity: the docstring example of `Model.errors`, under the AMR model … -/
example : Generated.amrModel.errors docGraph =
    [(some ⟨"a".toList, ":foo".toList, .str "bar".toList⟩, [E_ROLE]),
     (some ⟨"b".toList, ":instance".toList, .str "beta".toList⟩, [E_UNREACH])] := by
  eval_decide
/-- … the connected graph has no error under the AMR model, two role errors under the
    default one … -/
example : Generated.amrModel.errors connGraph = [] := by eval_decide
example : Generated.defaultModel.errors connGraph =
    [(some ⟨"a".toList, ":ARG0".toList, .str "b".toList⟩, [E_ROLE]),
     (some ⟨"c".toList, ":ARG1".toList, .str "b".toList⟩, [E_ROLE])] := by eval_decide
/-- … and the general messages -/
example : Generated.defaultModel.errors {} = [(none, [E_EMPTY])] := by decide +kernel
example : Generated.defaultModel.errors { docGraph with top := some [] } =
    [(some ⟨"a".toList, ":foo".toList, .str "bar".toList⟩, [E_ROLE]), (none, [E_NOTOP])] := by
  eval_decide
example : Generated.defaultModel.errors { docGraph with top := some "z".toList } =
    [(some ⟨"a".toList, ":foo".toList, .str "bar".toList⟩, [E_ROLE]), (none, [E_TOPVAR])] := by
  eval_decide
/-- a triple can carry both messages (so contexts map to LISTS of messages) -/
example : Generated.defaultModel.errors
      { docGraph with triples := docGraph.triples ++ [⟨"b".toList, ":foo".toList, .none⟩] } =
    [(some ⟨"a".toList, ":foo".toList, .str "bar".toList⟩, [E_ROLE]),
     (some ⟨"b".toList, ":foo".toList, .none⟩, [E_ROLE, E_UNREACH]),
     (some ⟨"b".toList, ":instance".toList, .str "beta".toList⟩, [E_UNREACH])] := by
  eval_decide

/-! ## order of the report: determinism -/

/-- `strLt` (code-point order) is a strict total order on `Str` -/
theorem strLt_strict_total :
    (∀ a, strLt a a = false) ∧
    (∀ a b c, strLt a b = true → strLt b c = true → strLt a c = true) ∧
    (∀ a b, strLt a b = false → strLt b a = false → a = b) :=
  ⟨strLt_irrefl, strLt_trans, strLt_tri⟩

/-- `sortStrs l` is a permutation of `l`, sorted w.r.t. `strLt`, and the only such list -/
theorem sortStrs_sorted_perm (l : List Str) :
    (sortStrs l).Perm l ∧ (sortStrs l).Pairwise (fun a b => strLt b a = false) ∧
    ∀ s : List Str, s.Perm l → s.Pairwise (fun a b => strLt b a = false) → sortStrs l = s :=
  ⟨sortStrs_perm l, sortStrs_sorted l, fun _ hp hs => sortStrs_unique hp hs⟩

/-- the result of `sortStrs` does not depend on the order of its argument -/
theorem sortStrs_perm_eq {l₁ l₂ : List Str} (h : l₁.Perm l₂) : sortStrs l₁ = sortStrs l₂ :=
  sortStrs_congr h

/-- the unreachable variables are walked in an order that does not depend on how the
    sources were enumerated (Python iterates a `set` there) -/
theorem unreach_order_indep (g : Graph) (top : Str) (srcs' : List Str) (h : srcs'.Perm g.srcs) :
    sortStrs (srcs'.filter (· ∉ reachable g top)) = unreachVars g top :=
  sortStrs_filter_congr _ h

/-- the dict in insertion order: the report is `err[k].append(msg)` applied along the
    explicit list `errList` — role errors in triple order, then the unreachable variables in
    sorted order, each with its triples in triple order (or the single general message) -/
theorem errors_order (m : Model) (g : Graph) : m.errors g = errAddAll [] (errList m g) :=
  errors_eq_errAddAll m g

example : sortStrs ["b".toList, "a".toList, "B".toList, "ab".toList, []] =
    [[], "B".toList, "a".toList, "ab".toList, "b".toList] :=
  (sortStrs_sorted_perm _).2.2 _ (by decide) (by decide)
example : sortStrs ["b".toList, "a".toList, "c".toList] = sortStrs ["c".toList, "b".toList, "a".toList] :=
  sortStrs_perm_eq (by decide)
example : errList Generated.defaultModel docGraph =
    [(some ⟨"a".toList, ":foo".toList, .str "bar".toList⟩, E_ROLE),
     (some ⟨"b".toList, ":instance".toList, .str "beta".toList⟩, E_UNREACH)] := by eval_decide

/-! ## decoded graphs -/

/-- In a graph interpreted from a tree whose root has a variable (`interpret` succeeding
    means every nested node has one too), every variable is weakly connected to the top,
    provided no nested-node branch turns into an instance triple (`SubRolesOk`). -/
theorem decoded_all_reachable (isAlpha : Char → Bool) (m : Model) (t : Tree) (g : Graph) (top : Str)
    (h : interpret isAlpha m t = .ok g) (hv : t.node.var = some top)
    (hok : SubRolesOk isAlpha m t.node = true) :
    g.getTop = some top ∧ g.IsSrc top ∧ ∀ v, g.IsSrc v → Reach g top v :=
  interpret_all_reach isAlpha m t g top h hv hok

/-- … hence such a graph with a non-empty top can only ever receive role errors. -/
theorem decoded_only_role_errors (isAlpha : Char → Bool) (m : Model) (t : Tree) (g : Graph)
    (top : Str) (h : interpret isAlpha m t = .ok g) (hv : t.node.var = some top) (hne : top ≠ [])
    (hok : SubRolesOk isAlpha m t.node = true) (k : Option Triple) (c : Nat)
    (hc : c ∈ (AList.get? (m.errors g) k).getD []) :
    c = E_ROLE ∧ ∃ tr, k = some tr ∧ tr ∈ g.triples ∧ m.hasRole tr.role = false := by
  obtain ⟨h1, h2, h3⟩ := interpret_all_reach isAlpha m t g top h hv hok
  exact errors_only_role_of_reach m g top ⟨h1, hne, h2⟩ h3 k c hc

/-- the same for a text: whatever tree the parser returns -/
theorem decoded_text_only_role_errors (c : PCtx) (isSpace isAlpha : Char → Bool) (m : Model)
    (toks rest : List Tok) (t : Tree) (g : Graph) (top : Str)
    (hp : parseTree c isSpace toks = .ok (t, rest))
    (h : interpret isAlpha m t = .ok g) (hv : t.node.var = some top) (hne : top ≠ [])
    (hok : SubRolesOk isAlpha m t.node = true) (k : Option Triple) (c : Nat)
    (hc : c ∈ (AList.get? (m.errors g) k).getD []) :
    c = E_ROLE ∧ ∃ tr, k = some tr ∧ tr ∈ g.triples ∧ m.hasRole tr.role = false :=
  have _ := hp
  decoded_only_role_errors isAlpha m t g top h hv hne hok k c hc

/-- non-vacuity for a TEXT: lexing and parsing `(a / alpha :ARG0 (b / beta :ARG1-of (c / gamma)))`
    gives a tree with root variable `a` that satisfies `SubRolesOk` and is interpreted
    successfully (AMR model), so `decoded_text_only_role_errors` applies to it -/
example :
    (let toks := lexLines Generated.lexCfg Generated.lexCfg.penmanOrder
        (fileLines "(a / alpha :ARG0 (b / beta :ARG1-of (c / gamma)))".toList)
     match parseTree ⟨eofPos toks⟩ (fun c => c = ' ') toks with
     | .ok (t, rest) =>
       rest.isEmpty && t.node.var == some "a".toList &&
       SubRolesOk isAsciiAlpha Generated.amrModel t.node &&
       (interpret isAsciiAlpha Generated.amrModel t).toOption.isSome
     | .error _ => false) = true := by eval_decide

/-- a readable sufficient condition for one branch of `SubRolesOk`, valid for every model:
    the role (alignment stripped) is not instance-like -/
theorem subRolesOk_sufficient (isAlpha : Char → Bool) (m : Model) (role : Str)
    (h : ∀ r e, processRole isAlpha role = .ok (r, e) → r ∉ instanceLike) :
    subRoleOk isAlpha m role = true :=
  subRoleOk_of_not_instanceLike isAlpha m role h

/-- non-vacuity: `(a / alpha :ARG0 (b / beta :ARG1-of (c / gamma)))` satisfies every
    hypothesis, under the AMR model there is no error at all -/
example : ∃ g, interpret InterpReach.noAlpha Generated.amrModel InterpReach.exTree = .ok g ∧
    InterpReach.exTree.node.var = some "a".toList ∧
    SubRolesOk InterpReach.noAlpha Generated.amrModel InterpReach.exTree.node = true ∧
    Generated.amrModel.errors g = [] := by
  have ⟨h, hs⟩ : ((interpret InterpReach.noAlpha Generated.amrModel InterpReach.exTree).toOption.map
      (fun g => decide (Generated.amrModel.errors g = []))) = some true ∧
      SubRolesOk InterpReach.noAlpha Generated.amrModel InterpReach.exTree.node = true := by eval_decide
  cases hg : interpret InterpReach.noAlpha Generated.amrModel InterpReach.exTree with
  | error e =>
    rw [hg] at h
    exact absurd h (by simp [Except.toOption])
  | ok g =>
    rw [hg] at h
    exact ⟨g, rfl, rfl, hs, by simpa [Except.toOption] using h⟩

/-- COUNTEREXAMPLE to the clause without `SubRolesOk`: the text `(a :instance (b / x))`
    (root variable `a`, non-empty) decodes to a graph where `(b :instance x)` is reported
    `unreachable`, and indeed `b` is a source not weakly connected to `a`. -/
theorem decoded_counterexample_instance :
    ∃ g, interpret InterpReach.noAlpha InterpReach.m0
        ⟨.mk (some "a".toList) (.sub ":instance".toList InterpReach.cexB .nil), []⟩ = .ok g ∧
      E_UNREACH ∈ codes (InterpReach.m0.errors g) (some ⟨"b".toList, CONCEPT_ROLE, .str "x".toList⟩) ∧
      g.IsSrc "b".toList ∧ ¬ Reach g "a".toList "b".toList := by
  obtain ⟨g, h1, _, _, h4, h5, h6⟩ := InterpReach.cexCheck_sound InterpReach.cex_instance
  exact ⟨g, h1, h4, h5, h6⟩

/-- COUNTEREXAMPLE: `(a :instance-of (b / x))` de-inverts to `(b :instance a)`. -/
theorem decoded_counterexample_instance_of :
    ∃ g, interpret InterpReach.noAlpha InterpReach.m0
        ⟨.mk (some "a".toList) (.sub ":instance-of".toList InterpReach.cexB .nil), []⟩ = .ok g ∧
      E_UNREACH ∈ codes (InterpReach.m0.errors g) (some ⟨"b".toList, CONCEPT_ROLE, .str "x".toList⟩) ∧
      g.IsSrc "b".toList ∧ ¬ Reach g "a".toList "b".toList := by
  obtain ⟨g, h1, _, _, h4, h5, h6⟩ := InterpReach.cexCheck_sound InterpReach.cex_instance_of
  exact ⟨g, h1, h4, h5, h6⟩

/-! ## the command -/

/-- `--check` : the command exits non-zero exactly when checking is on and some graph
    processed from some input has a non-empty error report; the status is 0 or 1. -/
theorem exit_status (cfg : LexCfg) (u : UTables) (m : Model) (o : Opts) (inputs : List Str)
    (out : Str) (code : Nat) (h : mainRun cfg u m o inputs [] 0 = (out, .ok code)) :
    (code ≠ 0 ↔ o.check = true ∧ ∃ input ∈ inputs, ∃ trees, InputTrees cfg u input trees ∧
        ∃ tree ∈ trees, ∃ g, processIn u m o tree = .ok g ∧ m.errors g ≠ [])
    ∧ code ≤ 1 :=
  Penman.exit_status cfg u m o inputs out code h

/-- the hypothesis of `exit_status` holds exactly when no exception escapes: every input
    parses into trees (`InputTrees` is functional: `InputTrees_unique`) that are all processed -/
theorem exit_status_defined (cfg : LexCfg) (u : UTables) (m : Model) (o : Opts) (inputs : List Str) :
    (∃ out code, mainRun cfg u m o inputs [] 0 = (out, .ok code)) ↔
    ∀ input ∈ inputs, ∃ trees, InputTrees cfg u input trees ∧
      ∀ tree ∈ trees, ∃ r, processTree u m o tree = .ok r :=
  mainRun_ok_iff cfg u m o inputs

/-- the fuel of the per-input loop (`#tokens + 1`) always suffices: any larger fuel gives
    the same result -/
theorem exit_fuel (cfg : LexCfg) (u : UTables) (m : Model) (o : Opts) (input : Str) (f : Nat)
    (hf : (lexLines cfg cfg.penmanOrder (fileLines input)).length < f) :
    processInput cfg u m o input
      = processLoop u m o ⟨eofPos (lexLines cfg cfg.penmanOrder (fileLines input))⟩ f
          (lexLines cfg cfg.penmanOrder (fileLines input)) true [] 0 :=
  processInput_fuel cfg u m o input f hf

/-- `_check` returns 1 exactly when the report is non-empty, and leaves the triples alone -/
theorem check_status (m : Model) (g : Graph) :
    ((checkGraph m g).2 ≠ 0 ↔ m.errors g ≠ []) ∧ (checkGraph m g).1.triples = g.triples := by
  refine ⟨?_, checkGraph_triples m g⟩
  rw [checkGraph_code]
  by_cases h : m.errors g = [] <;> simp [h]

/-- the `j`-th context of the report is recorded under `error-(j+1)`, with its last message -/
theorem check_metadata_entry (m : Model) (g : Graph) (j : Nat) (k : Option Triple) (cs : List Nat)
    (hj : (m.errors g)[j]? = some (k, cs)) :
    ∃ hcs : cs ≠ [],
      AList.get? (checkGraph m g).1.metadata ("error-".toList ++ natToStr (j+1))
        = some (errCtx k ++ errMsg (cs.getLast hcs)) := by
  have hmem : (k, cs) ∈ m.errors g := List.mem_of_getElem? hj
  have hcs := (errors_wf m g).1 _ hmem
  exact ⟨hcs, Penman.check_metadata_entry m g j k cs hj hcs⟩

/-- every offending triple — one with an undefined role, or unreachable from a usable top —
    is recorded in the metadata of the checked graph: some `error-i` value starts with its
    rendering `(src role tgt) ` -/
theorem check_metadata (m : Model) (g : Graph) (t : Triple) (ht : t ∈ g.triples)
    (hbad : m.hasRole t.role = false ∨ ∃ top, g.TopOk top ∧ ¬ Reach g top t.src) :
    ∃ i, 1 ≤ i ∧ i ≤ (m.errors g).length ∧ ∃ v,
      AList.get? (checkGraph m g).1.metadata ("error-".toList ++ natToStr i) = some v ∧
      errCtx (some t) <+: v := by
  have hkey : some t ∈ (m.errors g).map (·.1) := by
    rw [errors_key_iff]
    rcases hbad with h | h
    · exact ⟨E_ROLE, (mem_codes_errors m g _ _).1 ((Penman.errors_role m g t).2 ⟨ht, h⟩)⟩
    · exact ⟨E_UNREACH, (mem_codes_errors m g _ _).1 ((Penman.errors_unreach m g t).2 ⟨ht, h⟩)⟩
  obtain ⟨⟨k, cs⟩, hmem, hk⟩ := List.mem_map.1 hkey
  simp only at hk
  subst hk
  obtain ⟨i, h1, h2, v, h3, _, h5⟩ :=
    Penman.check_metadata m g t cs hmem ((errors_wf m g).1 _ hmem)
  exact ⟨i, h1, h2, v, h3, h5⟩

/-! ### non-vacuity of the command theorems -/

/-- `_check` on the docstring graph: status 1 and both offending triples recorded -/
example : (checkGraph Generated.defaultModel docGraph).2 = 1 ∧
    (checkGraph Generated.defaultModel docGraph).1.metadata =
      [("error-1".toList, "(a :foo bar) invalid role".toList),
       ("error-2".toList, "(b :instance beta) unreachable".toList)] := by eval_decide

def exU : UTables := { isSpace := fun c => c = ' ', isAlpha := isAsciiAlpha, lower := fun c => [c] }

theorem run_ok {r : Str × Except PyErr Nat} {n : Nat} (h : r.2.toOption = some n) :
    ∃ out, r = (out, .ok n) := by
  obtain ⟨out, e⟩ := r
  cases e with
  | error _ => simp [Except.toOption] at h
  | ok a =>
    simp only [Except.toOption, Option.some.injEq] at h
    exact ⟨out, by rw [h]⟩

/-- two input files, `penman --amr --check --triples`: the second file's second graph has an
    invalid role → exit status 1 (fix F3: the status of every file counts) … -/
example : ∃ out, mainRun Generated.lexCfg exU Generated.amrModel { check := true, triples := true }
    ["(a / alpha :ARG0 (b / beta))".toList, "(c / d)\n(a / alpha :foo bar)".toList] [] 0 = (out, .ok 1) :=
  run_ok (by eval_decide)

/-- … status 0 when all graphs are fine, and without `--check` -/
example : ∃ out, mainRun Generated.lexCfg exU Generated.amrModel { check := true, triples := true }
    ["(a / alpha :ARG0 (b / beta))".toList, "(c / d)".toList] [] 0 = (out, .ok 0) :=
  run_ok (by eval_decide)
example : ∃ out, mainRun Generated.lexCfg exU Generated.defaultModel { check := false, triples := true }
    ["(a / alpha :foo bar)".toList] [] 0 = (out, .ok 0) :=
  run_ok (by eval_decide)

end Penman.C16

#print axioms Penman.C16.dfs_reach
#print axioms Penman.C16.dfs_fuel
#print axioms Penman.C16.errors_role
#print axioms Penman.C16.errors_unreach
#print axioms Penman.C16.errors_general
#print axioms Penman.C16.errors_no_other
#print axioms Penman.C16.errors_spec
#print axioms Penman.C16.errors_empty_iff
#print axioms Penman.C16.strLt_strict_total
#print axioms Penman.C16.sortStrs_sorted_perm
#print axioms Penman.C16.sortStrs_perm_eq
#print axioms Penman.C16.unreach_order_indep
#print axioms Penman.C16.errors_order
#print axioms Penman.C16.decoded_all_reachable
#print axioms Penman.C16.decoded_only_role_errors
#print axioms Penman.C16.decoded_text_only_role_errors
#print axioms Penman.C16.subRolesOk_sufficient
#print axioms Penman.C16.decoded_counterexample_instance
#print axioms Penman.C16.decoded_counterexample_instance_of
#print axioms Penman.C16.exit_status
#print axioms Penman.C16.exit_status_defined
#print axioms Penman.C16.exit_fuel
#print axioms Penman.C16.check_status
#print axioms Penman.C16.check_metadata_entry
#print axioms Penman.C16.check_metadata
