import Penman.Proofs.OrderIndepCli
import Penman.Generated
import Penman.Proofs.Eval
/-!
# C17 — calls are pure and deterministic

Property text: "Every library call documented as returning a new object … leaves its arguments
observably unchanged. Its result depends only on its arguments: it is identical across repeated
calls, interleavings with other calls, processes and hash seeds, and the command-line output is
byte-identical across hash seeds (random ordering keys excepted)."

## What a theorem about the model can and cannot carry

* **Purity / repeated calls / interleavings / processes.** The model is a collection of Lean
  functions on immutable values. A Lean function cannot change its argument and `f x = f x`
  holds by reflexivity, so these clauses are true of the model *by construction* and there is
  nothing to prove: no theorem below pretends otherwise. Whether the PYTHON functions have these
  properties (no aliasing of marker lists between graphs, no mutation of arguments, no global
  state) is checked by the correspondence harness and the C17 oracles (argument snapshots before
  and after every call, worker processes, two hash seeds), not here.
* **Hash seeds.** This is the clause with theorem-level content. Python iterates a `set` in an
  order that depends on `PYTHONHASHSEED`; the model represents every set by a list in one fixed
  order (`Graph.variables`, `Node.vars`, `dedup …`, `neighbours`). For every place where the
  Python code builds or iterates a set we define a variant `…With` of the model function that
  takes the ENUMERATION of that set as an explicit parameter, prove that the model function is
  the variant at the model's own enumeration (by `rfl`), and prove that the variant returns the
  same result for any two enumerations of the same set. Where only membership is tested the
  hypothesis is `SameMembers l l'` (`∀ a, a ∈ l ↔ a ∈ l'`: order AND duplicates irrelevant);
  `List.Perm` implies it (`SameMembers.of_perm`).

Python site (set)                                   ↦ model function ↦ theorems
--------------------------------------------------------------------------------------------------
1 `layout._configure`: `nodemap = {var: None for    ↦ `configure`  ↦ `configure_eq_with`,
  var in g.variables()}` (dict built by iterating                    `configure_order_indep`,
  a set; later only lookups/updates by key)                          `configure_enum_indep`,
                                                                     `variables_nodup`;
  `layout.reconfigure` (calls `configure`)          ↦ `reconfigure` ↦ `reconfigure_order_indep`
2 `layout.interpret`: `variables = {v for v, _ in   ↦ `interpret`  ↦ `interpret_eq_with`,
  t.nodes()}` (membership)                                           `interpret_order_indep`
3 `Graph.__ior__` (fix F17: iterate `other.triples`, ↦ `Graph.ior` ↦ `ior_uses_no_set_order`,
  `new` is used for membership only)                                 `ior_mapping_indep`,
                                                                     `ior_prefix_order_dependent`
                                                                     (why the fix matters)
4 `Graph.__isub__`: `for t in removed: del epidata[t]` ↦ `Graph.isub` ↦ `erase_order_indep`,
                                                                     `erase_fold_eq_filter`,
                                                                     `isub_order_indep`
5 `model._dfs` (neighbour sets `q[cur]`),            ↦ `dfsLoop`, `reachable`, `Model.errors`
  `Model.errors` (`sorted(unreachable)`)               ↦ `reachable_eq_with`, `dfs_visits_component`
                                                        (also: the model's fuel suffices for EVERY
                                                        push order), `dfs_order_indep`,
                                                        `sorted_order_indep`, `errors_eq_with`,
                                                        `errors_order_indep`
6 `transform.reify_edges`, `reify_attributes`:       ↦ `freshVar`, `attrVarLoop`, `reifyEdges`,
  `vars = g.variables()` used for membership and       `reifyAttributes` ↦ `freshVar_order_indep`,
  for the fresh variable `_`, `_2`, `_3`, …            `freshVar_least` (fuel `|vars|+1` always
                                                        suffices; result = least free `_N`),
                                                        `reifyEdges_order_indep`,
                                                        `reifyAttributes_order_indep`
7 other membership-only uses: `rearrange`            ↦ `rearrange_order_indep`,
  (`attributes_first`), `node_contexts`                `nodeContexts_order_indep`
  (`Graph.edges/attributes`, `appears_inverted` test `x ∈ g.variables` directly: no enumeration)
"the command-line output is byte-identical across    ↦ `cli_output_seed_indep` (whole command:
  hash seeds"                                           stdout and exit status), via the per-graph
                                                        `cli_seed_indep`: the per-graph function of
                                                        the command with EVERY set iteration above
                                                        routed through an arbitrary `Seed`
                                                        (a permutation of each set) equals
                                                        `processTree`. By C20 (`cli_eq_pipeline`)
                                                        the output is a function of the per-graph
                                                        results. "Random ordering keys excepted":
                                                        the model has no random key (`KeyFn`).

Every clause with theorem-level content is proved. With `for t in new:` over a set (penman before
fix F17) `Graph.__ior__` IS order dependent (`ior_prefix_order_dependent`): finding F17.
-/
namespace Penman.C17
open Penman Penman.OrderIndep

/-! ## example data -/

private def s (x : String) : Str := x.toList

/-- `(a / A :ARG0 (b / B) :ARG1-of (c / C))` as triples, three variables -/
def exG : Graph :=
  { triples := [⟨s "a", s ":instance", .str (s "A")⟩, ⟨s "a", s ":ARG0", .str (s "b")⟩,
                ⟨s "b", s ":instance", .str (s "B")⟩, ⟨s "c", s ":instance", .str (s "C")⟩,
                ⟨s "c", s ":ARG1", .str (s "a")⟩],
    top := none, epidata := [] }

attribute [eval_unfold] s exG

/-- another enumeration of `exG.variables()` -/
def exVars : List Str := [s "c", s "a", s "b"]

attribute [eval_unfold] exVars

theorem exVars_perm : exVars.Perm exG.variables := by eval_decide

/-- `(a / A :ARG0-of (b / B :ARG1 a))` -/
def exT : Tree :=
  { node := .mk (some (s "a")) (.atom ['/'] (.str (s "A"))
      (.sub (s ":ARG0-of") (.mk (some (s "b")) (.atom ['/'] (.str (s "B"))
        (.atom (s ":ARG1-of") (.str (s "a")) .nil))) .nil)) }

attribute [eval_unfold] exT

/-! ## 1. `configure` / `reconfigure` -/

/-- the model function is the variant at the model's enumeration of `g.variables()` -/
theorem configure_eq_with (m : Model) (g : Graph) (top : Option Str) :
    configure m g top = configureWith m g.variables g top := rfl

/-- the model's enumeration is duplicate-free, like the Python set -/
theorem variables_nodup (g : Graph) : g.variables.Nodup := Penman.variables_nodup g

/-- `configure` gives the same tree (or the same error) whatever order the set
    `g.variables()` is iterated in when `nodemap` is built (even duplicates in the
    enumeration would not matter: all initial values are `None`) -/
theorem configure_order_indep (m : Model) (g : Graph) (top : Option Str) {vars vars' : List Str}
    (h : SameMembers vars vars') : configureWith m vars g top = configureWith m vars' g top :=
  configureWith_congr m h g top

/-- every permutation of the model's enumeration gives the model's result -/
theorem configure_enum_indep (m : Model) (g : Graph) (top : Option Str) {vars : List Str}
    (h : vars.Perm g.variables) : configureWith m vars g top = configure m g top :=
  configure_order_indep m g top (SameMembers.of_perm h)

/-- non-vacuity: a different enumeration exists, the two initial `nodemap`s really differ as
    insertion-ordered dicts, and the theorem applies -/
example : exVars ≠ exG.variables ∧
    AList.set (exVars.map (·, NM.unset)) (s "a") NM.own ≠
      AList.set (exG.variables.map (·, NM.unset)) (s "a") NM.own := by decide
example : configureWith Generated.defaultModel exVars exG none = configure Generated.defaultModel exG none :=
  configure_enum_indep _ _ _ exVars_perm

theorem reconfigure_order_indep (sd : Seed) (m : Model) (g : Graph) (top : Option Str)
    (key : Option (List KeyFn)) : reconfigureWith sd m g top key = reconfigure m g top key :=
  reconfigureWith_seed sd m g top key

example : reconfigureWith Seed.rev Generated.defaultModel exG none (some [.canonical]) =
    reconfigure Generated.defaultModel exG none (some [.canonical]) := reconfigure_order_indep _ _ _ _ _

/-! ## 2. `interpret` -/

theorem interpret_eq_with (isAlpha : Char → Bool) (m : Model) (t : Tree) :
    interpret isAlpha m t = interpretWith isAlpha m t.node.vars t := rfl

/-- `interpret` depends on the variable set through membership only -/
theorem interpret_order_indep (isAlpha : Char → Bool) (m : Model) (t : Tree) {vars : List Str}
    (h : SameMembers vars t.node.vars) : interpretWith isAlpha m vars t = interpret isAlpha m t :=
  interpretWith_congr isAlpha m h t

/-- non-vacuity: another enumeration (reversed, with a duplicate) of the two variables of `exT`;
    the set does matter: with the empty set the inverted re-entrancy is not deinverted -/
example : SameMembers [s "b", s "a", s "b"] exT.node.vars :=
  SameMembers.of_subsets (by decide) (by decide)
example :
    (interpretWith isAsciiAlpha Generated.defaultModel [] exT).toOption.map (·.triples) ≠
    (interpret isAsciiAlpha Generated.defaultModel exT).toOption.map (·.triples) := by eval_decide

/-! ## 3. `Graph.__ior__` -/

/-- the model of the fixed `__ior__` enumerates no set: the insertion order of the markers
    is the list order of `other.triples` (filtered by membership in `new`) -/
theorem ior_uses_no_set_order (g h : Graph) :
    g.ior h = iorWith (h.triples.filter (· ∉ g.triples)) g h := rfl

set_option linter.unusedVariables false in
/-- as a mapping the marker dict of the union never depended on the order (it is the same for
    ANY two lists `o`, `o'`, so `ho` is not used: `iorWith_get?`) … -/
theorem ior_mapping_indep (g h : Graph) {o o' : List Triple} (ho : o.Perm o') (k : Triple) :
    AList.get? (iorWith o g h).epidata k = AList.get? (iorWith o' g h).epidata k :=
  (iorWith_get? o g h k).trans (iorWith_get? o' g h k).symm

/-- … but its KEY ORDER did: before fix F17 (`for t in new:` over a set) two iteration
    orders of the same set `new` gave different `epidata` (finding F17) -/
theorem ior_prefix_order_dependent :
    ∃ (g h : Graph) (o o' : List Triple), o.Perm (h.triples.filter (· ∉ g.triples)) ∧ o.Perm o' ∧
      (iorWith o g h).epidata ≠ (iorWith o' g h).epidata := by
  let t1 : Triple := ⟨s "a", s ":ARG0", .str (s "b")⟩
  let t2 : Triple := ⟨s "a", s ":ARG1", .str (s "c")⟩
  exact ⟨{}, { triples := [t1, t2], epidata := [(t1, [.push (s "b")]), (t2, [.push (s "c")])] },
    [t1, t2], [t2, t1], by decide, by decide, by decide⟩

/-! ## 4. `Graph.__isub__` -/

/-- deleting a set of keys one by one equals one filter … -/
theorem erase_fold_eq_filter (order : List Triple) (d : Epidata) :
    order.foldl (fun d t => AList.erase d t) d = d.filter (fun p => p.1 ∉ order) :=
  foldl_erase_eq_filter order d

/-- … hence does not depend on the order of deletion -/
theorem erase_order_indep (d : Epidata) {o o' : List Triple} (h : o.Perm o') :
    o.foldl (fun d t => AList.erase d t) d = o'.foldl (fun d t => AList.erase d t) d := by
  rw [foldl_erase_eq_filter, foldl_erase_eq_filter, filter_notMem_congr (SameMembers.of_perm h)]

/-- `__isub__` with `removed = set(other.triples)` iterated in any order is the model's `isub` -/
theorem isub_order_indep (g h : Graph) {order : List Triple} (ho : SameMembers order h.triples) :
    isubWith order g h = g.isub h := isubWith_eq order g h ho

example : let t1 : Triple := ⟨s "a", s ":ARG0", .str (s "b")⟩
          let t2 : Triple := ⟨s "a", s ":ARG1", .str (s "c")⟩
          [t2, t1, t2].foldl (fun d t => AList.erase d t) [(t1, [Epi.pop]), (⟨s "x", s ":r", .none⟩, []), (t2, [])]
            = [(⟨s "x", s ":r", .none⟩, [])] := by eval_decide

/-! ## 5. `_dfs`, `Model.errors` -/

theorem reachable_eq_with (g : Graph) (top : Str) :
    reachable g top = reachableWith (neighbours g (dedup (g.triples.map (·.src)))) g top :=
  OrderIndep.reachable_eq_with g top

/-- for EVERY order in which the neighbours of each variable are pushed, the model's fuel
    suffices and `_dfs` visits exactly the connected component of the top -/
theorem dfs_visits_component (g : Graph) (nb : Str → List Str) (hnb : NbPerm g nb) (top : Str)
    (htop : top ∈ dedup (g.triples.map (·.src))) (v : Str) :
    v ∈ reachableWith nb g top ↔ Conn nb top v :=
  mem_reachableWith_iff g nb hnb top htop v

/-- the visited SET is independent of the order in which neighbours are pushed -/
theorem dfs_order_indep (g : Graph) (nb nb' : Str → List Str) (hnb : NbPerm g nb)
    (hnb' : NbPerm g nb') (top : Str) (htop : top ∈ dedup (g.triples.map (·.src))) (v : Str) :
    v ∈ reachableWith nb g top ↔ v ∈ reachableWith nb' g top :=
  reachableWith_members g nb nb' hnb hnb' top htop v

/-- `sorted(s)` is a function of the set `s` -/
theorem sorted_order_indep {l l' : List Str} (h : l.Perm l') : sortStrs l = sortStrs l' :=
  sortStrs_congr h

theorem errors_eq_with (m : Model) (g : Graph) :
    m.errors g = errorsWith m (neighbours g (dedup (g.triples.map (·.src)))) id g :=
  OrderIndep.errors_eq_with m g

/-- `Model.errors` (the dict, INCLUDING its key order) does not depend on the order in which
    `_dfs` iterates neighbour sets nor on how `sorted` receives the unreachable set -/
theorem errors_order_indep (m : Model) (g : Graph) (nb : Str → List Str)
    (enum : List Str → List Str) (hnb : NbPerm g nb) (he : ∀ l, (enum l).Perm l) :
    errorsWith m nb enum g = m.errors g := by
  rw [errors_eq_with]
  exact errorsWith_congr m g _ _ _ _ hnb (fun _ => List.Perm.refl _) he (fun _ => List.Perm.refl _)

/-- non-vacuity: pushing neighbours in reverse order visits the variables of `exG` in a
    different ORDER (the lists differ) but, by the theorem, the same set -/
example : NbPerm exG (fun v => (neighbours exG (dedup (exG.triples.map (·.src))) v).reverse) :=
  fun _ => List.reverse_perm _
example : reachableWith (fun v => (neighbours exG (dedup (exG.triples.map (·.src))) v).reverse) exG (s "a")
    ≠ reachable exG (s "a") := by eval_decide
example : s "a" ∈ dedup (exG.triples.map (·.src)) := by decide
example : sortStrs [s "b", s "c", s "a"] = sortStrs [s "a", s "b", s "c"] :=
  sorted_order_indep (by eval_decide)

/-! ## 6. fresh variables, `reify_edges`, `reify_attributes` -/

/-- the fresh variable is a function of the SET `vars`: neither order nor duplicates of the
    enumeration matter (although the loop's fuel is `vars.length + 1`) -/
theorem freshVar_order_indep {vars vars' : List Str} (h : SameMembers vars vars') :
    freshVar vars = freshVar vars' := freshVar_congr h

/-- the fuel always suffices: `freshVar vars` is not in `vars`, and it is `_` if that is free,
    else `_N` for the least `N ≥ 2` with `_N` free -/
theorem freshVar_least (vars : List Str) :
    freshVar vars ∉ vars ∧
    ((['_'] ∉ vars ∧ freshVar vars = ['_']) ∨
     (['_'] ∈ vars ∧ ∃ k, 2 ≤ k ∧ freshVar vars = '_' :: natToStr k ∧
        ∀ k', 2 ≤ k' → k' < k → '_' :: natToStr k' ∈ vars)) := freshVar_spec vars

example : freshVar [s "_3", s "_", s "a", s "_2", s "_"] = s "_4" := by eval_decide

theorem reifyEdges_order_indep (m : Model) (g : Graph) {vars : List Str}
    (h : SameMembers vars g.variables) : reifyEdgesWith m vars g = reifyEdges m g :=
  reifyEdgesWith_congr m h g

theorem reifyAttributes_order_indep (g : Graph) {vars : List Str}
    (h : SameMembers vars g.variables) : reifyAttributesWith vars g = reifyAttributes g :=
  reifyAttributesWith_congr h g

example : reifyAttributesWith exVars exG = reifyAttributes exG :=
  reifyAttributes_order_indep _ (SameMembers.of_perm exVars_perm)
/-- the transformation is not the identity on a graph with a constant attribute -/
example : (reifyAttributes { exG with triples := exG.triples ++ [⟨s "b", s ":mod", .str (s "x")⟩] }).triples.length = 7 := by
  eval_decide

/-! ## 7. other membership-only consumers -/

theorem rearrange_order_indep (m : Model) (key : Option (List KeyFn)) (af : Bool) (t : Tree)
    {vars : List Str} (h : SameMembers vars t.node.vars) :
    rearrangeWith m vars key af t = rearrange m key af t :=
  rearrangeWith_congr m h key af t

theorem nodeContexts_order_indep (g : Graph) {vars : List Str} (h : SameMembers vars g.variables) :
    nodeContextsLoop g vars g.triples [g.getTop] = nodeContexts g :=
  nodeContextsLoop_congr g h _ _

/-! ## the command line -/

/-- **The per-graph output and status of the `penman` command are the same for every hash
    seed**: route every set iteration of the pipeline (`interpret`, `reify_edges`,
    `reify_attributes`, `configure`/`reconfigure`, `rearrange`, `_dfs`, `sorted(unreachable)`)
    through an arbitrary permutation `sd`; the result is `processTree`. -/
theorem cli_seed_indep (sd : Seed) (u : UTables) (m : Model) (o : Opts) (t : Tree) :
    processTreeWith sd u m o t = processTree u m o t := processTreeWith_seed sd u m o t

/-- **The standard output and the exit status of the whole command are the same for every
    hash seed**, for every list of inputs and every option set. -/
theorem cli_output_seed_indep (sd : Seed) (cfg : LexCfg) (u : UTables) (m : Model) (o : Opts)
    (inputs : List Str) : mainRunWith sd cfg u m o inputs [] 0 = mainRun cfg u m o inputs [] 0 :=
  mainRunWith_seed sd cfg u m o inputs [] 0

/-- non-vacuity: `Seed.rev` really permutes (it is not the identity seed) -/
example : Seed.rev.enum exG.variables ≠ Seed.id.enum exG.variables := by eval_decide
example (u : UTables) (o : Opts) :
    processTreeWith Seed.rev u Generated.amrModel o exT = processTreeWith Seed.id u Generated.amrModel o exT := by
  rw [cli_seed_indep, cli_seed_indep]

end Penman.C17
