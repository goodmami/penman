/-
  # C18 — Constant quoting, evaluation and typing are consistent with the notation

  Model: `Penman/Constant.lean` (`quote` = `json.dumps(str(x))`, `evaluate` = guarded
  `json.loads(s, parse_constant=str)`, `ctype` = `penman.constant.type`) and the STRING scanner of
  `Penman/Lexer.lean` with the generated tables `Generated.lexCfg`.
  Specification vocabulary (`isEscBlock`, `lexQuoteOk`, `IsJsonNumber`, `WsPadded`, `NoWs`,
  `HasLoneSurrogateEscape`, `tagOf`, `atomText`) is in `Penman/Spec/Constant.lean`.

  Clause of the property text                                   → theorem(s)
  ------------------------------------------------------------------------------------------
  "for every Python string, quoting yields text …"               `quote_shape` (shape of the text)
  "… that the lexer reads as exactly one string token"           `quote_lex_of_cfg` (any tables with
                                                                 `lexQuoteOk`), `quote_lex`,
                                                                 `quote_lex_triple` (generated tables)
  "… that evaluates back to the original string"                 `quote_eval`, `quote_eval_atom`
  "… and that is typed as a string"                              `quote_type`
  "quoting a number is the quoting of its string form and
   quoting None gives the empty string constant"                 `quote_misc`, `quote_text`
  "for every atom text, evaluation is total up to the
   documented constant error"                                    `eval_total`, `eval_never_other`,
                                                                 `jsonLoads_fuel_suffices`,
                                                                 `scanners_fuel_suffice`,
                                                                 `scanJsonString_fuel_suffices`,
                                                                 `scanJson_fuel_noncontainer`,
                                                                 `scanJson_fuel_mono`
  "returns int/float only for JSON number syntax"                `eval_number`, `eval_number_noWs`
  "None only for empty/None"                                     `eval_none`, `eval_none_noWs`
  "never a bool/NaN/container"                                   `eval_no_bool_without_ws`, `eval_bool`,
                                                                 `eval_float_is_number` (no NaN),
                                                                 `eval_nan_is_str`, `eval_container`
  "the reported type always matches the Python type of the
   evaluated value"                                              `type_agrees`, `type_raises_iff`,
                                                                 `type_no_keyerror_without_ws`

  Fuel: `jsonLoads` starts `scanJson` with fuel `2 * s.length + 2`.  `scanners_fuel_suffice` shows
  by the measure "2·|remaining text| + 1 at a value position, + 2 at a container body" that this
  fuel is never exhausted: with it `scanJson`/`scanArray`/`scanObject` answer `.unmodelled` only when
  the text contains a lone surrogate escape.  Hence in `eval_total` the `.unmodelled` case implies
  `HasLoneSurrogateEscape s` and nothing else.  (A fuel of `s.length + 1` would not do: `[[`
  exhausts it; `fuel_example` records that `[[` evaluates to the symbol `[[`, as in Python.)
-/
import Penman.Proofs.ConstantEval
import Penman.Proofs.ConstantCases
import Penman.Proofs.ConstantFuel
import Penman.Generated
import Penman.Proofs.Eval

namespace Penman
namespace C18

deriving instance DecidableEq for JScan
deriving instance DecidableEq for StrScan
deriving instance DecidableEq for Except

/-! ## Quoting -/

/-- **quote_shape.** `json.dumps(s)` is `"`, then one escape block per character of `s`, then `"`.
    Every block is a plain printable character other than `"`/`\`, or `\` followed by one of
    `" \ n r t b f`, or `\uXXXX`, or two `\uXXXX` (lower-case hex); hence the body is printable
    ASCII and every `"`/`\` of the body sits inside a backslash escape. -/
theorem quote_shape (s : Str) :
    ∃ blocks : List Str, blocks = s.map escapeChar ∧
      (∀ b ∈ blocks, isEscBlock b = true) ∧
      jsonDumpsStr s = '"' :: blocks.flatten ++ ['"'] ∧
      (∀ x ∈ blocks.flatten, isPrintable x = true) := by
  refine ⟨s.map escapeChar, rfl, ?_, jsonDumpsStr_eq s, ?_⟩
  · intro b hb
    obtain ⟨c, _, rfl⟩ := List.mem_map.mp hb
    exact isEscBlock_escapeChar c
  · intro x hx
    rw [← List.flatMap_def] at hx
    exact body_printable s x hx

example : isEscBlock ['a'] = true ∧ isEscBlock ['\\', '"'] = true ∧ isEscBlock "\\u00e9".toList = true ∧
    isEscBlock "\\ud83d\\ude00".toList = true ∧
    isEscBlock ['"'] = false ∧ isEscBlock ['\\'] = false ∧ isEscBlock ['\\', 'x'] = false ∧
    isEscBlock ['é'] = false ∧ isEscBlock ['\n'] = false := by eval_decide

example : quote (.str "a\"b\\c\n\x01é😀 ".toList)
    = "\"a\\\"b\\\\c\\n\\u0001\\u00e9\\ud83d\\ude00 \"".toList := by eval_decide

example : "a\"b\\c\n\x01é😀 ".toList.map escapeChar =
    [['a'], ['\\', '"'], ['b'], ['\\', '\\'], ['c'], ['\\', 'n'], "\\u0001".toList, "\\u00e9".toList,
     "\\ud83d\\ude00".toList, [' ']] := by eval_decide

/-- **quote_misc.** Quoting a number is quoting its string form; quoting `None` gives `""`. -/
theorem quote_misc (t : Str) : quote (.num t) = quote (.str t) ∧ quote .none = "\"\"".toList :=
  ⟨rfl, rfl⟩

/-- `quote a` is `json.dumps` of the string form of `a`. -/
theorem quote_text (a : Atom) : quote a = jsonDumpsStr (atomText a) := by
  cases a <;> rfl

example : quote (.num "-1.5".toList) = "\"-1.5\"".toList := by eval_decide

/-- **quote_lex**, for all lexer tables satisfying the decidable hypothesis `lexQuoteOk`
    (STRING is tried before every class that can match at `"`, and the STRING body class
    excludes no printable character except `"` and `\`): a quoted atom is exactly one STRING token
    on line 1 at offset 0. -/
theorem quote_lex_of_cfg {cfg : LexCfg} {order : List TokTy} (h : lexQuoteOk cfg order = true)
    (a : Atom) : lexStr cfg order (quote a) = [⟨.STRING, quote a, 1, 0⟩] := by
  rw [quote_text]; exact lexStr_jsonDumpsStr h _

/-- **quote_lex** at the generated tables, PENMAN order. -/
theorem quote_lex (a : Atom) :
    lexStr Generated.lexCfg Generated.lexCfg.penmanOrder (quote a) = [⟨.STRING, quote a, 1, 0⟩] :=
  quote_lex_of_cfg (by decide) a

/-- **quote_lex** at the generated tables, triple order. -/
theorem quote_lex_triple (a : Atom) :
    lexStr Generated.lexCfg Generated.lexCfg.tripleOrder (quote a) = [⟨.STRING, quote a, 1, 0⟩] :=
  quote_lex_of_cfg (by decide) a

example : lexQuoteOk Generated.lexCfg Generated.lexCfg.penmanOrder = true ∧
    lexQuoteOk Generated.lexCfg Generated.lexCfg.tripleOrder = true := by decide

-- the hypothesis is not trivially true: SYMBOL before STRING with `"` allowed in symbols fails it
example : lexQuoteOk { Generated.lexCfg with symExcl := [' '] } [.SYMBOL, .STRING] = false := by decide

example : lexStr Generated.lexCfg Generated.lexCfg.penmanOrder (quote (.str "a\"b\\c\n\x01é😀 ".toList))
    = [⟨.STRING, "\"a\\\"b\\\\c\\n\\u0001\\u00e9\\ud83d\\ude00 \"".toList, 1, 0⟩] := by eval_decide

/-- **quote_eval.** Evaluating the quoted form of a string gives back the string. -/
theorem quote_eval (s : Str) : evaluate (some (quote (.str s))) = .ok (.str s) :=
  evaluate_jsonDumpsStr s

/-- for any atom, evaluating the quoted form gives its string form -/
theorem quote_eval_atom (a : Atom) : evaluate (some (quote a)) = .ok (.str (atomText a)) := by
  rw [quote_text]; exact evaluate_jsonDumpsStr _

example : evaluate (some "\"a\\\"b\\\\c\\n\\u0001\\u00e9\\ud83d\\ude00 \"".toList)
    = .ok (.str "a\"b\\c\n\x01é😀 ".toList) := by eval_decide

/-- **quote_type.** A quoted atom is typed as a string. -/
theorem quote_type (a : Atom) : ctype (some (quote a)) = .ok .string := by
  rw [quote_text]
  have h2 : startsWith ['"'] (jsonDumpsStr (atomText a)) = true := startsWith_quote _
  have h3 : endsWith ['"'] (jsonDumpsStr (atomText a)) = true := endsWith_quote _
  simp only [ctype, evaluate_jsonDumpsStr, h2, h3]
  rfl

example : ctype (some "\"\\ud83d\\ude00 \\\\\"".toList) = .ok .string := by eval_decide

/-! ## Evaluation is total -/

/-- The fuel `2 * s.length + 2` that `jsonLoads` gives to `scanJson` always suffices: `.unmodelled`
    can only come from a lone surrogate escape. -/
theorem jsonLoads_fuel_suffices (s : Str)
    (h : scanJson (2 * s.length + 2) (skipWs s) = .unmodelled) : HasLoneSurrogateEscape s := by
  have hl := (skipWs_suffix s).length_le
  have := (scan_inv (2 * s.length + 2)).1 (skipWs s)
  rw [h] at this
  exact lone_suffix (this (by omega)) (skipWs_suffix s)

/-- **eval_total.** `evaluate` returns a value, raises `ConstantError`, or is outside the model;
    the latter only for texts with a lone surrogate escape (Lean `Char` has no surrogates) — never
    because fuel ran out. It never raises anything else. -/
theorem eval_total (a : Option Str) :
    (∃ v, evaluate a = .ok v) ∨ evaluate a = .error .constant ∨
    (evaluate a = .error (.unmodelled "json: lone surrogate or nesting") ∧
      ∃ s, a = some s ∧ HasLoneSurrogateEscape s) := by
  cases a with
  | none => exact Or.inl ⟨_, rfl⟩
  | some s =>
    cases h : evaluate (some s) with
    | ok v => exact Or.inl ⟨v, rfl⟩
    | error e =>
      rcases evaluate_error_inv h with ⟨rfl, _⟩ | hj | ⟨rfl, _⟩
      · exact Or.inr (Or.inl rfl)
      · obtain ⟨rfl, hsc⟩ := jsonLoads_error hj
        exact Or.inr (Or.inr ⟨rfl, s, rfl, jsonLoads_fuel_suffices s hsc⟩)
      · exact Or.inr (Or.inl rfl)

theorem eval_never_other (a : Option Str) (n : String) : evaluate a ≠ .error (.other n) := by
  intro h
  rcases eval_total a with ⟨v, hv⟩ | hv | ⟨hv, _⟩ <;> rw [hv] at h <;> cases h

/-- The underlying invariant for the three mutually recursive scanners: with fuel at least
    `2·|s| + 1` at a value position, resp. `2·|s| + 2` inside a container body, `.unmodelled` is
    never due to the fuel. -/
theorem scanners_fuel_suffice (f : Nat) :
    (∀ s, 2 * s.length + 1 ≤ f → scanJson f s = .unmodelled → HasLoneSurrogateEscape s) ∧
    (∀ s b, 2 * s.length + 2 ≤ f → scanArray f s b = .unmodelled → HasLoneSurrogateEscape s) ∧
    (∀ s b, 2 * s.length + 2 ≤ f → scanObject f s b = .unmodelled → HasLoneSurrogateEscape s) := by
  refine ⟨fun s hf h => ?_, fun s b hf h => ?_, fun s b hf h => ?_⟩
  · have := (scan_inv f).1 s
    rw [h] at this; exact this hf
  · have := (scan_inv f).2.1 s b
    rw [h] at this; exact this hf
  · have := (scan_inv f).2.2 s b
    rw [h] at this; exact this hf

/-- The fuel `length + 1` that `scanJson` gives to `scanJsonString` suffices: any two fuels above
    the length give the same result (so its `.bad` at fuel 0 is unreachable). -/
theorem scanJsonString_fuel_suffices (s acc : Str) (f : Nat) (hf : s.length < f) :
    scanJsonString f s acc = scanJsonString (s.length + 1) s acc :=
  scanJsonString_fuel f s acc _ hf (Nat.lt_succ_self _)

/-- Outside containers `scanJson` does not depend on its (positive) fuel. -/
theorem scanJson_fuel_noncontainer (s : Str) (h1 : ∀ q, s ≠ '[' :: q) (h2 : ∀ q, s ≠ '{' :: q)
    (f g : Nat) : scanJson (f+1) s = scanJson (g+1) s := by
  unfold scanJson
  split
  · rfl
  · exact absurd rfl (h2 _)
  · exact absurd rfl (h1 _)
  · rfl

/-- Results other than `.unmodelled` are stable under more fuel: `.ok`/`.bad` answers of
    `scanJson` are never artefacts of the fuel. -/
theorem scanJson_fuel_mono (f : Nat) (s : Str) (h : scanJson f s ≠ .unmodelled) :
    scanJson (f+1) s = scanJson f s :=
  ((fuel_step f).1 s).resolve_left h

/-- deep unbalanced nesting is within the fuel: these are symbols, as in Python -/
theorem fuel_example :
    evaluate (some "[[".toList) = .ok (.str "[[".toList) ∧
    evaluate (some "[[[[{\"a\":[[".toList) = .ok (.str "[[[[{\"a\":[[".toList) ∧
    evaluate (some "[[[[]]]]".toList) = .error .constant := by eval_decide

example : HasLoneSurrogateEscape "\"\\ud800\"".toList :=
  ⟨['"'], "d800\"".toList, 0xd800, ['"'], by eval_decide, by eval_decide, Or.inr ⟨by decide, by decide, by
    rintro ⟨r2, u2, r3, h, _⟩; cases h⟩⟩
example : evaluate (some "\"\\ud800\"".toList) = .error (.unmodelled "json: lone surrogate or nesting") := by
  eval_decide
example : evaluate (some "\"a".toList) = .error .constant := by eval_decide
example : evaluate (some "a b".toList) = .ok (.str "a b".toList) := by eval_decide

/-! ## Numbers -/

/-- **eval_number.** `evaluate` returns an int (`isF = false`) or a float (`isF = true`) with text
    `t` only if the atom text is `t` surrounded by JSON whitespace and `t` matches the JSON number
    grammar, with a fraction or exponent exactly in the float case. -/
theorem eval_number {s t : Str} :
    (evaluate (some s) = .ok (.int t) → WsPadded s t ∧ IsJsonNumber t false) ∧
    (evaluate (some s) = .ok (.float t) → WsPadded s t ∧ IsJsonNumber t true) :=
  ⟨fun h => evaluate_number (isF := false) h, fun h => evaluate_number (isF := true) h⟩

/-- without JSON whitespace (every lexer token) the number text is the whole atom text -/
theorem eval_number_noWs {s t : Str} (hn : NoWs s) :
    (evaluate (some s) = .ok (.int t) → s = t ∧ IsJsonNumber t false) ∧
    (evaluate (some s) = .ok (.float t) → s = t ∧ IsJsonNumber t true) :=
  ⟨fun h => ⟨wsPadded_noWs hn (eval_number.1 h).1, (eval_number.1 h).2⟩,
   fun h => ⟨wsPadded_noWs hn (eval_number.2 h).1, (eval_number.2 h).2⟩⟩

/-- floats only come from number syntax: never NaN/Infinity -/
theorem eval_float_is_number {s t : Str} (h : evaluate (some s) = .ok (.float t)) :
    IsJsonNumber t true := (eval_number.2 h).2

/-- `NaN`, `Infinity`, `-Infinity` come back as strings (`parse_constant=str`). -/
theorem eval_nan_is_str :
    evaluate (some "NaN".toList) = .ok (.str "NaN".toList) ∧
    evaluate (some "Infinity".toList) = .ok (.str "Infinity".toList) ∧
    evaluate (some "-Infinity".toList) = .ok (.str "-Infinity".toList) := by eval_decide

example : evaluate (some "-12".toList) = .ok (.int "-12".toList) ∧
    evaluate (some " 0 ".toList) = .ok (.int "0".toList) ∧
    evaluate (some "-1.50e+3".toList) = .ok (.float "-1.50e+3".toList) ∧
    evaluate (some "1E5".toList) = .ok (.float "1E5".toList) ∧
    evaluate (some "01".toList) = .ok (.str "01".toList) ∧
    evaluate (some "1.".toList) = .ok (.str "1.".toList) ∧
    evaluate (some "+1".toList) = .ok (.str "+1".toList) := by eval_decide

example : IsJsonNumber "-1.50e+3".toList true :=
  ⟨['-'], ['1'], ".50".toList, "e+3".toList, by eval_decide,
    ⟨Or.inr rfl, Or.inr ⟨'1', [], rfl, by decide, by decide, by simp⟩,
     Or.inr ⟨"50".toList, rfl, by decide, by decide⟩,
     Or.inr ⟨'e', ['+'], ['3'], rfl, Or.inl rfl, Or.inr (Or.inr rfl), by decide, by decide⟩⟩,
    by decide⟩

/-! ## None -/

/-- **eval_none.** `evaluate` returns `None` exactly for `None`, the empty text, and the text
    `null` padded with at least one JSON whitespace (bare `null` is the symbol `null`). -/
theorem eval_none (a : Option Str) :
    evaluate a = .ok .none ↔
      a = none ∨ a = some [] ∨ ∃ s, a = some s ∧ s ≠ "null".toList ∧ WsPadded s "null".toList := by
  constructor
  · intro h
    cases a with
    | none => exact Or.inl rfl
    | some s =>
      by_cases hs : s = []
      · exact Or.inr (Or.inl (by rw [hs]))
      · right; right
        obtain ⟨hl, jv, pre, rest, hv, hc, hpre, hws, hsc, hrest⟩ := evaluate_ok_json h (by simp) hs
        have hjv : jv = .null := by cases jv <;> simp [cvalOf] at hv hc ⊢
        subst hjv
        refine ⟨s, rfl, fun e => hl (Or.inr (Or.inr e)), pre, rest, ?_, hws, hrest⟩
        rw [List.append_assoc, ← show skipWs s = "null".toList ++ rest from scanJson_inv hsc]
        exact hpre
  · rintro (rfl | rfl | ⟨s, rfl, hne, pre, post, hs, hpre, hpost⟩)
    · rfl
    · rfl
    · exact evaluate_padded (c := 'n') (q := "ull".toList) (jv := .null) hs hpre hpost rfl (by decide)
        (by decide) (fun hl => hne (isLit_padded hl ⟨pre, post, hs, hpre, hpost⟩))
        (fun f => scanJson_null f post) (by simp)

/-- without JSON whitespace: `None` only for `None` and the empty text -/
theorem eval_none_noWs {s : Str} (hn : NoWs s) : evaluate (some s) = .ok .none ↔ s = [] := by
  rw [eval_none]
  constructor
  · rintro (h | h | ⟨s', hs, hne, hp⟩)
    · cases h
    · injection h
    · injection hs with hs; subst hs; exact absurd (wsPadded_noWs hn hp) hne
  · rintro rfl; exact Or.inr (Or.inl rfl)

example : evaluate (some " null".toList) = .ok .none ∧ evaluate (some "null\n".toList) = .ok .none ∧
    evaluate (some "null".toList) = .ok (.str "null".toList) ∧
    evaluate (some "\"\"".toList) = .ok (.str []) := by eval_decide

/-! ## bool, containers -/

/-- `evaluate` returns a bool only for whitespace-padded `true`/`false` … -/
theorem eval_bool {s : Str} (h : evaluate (some s) = .ok .bool) :
    s ≠ "true".toList ∧ s ≠ "false".toList ∧
      (WsPadded s "true".toList ∨ WsPadded s "false".toList) := by
  have hs : s ≠ [] := by intro e; subst e; simp [evaluate] at h
  obtain ⟨hl, jv, pre, rest, hv, hc, hpre, hws, hsc, hrest⟩ := evaluate_ok_json h (by simp) hs
  have hjv : jv = .bool := by cases jv <;> simp [cvalOf] at hv hc ⊢
  subst hjv
  refine ⟨fun e => hl (Or.inl e), fun e => hl (Or.inr (Or.inl e)), ?_⟩
  rcases (scanJson_inv hsc : skipWs s = _ ∨ skipWs s = _) with hx | hx
  · exact Or.inl ⟨pre, rest, by rw [List.append_assoc, ← hx]; exact hpre, hws, hrest⟩
  · exact Or.inr ⟨pre, rest, by rw [List.append_assoc, ← hx]; exact hpre, hws, hrest⟩

/-- **eval_no_bool_without_ws.** … hence never for a text without JSON whitespace. -/
theorem eval_no_bool_without_ws {s : Str} (hn : NoWs s) : evaluate (some s) ≠ .ok .bool := by
  intro h
  obtain ⟨h1, h2, h3 | h3⟩ := eval_bool h
  · exact h1 (wsPadded_noWs hn h3)
  · exact h2 (wsPadded_noWs hn h3)

example : NoWs "true".toList ∧ evaluate (some "true".toList) = .ok (.str "true".toList) ∧
    evaluate (some " true".toList) = .ok .bool := by
  refine ⟨by eval_decide, by eval_decide, by eval_decide⟩

/-- **eval_container.** `ConstantError` is raised only for unbalanced quotes or container-like
    text; a JSON container is never returned (`CVal` has no container value). -/
theorem eval_container {s : Str} (h : evaluate (some s) = .error .constant) :
    (startsWith ['"'] s ≠ endsWith ['"'] s) ∨ (∃ q, skipWs s = '[' :: q ∨ skipWs s = '{' :: q) := by
  rcases evaluate_error_inv h with ⟨_, hq⟩ | hj | ⟨_, hj⟩
  · exact .inl hq
  · cases (jsonLoads_error hj).1
  · obtain ⟨pre, rest, _, _, hsc, _⟩ := jsonLoads_inv hj
    exact .inr (scanJson_inv hsc)

example : evaluate (some "[]".toList) = .error .constant ∧
    evaluate (some "{\"a\": [1, 2]}".toList) = .error .constant ∧
    evaluate (some "[1,]".toList) = .ok (.str "[1,]".toList) := by eval_decide

/-! ## Types -/

/-- **type_agrees.** `type(s)` is the tag of `evaluate(s)`: `None ↦ Null`, `int ↦ Integer`,
    `float ↦ Float`, `str ↦ String` if the text starts and ends with `"` else `Symbol`,
    `bool ↦ KeyError`; and it raises whatever `evaluate` raises. -/
theorem type_agrees (a : Option Str) :
    ctype a = match evaluate a with
      | .ok v => tagOf a v
      | .error e => .error e := by
  cases a with
  | none => rfl
  | some s =>
    simp only [ctype]
    cases evaluate (some s) with
    | error e => rfl
    | ok v => cases v <;> rfl

/-- `type` raises exactly when `evaluate` raises or yields a bool. -/
theorem type_raises_iff (a : Option Str) :
    (∃ e, ctype a = .error e) ↔ (∃ e, evaluate a = .error e) ∨ evaluate a = .ok .bool := by
  rw [type_agrees]
  cases h : evaluate a with
  | error e => simp
  | ok v =>
    cases v <;> cases a <;> simp [tagOf]

/-- for texts without JSON whitespace `type` never raises `KeyError` (or any non-penman error) -/
theorem type_no_keyerror_without_ws {s : Str} (hn : NoWs s) (n : String) :
    ctype (some s) ≠ .error (.other n) := by
  rw [type_agrees]
  cases h : evaluate (some s) with
  | error e =>
    intro h'; injection h' with h'; subst h'
    exact eval_never_other _ _ h
  | ok v =>
    cases v with
    | bool => exact absurd h (eval_no_bool_without_ws hn)
    | _ => simp [tagOf]

example : ctype none = .ok .null ∧ ctype (some []) = .ok .null ∧
    ctype (some "-".toList) = .ok .symbol ∧ ctype (some "\"foo\"".toList) = .ok .string ∧
    ctype (some "1".toList) = .ok .integer ∧ ctype (some "1.2".toList) = .ok .float ∧
    ctype (some "\"".toList) = .ok .string ∧
    ctype (some " true".toList) = .error (.other "KeyError") ∧
    ctype (some "\"a".toList) = .error .constant := by eval_decide

end C18
end Penman
