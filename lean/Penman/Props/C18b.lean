/-
# C18b — completeness of `evaluate` on numbers (the converse of `C18.eval_number`)

Property text (C18): "evaluate returns int/float only for JSON number syntax".  `Props/C18.lean` has
the "only" direction (`eval_number`, `eval_number_noWs`); this file has the converse:

* "EVERY whitespace-padded JSON number text evaluates to an int/float carrying exactly that text"
  → `eval_number_complete` : `IsJsonNumber t isFloat → WsPadded s t →
     evaluate (some s) = .ok (if isFloat then .float t else .int t)`.
  NO side condition of the form `s ≠ …` is needed: the guards of `evaluate` cannot fire on such an
  `s` — it is non-empty, contains no `"` (quote-balance test), and is none of `true`/`false`/`null`
  (every character is a number character or JSON whitespace); `jsonLoads` consumes the whole string
  because `scanJsonNumber` is greedy and stops exactly at the whitespace / the end
  (`scanJsonNumber_complete`, for every continuation that does not start with a digit, `.`, `e`, `E`).
* both directions together → `eval_number_iff` (padded), `eval_int_float_iff` (whitespace-free
  `s`, i.e. every lexer token: `evaluate (some s)` is an `.int` / a `.float` IFF `s` is a JSON number
  text without / with fraction-or-exponent; the value then carries `s` itself:
  `eval_int_iff`, `eval_float_iff`).
* consequence for the grammar: the kind of a number text is unique → `jsonNumber_kind_unique`.
-/
import Penman.Props.C18
import Penman.Proofs.ConstantNumComplete
import Penman.Proofs.Eval

namespace Penman
namespace C18b
open Penman.C18

/-! ## concrete values for the non-vacuity examples -/

/-- `-1.50e+3` is a JSON number with fraction and exponent -/
theorem exFloat : IsJsonNumber "-1.50e+3".toList true :=
  ⟨['-'], ['1'], ".50".toList, "e+3".toList, by eval_decide,
    ⟨Or.inr rfl, Or.inr ⟨'1', [], rfl, by decide, by decide, by simp⟩,
     Or.inr ⟨"50".toList, rfl, by decide, by decide⟩,
     Or.inr ⟨'e', ['+'], ['3'], rfl, Or.inl rfl, Or.inr (Or.inr rfl), by decide, by decide⟩⟩,
    by decide⟩

/-- `120` is a JSON number without fraction or exponent -/
theorem exInt : IsJsonNumber "120".toList false :=
  ⟨[], "120".toList, [], [], rfl,
    ⟨Or.inl rfl, Or.inr ⟨'1', "20".toList, rfl, by decide, by decide, by decide⟩, Or.inl rfl, Or.inl rfl⟩,
    by decide⟩

theorem exPadded : WsPadded " \t120\n".toList "120".toList :=
  ⟨" \t".toList, "\n".toList, by eval_decide, by eval_decide, by eval_decide⟩

/-! ## completeness -/

/-- the scanner level: on a number text followed by anything that does not start with a digit,
    `.`, `e` or `E`, `scanJsonNumber` returns exactly that text, its kind, and the rest -/
theorem scanJsonNumber_complete {sign int frac exp post : Str} (h : JsonNumberParts sign int frac exp)
    (hpost : headNot numCont post = true) :
    scanJsonNumber (sign ++ int ++ frac ++ exp ++ post) =
      some (sign ++ int ++ frac ++ exp, !(frac.isEmpty && exp.isEmpty), post) := by
  obtain ⟨hs, hi, hf, he⟩ := h
  -- what follows each part cannot be taken for a continuation of that part: `p` holds neither of
  -- the head of the next non-empty part nor of the head of `post`
  have hp : ∀ p : Char → Bool, (∀ c, p c = true → numCont c = true) → headNot p post = true :=
    fun p hpq => headNot_mono hpq hpost
  have hexp : ∀ p : Char → Bool, p 'e' = false → p 'E' = false → headNot p post = true →
      headNot p (exp ++ post) = true := by
    intro p h1 h2 h
    rcases he with rfl | ⟨e, sg, ds, rfl, he, _⟩
    · exact h
    · rcases he with rfl | rfl <;> simp [headNot, h1, h2]
  have hfrac : ∀ p : Char → Bool, p '.' = false → headNot p (exp ++ post) = true →
      headNot p (frac ++ (exp ++ post)) = true := by
    intro p h1 h
    rcases hf with rfl | ⟨ds, rfl, _⟩
    · exact h
    · simp [headNot, h1]
  have h3 := hp (fun c => isAsciiDigit c || c == 'e' || c == 'E') fun c hc => by
    simp only [Bool.or_eq_true] at hc
    rcases hc with (hc | hc) | hc <;> simp [numCont, hc]
  have h2 := hexp (fun c => isAsciiDigit c || c == '.') rfl rfl <| hp _ fun c hc => by
    simp only [Bool.or_eq_true] at hc
    rcases hc with hc | hc <;> simp [numCont, hc]
  have h1 := hfrac isAsciiDigit rfl <| hexp _ rfl rfl <| hp _ fun c hc => by simp [numCont, hc]
  have h0 : headNot (· == '-') (int ++ (frac ++ (exp ++ post))) = true := by
    rcases hi with rfl | ⟨c, ds, rfl, h1, h2, _⟩
    · rfl
    · simp only [List.cons_append, headNot, Bool.not_eq_true', beq_eq_false_iff_ne]
      rintro rfl; exact absurd h1 (by decide)
  rw [scanJsonNumber_eq]
  simp only [List.append_assoc]
  rw [signPart_append hs h0]
  simp only [intPart_append hi h1, fracPart_append hf h2, expPart_append he h3]

example : headNot numCont ", 2]".toList = true ∧ headNot numCont [] = true ∧ headNot numCont "e".toList = false := by
  eval_decide
example : scanJsonNumber "-1.50e+3, 2]".toList = some ("-1.50e+3".toList, true, ", 2]".toList) := by eval_decide

/-- **eval_number_complete.**  Every JSON number text `t`, surrounded by any amount of JSON
    whitespace, evaluates to an int (no fraction, no exponent) or a float (otherwise) carrying
    exactly the text `t`. -/
theorem eval_number_complete {s t : Str} {isFloat : Bool} (hn : IsJsonNumber t isFloat) (hp : WsPadded s t) :
    evaluate (some s) = .ok (if isFloat then .float t else .int t) := by
  -- `evaluate_padded` with the number scanner: `t` starts with `-` or a digit, has no `"`, and the
  -- whitespace after it cannot continue a number, so `scanJsonNumber_complete` returns exactly `t`
  obtain ⟨sign, int, frac, exp, rfl, hparts, hisFloat⟩ := hn
  obtain ⟨pre, post, hs, hpre, hpost⟩ := hp
  obtain ⟨c, q, ht, hc⟩ := parts_head hparts
  have hcws : isJsonWs c = false := by
    cases hw : isJsonWs c with
    | false => rfl
    | true =>
      obtain ⟨h1, h2⟩ := ws_not_num hw
      rcases hc with rfl | hc
      · exact absurd rfl h2
      · simp [numCont, hc] at h1
  have hstop : headNot numCont post = true := by
    cases post with
    | nil => rfl
    | cons x xs => simp [headNot, (ws_not_num (hpost x (by simp))).1]
  have hnum := scanJsonNumber_complete hparts hstop
  have hisFloat' : (!(frac.isEmpty && exp.isEmpty)) = isFloat := by
    cases frac <;> cases exp <;> cases isFloat <;> simp at hisFloat ⊢
  rw [hisFloat', ht] at hnum
  have hlit : ¬ isLit s := fun hl => by
    rw [isLit_padded hl ⟨pre, post, hs, hpre, hpost⟩, ht] at hl
    rcases hl with e | e | e <;> cases e <;> revert hc <;> decide
  have := evaluate_padded (jv := if isFloat then .float (sign ++ int ++ frac ++ exp) else .int (sign ++ int ++ frac ++ exp))
    hs hpre hpost ht hcws (fun h => absurd (parts_chars hparts _ h) (by decide)) hlit
    (fun f => by rw [ht]; exact scanJson_number hnum hc) (by cases isFloat <;> simp)
  cases isFloat <;> exact this

example : evaluate (some " \t120\n".toList) = .ok (.int "120".toList) := eval_number_complete exInt exPadded
example : evaluate (some " \t120\n".toList) = .ok (.int "120".toList) := by eval_decide
example : evaluate (some "-1.50e+3".toList) = .ok (.float "-1.50e+3".toList) :=
  eval_number_complete exFloat ⟨[], [], rfl, by decide, by decide⟩
example : evaluate (some "-1.50e+3".toList) = .ok (.float "-1.50e+3".toList) := by eval_decide
example : evaluate (some "0".toList) = .ok (.int "0".toList) ∧ evaluate (some "-0".toList) = .ok (.int "-0".toList) ∧
    evaluate (some "1E5".toList) = .ok (.float "1E5".toList) ∧ evaluate (some "0.0".toList) = .ok (.float "0.0".toList) := by
  eval_decide

/-- **both directions** (with `C18.eval_number`) : `evaluate` returns the int / float with text
    `t` exactly for the whitespace-padded JSON number text `t` of that kind -/
theorem eval_number_iff {s t : Str} {isFloat : Bool} :
    evaluate (some s) = .ok (if isFloat then .float t else .int t) ↔ WsPadded s t ∧ IsJsonNumber t isFloat :=
  ⟨fun h => evaluate_number h, fun h => eval_number_complete h.2 h.1⟩

theorem wsPadded_self (s : Str) : WsPadded s s := ⟨[], [], by simp, by simp [AllWs], by simp [AllWs]⟩

/-- the kind (int / float) of a JSON number text is unique -/
theorem jsonNumber_kind_unique {t : Str} {b b' : Bool} (h : IsJsonNumber t b) (h' : IsJsonNumber t b') : b = b' := by
  have e := eval_number_complete h (wsPadded_self t)
  rw [eval_number_complete h' (wsPadded_self t)] at e
  cases b <;> cases b' <;> simp at e ⊢

/-! ## whitespace-free atoms (every lexer token) -/

/-- `evaluate` returns the int carrying `s` iff `s` is a JSON number text without fraction and exponent -/
theorem eval_int_iff {s : Str} : evaluate (some s) = .ok (.int s) ↔ IsJsonNumber s false :=
  ⟨fun h => (eval_number.1 h).2, fun h => eval_number_complete (isFloat := false) h (wsPadded_self s)⟩

/-- `evaluate` returns the float carrying `s` iff `s` is a JSON number text with a fraction or an exponent -/
theorem eval_float_iff {s : Str} : evaluate (some s) = .ok (.float s) ↔ IsJsonNumber s true :=
  ⟨fun h => (eval_number.2 h).2, fun h => eval_number_complete (isFloat := true) h (wsPadded_self s)⟩

/-- **eval_int_float_iff.**  For a whitespace-free atom text `s`: `evaluate (some s)` is an `.int`
    iff `s` is a JSON integer text, a `.float` iff `s` is a JSON number text with fraction or
    exponent; and in both cases the value carries `s` itself. -/
theorem eval_int_float_iff {s : Str} (hn : NoWs s) :
    ((∃ t, evaluate (some s) = .ok (.int t)) ↔ IsJsonNumber s false) ∧
    ((∃ t, evaluate (some s) = .ok (.float t)) ↔ IsJsonNumber s true) ∧
    (∀ t, evaluate (some s) = .ok (.int t) ∨ evaluate (some s) = .ok (.float t) → t = s) := by
  refine ⟨⟨?_, fun h => ⟨s, eval_int_iff.2 h⟩⟩, ⟨?_, fun h => ⟨s, eval_float_iff.2 h⟩⟩, ?_⟩
  · rintro ⟨t, h⟩
    obtain ⟨e, hnum⟩ := (eval_number_noWs hn).1 h
    rw [e]; exact hnum
  · rintro ⟨t, h⟩
    obtain ⟨e, hnum⟩ := (eval_number_noWs hn).2 h
    rw [e]; exact hnum
  · rintro t (h | h)
    · exact ((eval_number_noWs hn).1 h).1.symm
    · exact ((eval_number_noWs hn).2 h).1.symm

example : NoWs "-1.50e+3".toList ∧ NoWs "120".toList := by eval_decide
/-- not numbers: leading zero, bare fraction point, leading `+`, hex — they stay symbols -/
example : evaluate (some "01".toList) = .ok (.str "01".toList) ∧ evaluate (some "1.".toList) = .ok (.str "1.".toList) ∧
    evaluate (some "+1".toList) = .ok (.str "+1".toList) ∧ evaluate (some "0x10".toList) = .ok (.str "0x10".toList) := by
  eval_decide
/-- hence (by `eval_int_iff` / `eval_float_iff`) `01` is not a JSON number text -/
example : ¬ IsJsonNumber "01".toList false ∧ ¬ IsJsonNumber "01".toList true :=
  ⟨fun h => by have := eval_int_iff.2 h; revert this; eval_decide,
   fun h => by have := eval_float_iff.2 h; revert this; eval_decide⟩

end C18b
end Penman


