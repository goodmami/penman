/-
# C19 — Triple-conjunction notation round-trips

Model: `formatTriples` (`Penman/Format.lean`), `lexStr … tripleOrder` (`Penman/Lexer.lean`),
`parseTriplesToks` (`Penman/Parse.lean`).  `parseTriples cfg s` below is `penman.parse_triples(s)`
for a `str`.  Spacing variants as strings: `Penman/Spec/TripleVariants.lean`
(`formatTriplesV`, `CommaStyle`, `ConjStyle`).

Hypotheses (decidable, `Penman/Spec/TextWf.lean`): `FmtCfgWf cfg` on the lexer tables (holds for
the generated ones, `C01.fmt_cfg_wf`; for triples it says: space / line feed are blanks, the
triple order has STRING, LPAREN, RPAREN, SYMBOL, and `,` `^` are name characters), and
`WfTripleText cfg t` for every triple:
* source: a SYMBOL text without `,` ("sources are symbols"; a comma inside the source cannot work:
  the parser cuts `a,b` at the first comma);
* role: after stripping leading colons, a SYMBOL text (non-empty; in triple mode `:` `/` `~`
  are not name characters either, they would lex as UNEXPECTED);
* target: a SYMBOL text — commas anywhere and a leading `^` are fine — or a STRING literal
  ("quoted strings with any content", except a raw line break, which `lex` of a `str` splits at).
  Not covered, and indeed not round-tripping: `None` (written `None`, read back as the string
  `None`), the empty string (read back as `None`), numbers (read back as strings).

Property text ↦ theorems
* "writing the list as a triple conjunction in either line style and parsing it back returns the
  same list in the same order, with every role carrying its leading colon" ↦ `C19`
  (`indent = true` : `" ^\n"`, `false` : `" ^ "`); `normTriple t` is `t` with role
  `':' :: lstrip(':')(role)`; lexical half: `formatTriples_lex`.
* "All documented spacing variants around the comma and the conjunction sign parse to the same
  triples" ↦ `C19_spacing_variants` (every triple with its own comma style `a,b` `a, b` `a ,b`
  `a , b`, every conjunction sign with any number of spaces before it and after it nothing
  (`^role(`), or an optional line feed and spaces), `C19_variants_agree`.
* HYPOTHESIS NEEDED: the list must be non-empty.  The empty list is written as the empty string,
  on which `parse_triples` raises `DecodeError` (model: `empty_list_rejected`; the real code does
  the same).  Reported as a boundary of the property "for every list of triples".
-/
import Penman.Proofs.FormatTriples
import Penman.Props.C01
import Penman.Proofs.Eval

namespace Penman.C19
open Penman.Spec Penman.Lex Penman.FL

/-- `penman.parse_triples(s)` for a `str` -/
abbrev parseTriples (cfg : LexCfg) (s : Str) : Except PyErr (List Triple) :=
  parseTriplesToks (lexStr cfg cfg.tripleOrder s)

/-- what `WfTripleText` says -/
theorem wfTripleText_iff {cfg : LexCfg} (hw : FmtCfgWf cfg = true) (t : Triple) :
    WfTripleText cfg t ↔
      (IsSymbol cfg t.src ∧ t.src.head? ≠ some '#' ∧ NoBreak t.src) ∧ ',' ∉ t.src ∧
      (IsSymbol cfg (lstripChar ':' t.role) ∧ (lstripChar ':' t.role).head? ≠ some '#' ∧
        NoBreak (lstripChar ':' t.role)) ∧
      ∃ s, t.tgt = .str s ∧
        ((IsSymbol cfg s ∧ s.head? ≠ some '#' ∧ NoBreak s) ∨ (IsString cfg s ∧ NoBreak s)) := by
  have hb := (FmtCfgWf.toP hw).base
  simp only [WfTripleText, wfTripleB, Bool.and_eq_true, Bool.not_eq_true', List.contains_eq_mem,
    decide_eq_false_iff_not, symbolB_iff]
  constructor
  · rintro ⟨⟨⟨h1, h2⟩, h3⟩, h4⟩
    refine ⟨h1, h2, h3, ?_⟩
    cases ht : t.tgt with
    | none => simp [ht] at h4
    | num x => simp [ht] at h4
    | str s =>
      simp only [ht, Bool.or_eq_true, symbolB_iff, stringB_iff hb] at h4
      exact ⟨s, rfl, h4⟩
  · rintro ⟨h1, h2, h3, s, hs, h4⟩
    refine ⟨⟨⟨h1, h2⟩, h3⟩, ?_⟩
    simp only [hs, Bool.or_eq_true, symbolB_iff, stringB_iff hb]
    exact h4

/-- **the tokens of a formatted triple conjunction** form a `ConjToks` (C07) of the triples
    with normalised roles -/
theorem formatTriples_lex {cfg : LexCfg} (hw : FmtCfgWf cfg = true) (ts : List Triple)
    (hts : ∀ t ∈ ts, WfTripleText cfg t) (hne : ts ≠ []) (indent : Bool) :
    ConjToks false (ts.map normTriple) (lexStr cfg cfg.tripleOrder (formatTriples ts indent)) := by
  rw [formatTriples_eq]
  have := formatTriplesV_conjToks (FmtCfgWf.toP hw) (ts.map fun t => (t, stdStyle indent)) (by simpa using hne)
    (by simpa using hts)
  simpa [List.map_map, Function.comp_def] using this

/-- **Round trip.** -/
theorem C19 {cfg : LexCfg} (hw : FmtCfgWf cfg = true) (ts : List Triple)
    (hts : ∀ t ∈ ts, WfTripleText cfg t) (hne : ts ≠ []) (indent : Bool) :
    parseTriples cfg (formatTriples ts indent) =
      .ok (ts.map fun t => { t with role := ':' :: lstripChar ':' t.role }) := by
  have := C07.parseTriples_toks (formatTriples_lex hw ts hts hne indent) [] trivial
  rw [List.append_nil] at this
  exact this

/-- **All spacing variants** (each triple its own comma style, each conjunction sign its own
    spacing) parse to the triples with normalised roles … -/
theorem C19_spacing_variants {cfg : LexCfg} (hw : FmtCfgWf cfg = true)
    (l : List (Triple × CommaStyle × ConjStyle)) (hl : l ≠ []) (h : ∀ x ∈ l, WfTripleText cfg x.1) :
    parseTriples cfg (formatTriplesV l) = .ok (l.map fun x => normTriple x.1) := by
  have := C07.parseTriples_toks (formatTriplesV_conjToks (FmtCfgWf.toP hw) l hl h) [] trivial
  rw [List.append_nil] at this
  exact this

/-- … hence to the same triples as the text `format_triples` writes -/
theorem C19_variants_agree {cfg : LexCfg} (hw : FmtCfgWf cfg = true)
    (l : List (Triple × CommaStyle × ConjStyle)) (hl : l ≠ []) (h : ∀ x ∈ l, WfTripleText cfg x.1)
    (indent : Bool) :
    parseTriples cfg (formatTriplesV l) = parseTriples cfg (formatTriples (l.map (·.1)) indent) := by
  rw [C19_spacing_variants hw l hl h,
    C19 hw (l.map (·.1)) (by simpa using h) (by simpa using hl) indent]
  simp [List.map_map, Function.comp_def, normTriple]

/-- `format_triples` is one of the variants -/
theorem formatTriples_is_variant (ts : List Triple) (indent : Bool) :
    formatTriples ts indent = formatTriplesV (ts.map fun t => (t, stdStyle indent)) :=
  formatTriples_eq ts indent

/-- the empty list is written as the empty string, which `parse_triples` rejects -/
theorem empty_list_rejected (indent : Bool) :
    formatTriples [] indent = [] ∧
    parseTriples Generated.lexCfg (formatTriples [] indent) = .error (.decode 0 0 0) := by
  cases indent <;> exact ⟨rfl, rfl⟩

/-! ## non-vacuity -/

def exTriples : List Triple :=
  [⟨"a".toList, ":instance".toList, .str "b".toList⟩,
   ⟨"a".toList, "ARG0".toList, .str "\"x, ^ y\"".toList⟩,
   ⟨"b".toList, "::mod^x".toList, .str "c,d".toList⟩]

attribute [eval_unfold] exTriples

theorem exTriples_wf : ∀ t ∈ exTriples, WfTripleText Generated.lexCfg t := by eval_decide
example : ∀ t ∈ exTriples, WfTripleText Generated.lexCfg t := exTriples_wf

example : formatTriples exTriples true =
    "instance(a, b) ^\nARG0(a, \"x, ^ y\") ^\nmod^x(b, c,d)".toList := by eval_decide
example : formatTriples exTriples false =
    "instance(a, b) ^ ARG0(a, \"x, ^ y\") ^ mod^x(b, c,d)".toList := by eval_decide

def exNorm : List Triple :=
  [⟨"a".toList, ":instance".toList, .str "b".toList⟩,
   ⟨"a".toList, ":ARG0".toList, .str "\"x, ^ y\"".toList⟩,
   ⟨"b".toList, ":mod^x".toList, .str "c,d".toList⟩]

attribute [eval_unfold] exNorm

/-- `C19` applies to `exTriples`: both texts are read back as `exNorm` -/
theorem ex_roundtrip (indent : Bool) :
    parseTriples Generated.lexCfg (formatTriples exTriples indent) = .ok exNorm :=
  (C19 C01.fmt_cfg_wf exTriples exTriples_wf (by eval_decide) indent).trans
    (congrArg Except.ok (by eval_decide))

/-- through the real `formatTriples` / `lexStr` / `parseTriplesToks` -/
example : (parseTriples Generated.lexCfg (formatTriples exTriples true)).toOption = some exNorm := by
  rw [ex_roundtrip]; rfl
example : (parseTriples Generated.lexCfg (formatTriples exTriples false)).toOption = some exNorm := by
  rw [ex_roundtrip]; rfl

example (indent : Bool) : parseTriples Generated.lexCfg (formatTriples exTriples indent) = .ok exNorm :=
  ex_roundtrip indent

/-- a mixed-style text: `instance(a,b)^ARG0(a ,"x, ^ y")  ^\n  mod^x(b , c,d)` -/
def exStyled : List (Triple × CommaStyle × ConjStyle) :=
  [(exTriples[0]!, .glued, ⟨0, false, 0⟩), (exTriples[1]!, .right, ⟨2, true, 2⟩),
   (exTriples[2]!, .spaced, ⟨0, false, 0⟩)]

attribute [eval_unfold] exStyled

example : formatTriplesV exStyled =
    "instance(a,b)^ARG0(a ,\"x, ^ y\")  ^\n  mod^x(b , c,d)".toList := by eval_decide
theorem exStyled_roundtrip : parseTriples Generated.lexCfg (formatTriplesV exStyled) = .ok exNorm :=
  (C19_spacing_variants C01.fmt_cfg_wf exStyled (by eval_decide) (by eval_decide)).trans
    (congrArg Except.ok (by eval_decide))
example : (parseTriples Generated.lexCfg (formatTriplesV exStyled)).toOption = some exNorm := by
  rw [exStyled_roundtrip]; rfl
example : parseTriples Generated.lexCfg (formatTriplesV exStyled) = .ok exNorm := exStyled_roundtrip

/-! ## the hypotheses are needed -/

/-- a comma in the source: cut at the first comma, the rest is not a well-formed triple -/
example : (parseTriples Generated.lexCfg
    (formatTriples [⟨"x,y".toList, ":r".toList, .str "b".toList⟩] true)).toOption = none := by decide +kernel
/-- `None` comes back as the string `None` -/
example : (parseTriples Generated.lexCfg (formatTriples [⟨"a".toList, ":r".toList, .none⟩] true)).toOption
    = some [⟨"a".toList, ":r".toList, .str "None".toList⟩] := by decide +kernel
/-- the empty string comes back as `None` -/
example : (parseTriples Generated.lexCfg (formatTriples [⟨"a".toList, ":r".toList, .str []⟩] true)).toOption
    = some [⟨"a".toList, ":r".toList, .none⟩] := by decide +kernel

end Penman.C19
