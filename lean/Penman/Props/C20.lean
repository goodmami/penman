import Penman.Proofs.Cli
import Penman.Proofs.Eval
/-!
# C20 — the `penman` command equals the library pipeline and emits a normal form

Model functions: `processIn`, `processOut`, `checkGraph`, `processTree`, `processLoop`,
`processInput`, `mainRun`, `fileLines` (Penman/Main.lean); the stage-order and key tables
`Generated.processInOrder/processOutOrder/rearrangeKeys/reconfigureKeys` are produced from
/repo/penman/__main__.py by the translator (`_process_in`, `_process_out`: the options are tested
in source order and top-level `layout.interpret/configure` calls are recorded as `@interpret`,
`@configure`; `REARRANGE_KEYS`, `RECONFIGURE_KEYS`: command-line key ↦ `Model` method, renamed
`random_order ↦ random`, `canonical_order ↦ canonical`, `alphanumeric_order ↦ alphanumeric`,
`is_role_inverted ↦ invertedLast`, `attributes_first ↦ attributesFirst`, `original_order ↦ original`).

Specification vocabulary (Penman/Proofs/Cli.lean, written independently of `Penman.Main`):
`optStage`, `graphOf` (canonicalise? → interpret → reify edges? → dereify edges? → reify
attributes? → indicate branches?), `annotate`/`status` (`--check`), `layoutStage` (reconfigure and
re-interpret | configure), `rearrangeStage`, `relabelStage`, `treeOf`, `render` (`format` |
`format_triples`), `pipeline`, `pipelineFull` (text and status), `renderAll` (over the LIST OF
TREES), `withParserError`, `parseInput` (= `iterparseToks` of the lexed lines), `runInput`, `runAll`,
`joinGraphs`, `orAll`, `preFormat`, `preTriples`, `SameContentOpts`, `PlainOpts`; `renderAll` is `emit` on
the list of the trees' `pipelineFull` results (`renderAll_eq_emit`), its exit status `exitOf` of their
outcomes.

Clause of the property text                               ↦ theorem(s)
-------------------------------------------------------------------------------------------------
the stages of `__main__.py` are in the documented order   ↦ `stage_order`, `key_tables`
  (fails when the source reorders them / renames keys)
"writes exactly what the documented library pipeline      ↦ `processTree_eq_pipeline`,
  … returns for each graph"                                  `processTree_text`, `status_no_check`
"one output graph per input graph, in order"              ↦ `cli_eq_pipeline_loop` (any fuel),
                                                             `cli_eq_pipeline` (`processInput`),
                                                             `cli_eq_pipeline_main` (`mainRun`),
                                                             `cli_output_ok` (explicit text: the texts
                                                             each followed by "\n", one blank line
                                                             between; status = OR), `cli_output_inv`
exceptions: parser / pipeline, output so far is kept      ↦ `cli_output_parse_error`,
                                                             `cli_output_pipeline_error`, `cli_error_source`
the loops' fuel never runs out (no theorem is true        ↦ `cli_fuel_free`, `parse_consumes`,
  because of fuel)                                           `parser_errors_are_decode_errors`
"formatting options never change content"                 ↦ `fmt_invariant`, `fmt_invariant_triples`,
                                                             `fmt_invariant_exit`
"feeding the output back … reproduces it byte for byte"   ↦ here: `cli_normal_form_partial` (the plumbing,
                                                             the round-trip facts as hypotheses) and
                                                             hypotheses that the clause NEEDS:
                                                             `normal_form_needs_no_triples`,
                                                             `normal_form_F18`,
                                                             `normal_form_needs_distinct_variables`;
                                                             the clause itself, per option family:
                                                             Props/C20nf.lean (`cli_normal_form_partial`,
                                                             `_stream`, `_inputs`), Props/C20gen.lean
                                                             (`cli_normal_form_graph_stages`, `_stream`),
                                                             Props/C20vars.lean
                                                             (`make_variables_normal_form`, `_stream`);
                                                             open: `--check`
"no normalisation options + well-formed input ⇒ the        ↦ `cli_plain_output` (the command is
  output decodes to the same graphs"                         `format ∘ configure ∘ interpret`),
                                                             `cli_identity_partial`; the clause itself:
                                                             `cli_identity`, `cli_identity_stream` in
                                                             Props/C20nf.lean

`cli_normal_form_partial` and `cli_identity_partial` take the text round trip
`parse (lex (format t)) = t` (C01), the graph round trip `interpret (configure g) ≅ g` (C02/C03) and
the idempotence of the normalisation stages through that round trip (C05, C10, C11, C12) as explicit
hypotheses and prove the rest: the plumbing of the command (separators, statuses, parser/pipeline
interleaving). Props/C20nf.lean, C20gen.lean and C20vars.lean discharge these hypotheses.

A random key is not in the model (`KeyFn` has no `random` constructor), so "without a random key"
holds for every `Opts`.

Evaluation of concrete runs: `buildNode` (in `configure`) is compiled by well-founded recursion,
which the kernel cannot unfold; Proofs/Cli.lean proves `processInput = runInputS ∘ parseInput`
(`processInput_eq_S`, …) where the `…S` functions use a structurally recursive but provably equal
`buildNodeS`; the examples rewrite with these equations and then evaluate (`cli_decide`).
-/
namespace Penman.C20
open Penman.Cli

/-! ### concrete values for the non-vacuity examples -/

/-- ASCII stand-ins for the Unicode tables -/
def uT : UTables := ⟨fun c => c = ' ' || c = '\n', isAsciiAlpha, fun c => [c]⟩

abbrev cfgG := Generated.lexCfg
abbrev dM := Generated.defaultModel
abbrev amr := Generated.amrModel

def tk (ty : TokTy) (s : String) (line off : Nat) : Tok := ⟨ty, s.toList, line, off⟩
/-- the tokens of `(a / b) (c / d) (`  -/
def toksABC : List Tok :=
  [tk .LPAREN "(" 1 0, tk .SYMBOL "a" 1 1, tk .SLASH "/" 1 3, tk .SYMBOL "b" 1 5, tk .RPAREN ")" 1 6,
   tk .LPAREN "(" 1 8, tk .SYMBOL "c" 1 9, tk .SLASH "/" 1 11, tk .SYMBOL "d" 1 13, tk .RPAREN ")" 1 14,
   tk .LPAREN "(" 1 16]
def treeAB : Tree := { node := .mk (some ['a']) (.atom ['/'] (.str ['b']) .nil) }

attribute [eval_unfold] tk toksABC

/-- evaluate a closed run of the command: rewrite to the kernel-evaluable twins, then `eval_decide` -/
macro "cli_decide" : tactic => `(tactic|
  eval_decide [processInput_eq_S, mainRun_eq_S, processTree_eq_S, pipeline_eq_S])

/-! ### the stage order and the key tables -/

/-- `_process_in` / `_process_out` test their options and call `layout` in the documented order -/
theorem stage_order :
    Generated.processInOrder =
      ["canonicalize_roles", "@interpret", "reify_edges", "dereify_edges", "reify_attributes",
       "indicate_branches"].map String.toList ∧
    Generated.processOutOrder =
      ["reconfigure", "@interpret", "@configure", "rearrange", "make_variables"].map String.toList := by
  eval_decide [List.map_cons, List.map_nil]

/-- `REARRANGE_KEYS` / `RECONFIGURE_KEYS`: the documented key names and the ordering functions -/
theorem key_tables :
    Generated.rearrangeKeys =
      [("random", "random"), ("canonical", "canonical"), ("alphanumeric", "alphanumeric"),
       ("inverted-last", "invertedLast"), ("attributes-first", "attributesFirst")].map
        (fun p => (p.1.toList, p.2.toList)) ∧
    Generated.reconfigureKeys =
      [("original", "original"), ("random", "random"), ("canonical", "canonical")].map
        (fun p => (p.1.toList, p.2.toList)) := by
  eval_decide [List.map_cons, List.map_nil]

/-! ### one graph -/

/-- the command's per-graph function is the documented pipeline; it exposes the text and the
    `--check` status (`status m o g = (checkGraph m g).2` under `--check`, else 0) of the graph `g`
    the input stages produce -/
theorem processTree_eq_pipeline (u : UTables) (m : Model) (o : Opts) (t : Tree) :
    processTree u m o t =
      (graphOf u m o t >>= fun g => (render u m o g).map fun s => (s, status m o g)) :=
  processTree_eq_pipelineFull u m o t

example : processTree uT dM { check := true } { node := .mk (some ['a']) (.atom ":foo".toList (.str ['7']) .nil) }
    = .ok ("# ::error-1 (a :foo 7) invalid role\n(a :foo 7)".toList, 1) := by cli_decide

/-- the text that is printed is `pipeline` -/
theorem processTree_text (u : UTables) (m : Model) (o : Opts) (t : Tree) :
    (processTree u m o t).map (·.1) = pipeline u m o t := by
  rw [pipeline_eq_fst, processTree_eq_pipelineFull]

example : pipeline uT dM { indent := none } treeAB = .ok "(a / b)".toList := by cli_decide

/-- without `--check` every graph's status is 0 -/
theorem status_no_check (u : UTables) (m : Model) (o : Opts) (t : Tree) (s : Str) (c : Nat)
    (ho : o.check = false) (h : processTree u m o t = .ok (s, c)) : c = 0 := by
  obtain ⟨g, _, _, rfl⟩ := pipelineFull_ok (processTree_eq_pipelineFull u m o t ▸ h)
  rw [status, ho]
  rfl

example : (processTree uT dM {} { node := .mk (some ['a']) (.atom ":foo".toList (.str ['7']) .nil) }).map (·.2)
    = .ok 0 := by cli_decide

/-! ### the stream of graphs -/

/-- `processLoop` (any fuel, any state) = `renderAll` over the trees that `iterparseLoop` yields
    with the same context and fuel, followed by the parser's exception if it raised -/
theorem cli_eq_pipeline_loop (u : UTables) (m : Model) (o : Opts) (c : PCtx) (f : Nat) (toks : List Tok)
    (first : Bool) (out : Str) (code : Nat) :
    processLoop u m o c f toks first out code =
      withParserError (renderAll u m o (iterparseLoop c u.isSpace f toks []).1 first out code)
        (iterparseLoop c u.isSpace f toks []).2 :=
  processLoop_eq_renderAll u m o c f toks first out code

/-- two graphs then a truncated one (`--triples`): both are printed (blank line between), then the
    parser's `DecodeError` is returned -/
example : processLoop uT dM { triples := true } ⟨(1, 17)⟩ 12 toksABC true [] 0
    = ("instance(a, b)\n\ninstance(c, d)\n".toList, .error (.decode 1 17 0)) := by eval_decide

/-- one input stream: the command prints `renderAll` of the parsed trees -/
theorem cli_eq_pipeline (cfg : LexCfg) (u : UTables) (m : Model) (o : Opts) (input : Str) :
    processInput cfg u m o input =
      withParserError (renderAll u m o (parseInput cfg u input).1 true [] 0) (parseInput cfg u input).2 :=
  processInput_eq cfg u m o input

example : processInput cfgG uT dM {} "# ::id 1\n(a / b :x c)  (e / f)\n(g /".toList
    = ("# ::id 1\n(a / b\n   :x c)\n\n(e / f)\n".toList, .error (.decode 3 4 0)) := by cli_decide

/-- several inputs (stdin, or FILEs in order): outputs concatenated, statuses OR-ed, the first
    exception stops the run and keeps the output so far -/
theorem cli_eq_pipeline_main (cfg : LexCfg) (u : UTables) (m : Model) (o : Opts) (inputs : List Str)
    (out : Str) (code : Nat) :
    mainRun cfg u m o inputs out code = runAll u m o (inputs.map (parseInput cfg u)) out code :=
  mainRun_eq cfg u m o inputs out code

example : mainRun cfgG uT dM { check := true } ["(a / x :foo 7)".toList, "(b / y)\n(c / z)".toList] [] 0
    = ("# ::error-1 (a :foo 7) invalid role\n(a / x\n   :foo 7)\n(b / y)\n\n(c / z)\n".toList, .ok 1) := by
  cli_decide

/-- everything succeeds: the output is, in order, one text per input graph, each followed by a
    newline, with one blank line between graphs; the exit status is the OR of the statuses -/
theorem cli_output_ok (cfg : LexCfg) (u : UTables) (m : Model) (o : Opts) (input : Str)
    (trees : List Tree) (rs : List (Str × Nat))
    (hparse : parseInput cfg u input = (trees, none))
    (hpipe : trees.map (pipelineFull u m o) = rs.map .ok) :
    processInput cfg u m o input = (joinGraphs (rs.map (·.1)), .ok (orAll 0 (rs.map (·.2)))) := by
  rw [processInput_eq, hparse]
  exact runInput_ok_iff.2 ⟨rs, rfl, hpipe, rfl, rfl⟩

example : parseInput cfgG uT "(a / b)".toList = ([treeAB], none) ∧
    [treeAB].map (pipelineFull uT dM {}) = [("(a / b)".toList, 0)].map .ok := by
  simp only [pipelineFull_funext_S]; eval_decide

/-- conversely, a successful run has exactly this form -/
theorem cli_output_inv (cfg : LexCfg) (u : UTables) (m : Model) (o : Opts) (input s : Str) (c : Nat)
    (h : processInput cfg u m o input = (s, .ok c)) :
    ∃ rs : List (Str × Nat), (parseInput cfg u input).2 = none ∧
      (parseInput cfg u input).1.map (pipelineFull u m o) = rs.map .ok ∧
      s = joinGraphs (rs.map (·.1)) ∧ c = orAll 0 (rs.map (·.2)) :=
  runInput_ok_iff.1 (processInput_eq cfg u m o input ▸ h)

example : processInput cfgG uT dM {} "(a / b)\n(c / d)".toList = ("(a / b)\n\n(c / d)\n".toList, .ok 0) := by
  cli_decide

/-- the parser raises after `trees`: their output is kept (no trailing separator), the error returned -/
theorem cli_output_parse_error (cfg : LexCfg) (u : UTables) (m : Model) (o : Opts) (input : Str)
    (trees : List Tree) (rs : List (Str × Nat)) (e : PyErr)
    (hparse : parseInput cfg u input = (trees, some e))
    (hpipe : trees.map (pipelineFull u m o) = rs.map .ok) :
    processInput cfg u m o input = (joinGraphs (rs.map (·.1)), .error e) := by
  rw [processInput_eq, runInput, hparse, renderAll_eq_emit, emit_ok_iff.2 ⟨rs, hpipe, rfl, rfl⟩]
  simp [withParserError, joinFrom]

example : parseInput cfgG uT "(a / b) (".toList = ([treeAB], some (.decode 1 9 0)) ∧
    [treeAB].map (pipelineFull uT dM {}) = [("(a / b)".toList, 0)].map .ok := by
  simp only [pipelineFull_funext_S]; eval_decide

/-- the pipeline of the graph after `pre` raises: the output of `pre` is kept, followed by the
    separator that was already written (unless it is the first graph); the error is returned,
    whatever the parser would have done later -/
theorem cli_output_pipeline_error (cfg : LexCfg) (u : UTables) (m : Model) (o : Opts) (input : Str)
    (pre post : List Tree) (t : Tree) (pe : Option PyErr) (rs : List (Str × Nat)) (e : PyErr)
    (hparse : parseInput cfg u input = (pre ++ t :: post, pe))
    (hpipe : pre.map (pipelineFull u m o) = rs.map .ok) (herr : pipelineFull u m o t = .error e) :
    processInput cfg u m o input =
      (joinGraphs (rs.map (·.1)) ++ (if pre.isEmpty then [] else ['\n']), .error e) := by
  have hrs : rs.isEmpty = pre.isEmpty := by
    rw [← List.isEmpty_map (f := Except.ok (ε := PyErr)), ← hpipe, List.isEmpty_map]
  rw [processInput_eq, runInput, hparse, renderAll_eq_emit, List.map_append, List.map_cons, hpipe, herr,
    emit_append, emit, withParserError_error, hrs]
  cases pre.isEmpty <;> simp [joinFrom]

/-- `()` has no variable (`interpret` raises; `.unmodelled` in the model): the first graph and the
    separator are printed, then the exception; the third graph is never reached -/
example : processInput cfgG uT dM {} "(a / b) () (c / d)".toList
    = ("(a / b)\n\n".toList, .error (.unmodelled "node without a variable")) := by cli_decide

/-- an exception of the command is the parser's or that of one graph's pipeline -/
theorem cli_error_source (cfg : LexCfg) (u : UTables) (m : Model) (o : Opts) (input s : Str) (e : PyErr)
    (h : processInput cfg u m o input = (s, .error e)) :
    (parseInput cfg u input).2 = some e ∨ ∃ t ∈ (parseInput cfg u input).1, pipeline u m o t = .error e := by
  rw [processInput_eq, runInput, withParserError_error_iff] at h
  rcases h with hr | ⟨c, _, hp⟩
  · exact .inr (renderAll_error_source u m o _ _ _ _ _ _ hr)
  · exact .inl hp

example : (processInput cfgG uT dM {} "(a / b) (".toList).2 = .error (.decode 1 9 0) := by cli_decide

/-! ### fuel -/

/-- a successful `parseTree` consumes at least one token -/
theorem parse_consumes (c : PCtx) (sp : Char → Bool) (toks : List Tok) (t : Tree) (rest : List Tok)
    (h : parseTree c sp toks = .ok (t, rest)) : rest.length < toks.length :=
  parseTree_len h

example : (parseTree ⟨(1, 17)⟩ uT.isSpace toksABC).toOption.map (·.2.length) = some 6 := by eval_decide

/-- `parseTree` never runs out of its recursion fuel: every exception is a `DecodeError` -/
theorem parser_errors_are_decode_errors (c : PCtx) (sp : Char → Bool) (toks : List Tok) (e : PyErr)
    (h : parseTree c sp toks = .error e) : ∃ l o k, e = .decode l o k :=
  parseTree_err h

example : parseTree ⟨(1, 17)⟩ uT.isSpace (toksABC.drop 10) = .error (.decode 1 17 0) := by eval_decide

/-- the fuel `toks.length + 1` of `processInput` / `iterparseToks` never runs out: any larger fuel
    gives the same result, and the parser side never reports `.other "fuel"` (its exceptions are
    `DecodeError`s); by `cli_error_source` an exception of the command is therefore a `DecodeError`
    or the exception of a graph's pipeline -/
theorem cli_fuel_free (u : UTables) (m : Model) (o : Opts) (c : PCtx) (toks : List Tok) (f : Nat)
    (hf : toks.length < f) :
    (∀ first out code, processLoop u m o c f toks first out code =
        processLoop u m o c (toks.length + 1) toks first out code) ∧
    (∀ acc, iterparseLoop c u.isSpace f toks acc = iterparseLoop c u.isSpace (toks.length + 1) toks acc) ∧
    (∀ acc e, (iterparseLoop c u.isSpace (toks.length + 1) toks acc).2 = some e → ∃ l o k, e = .decode l o k) :=
  ⟨fun first out code => processLoop_fuel u m o c f _ toks first out code hf (Nat.lt_succ_self _),
   fun acc => iterparseLoop_fuel c u.isSpace f _ toks acc hf (Nat.lt_succ_self _),
   fun acc e h => iterparseLoop_err c u.isSpace _ toks acc e (Nat.lt_succ_self _) h⟩

/-- … while too little fuel does change the result (the hypothesis `toks.length < f` matters) -/
example : processLoop uT dM { triples := true } ⟨(1, 17)⟩ 1 toksABC true [] 0
    = ("instance(a, b)\n".toList, .error (.other "fuel")) := by eval_decide

/-! ### formatting options never change content -/

/-- two option sets that differ only in `--indent` / `--compact`: the same tree (and status, and
    exception) is handed to `format`; the two outputs are `format` of that one tree -/
theorem fmt_invariant (u : UTables) (m : Model) (o o' : Opts) (t : Tree)
    (h : SameContentOpts o o') (ht : o.triples = false) :
    preFormat u m o' t = preFormat u m o t ∧
    processTree u m o t = (preFormat u m o t).map (fun p => (format p.1 o.indent o.compact, p.2)) ∧
    processTree u m o' t = (preFormat u m o t).map (fun p => (format p.1 o'.indent o'.compact, p.2)) := by
  refine ⟨preFormat_same u m h t, processTree_eq_preFormat u m o t ht, ?_⟩
  rw [processTree_eq_preFormat u m o' t (h.2.1 ▸ ht), preFormat_same u m h t]

example : SameContentOpts { reifyAttributes := true } { reifyAttributes := true, indent := none, compact := true } := by
  decide
example : (preFormat uT dM { reifyAttributes := true } treeAB).toOption.map (·.2) = some 0 := by
  simp only [preFormat, treeOf, layoutStage_eq_S]; decide +kernel

/-- the same for `--triples`: the same triple list is handed to `format_triples`; only the
    delimiter (`" ^\n"` or `" ^ "`) depends on `--indent` -/
theorem fmt_invariant_triples (u : UTables) (m : Model) (o o' : Opts) (t : Tree)
    (h : SameContentOpts o o') (ht : o.triples = true) :
    preTriples u m o' t = preTriples u m o t ∧
    processTree u m o t = (preTriples u m o t).map (fun p => (formatTriples p.1 (indentFlag o.indent), p.2)) ∧
    processTree u m o' t = (preTriples u m o t).map (fun p => (formatTriples p.1 (indentFlag o'.indent), p.2)) := by
  refine ⟨preTriples_same u m h t, processTree_eq_preTriples u m o t ht, ?_⟩
  rw [processTree_eq_preTriples u m o' t (h.2.1 ▸ ht), preTriples_same u m h t]

example : (preTriples uT dM { triples := true } treeAB).toOption.map (·.1) =
    some [⟨['a'], ":instance".toList, .str ['b']⟩] := by decide +kernel

/-- formatting options change neither the exit status nor whether/which exception is raised,
    for a whole run over several inputs -/
theorem fmt_invariant_exit (cfg : LexCfg) (u : UTables) (m : Model) (o o' : Opts) (input : Str)
    (h : SameContentOpts o o') :
    (processInput cfg u m o' input).2 = (processInput cfg u m o input).2 := by
  rw [processInput_eq, processInput_eq, runInput_snd, runInput_snd,
    List.map_congr_left fun t _ => outcome_same u m h t]

example : (processInput cfgG uT dM { check := true, indent := some 3, compact := true } "(a / x :foo 7)".toList).2
    = .ok 1 := by cli_decide

/-! ### no normalisation options: the command is `format ∘ configure ∘ interpret` -/

/-- with no normalisation option (and neither `--check` nor `--triples`) a successful run prints
    `format (configure (interpret tree))` for each parsed tree, in order; the status is 0 -/
theorem cli_plain_output (cfg : LexCfg) (u : UTables) (m : Model) (o : Opts) (hp : PlainOpts o)
    (input s : Str) (c : Nat) (h : processInput cfg u m o input = (s, .ok c)) :
    ∃ ts' : List Tree, (parseInput cfg u input).2 = none ∧
      (parseInput cfg u input).1.map (fun t => interpret u.isAlpha m t >>= fun g => configure m g none)
        = ts'.map .ok ∧
      s = joinGraphs (ts'.map fun t' => format t' o.indent o.compact) ∧ c = 0 := by
  obtain ⟨rs, h1, h2, h3, h4⟩ := runInput_ok_iff.1 (processInput_eq cfg u m o input ▸ h)
  obtain ⟨ts', h5, h6⟩ := plain_results u m o hp _ rs h2
  refine ⟨ts', h1, h5, ?_, ?_⟩
  · rw [h3, h6]; simp [Function.comp_def]
  · rw [h4, h6]
    clear h6 h5
    induction ts' with
    | nil => rfl
    | cons a as ih => simpa [orAll] using ih

example : PlainOpts { indent := some 2, compact := true } := by decide

/-! ### feeding the output back -/

/- The clause is proved per option family in Props/C20nf.lean (`cli_normal_form_partial`, `_stream`,
   `_inputs`), Props/C20gen.lean (`cli_normal_form_graph_stages`, `_stream`) and Props/C20vars.lean
   (`make_variables_normal_form`, `_stream`); `--check` is open. Three of its hypotheses are NECESSARY
   (no `--triples`, no inverted reifiable attribute under both reify options, distinct variables):
   `normal_form_needs_no_triples`, `normal_form_F18`, `normal_form_needs_distinct_variables` below.
   Here, the reduction to the round-trip facts: -/

/-- if the output parses back without an exception into trees whose pipelines give the same
    results as those of the input trees (C01 round trip + stage idempotence), then feeding the
    output back reproduces it byte for byte, with the same status -/
theorem cli_normal_form_partial (cfg : LexCfg) (u : UTables) (m : Model) (o : Opts) (input s : Str) (c : Nat)
    (h : processInput cfg u m o input = (s, .ok c))
    (hparse : (parseInput cfg u s).2 = none)
    (hidem : (parseInput cfg u s).1.map (pipelineFull u m o) =
             (parseInput cfg u input).1.map (pipelineFull u m o)) :
    processInput cfg u m o s = (s, .ok c) := by
  rw [processInput_eq, runInput] at h ⊢
  obtain ⟨h1, _⟩ := withParserError_ok.1 h
  rw [hparse, renderAll_eq_emit, hidem, ← renderAll_eq_emit, h1]
  rfl

/-- the hypotheses hold for `(a / b :x (c / d))` with `--make-variables '{prefix}{j}' --compact` -/
example :
    processInput cfgG uT dM { makeVariables := some [.pre, .j], compact := true } "(a / b :x (c / d))".toList
      = ("(b / b\n   :x (d / d))\n".toList, .ok 0) ∧
    (parseInput cfgG uT "(b / b\n   :x (d / d))\n".toList).2 = none ∧
    (parseInput cfgG uT "(b / b\n   :x (d / d))\n".toList).1.map
        (pipelineFull uT dM { makeVariables := some [.pre, .j], compact := true }) =
      (parseInput cfgG uT "(a / b :x (c / d))".toList).1.map
        (pipelineFull uT dM { makeVariables := some [.pre, .j], compact := true }) := by
  simp only [processInput_eq_S, pipelineFull_funext_S]
  eval_decide

/-- `--triples` must be excluded: the output of `--triples` is a triple conjunction, which the
    command does not read (it starts with a SYMBOL: no graph, empty output) -/
theorem normal_form_needs_no_triples :
    processInput cfgG uT dM { triples := true } "(a / b)".toList = ("instance(a, b)\n".toList, .ok 0) ∧
    processInput cfgG uT dM { triples := true } "instance(a, b)\n".toList = ([], .ok 0) := by
  cli_decide

/-- finding F18: `--amr --reify-edges --reify-attributes` on an inverted attribute whose base role
    is reifiable is not a fixed point of itself -/
theorem normal_form_F18 :
    let o : Opts := { reifyEdges := true, reifyAttributes := true }
    processInput cfgG uT amr o "(a / x :mod-of 7)".toList = ("(a / x\n   :mod-of (_ / 7))\n".toList, .ok 0) ∧
    processInput cfgG uT amr o "(a / x\n   :mod-of (_ / 7))\n".toList =
      ("(a / x\n   :ARG2-of (_2 / have-mod-91\n                :ARG1 (_ / 7)))\n".toList, .ok 0) := by
  cli_decide

/-- well-formed input is needed: with a variable used for two nodes the command (no options at
    all) prints a text with two concepts, which it cannot read back -/
theorem normal_form_needs_distinct_variables :
    processInput cfgG uT dM {} "(a / b :x (a / c))".toList = ("(a / c\n   / b\n   :x-of a)\n".toList, .ok 0) ∧
    processInput cfgG uT dM {} "(a / c\n   / b\n   :x-of a)\n".toList = ([], .error (.decode 2 3 1)) := by
  cli_decide

/- The clause is `cli_identity` / `cli_identity_stream` in Props/C20nf.lean. Here, with the round trips
   C01 (`parseInput (joinGraphs (ts'.map format)) = (ts', none)`) and C02 (`interpret (configure g)`
   gives a graph equal to `g`) as hypotheses: -/

/-- `ts` and `ts'` decode (pairwise, in order) to equal graphs (`Graph.__eq__`) with equal metadata -/
def SameGraphs (u : UTables) (m : Model) : List Tree → List Tree → Prop
  | [], [] => True
  | t :: ts, t' :: ts' =>
    (∃ g g', interpret u.isAlpha m t = .ok g ∧ interpret u.isAlpha m t' = .ok g' ∧
      g'.eqv g = true ∧ g'.metadata = g.metadata) ∧ SameGraphs u m ts ts'
  | _, _ => False

theorem cli_identity_partial (cfg : LexCfg) (u : UTables) (m : Model) (o : Opts) (hp : PlainOpts o)
    (input s : Str) (c : Nat) (h : processInput cfg u m o input = (s, .ok c))
    -- C01: the printed trees are read back as they were printed
    (hC01 : ∀ ts' : List Tree, s = joinGraphs (ts'.map fun t' => format t' o.indent o.compact) →
        (parseInput cfg u input).1.map (fun t => interpret u.isAlpha m t >>= fun g => configure m g none)
          = ts'.map .ok → parseInput cfg u s = (ts', none))
    -- C02: re-interpreting a configured graph gives an equal graph
    (hC02 : ∀ t ∈ (parseInput cfg u input).1, ∀ g t', interpret u.isAlpha m t = .ok g →
        configure m g none = .ok t' →
        ∃ g', interpret u.isAlpha m t' = .ok g' ∧ g'.eqv g = true ∧ g'.metadata = g.metadata) :
    (parseInput cfg u s).2 = none ∧ SameGraphs u m (parseInput cfg u input).1 (parseInput cfg u s).1 := by
  obtain ⟨ts', _, h2, h3, _⟩ := cli_plain_output cfg u m o hp input s c h
  rw [hC01 ts' h3 h2]
  refine ⟨rfl, ?_⟩
  simp only
  generalize (parseInput cfg u input).1 = ts at h2 hC02
  clear hC01 h3 h
  induction ts generalizing ts' with
  | nil =>
    cases ts' with
    | nil => trivial
    | cons _ _ => simp at h2
  | cons t ts ih =>
    cases ts' with
    | nil => simp at h2
    | cons t' ts' =>
      simp only [List.map_cons, List.cons.injEq] at h2
      refine ⟨?_, ih ts' h2.2 (fun t ht => hC02 t (by simp [ht]))⟩
      cases hg : interpret u.isAlpha m t with
      | error e => rw [hg] at h2; cases h2.1
      | ok g =>
        rw [hg, ok_bind] at h2
        obtain ⟨g', h4, h5, h6⟩ := hC02 t (by simp) g t' hg h2.1
        exact ⟨g, g', rfl, h4, h5, h6⟩

/-- the hypotheses and the conclusion hold for a two-graph stream -/
example : processInput cfgG uT dM {} "(a / b)(e / f)".toList = ("(a / b)\n\n(e / f)\n".toList, .ok 0) := by
  cli_decide
example : parseInput cfgG uT "(a / b)\n\n(e / f)\n".toList = ((parseInput cfgG uT "(a / b)(e / f)".toList).1, none) := by
  eval_decide

end Penman.C20
