import Penman.Props.C20genEvalCli
import Penman.Proofs.Eval
/-!
# C20 — known finding F24: `--canonicalize-roles` runs before the layout is chosen

`--canonicalize-roles` rewrites the roles of the *input* tree.  The layout that `configure` chooses afterwards
may write an edge inverted, and the inverted spelling may itself be a normalisation key of the model
(`:mod-of` ↦ `:domain`, `:domain-of` ↦ `:mod` under AMR).  The first output then contains a role that the
canonicalisation step of the second pass rewrites: the hypothesis `canonStep R = R` (`hcanon`,
`StageRun.canonFix`) of the graph-stage normal-form theorems (Props/C20gen, C20genStages, C20vars) fails, and the
command is really not idempotent there.  Both passes are evaluated on the model by the kernel; the real tool
prints the same two outputs (`known_findings.json`, F24).

It needs a layout that changes between input and output: here `--dereify-edges` collapses `_`, which shifts the
POP markers so that `(c :mod b)` is written from `b`.
-/
namespace Penman.C20gen
open Penman Penman.NF Penman.Cfg Penman.C03Text Penman.Framing Penman.C20nf

/-- the tree the first pass prints for the witness of F24 -/
def f24Out : Tree :=
  ⟨.mk (some (s "b")) (.atom (s "/") (.str (s "alpha"))
    (.sub (s ":ARG0") (.mk (some (s "c")) (.atom (s "/") (.str (s "gamma"))
        (.sub (s ":quant") (.mk (some (s "d")) (.atom (s "/") (.str (s "alpha")) .nil)) .nil)))
    (.atom (s ":mod-of") (.str (s "c")) .nil))), []⟩

attribute [eval_unfold] f24Out

/-- the canonicalisation step does NOT fix the printed tree: `:mod-of` is a normalisation key of AMR -/
theorem F24_not_canon_fixed : canonStep amr true f24Out ≠ .ok f24Out := by
  eval_decide

/-- **known finding F24**: `penman --amr --canonicalize-roles --dereify-edges` prints `:mod-of c` for the
    witness, and `:domain c` when that output is fed back -/
theorem F24_counterexample :
    processInput gcfg uT amr (stageOpts true none false true false (some (-1)) false)
        (s "(b / alpha :ARG0 (c / gamma :ARG1-of (_ / have-quant-91 :ARG2 (d / alpha)) :mod b))") =
      (s "(b / alpha\n   :ARG0 (c / gamma\n            :quant (d / alpha))\n   :mod-of c)\n", .ok 0) ∧
    processInput gcfg uT amr (stageOpts true none false true false (some (-1)) false)
        (s "(b / alpha\n   :ARG0 (c / gamma\n            :quant (d / alpha))\n   :mod-of c)\n") =
      (s "(b / alpha\n   :ARG0 (c / gamma\n            :quant (d / alpha))\n   :domain c)\n", .ok 0) := by
  cli_decide

end Penman.C20gen
