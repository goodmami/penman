import Penman.Proofs.NormalFormGraphCli
import Penman.Props.C03Text
import Penman.Props.C20nf
/-!
# C20 (normal-form clause), GRAPH half — the encoder's output is a fixed point of decode-then-encode,
# and the command with `--reify-edges` / `--dereify-edges` / `--reify-attributes` reproduces its output

`Penman/Props/C20nf.lean` proves the normal-form clause of C20

  "… feeding the output back through the tool with the same options reproduces it byte for byte
   for every option set without --reconfigure, --indicate-branches or a random key …"

for the option sets `--canonicalize-roles`, `--rearrange`, `--indent`, `--compact`, where the graph
that is encoded is the graph that was decoded (C02).  This file covers the option sets in which the
graph is TRANSFORMED between decoding and encoding (`processIn` in Penman/Main.lean: the graph stages
`--reify-edges`, `--dereify-edges`, `--reify-attributes`, in this order), by proving that *everything
`configure` prints is again in the domain of C02*.

Model functions: `configure`, `interpret`, `format`, `parseTree`/`C01.parse`, `encode`/`decode`
(Proofs/EncodeDecode.lean), `processIn`, `processOut`, `processTree`, `processInput` (Penman/Main.lean),
`reifyEdges`, `dereifyEdges`, `reifyAttributes`, `rearrange`, `canonicalizeRoles`.
Vocabulary (Penman/Spec/NormalFormGraph.lean): `LayoutOK` (decidable; what a graph needs beyond
`Cfg.WfGraph` so that its encoding is a `WfLayout` tree), `PyGraph`, `NoReifiable`, `NoAttributes`,
`StagesIdle`, `StagesFixed`, `stageOpts`; `Cfg.WfGraph`, `deinvert1` (Spec/Encode.lean), `GraphTextOK`,
`writtenForm`, `writtenTriple`, `NumNotVar` (Spec/EncodeText.lean), `WfLayout`, `noNullN` (Spec/WfLayout.lean),
`nfTree`, `canonStep`, `streamOut` (Spec/NormalForm.lean), `NoCollapsible` (Spec/Transform.lean).
Proofs: `Penman/Proofs/NormalFormGraphLoop.lean` (store invariant: no self-loop edge with an inverted
role), `…GraphLayout.lean` (cells → `WfLayout` tree), `…GraphStages.lean` (idle stages are the identity,
`interpret` returns `Graph.__init__`-shaped graphs), `NormalFormPass.lean` (first and second pass for any
option set), `…GraphCli.lean` (both passes with the stages on), `NormalFormCli.lean` (streams).

Clause ↦ theorem
* KEY LEMMA "everything `configure` prints is in the domain of C02" ↦ `configure_wfLayout`: for every model
  with `ModelWf`, not the no-op model, every `Cfg.WfGraph` + `LayoutOK` graph, every top, ANY layout markers
  (`Cfg.PushVars` only): if `configure` succeeds, the written form of its tree is `WfLayout` and has no empty
  concept slot; the metadata is the graph's.  Clause by clause of `WfLayout`: every node has a variable and
  `/` only first with atomic target (store invariant `SlashOK` + `LayoutOK.oneLabel`); role cores
  `:`-prefixed, not `:instance`, inversion-canonical (`WfGraph.roles`, `NoInstOf`, C13 `inv_involutive`);
  no alignment suffix (`NoAlign`); atoms read back as themselves (`TextOK`, non-empty); NO INVERTED
  SELF-LOOP (invariant `Cfg.storeOf_sl`, needs `LayoutOK.selfLoop` — see the findings); variables
  defined once (C03); denoted triples pairwise distinct (`decode_written` + `LayoutOK.distinct`).
* COROLLARY "encode (decode (encode g)) = encode g" ↦ `encode_fixed_point` (trees: `interpret` then
  `configure` of the printed tree give the printed tree back) and `encode_normal_form` (texts, every
  indentation, compact or not): the text `s2 = encode (decode (encode g))` is always a fixed point of
  decode-then-encode, and `s2 = encode g` when `compact` is off or no NUMBER is spelled like a variable
  (`NumNotVar`); otherwise the two texts can differ in one line break
  (`encode_normal_form_needs_numNotVar`, C03Text finding 2).
* STAGES "each graph stage is the identity on the re-decoded graph" ↦ `stages_identity`, `interpret_is_pyGraph`
  (`reifyEdges`/`dereifyEdges`/`reifyAttributes` return their argument on a `PyGraph` with
  `NoReifiable`/`NoCollapsible`/`NoAttributes`), used in
* NORMAL FORM, command ↦ `cli_normal_form_graph_stages` (one graph) and
  `cli_normal_form_graph_stages_stream` (any number of graphs in one input): for the option sets
  `stageOpts canon re rE dE rA i c` (every subset of the three graph stages, with or without
  `--canonicalize-roles`, `--rearrange`, any `--indent`, `--compact`), the command prints
  `out1 = format R …` and feeding `out1` back prints `out1` again, byte for byte, status 0.
  Hypotheses, all decidable, on the first-pass graph `g1 = processIn o T` and the printed tree
  `R = nfTree m re (configure g1)`: `WfGraph`, `LayoutOK`, `GraphTextOK`, `PushVars`, `NoNum` for `g1`
  (all true of what the stages produce from ordinary input; stated, not derived), `canonStep R = R`
  (trivial without `--canonicalize-roles`) and `StagesFixed o R`: the graph decoded from `R` has no
  reifiable role (if `--reify-edges`), an empty dereification agenda (if `--dereify-edges`), no
  attribute (if `--reify-attributes`).  Sufficient conditions for `StagesFixed` in terms of `g1`
  (via C03, C11, C12) are in `Penman/Props/C20genStages.lean`.
  F18 (`--reify-edges --reify-attributes` on `(a / x :mod-of 7)`) violates `StagesFixed`:
  `F18_not_stagesFixed`, and is a true counterexample (`F18_counterexample`, Props/C20genEvalCli.lean).

FINDINGS (model and real code agree: the same runs on /repo print the same texts; the evaluations on the
model are in Props/C20genEval.lean)
1. `selfloop_inverted_not_fixed`: a graph with a self-loop whose role is inverted, `(a :ARG0-of a)`, is
   encoded as `(a / x :ARG0-of a)`; decoding deinverts it, so `encode(decode(encode g))` is
   `(a / x :ARG0 a)` ≠ `encode g`.  The graph satisfies every hypothesis of C03 / C03Text.
2. `selfloop_push_not_fixed`: the same for a self-loop `(a :ARG0 a)` with a NON-inverted role that carries
   the layout marker `Push(a)`: `configure` then writes `:ARG0-of a`.  (`configure` CAN produce an inverted
   self-loop from a marker assignment.)  Hence `LayoutOK.selfLoop`.
3. `encode_normal_form_needs_numNotVar`: with `compact`, a number spelled like a variable makes the first
   and second encodings differ in a line break.
4. `dereify_edges` twice: it IS idempotent, for every model with a well-formed reification table: `dereify_edges_idempotent`,
   `noCollapsible_decoded` in `Penman/Props/C20genStages.lean` (a collapse only adds a relation whose role is
   reifiable, which is never the source/target role of a reification, so no new collapsible node arises).

Companion files: `Props/C20genEval.lean`, `Props/C20genEvalCli.lean`, `Props/C20genEvalCli2.lean` (non-vacuity and
findings evaluated on the model), `Props/C20genStages.lean` (`StagesFixed` derived from the first-pass graph;
C03 + C05a + C06 + C11 + C12), `Props/C20genVars.lean`
(`--make-variables`: `reset_variables_idempotent`, `make_variables_normal_form_partial`), `Props/C20vars.lean`
(`make_variables_normal_form`, `_stream`: hypotheses on the first pass only), `Props/C20canon.lean` (finding F24).
-/
namespace Penman.C20gen
open Penman.NF Penman.Cfg Penman.C03Text Penman.Framing

/-! ## 1. the key lemma -/

/-- **KEY LEMMA: everything `configure` prints is again in the domain of C02.** -/
theorem configure_wfLayout (isAlpha : Char → Bool) {m : Model} {g : Graph} {top : Option Str} {T : Tree}
    (hw : ModelWf m) (hnoop : m.noop = false) (hg : WfGraph m g) (hL : LayoutOK m g) (hpv : Cfg.PushVars g)
    (h : configure m g top = .ok T) :
    WfLayout isAlpha m (writtenForm T.node) ∧ noNullN (writtenForm T.node) = true ∧
    T.metadata = g.metadata :=
  configured_wfLayout isAlpha hw hnoop hg hL hpv h

/-- without numbers the written form is the tree itself -/
theorem configure_wfLayout_noNum (isAlpha : Char → Bool) {m : Model} {g : Graph} {top : Option Str} {T : Tree}
    (hw : ModelWf m) (hnoop : m.noop = false) (hg : WfGraph m g) (hL : LayoutOK m g) (hpv : Cfg.PushVars g)
    (hnum : NoNum g) (h : configure m g top = .ok T) :
    WfLayout isAlpha m T.node ∧ noNullN T.node = true := by
  have := configured_wfLayout isAlpha hw hnoop hg hL hpv h
  rw [configure_noNum hw hg hpv hnum h] at this
  exact ⟨this.1, this.2.1⟩

/-- the character-level hypothesis of C03Text gives the text clauses of `LayoutOK` -/
theorem layoutOK_of_text {cfg : LexCfg} (hcfg : Spec.FmtCfgWf cfg = true) {isSpace : Char → Bool} {m : Model}
    {g : Graph} (htx : GraphTextOK cfg isSpace m g)
    (hd : ((g.triples.map writtenTriple).map (deinvert1 m g)).Nodup)
    (hs : ∀ t ∈ g.triples, t.role ≠ CONCEPT_ROLE → writtenAtom t.tgt = .str t.src →
      m.isRoleInverted t.role = false ∧ hasPush t.src ((AList.get? g.epidata t).getD []) = false) :
    LayoutOK m g := by
  refine ⟨?_, ?_, ?_, htx.oneLabel, hd, hs⟩
  · intro t ht h
    have := htx.srcs t ht
    rw [h] at this; simp [Spec.symbolB] at this
  · intro t ht h
    have := htx.tgts t ht
    rw [h] at this
    simp [TgtTextOK, Spec.symbolB, Spec.stringB, scanString] at this
  · intro t ht
    have := htx.tgts t ht
    cases htg : t.tgt with
    | none => trivial
    | str s => trivial
    | num s =>
      rw [htg] at this
      simp only [TgtTextOK] at this
      refine ⟨?_, tilde_not_in_symbol hcfg this⟩
      intro h; rw [h] at this; simp [Spec.symbolB] at this

/-! ## 2. the encoder's output is a fixed point of decode-then-encode -/

/-- **COROLLARY, trees.**  With `T = configure g top` and `W` the written form of `T` (the tree parsing the
    text gives back): `interpret W = g'` and `configure g' = W` — `dropNullConcept` has nothing to drop. -/
theorem encode_fixed_point (isAlpha : Char → Bool) {m : Model} {g : Graph} {top : Option Str} {T : Tree}
    (hw : ModelWf m) (hnoop : m.noop = false) (hg : WfGraph m g) (hL : LayoutOK m g) (hpv : Cfg.PushVars g)
    (hmd : MetaDict g.metadata) (h : configure m g top = .ok T) :
    ∃ g', interpret isAlpha m ⟨writtenForm T.node, T.metadata⟩ = .ok g' ∧
      configure m g' none = .ok ⟨writtenForm T.node, T.metadata⟩ ∧
      dropNullConcept (writtenForm T.node) = writtenForm T.node := by
  obtain ⟨g', h1, h2⟩ := configured_fixed_point isAlpha hw hnoop hg hL hpv hmd h
  exact ⟨g', h1, h2, C02P.dropNull_id _ (configured_wfLayout isAlpha hw hnoop hg hL hpv h).2.1⟩

/-- **COROLLARY, texts: `encode (decode (encode g)) = encode g`.**  Let `s1 = encode g top` (any top, any
    indentation, compact or not).  Then `s1` decodes to some `g'`, `g'` encodes (from its own top) to some
    `s2`, `s2` decodes to the same `g'` — so `s2` is a fixed point of decode-then-encode — and `s2 = s1`
    whenever `compact` is off or no number of `g` is spelled like one of its variables. -/
theorem encode_normal_form {cfg : LexCfg} (hcfg : Spec.FmtCfgWf cfg = true) (isSpace isAlpha : Char → Bool)
    {m : Model} {g : Graph} {top : Option Str} (hw : ModelWf m) (hnoop : m.noop = false) (hg : WfGraph m g)
    (hL : LayoutOK m g) (htx : GraphTextOK cfg isSpace m g) (hpv : Cfg.PushVars g) (i : Indent) (c : Bool)
    (s1 : Str) (h1 : encode m g top i c = .ok s1) :
    ∃ g' s2, decode cfg isSpace isAlpha m s1 = .ok g' ∧ encode m g' none i c = .ok s2 ∧
      decode cfg isSpace isAlpha m s2 = .ok g' ∧ ((c = false ∨ NumNotVar g) → s2 = s1) := by
  obtain ⟨T, hT⟩ := encode_ok_iff.1 ⟨s1, h1⟩
  have hs1 : s1 = format T i c := by
    simp only [encode, hT, Except.map, Except.ok.injEq] at h1; exact h1.symm
  subst hs1
  obtain ⟨hwt, hwm⟩ := configured_tree_wf (cfg := cfg) hw hg htx hpv hT
  obtain ⟨g', i1, i2⟩ := configured_fixed_point isAlpha hw hnoop hg hL hpv (metaDict_of_wfMeta htx.metaOK) hT
  have hp1 := parse_format_num hcfg isSpace T.node T.metadata hwt hwm i c
  have hp2 := C01.C01_roundtrip hcfg isSpace (writtenForm T.node) T.metadata hwt hwm i c
  refine ⟨g', format ⟨writtenForm T.node, T.metadata⟩ i c, ?_, ?_, ?_, ?_⟩
  · simp only [decode]
    have : C01.parse cfg isSpace (format T i c) = .ok ⟨writtenForm T.node, T.metadata⟩ := hp1
    rw [this]; exact i1
  · simp [encode, i2, Except.map]
  · simp only [decode]; rw [hp2]; exact i1
  · intro hc
    exact C03Text.C03_text_format hw hg htx hpv hT i c hc

/-! ## 3. the graph stages on the re-decoded graph -/

/-- **each selected graph stage is the identity** on a graph shaped as `Graph.__init__` leaves it
    (`PyGraph`: every graph `interpret` returns) on which it has nothing to do -/
theorem stages_identity {m : Model} {g : Graph} (hp : PyGraph g) :
    (NoReifiable m g → reifyEdges m g = .ok g) ∧ (NoCollapsible m g → dereifyEdges m g = .ok g) ∧
    (NoAttributes g → reifyAttributes g = g) :=
  ⟨reifyEdges_idle hp, dereifyEdges_idle hp, reifyAttributes_idle hp⟩

/-- every graph `interpret` returns (for dictionary metadata) is a `PyGraph` -/
theorem interpret_is_pyGraph {isAlpha : Char → Bool} {m : Model} {t : Tree} {g : Graph}
    (h : interpret isAlpha m t = .ok g) (hmd : MetaDict t.metadata) : PyGraph g :=
  (interpret_pyGraph h hmd).1

/-- **normal-form clause with graph stages, one graph.**  The input parses completely as `T`; the first
    pass turns it into the graph `g1` and encodes `g1` as `T1`; `R = nfTree m re T1` is the printed tree.
    Under the decidable hypotheses on `g1` and `R` explained in the header, the command prints
    `out1 = format R ++ "\n"` with status 0, and feeding `out1` back prints `out1` again. -/
theorem cli_normal_form_graph_stages {cfg : LexCfg} (hwc : Spec.FmtCfgWf cfg = true) (hsep : SepChar cfg '\n')
    (u : UTables) (m : Model) (canon : Bool) (re : Option (List KeyFn × Bool)) (rE dE rA : Bool)
    (i : Indent) (c : Bool) (hw : ModelWf m) (hnoop : m.noop = false)
    (x : Str) (T : Tree) (g1 : Graph) (T1 : Tree)
    (hp : parseTree ⟨eofPos (lexStr cfg cfg.penmanOrder x)⟩ u.isSpace (lexStr cfg cfg.penmanOrder x)
      = .ok (T, []))
    (hin : processIn u m (stageOpts canon re rE dE rA i c) T = .ok g1)
    (hcf : configure m g1 none = .ok T1)
    (hg : WfGraph m g1) (hL : LayoutOK m g1) (htx : GraphTextOK cfg u.isSpace m g1) (hpv : Cfg.PushVars g1)
    (hnum : NoNum g1)
    (hcanon : canonStep m canon (nfTree m re T1) = .ok (nfTree m re T1))
    (hfix : StagesFixed u.isAlpha m (stageOpts canon re rE dE rA i c) (nfTree m re T1)) :
    let out1 := format (nfTree m re T1) i c ++ ['\n']
    processInput cfg u m (stageOpts canon re rE dE rA i c) x = (out1, .ok 0) ∧
    processInput cfg u m (stageOpts canon re rE dE rA i c) out1 = (out1, .ok 0) :=
  single_fixed hwc hsep u m (stageOpts canon re rE dE rA i c) x T (nfTree m re T1) hp
    (tree_normal_form_stages (cfg := cfg) u m canon re rE dE rA i c hw hnoop T g1 T1 hin hcf hg hL htx
      hpv hnum hcanon hfix)

/-- the hypotheses of `cli_normal_form_graph_stages` on one graph of a stream -/
structure StageRun (cfg : LexCfg) (u : UTables) (m : Model) (canon : Bool) (re : Option (List KeyFn × Bool))
    (rE dE rA : Bool) (i : Indent) (c : Bool) (s : Str) (T : Tree) (g1 : Graph) (T1 : Tree) : Prop where
  parse : ∃ c0, parseTree c0 u.isSpace (lexStr cfg cfg.penmanOrder s) = .ok (T, [])
  first : processIn u m (stageOpts canon re rE dE rA i c) T = .ok g1
  enc : configure m g1 none = .ok T1
  wf : WfGraph m g1
  lay : LayoutOK m g1
  text : GraphTextOK cfg u.isSpace m g1
  push : Cfg.PushVars g1
  noNum : NoNum g1
  canonFix : canonStep m canon (nfTree m re T1) = .ok (nfTree m re T1)
  fixed : StagesFixed u.isAlpha m (stageOpts canon re rE dE rA i c) (nfTree m re T1)

/-- **normal-form clause with graph stages, streams**: any number of graphs in one input (separated by
    anything that produces no tokens) -/
theorem cli_normal_form_graph_stages_stream {cfg : LexCfg} (hwc : Spec.FmtCfgWf cfg = true)
    (hsep : SepChar cfg '\n') (u : UTables) (m : Model) (canon : Bool) (re : Option (List KeyFn × Bool))
    (rE dE rA : Bool) (i : Indent) (c : Bool) (hw : ModelWf m) (hnoop : m.noop = false)
    (x : Str) (gs : List (Str × Tree × Graph × Tree))
    (hg : ∀ g ∈ gs, StageRun cfg u m canon re rE dE rA i c g.1 g.2.1 g.2.2.1 g.2.2.2)
    (hx : LSim u.isSpace [] (gs.map fun g => lexStr cfg cfg.penmanOrder g.1).flatten
      (lexStr cfg cfg.penmanOrder x)) :
    let out1 := streamOut true (gs.map fun g => format (nfTree m re g.2.2.2) i c)
    processInput cfg u m (stageOpts canon re rE dE rA i c) x = (out1, .ok 0) ∧
    processInput cfg u m (stageOpts canon re rE dE rA i c) out1 = (out1, .ok 0) := by
  have := stream_fixed hwc hsep u m (stageOpts canon re rE dE rA i c) x
    (gs.map fun g => ⟨g.1, g.2.1, nfTree m re g.2.2.2⟩)
    (by
      intro r hr; simp only [List.mem_map] at hr
      obtain ⟨g, hgm, rfl⟩ := hr
      have h := hg g hgm
      exact ⟨h.parse, tree_normal_form_stages (cfg := cfg) u m canon re rE dE rA i c hw hnoop g.2.1 g.2.2.1 g.2.2.2
        h.first h.enc h.wf h.lay h.text h.push h.noNum h.canonFix h.fixed⟩)
    (by simpa [List.map_map, Function.comp_def] using hx)
  simpa [List.map_map, Function.comp_def, stageOpts] using this

end Penman.C20gen
