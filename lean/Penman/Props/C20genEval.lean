import Penman.Props.C20gen
import Penman.Props.C20nfEval
import Penman.Proofs.Eval
/-!
# C20 (normal-form clause), GRAPH half — non-vacuity and findings, evaluated on the model

Companion of `Penman/Props/C20gen.lean`: the theorems instantiated on concrete graphs under
`Generated.amrModel`, and the findings as closed statements proved by `eval_decide` (`configure` through its
kernel-evaluable twin `C02.configure_eq`).  The same runs on /repo give the same results.
-/
namespace Penman.C20gen
open Penman Penman.NF Penman.Cfg Penman.C03Text Penman.Framing Penman.C20nf

deriving instance DecidableEq for Graph

def T3 (s r : String) (t : Atom) : Triple := ⟨s.toList, r.toList, t⟩
def S3 (s : String) : Atom := .str s.toList
abbrev dflt : Model := Generated.defaultModel
abbrev isSp : Char → Bool := C03Text.Examples.isSp

attribute [eval_unfold] T3 S3

/-! ## the key lemma and the fixed point on the running example of C03Text -/

/-- `gx` of Props/C03Text.lean (`(b / bark-01 :ARG0 (d / dog :quant 0 :name "a b" :ARG1-of b) :mod-of 7)`,
    triples shuffled, a number, an inverted edge, an inverted attribute, stale layout markers) is `LayoutOK` -/
theorem gx_layoutOK : LayoutOK amr C03Text.Examples.gx ∧ LayoutOK dflt C03Text.Examples.gx := by eval_decide

/-- `configure_wfLayout` instantiated: the printed tree of `gx` (written form) is in the domain of C02 -/
example : WfLayout isAsciiAlpha dflt (writtenForm C03Text.Examples.gxNode) ∧
    noNullN (writtenForm C03Text.Examples.gxNode) = true := by
  have := configure_wfLayout isAsciiAlpha (m := dflt) (g := C03Text.Examples.gx) (top := none) C13.modelWf_default
    (by decide) C03Text.Examples.gx_ok.1 gx_layoutOK.2 C03Text.Examples.gx_push.1 C03Text.Examples.gx_configure
  exact ⟨this.1, this.2.1⟩

/-- `encode_normal_form` instantiated (AMR, every top, indentation, compactness): whatever `encode gx`
    prints, decoding and encoding it again prints the same text (`gx` has no number spelled like a variable) -/
example (top : Option Str) (i : Indent) (c : Bool) (s1 : Str)
    (h1 : encode amr C03Text.Examples.gx top i c = .ok s1) :
    ∃ g', decode gcfg isSp isAsciiAlpha amr s1 = .ok g' ∧ encode amr g' none i c = .ok s1 := by
  obtain ⟨g', s2, a1, a2, _, a4⟩ := encode_normal_form C01.fmt_cfg_wf isSp isAsciiAlpha (m := amr)
    (g := C03Text.Examples.gx) C13.modelWf_amr (by decide) C03Text.Examples.gx_ok_amr.1 gx_layoutOK.1
    C03Text.Examples.gx_ok_amr.2 C03Text.Examples.gx_push.1 i c s1 h1
  rw [a4 (Or.inr C03Text.Examples.gx_push.2.2)] at a2
  exact ⟨g', a1, a2⟩

/-! ## FINDINGS 1 and 2: inverted self-loops are not fixed points -/

/-- a self-loop with an inverted role -/
def gLoopInv : Graph := { triples := [T3 "a" ":instance" (S3 "x"), T3 "a" ":ARG0-of" (S3 "a")] }
/-- a self-loop with a plain role and the layout marker `Push(a)` -/
def gLoopPush : Graph :=
  { triples := [T3 "a" ":instance" (S3 "x"), T3 "a" ":ARG0" (S3 "a")],
    epidata := [(T3 "a" ":ARG0" (S3 "a"), [.push "a".toList])] }

attribute [eval_unfold] gLoopInv gLoopPush

/-- both satisfy every hypothesis of C03 / C03Text, and every clause of `LayoutOK` but `selfLoop` -/
theorem loops_wf :
    (WfGraph dflt gLoopInv ∧ GraphTextOK gcfg isSp dflt gLoopInv ∧ Cfg.PushVars gLoopInv ∧ PushSrcOK gLoopInv ∧
      NoNum gLoopInv ∧ ¬ LayoutOK dflt gLoopInv) ∧
    (WfGraph dflt gLoopPush ∧ GraphTextOK gcfg isSp dflt gLoopPush ∧ Cfg.PushVars gLoopPush ∧ PushSrcOK gLoopPush ∧
      NoNum gLoopPush ∧ ¬ LayoutOK dflt gLoopPush) := by eval_decide

/-- **FINDING 1.** `encode g = (a / x :ARG0-of a)` but `encode (decode (encode g)) = (a / x :ARG0 a)`. -/
theorem selfloop_inverted_not_fixed :
    encode dflt gLoopInv none none false = .ok (s "(a / x :ARG0-of a)") ∧
    (decode gcfg isSp isAsciiAlpha dflt (s "(a / x :ARG0-of a)")).bind
      (fun g => encode dflt g none none false) = .ok (s "(a / x :ARG0 a)") := by
  eval_decide [encode, C02.configure_eq]

/-- **FINDING 2.** `configure` writes the self-loop `(a :ARG0 a)` marked `Push(a)` as `:ARG0-of a`:
    it CAN produce an inverted self-loop from a marker assignment; the second encoding differs. -/
theorem selfloop_push_not_fixed :
    encode dflt gLoopPush none none false = .ok (s "(a / x :ARG0-of a)") ∧
    (decode gcfg isSp isAsciiAlpha dflt (s "(a / x :ARG0-of a)")).bind
      (fun g => encode dflt g none none false) = .ok (s "(a / x :ARG0 a)") := by
  eval_decide [encode, C02.configure_eq]

/-- the tree `(a / x :ARG0-of a)` is indeed outside the domain of C02 -/
example : ¬ WfLayout isAsciiAlpha dflt
    (.mk (some (s "a")) (.atom (s "/") (.str (s "x")) (.atom (s ":ARG0-of") (.str (s "a")) .nil))) := by
  eval_decide

/-- without the marker (and with a plain role) a self-loop is fine -/
example : LayoutOK dflt { gLoopPush with epidata := [] } := by decide +kernel

/-! ## FINDING 3: `compact` and a number spelled like a variable -/

/-- `gnv` of Props/C03Text.lean (`:q 0` with the NUMBER 0 next to a node `(0 / y)`): first encoding
    `(a / x :q 0\n   :r (0 / y))`, second encoding `(a / x\n   :q 0\n   :r (0 / y))` — they differ in one
    line break; the second one is a fixed point (`encode_normal_form`). -/
theorem encode_normal_form_needs_numNotVar :
    LayoutOK dflt C03Text.Examples.gnv ∧ ¬ NumNotVar C03Text.Examples.gnv ∧
    encode dflt C03Text.Examples.gnv none (some (-1)) true = .ok (s "(a / x :q 0\n   :r (0 / y))") ∧
    (decode gcfg isSp isAsciiAlpha dflt (s "(a / x :q 0\n   :r (0 / y))")).bind
      (fun g => encode dflt g none (some (-1)) true) = .ok (s "(a / x\n   :q 0\n   :r (0 / y))") := by
  refine ⟨by eval_decide, by decide +kernel, C03Text.Examples.compact_number_differs.1, ?_⟩
  eval_decide [encode, C02.configure_eq]

end Penman.C20gen
