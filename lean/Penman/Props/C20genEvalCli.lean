import Penman.Props.C20genEval
import Penman.Proofs.Eval
/-!
# C20 (normal-form clause), GRAPH half — the command with graph stages, evaluated on the model

Second companion of `Penman/Props/C20gen.lean`: `cli_normal_form_graph_stages` instantiated for
`penman --amr --reify-edges` and `penman --amr --dereify-edges` on a concrete input (every indentation,
compact or not), and finding F18 as a violation of `StagesFixed`.  The same runs on /repo print the same texts.
-/
namespace Penman.C20gen
open Penman Penman.NF Penman.Cfg Penman.C03Text Penman.Framing Penman.C20nf

/-! ## the command with `--amr --reify-edges`, and back with `--amr --dereify-edges` -/

def inText : Str := s "# ::id 1\n(a / alpha :mod (b / beta) :ARG0 b :polarity -)"
def inTree : Tree :=
  ⟨.mk (some (s "a")) (.atom (s "/") (.str (s "alpha"))
    (.sub (s ":mod") (.mk (some (s "b")) (.atom (s "/") (.str (s "beta")) .nil))
    (.atom (s ":ARG0") (.str (s "b"))
    (.atom (s ":polarity") (.str (s "-")) .nil)))), [(s "id", s "1")]⟩

/-- the graph after `--reify-edges` (AMR): two reified relations, fresh variables `_`, `_2` -/
def exG1 : Graph :=
  { triples := [T3 "a" ":instance" (S3 "alpha"), T3 "_" ":ARG1" (S3 "a"), T3 "_" ":instance" (S3 "have-mod-91"),
      T3 "_" ":ARG2" (S3 "b"), T3 "b" ":instance" (S3 "beta"), T3 "a" ":ARG0" (S3 "b"), T3 "_2" ":ARG1" (S3 "a"),
      T3 "_2" ":instance" (S3 "have-polarity-91"), T3 "_2" ":ARG2" (S3 "-")],
    top := some (s "a"),
    epidata := [(T3 "a" ":instance" (S3 "alpha"), []), (T3 "b" ":instance" (S3 "beta"), [.pop]),
      (T3 "a" ":ARG0" (S3 "b"), []), (T3 "_" ":ARG1" (S3 "a"), [.push (s "_")]),
      (T3 "_" ":instance" (S3 "have-mod-91"), []), (T3 "_" ":ARG2" (S3 "b"), [.push (s "b")]),
      (T3 "_2" ":ARG1" (S3 "a"), [.push (s "_2")]), (T3 "_2" ":instance" (S3 "have-polarity-91"), []),
      (T3 "_2" ":ARG2" (S3 "-"), [])],
    metadata := [(s "id", s "1")] }

/-- its encoding `(a / alpha :ARG1-of (_ / have-mod-91 :ARG2 (b / beta)) :ARG0 b :ARG1-of (_2 / … :ARG2 -))` -/
def exT1 : Tree :=
  ⟨.mk (some (s "a")) (.atom (s "/") (.str (s "alpha"))
    (.sub (s ":ARG1-of") (.mk (some (s "_")) (.atom (s "/") (.str (s "have-mod-91"))
      (.sub (s ":ARG2") (.mk (some (s "b")) (.atom (s "/") (.str (s "beta")) .nil)) .nil)))
    (.atom (s ":ARG0") (.str (s "b"))
    (.sub (s ":ARG1-of") (.mk (some (s "_2")) (.atom (s "/") (.str (s "have-polarity-91"))
      (.atom (s ":ARG2") (.str (s "-")) .nil))) .nil)))), [(s "id", s "1")]⟩

attribute [eval_unfold] inText inTree exG1 exT1

abbrev optRE (i : Indent) (c : Bool) : Opts := stageOpts false none true false false i c
abbrev optDE (i : Indent) (c : Bool) : Opts := stageOpts false none false true false i c

theorem ex_parse3 : parseTree ⟨eofPos (lexStr gcfg gcfg.penmanOrder inText)⟩ uT.isSpace
    (lexStr gcfg gcfg.penmanOrder inText) = .ok (inTree, []) := by eval_decide
theorem ex_in (i : Indent) (c : Bool) : processIn uT amr (optRE i c) inTree = .ok exG1 := by
  have : processIn uT amr (optRE i c) inTree = processIn uT amr (optRE none false) inTree := rfl
  rw [this]; eval_decide
theorem ex_cf : configure amr exG1 none = .ok exT1 := by rw [C02.configure_eq]; eval_decide
theorem ex_wf : WfGraph amr exG1 ∧ LayoutOK amr exG1 ∧ GraphTextOK gcfg uT.isSpace amr exG1 ∧
    Cfg.PushVars exG1 ∧ NoNum exG1 := by eval_decide
theorem ex_fix (i : Indent) (c : Bool) : StagesFixed uT.isAlpha amr (optRE i c) (nfTree amr none exT1) :=
  stagesFixed_congr (o := optRE none false) rfl rfl rfl (by eval_decide)

/-- `cli_normal_form_graph_stages` instantiated: `penman --amr --reify-edges`, every indentation, compact or not -/
theorem ex_reify_normal_form (i : Indent) (c : Bool) :
    let out1 := format (nfTree amr none exT1) i c ++ ['\n']
    processInput gcfg uT amr (optRE i c) inText = (out1, .ok 0) ∧
    processInput gcfg uT amr (optRE i c) out1 = (out1, .ok 0) :=
  cli_normal_form_graph_stages C01.fmt_cfg_wf sepChar_generated uT amr false none true false false i c
    C13.modelWf_amr (by decide) inText inTree exG1 exT1 ex_parse3 (ex_in i c) ex_cf ex_wf.1 ex_wf.2.1 ex_wf.2.2.1
    ex_wf.2.2.2.1 ex_wf.2.2.2.2 rfl (ex_fix i c)

/-- the text that is printed (adaptive indentation) -/
def outText : Str :=
  s "# ::id 1\n(a / alpha\n   :ARG1-of (_ / have-mod-91\n               :ARG2 (b / beta))\n   :ARG0 b\n   :ARG1-of (_2 / have-polarity-91\n                :ARG2 -))"

attribute [eval_unfold] outText

theorem ex_out : format (nfTree amr none exT1) (some (-1)) false = outText := by eval_decide

/-! ## F18 violates `StagesFixed` -/

/-- what `--amr --reify-edges --reify-attributes` prints for `(a / x :mod-of 7)`: `(a / x :mod-of (_ / 7))`.
    Decoding it gives the relation `(_ :mod a)`, which IS reifiable: `StagesFixed` fails, and the second
    pass prints something else (the `example` in Props/C20nfEval.lean). -/
theorem F18_not_stagesFixed :
    ¬ StagesFixed uT.isAlpha amr (stageOpts false none true false true (some (-1)) false)
      ⟨.mk (some (s "a")) (.atom (s "/") (.str (s "x"))
        (.sub (s ":mod-of") (.mk (some (s "_")) (.atom (s "/") (.str (s "7")) .nil)) .nil)), []⟩ := by
  eval_decide

/-- … and the command is really not idempotent there (finding F18, as in Props/C20nfEval.lean): the second
    pass reifies the relation that the first pass created from the inverted attribute -/
theorem F18_counterexample :
    processInput gcfg uT amr (stageOpts false none true false true (some (-1)) false) (s "(a / x :mod-of 7)") =
      (s "(a / x\n   :mod-of (_ / 7))\n", .ok 0) ∧
    processInput gcfg uT amr (stageOpts false none true false true (some (-1)) false)
        (s "(a / x\n   :mod-of (_ / 7))\n") =
      (s "(a / x\n   :ARG2-of (_2 / have-mod-91\n                :ARG1 (_ / 7)))\n", .ok 0) :=
  C20.normal_form_F18

end Penman.C20gen
