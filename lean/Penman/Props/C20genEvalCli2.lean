import Penman.Props.C20genEvalCli
import Penman.Proofs.Eval
/-!
# C20 (normal-form clause), GRAPH half — `penman --amr --dereify-edges`, evaluated on the model

Third companion of `Penman/Props/C20gen.lean`: `cli_normal_form_graph_stages` instantiated for
`--dereify-edges` on `outText`, the text printed by the `--reify-edges` example of Props/C20genEvalCli.lean
(every indentation, compact or not).
-/
namespace Penman.C20gen
open Penman Penman.NF Penman.Cfg Penman.C03Text Penman.Framing Penman.C20nf

/-- the way back: `penman --amr --dereify-edges` on that text.  The graph after the stage … -/
def exG2 : Graph :=
  { triples := [T3 "a" ":instance" (S3 "alpha"), T3 "a" ":mod" (S3 "b"), T3 "b" ":instance" (S3 "beta"),
      T3 "a" ":ARG0" (S3 "b"), T3 "a" ":polarity" (S3 "-")],
    top := some (s "a"),
    epidata := [(T3 "a" ":instance" (S3 "alpha"), []), (T3 "b" ":instance" (S3 "beta"), [.pop, .pop]),
      (T3 "a" ":ARG0" (S3 "b"), []), (T3 "a" ":mod" (S3 "b"), [.push (s "b")]),
      (T3 "a" ":polarity" (S3 "-"), [.pop])],
    metadata := [(s "id", s "1")] }

attribute [eval_unfold] exG2

/-- `outText` is the formatted `exT1` (`ex_out`), a grammar-valid tree since it is configured from `exG1`:
    it is read back (`parseTree_format`) -/
theorem ex_parse4 : parseTree ⟨eofPos (lexStr gcfg gcfg.penmanOrder outText)⟩ uT.isSpace
    (lexStr gcfg gcfg.penmanOrder outText) = .ok (exT1, []) := by
  have hwf := configured_tree_wf (cfg := gcfg) C13.modelWf_amr ex_wf.1 ex_wf.2.2.1 ex_wf.2.2.2.1 ex_cf
  rw [configure_noNum C13.modelWf_amr ex_wf.1 ex_wf.2.2.2.1 ex_wf.2.2.2.2 ex_cf] at hwf
  have e : (⟨dropNullConcept exT1.node, exT1.metadata⟩ : Tree) = exT1 := by eval_decide
  rw [← ex_out, nfTree, rearrangeOpt, e]
  exact parseTree_format C01.fmt_cfg_wf uT.isSpace exT1.node exT1.metadata hwf.1 hwf.2 (some (-1)) false _
theorem ex_in2 (i : Indent) (c : Bool) : processIn uT amr (optDE i c) exT1 = .ok exG2 := by
  have : processIn uT amr (optDE i c) exT1 = processIn uT amr (optDE none false) exT1 := rfl
  rw [this]; eval_decide
theorem ex_cf2 : configure amr exG2 none = .ok inTree := by rw [C02.configure_eq]; decide +kernel
theorem ex_wf2 : WfGraph amr exG2 ∧ LayoutOK amr exG2 ∧ GraphTextOK gcfg uT.isSpace amr exG2 ∧
    Cfg.PushVars exG2 ∧ NoNum exG2 := by eval_decide
/-- … has an empty dereification agenda when decoded again (`dereify_edges` twice = once, here) -/
theorem ex_fix2 (i : Indent) (c : Bool) : StagesFixed uT.isAlpha amr (optDE i c) (nfTree amr none inTree) :=
  stagesFixed_congr (o := optDE none false) rfl rfl rfl (by eval_decide)

theorem ex_dereify_normal_form (i : Indent) (c : Bool) :
    let out1 := format (nfTree amr none inTree) i c ++ ['\n']
    processInput gcfg uT amr (optDE i c) outText = (out1, .ok 0) ∧
    processInput gcfg uT amr (optDE i c) out1 = (out1, .ok 0) :=
  cli_normal_form_graph_stages C01.fmt_cfg_wf sepChar_generated uT amr false none false true false i c
    C13.modelWf_amr (by decide) outText exT1 exG2 inTree ex_parse4 (ex_in2 i c) ex_cf2 ex_wf2.1 ex_wf2.2.1
    ex_wf2.2.2.1 ex_wf2.2.2.2.1 ex_wf2.2.2.2.2 rfl (ex_fix2 i c)

end Penman.C20gen
