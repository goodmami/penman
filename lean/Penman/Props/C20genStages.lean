import Penman.Props.C03
import Penman.Props.C05a
import Penman.Props.C06
import Penman.Props.C11
import Penman.Props.C12
import Penman.Props.C02
import Penman.Proofs.NormalFormGraphStages
import Penman.Proofs.NormalFormGraphDereify
import Penman.Proofs.NormalFormGraphDecoded
import Penman.Proofs.Eval
/-!
# C20 (normal-form clause), GRAPH half — when is the re-decoded graph a fixed point of the stages?

`Penman/Props/C20gen.lean` proves the normal-form clause for the graph stages under the decidable
hypothesis `StagesFixed o R` on the PRINTED tree `R` (the graph decoded from `R` has no reifiable role /
an empty dereification agenda / no attribute, for the stages that are switched on).  This file derives
`StagesFixed` from conditions on the FIRST-PASS graph `g1 = stages (interpret T)`, by composing
C03 (`interpret (configure g1)` has the variables of `g1` and the triples of `g1`, each possibly inverted),
C05a (`rearrange` permutes the decoded triples), C06 (`configure` succeeds only on connected graphs),
C11 (`C11_reify_no_reifiable`) and C12 (`C12_attributes_none`).

Vocabulary: `NoInvReifiable m g` (below; decidable): no relation of `g` that can be written inverted —
its inversion has a variable as source — has a REIFIABLE inverted role.  This is the hypothesis that
excludes finding F18: after `--reify-attributes`, the attribute `(a :mod-of 7)` is the relation
`(a :mod-of _)`, whose inversion `(_ :mod a)` is reifiable (`F18_violates`).

Clause ↦ theorem
* (a) `reify_edges` is the identity on the re-decoded graph ↦ `noReifiable_decoded`
  (from `NoReifiable m g1`, `NoInvReifiable m g1`); `noReifiable_stages`: `NoReifiable m g1` holds by
  itself when `--reify-edges` is on and `--dereify-edges` is off (C11, `ReifWf`).
* (b) `reify_attributes` is the identity on the re-decoded graph ↦ `noAttributes_decoded`
  (from `NoAttributes g1`); `noAttributes_stages`: `NoAttributes g1` holds by itself when
  `--reify-attributes` is on (C12; it is the last stage).
* (c) `dereify_edges` is the identity on the re-decoded graph:
  - `dereify_edges_idempotent` (Proofs/NormalFormGraphDereify.lean): for every model with a well-formed
    reification table (`ReifWf`) and every graph with coloned roles, after one pass of `dereify_edges` the
    agenda is empty — a collapse only adds a relation with a REIFIABLE role, which is never one of the two
    relations of a collapsible node (their roles are source/target roles of a reification, not reifiable);
    `dereify_edges_twice`: so a second pass returns its argument; `noCollapsible_stages`: and
    `NoCollapsible m g1` holds by itself when `--dereify-edges` is on and `--reify-attributes` is off;
  - `noCollapsible_perm`: `NoCollapsible` does not depend on the order of the triples nor on the
    markers (one node label per variable);
  - `decoded_perm` (with `interpret_normal`, Proofs/NormalFormGraphDecoded.lean: decoded graphs have no
    inverted role towards a variable): if `g1` is in decoded normal form (`D1Normal`, decidable — true of
    what the stages make of a decoded graph, as reification tables have no `-of` roles), the graph decoded
    from the printed tree has exactly the triples of `g1`, up to order;
  - `noCollapsible_decoded`: hence `NoCollapsible m g1` carries over to the re-decoded graph.
* all three, for the printed tree with or without `--rearrange` ↦ `stagesFixed_of_first` (agenda as a
  hypothesis on the printed tree) and `stagesFixed_of_first_graph` (all hypotheses on `g1` and `T1`).
-/
namespace Penman.C20gen
open Penman.Cfg

/-- no relation that may be written inverted (the source of its inversion is a variable) has a
    reifiable inverted role -/
def NoInvReifiable (m : Model) (g : Graph) : Prop :=
  ∀ t ∈ g.triples, (m.invert t).src ∈ g.variables → m.isReifiable (m.invertRole t.role) = false

instance (m : Model) (g : Graph) : Decidable (NoInvReifiable m g) := by unfold NoInvReifiable; infer_instance

/-! ### what decoding the encoded graph gives (C03 + C06) -/

/-- if `configure` succeeded on a well-formed graph, the graph decoded from the printed tree has the same
    variables (those of the tree), the same top, and its triples are those of `g`, each possibly inverted:
    the same multiset after one de-inversion -/
theorem decoded_of_configured (isAlpha : Char → Bool) {m : Model} {g : Graph} {T : Tree} {g' : Graph}
    (hw : ModelWf m) (hnoop : m.noop = false) (hg : Cfg.WfGraph m g) (hnum : NoNum g)
    (hpv : Cfg.PushVars g) (hps : PushSrcOK g) (htop : ∀ t, g.getTop = some t → TopOK g t)
    (hcf : configure m g none = .ok T) (hi : interpret isAlpha m T = .ok g') :
    (∀ x, x ∈ g'.variables ↔ x ∈ g.variables) ∧ g'.getTop = g.getTop ∧
    (∀ x ∈ g'.triples, ∃ t0 ∈ g.triples, x = t0 ∨ x = m.invert t0) ∧
    (g'.triples.map (deinvert1 m g)).Perm (g.triples.map (deinvert1 m g)) ∧
    (∀ x, x ∈ T.node.vars ↔ x ∈ g.variables) := by
  obtain ⟨t, ht, htv, hr⟩ := Cfg.configure_success_connected hg.noInstOf hpv hg.nonempty hcf
  have ht' : g.getTop = some t := ht
  obtain ⟨T0, g0, h1, h2, h3, h4, h5, h6⟩ := C03 isAlpha (top := none) hw hnoop hg hnum hpv hps ht htv
    (hr (htop t ht'))
  obtain ⟨T0', h1', _, _, hvars, _⟩ := C03_tree (top := none) hw hg hpv hps ht htv (hr (htop t ht'))
  rw [hcf] at h1 h1'
  cases h1
  cases h1'
  rw [hi] at h2
  cases h2
  exact ⟨h4, by rw [h3, ht'], h6, h5, hvars⟩

/-! ### (a) no reifiable role -/

theorem noReifiable_decoded (isAlpha : Char → Bool) {m : Model} {g : Graph} {T : Tree} {g' : Graph}
    (hw : ModelWf m) (hnoop : m.noop = false) (hg : Cfg.WfGraph m g) (hnum : NoNum g)
    (hpv : Cfg.PushVars g) (hps : PushSrcOK g) (htop : ∀ t, g.getTop = some t → TopOK g t)
    (hcf : configure m g none = .ok T) (hi : interpret isAlpha m T = .ok g')
    (h1 : NoReifiable m g) (h2 : NoInvReifiable m g) : NoReifiable m g' := by
  obtain ⟨hv, _, ht, _⟩ := decoded_of_configured isAlpha hw hnoop hg hnum hpv hps htop hcf hi
  intro x hx
  obtain ⟨t0, ht0, rfl | rfl⟩ := ht x hx
  · exact h1 _ ht0
  · rw [Cfg.invert_role]
    exact h2 t0 ht0 ((hv _).1 (Penman.src_mem_variables hx))

/-! ### (b) no attribute -/

theorem noAttributes_iff (g : Graph) : NoAttributes g ↔ g.attributes = [] := by
  have hf : g.filterTriples none none none = g.triples := by
    unfold Graph.filterTriples
    exact List.filter_eq_self.2 (fun _ _ => by simp)
  have hv : ∀ a, atomInVars g.variables a = g.isVar a := fun a => by cases a <;> rfl
  unfold NoAttributes Graph.attributes
  rw [hf]
  simp only [List.filter_eq_nil_iff, Bool.and_eq_true, decide_eq_true_eq, Bool.not_eq_true', not_and,
    Bool.not_eq_false, hv]
  exact forall_congr' fun t => imp_congr_right fun _ => Decidable.or_iff_not_imp_left

theorem noAttributes_decoded (isAlpha : Char → Bool) {m : Model} {g : Graph} {T : Tree} {g' : Graph}
    (hw : ModelWf m) (hnoop : m.noop = false) (hg : Cfg.WfGraph m g) (hnum : NoNum g)
    (hpv : Cfg.PushVars g) (hps : PushSrcOK g) (htop : ∀ t, g.getTop = some t → TopOK g t)
    (hcf : configure m g none = .ok T) (hi : interpret isAlpha m T = .ok g')
    (h1 : NoAttributes g) : NoAttributes g' := by
  obtain ⟨hv, _, ht, _⟩ := decoded_of_configured isAlpha hw hnoop hg hnum hpv hps htop hcf hi
  intro x hx
  obtain ⟨t0, ht0, rfl | rfl⟩ := ht x hx
  · rcases h1 _ ht0 with h | h
    · exact Or.inl h
    · exact Or.inr (by rw [RA.atomInVars_congr hv]; exact h)
  · right
    rw [Cfg.invert_tgt, RA.atomInVars_congr hv]
    simp [atomInVars, Penman.src_mem_variables ht0]

/-! ### the conditions on `g1` that hold by themselves after the corresponding stage (C11, C12) -/

/-- `--reify-attributes` keeps the graph free of reifiable roles -/
theorem noReifiable_reifyAttributes {m : Model} {g : Graph} (hm : ReifWf m) (hg : RolesColon g)
    (h : NoReifiable m g) : NoReifiable m (reifyAttributes g) := by
  intro t1 h1
  rcases mem_attrResult hg h1 with h2 | h2 | ⟨t, ht, _, hr, _⟩
  · exact h _ h2
  · rw [h2]; exact hm.2
  · rw [hr]; exact h t ht

theorem rolesColon_reifyEdges {m : Model} {g ga : Graph} (h : reifyEdges m g = .ok ga) : RolesColon ga := by
  obtain ⟨rev, st, _, _, hres⟩ := reifyEdges_run m g
  rw [h] at hres
  simp only [Except.ok.injEq] at hres
  rw [hres]; exact mk'_rolesColon _ _ _ _

/-- with `--reify-edges` on and `--dereify-edges` off, the first-pass graph has no reifiable role -/
theorem noReifiable_stages {m : Model} {o : Opts} {g0 g1 : Graph} (hm : ReifWf m) (hg : RolesColon g0)
    (hre : o.reifyEdges = true) (hde : o.dereifyEdges = false) (h : stages m o g0 = .ok g1) :
    NoReifiable m g1 := by
  obtain ⟨ga, gb, hr, hd, rfl⟩ := stages_ok h
  rw [hre, if_pos rfl] at hr
  rw [hde] at hd
  cases hd
  have h1 : NoReifiable m ga := C11_reify_no_reifiable hm hg hr
  split
  · exact noReifiable_reifyAttributes hm (rolesColon_reifyEdges hr) h1
  · exact h1

/-- with `--reify-attributes` on, the first-pass graph has no attribute -/
theorem noAttributes_stages {m : Model} {o : Opts} {g0 g1 : Graph} (hra : o.reifyAttributes = true)
    (h : stages m o g0 = .ok g1) : NoAttributes g1 := by
  obtain ⟨ga, gb, _, _, rfl⟩ := stages_ok h
  rw [hra, if_pos rfl]
  exact (noAttributes_iff _).2 (C12_attributes_none gb)

/-! ### the printed tree, with or without `--rearrange` -/

/-- the graph decoded from the rearranged tree has the triples of the graph decoded from the tree, up to
    order, and the same variables -/
theorem decoded_rearrangeOpt (isAlpha : Char → Bool) (m : Model) (re : Option (List KeyFn × Bool)) (T : Tree)
    (g g2 : Graph) (h : interpret isAlpha m T = .ok g) (h2 : interpret isAlpha m (rearrangeOpt m re T) = .ok g2) :
    g2.triples.Perm g.triples ∧ (∀ x, x ∈ g2.variables ↔ x ∈ g.variables) ∧ g2.top = g.top := by
  cases re with
  | none =>
    simp only [rearrangeOpt] at h2
    rw [h] at h2; cases h2
    exact ⟨List.Perm.refl _, fun _ => Iff.rfl, rfl⟩
  | some p =>
    obtain ⟨ks, af⟩ := p
    simp only [rearrangeOpt] at h2
    obtain ⟨g3, a1, a2, a3, _⟩ := rearrange_graph isAlpha m m (some ks) af T g h
    rw [a1] at h2; cases h2
    refine ⟨a3, ?_, a2⟩
    intro x
    rw [mem_variables, mem_variables, a2]
    constructor
    · rintro (⟨t, ht, hs⟩ | ht)
      · exact Or.inl ⟨t, a3.subset ht, hs⟩
      · exact Or.inr ht
    · rintro (⟨t, ht, hs⟩ | ht)
      · exact Or.inl ⟨t, a3.symm.subset ht, hs⟩
      · exact Or.inr ht

/-- **`StagesFixed` from the first-pass graph.**  `g1` is the first-pass graph, `T1` its encoding (without
    empty concept slot: `Penman.C20gen.configure_wfLayout`), `R = nfTree m re T1` the printed tree.
    * `--reify-edges`: `g1` has no reifiable role, also not after inverting a relation towards a variable;
    * `--reify-attributes`: `g1` has no attribute;
    * `--dereify-edges`: the graph decoded from `R` has an empty agenda (hypothesis on `R`). -/
theorem stagesFixed_of_first (isAlpha : Char → Bool) {m : Model} (o : Opts) (re : Option (List KeyFn × Bool))
    {g1 : Graph} {T1 : Tree} (hw : ModelWf m) (hnoop : m.noop = false) (hg : Cfg.WfGraph m g1) (hnum : NoNum g1)
    (hpv : Cfg.PushVars g1) (hps : PushSrcOK g1) (htop : ∀ t, g1.getTop = some t → TopOK g1 t)
    (hcf : configure m g1 none = .ok T1) (hnn : noNullN T1.node = true)
    (hdec : ∃ g', interpret isAlpha m T1 = .ok g')
    (h1 : o.reifyEdges = true → NoReifiable m g1 ∧ NoInvReifiable m g1)
    (h2 : o.dereifyEdges = true → ∀ g2, interpret isAlpha m (nfTree m re T1) = .ok g2 → NoCollapsible m g2)
    (h3 : o.reifyAttributes = true → NoAttributes g1) :
    StagesFixed isAlpha m o (nfTree m re T1) := by
  intro g2 hg2
  obtain ⟨g', hg'⟩ := hdec
  have hR : nfTree m re T1 = rearrangeOpt m re T1 := by
    unfold nfTree; rw [C02P.dropNull_id _ hnn]
  rw [hR] at hg2
  obtain ⟨hperm, hvars, _⟩ := decoded_rearrangeOpt isAlpha m re T1 g' g2 hg' hg2
  refine ⟨?_, ?_, ?_⟩
  · intro hc
    have := noReifiable_decoded isAlpha hw hnoop hg hnum hpv hps htop hcf hg' (h1 hc).1 (h1 hc).2
    exact fun t ht => this t (hperm.subset ht)
  · intro hc
    exact h2 hc g2 (by rw [hR]; exact hg2)
  · intro hc
    have := noAttributes_decoded isAlpha hw hnoop hg hnum hpv hps htop hcf hg' (h3 hc)
    intro t ht
    rcases this t (hperm.subset ht) with h | h
    · exact Or.inl h
    · exact Or.inr (by rw [RA.atomInVars_congr hvars]; exact h)

/-! ### (c) the dereification agenda -/

/-- **`dereify_edges` is idempotent**: after one pass, no node is collapsible -/
theorem dereify_edges_idempotent {m : Model} {g g1 : Graph} (hm : ReifWf m) (hg : RolesColon g)
    (h : dereifyEdges m g = .ok g1) : NoCollapsible m g1 :=
  dereify_idempotent hm hg h

/-- … in particular `dereify_edges` applied twice is `dereify_edges` applied once (up to the normalisation
    `Graph.__init__` performs on a graph that is not yet a `PyGraph`) -/
theorem dereify_edges_twice {m : Model} {g g1 : Graph} (hm : ReifWf m) (hg : RolesColon g)
    (h : dereifyEdges m g = .ok g1) (hp : PyGraph g1) : dereifyEdges m g1 = .ok g1 :=
  dereifyEdges_idle hp (dereify_idempotent hm hg h)

/-- the first-pass graph is in decoded normal form: no inverted role towards a variable -/
def D1Normal (m : Model) (g : Graph) : Prop := ∀ t ∈ g.triples, deinvert1 m g t = t

instance (m : Model) (g : Graph) : Decidable (D1Normal m g) := by unfold D1Normal; infer_instance

/-- with `--dereify-edges` on and `--reify-attributes` off, the first-pass graph has an empty agenda -/
theorem noCollapsible_stages {m : Model} {o : Opts} {g0 g1 : Graph} (hm : ReifWf m) (hg : RolesColon g0)
    (hde : o.dereifyEdges = true) (hra : o.reifyAttributes = false) (h : stages m o g0 = .ok g1) :
    NoCollapsible m g1 := by
  obtain ⟨ga, gb, hr, hd, rfl⟩ := stages_ok h
  rw [hde, if_pos rfl] at hd
  rw [hra, if_neg Bool.false_ne_true]
  refine dereify_idempotent hm ?_ hd
  split at hr
  · exact rolesColon_reifyEdges hr
  · cases hr; exact hg

/-- **the re-decoded graph has exactly the triples of a first-pass graph in decoded normal form** -/
theorem decoded_perm (isAlpha : Char → Bool) {m : Model} {g : Graph} {T : Tree} {g' : Graph}
    (hw : ModelWf m) (hnoop : m.noop = false) (hg : Cfg.WfGraph m g) (hnum : NoNum g)
    (hpv : Cfg.PushVars g) (hps : PushSrcOK g) (htop : ∀ t, g.getTop = some t → TopOK g t)
    (hcf : configure m g none = .ok T) (hi : interpret isAlpha m T = .ok g')
    (hwf : wfNodeB isAlpha m T.node = true) (hn : D1Normal m g) : g'.triples.Perm g.triples := by
  obtain ⟨_, _, _, h5, hvars⟩ := decoded_of_configured isAlpha hw hnoop hg hnum hpv hps htop hcf hi
  have e1 : g.triples.map (deinvert1 m g) = g.triples :=
    (List.map_congr_left (g := id) hn).trans (List.map_id _)
  have e2 : g'.triples.map (deinvert1 m g) = g'.triples := by
    refine (List.map_congr_left (g := id) fun x hx => ?_).trans (List.map_id _)
    have := interpret_normal isAlpha m hnoop hwf hi x hx
    unfold deinvert1
    rw [if_neg]; · rfl
    rintro ⟨a1, a2⟩
    apply this
    refine ⟨a1, ?_⟩
    rw [RA.atomInVars_congr hvars]
    revert a2
    cases x.tgt <;> exact id
  rw [e1, e2] at h5
  exact h5

theorem oneLabel_perm {l l' : List Triple} (hp : l'.Perm l)
    (h : ((l.filter (fun t => t.role = CONCEPT_ROLE)).map (·.src)).Nodup) :
    ((l'.filter (fun t => t.role = CONCEPT_ROLE)).map (·.src)).Nodup :=
  (((hp.filter _).map _).nodup_iff).2 h

/-- `NoCollapsible` of the first-pass graph carries over to the graph decoded from its encoding -/
theorem noCollapsible_decoded (isAlpha : Char → Bool) {m : Model} {g : Graph} {T : Tree} {g' : Graph}
    (hw : ModelWf m) (hnoop : m.noop = false) (hm : ReifWf m) (hg : Cfg.WfGraph m g) (hnum : NoNum g)
    (hpv : Cfg.PushVars g) (hps : PushSrcOK g) (htop : ∀ t, g.getTop = some t → TopOK g t)
    (hcf : configure m g none = .ok T) (hi : interpret isAlpha m T = .ok g')
    (hwf : wfNodeB isAlpha m T.node = true) (hn : D1Normal m g)
    (hone : ((g.triples.filter (fun t => t.role = CONCEPT_ROLE)).map (·.src)).Nodup)
    (h : NoCollapsible m g) : NoCollapsible m g' := by
  have hp := decoded_perm isAlpha hw hnoop hg hnum hpv hps htop hcf hi hwf hn
  obtain ⟨_, htp, _⟩ := decoded_of_configured isAlpha hw hnoop hg hnum hpv hps htop hcf hi
  exact noCollapsible_perm hm hp htp hone h

/-- **`StagesFixed` from the first pass only**: as `stagesFixed_of_first`, with the dereification agenda of
    the re-decoded graph derived from `g1` (`ReifWf m`, `NoCollapsible m g1`, `D1Normal m g1`, one node label
    per variable; `T1` well formed for layout — `Penman.C20gen.configure_wfLayout`). -/
theorem stagesFixed_of_first_graph (isAlpha : Char → Bool) {m : Model} (o : Opts) (re : Option (List KeyFn × Bool))
    {g1 : Graph} {T1 : Tree} (hw : ModelWf m) (hnoop : m.noop = false) (hg : Cfg.WfGraph m g1) (hnum : NoNum g1)
    (hpv : Cfg.PushVars g1) (hps : PushSrcOK g1) (htop : ∀ t, g1.getTop = some t → TopOK g1 t)
    (hcf : configure m g1 none = .ok T1) (hnn : noNullN T1.node = true)
    (hdec : ∃ g', interpret isAlpha m T1 = .ok g')
    (h1 : o.reifyEdges = true → NoReifiable m g1 ∧ NoInvReifiable m g1)
    (h2 : o.dereifyEdges = true → ReifWf m ∧ NoCollapsible m g1 ∧ D1Normal m g1 ∧
      wfNodeB isAlpha m T1.node = true ∧
      ((g1.triples.filter (fun t => t.role = CONCEPT_ROLE)).map (·.src)).Nodup)
    (h3 : o.reifyAttributes = true → NoAttributes g1) :
    StagesFixed isAlpha m o (nfTree m re T1) := by
  apply stagesFixed_of_first isAlpha o re hw hnoop hg hnum hpv hps htop hcf hnn hdec h1 _ h3
  intro hc g2 hg2
  obtain ⟨hm, hnc, hn, hwf, hone⟩ := h2 hc
  obtain ⟨g', hg'⟩ := hdec
  have hR : nfTree m re T1 = rearrangeOpt m re T1 := by
    unfold nfTree; rw [C02P.dropNull_id _ hnn]
  rw [hR] at hg2
  have hperm1 := decoded_perm isAlpha hw hnoop hg hnum hpv hps htop hcf hg' hwf hn
  have hnc' := noCollapsible_decoded isAlpha hw hnoop hm hg hnum hpv hps htop hcf hg' hwf hn hone hnc
  obtain ⟨hperm2, _, htp⟩ := decoded_rearrangeOpt isAlpha m re T1 g' g2 hg' hg2
  obtain ⟨v, ds, es, D⟩ := Interp.decoded hg'
  have htop2 : g2.getTop = g'.getTop := by
    unfold Graph.getTop
    rw [htp, D.top]
  exact noCollapsible_perm hm hperm2 htop2 (oneLabel_perm hperm1 hone) hnc'

/-! ## non-vacuity, and F18 -/

def T3' (s r : String) (t : Atom) : Triple := ⟨s.toList, r.toList, t⟩
def S3' (s : String) : Atom := .str s.toList
attribute [eval_unfold] T3' S3'

/-- first-pass graph of `penman --amr --reify-edges --reify-attributes` on `(a / x :mod-of 7)` (F18):
    the attribute has become the relation `(a :mod-of _)` -/
def gF18 : Graph :=
  { triples := [T3' "a" ":instance" (S3' "x"), T3' "a" ":mod-of" (S3' "_"), T3' "_" ":instance" (S3' "7")],
    top := some "a".toList }

attribute [eval_unfold] gF18

/-- it has no reifiable role and no attribute, but its relation, written inverted, is reifiable -/
theorem F18_violates : NoReifiable Generated.amrModel gF18 ∧ NoAttributes gF18 ∧
    ¬ NoInvReifiable Generated.amrModel gF18 := by eval_decide

/-- a graph after `--amr --reify-edges` (`(a / alpha :mod (b / beta) :polarity -)` reified) satisfies all
    conditions on `g1` -/
def gOK : Graph :=
  { triples := [T3' "a" ":instance" (S3' "alpha"), T3' "_" ":ARG1" (S3' "a"), T3' "_" ":instance" (S3' "have-mod-91"),
      T3' "_" ":ARG2" (S3' "b"), T3' "b" ":instance" (S3' "beta"), T3' "_2" ":ARG1" (S3' "a"),
      T3' "_2" ":instance" (S3' "have-polarity-91"), T3' "_2" ":ARG2" (S3' "-")],
    top := some "a".toList }

attribute [eval_unfold] gOK

example : NoReifiable Generated.amrModel gOK ∧ NoInvReifiable Generated.amrModel gOK ∧
    Cfg.WfGraph Generated.amrModel gOK ∧ NoNum gOK ∧ Cfg.PushVars gOK ∧ PushSrcOK gOK ∧
    (∀ t, gOK.getTop = some t → TopOK gOK t) := by
  have h : NoReifiable Generated.amrModel gOK ∧ NoInvReifiable Generated.amrModel gOK ∧
      Cfg.WfGraph Generated.amrModel gOK := by eval_decide
  refine ⟨h.1, h.2.1, h.2.2, by decide, by decide, by decide, ?_⟩
  intro t _; simp [TopOK, gOK]; right; decide

example : ReifWf Generated.amrModel := amr_reifWf

/-- `gOK` is in decoded normal form, has one label per variable, and both of its reified nodes are
    collapsible: `dereify_edges` gives the two relations back, and then the agenda is empty
    (`dereify_edges_idempotent` instantiated) -/
example : D1Normal Generated.amrModel gOK ∧ ¬ NoCollapsible Generated.amrModel gOK ∧
    ((gOK.triples.filter (fun t => t.role = CONCEPT_ROLE)).map (·.src)).Nodup := by eval_decide

example (g1 : Graph) (h : dereifyEdges Generated.amrModel gOK = .ok g1) : NoCollapsible Generated.amrModel g1 :=
  dereify_edges_idempotent amr_reifWf (by eval_decide) h

/-- the graph after `--amr --dereify-edges` on the text of `gOK` satisfies all conditions of
    `stagesFixed_of_first_graph` on `g1` -/
def gBack : Graph :=
  { triples := [T3' "a" ":instance" (S3' "alpha"), T3' "a" ":mod" (S3' "b"), T3' "b" ":instance" (S3' "beta"),
      T3' "a" ":polarity" (S3' "-")],
    top := some "a".toList }

attribute [eval_unfold] gBack

example : NoCollapsible Generated.amrModel gBack ∧ D1Normal Generated.amrModel gBack ∧
    Cfg.WfGraph Generated.amrModel gBack ∧ NoNum gBack ∧ Cfg.PushVars gBack ∧ PushSrcOK gBack ∧
    ((gBack.triples.filter (fun t => t.role = CONCEPT_ROLE)).map (·.src)).Nodup := by eval_decide

/-- a graph that is NOT in decoded normal form: `(b :ARG0-of a)` with `a` a variable -/
example : ¬ D1Normal Generated.amrModel
    { triples := [T3' "a" ":instance" (S3' "x"), T3' "b" ":instance" (S3' "y"), T3' "b" ":ARG0-of" (S3' "a")] } := by
  eval_decide

end Penman.C20gen
