import Penman.Proofs.NormalFormGraphVars
import Penman.Props.C20nf
import Penman.Proofs.Eval
/-!
# C20 (normal-form clause) — `--make-variables FMT`

The relabelling stage of the command (`processOut` in Penman/Main.lean: after `configure` and
`--rearrange`, `Tree.reset_variables(FMT)`).  Model functions: `Node.resetVariables`, `buildVarmap`,
`pickVar`, `Node.mapVars` (Penman/Tree.lean), `processOut`, `processTree`, `processInput`.
Vocabulary: `varOpts` (Spec/NormalFormGraph.lean: `stageOpts` plus `--make-variables`), `StagesFixed`,
`WfLayout`, `noNullN`, `WfTreeText`, `canonStep`, `rearrangeOpt`.

Clause ↦ theorem
* "the second pass relabels the already relabelled tree; the new names depend only on the concept prefixes
  in depth-first order and the template, which relabelling does not change" ↦ `reset_variables_idempotent`
  (for every template, every lower-casing/alphabet table, every tree whose variables are defined
  once): `reset_variables(FMT)` of the relabelled tree returns it unchanged.  Proof
  (Proofs/NormalFormGraphReset.lean): C10 `reset_shape` (the result is the renaming `renNode vm`),
  `varmap_injective` (new names pairwise distinct), `renBranches_prefix` (concept prefixes untouched),
  `buildVarmap_renamed` (the map built for the relabelled tree is the diagonal on the new names),
  `renNode_diag` (the diagonal renaming is the identity, alignment suffixes included).
* normal form of the command with `--make-variables` ↦ `make_variables_normal_form_partial`: both passes
  print `format R'`, `R'` the relabelled tree, PROVIDED the printed tree `R'` itself is in the domain of the
  second pass — decidable hypotheses on `R'`: `WfLayout`, no empty concept slot, grammar-valid, fixed point
  of the canonicalisation / graph-stage / rearrangement steps.

The same WITHOUT the hypotheses on `R'` — from the hypotheses of `Penman.C20gen.cli_normal_form_graph_stages` on
the first-pass graph plus C10's `WfReset` (no constant spelled like a new name) and new names that are SYMBOL
texts — is `make_variables_normal_form` in Props/C20vars.lean.
-/
namespace Penman.C20gen
open Penman.NF Penman.Cfg Penman.C03Text Penman.Framing

/-- **`reset_variables` is idempotent.**  For every template `fmt` (progressive or not), every
    alphabet / lower-casing table and every tree whose variables are defined once: if relabelling `n`
    succeeds with `n'`, relabelling `n'` succeeds and returns `n'`. -/
theorem reset_variables_idempotent (isAlpha : Char → Bool) (lower : Char → Str) (fmt : Fmt) (n n' : Node)
    (hnd : n.vars.Nodup) (h : n.resetVariables isAlpha lower fmt = .ok n') :
    n'.resetVariables isAlpha lower fmt = .ok n' :=
  RV.reset_idem isAlpha lower fmt n n' hnd h

/-- **normal-form clause with `--make-variables`, one graph** (`_partial`: hypotheses on the printed tree). -/
theorem make_variables_normal_form_partial {cfg : LexCfg} (hwc : Spec.FmtCfgWf cfg = true) (hsep : SepChar cfg '\n')
    (u : UTables) (m : Model) (canon : Bool) (re : Option (List KeyFn × Bool)) (rE dE rA : Bool) (fmt : Fmt)
    (i : Indent) (c : Bool) (x : Str) (T : Tree) (g1 : Graph) (T1 : Tree) (N' : Node)
    (hp : parseTree ⟨eofPos (lexStr cfg cfg.penmanOrder x)⟩ u.isSpace (lexStr cfg cfg.penmanOrder x)
      = .ok (T, []))
    (hin : processIn u m (varOpts canon re rE dE rA fmt i c) T = .ok g1)
    (hcf : configure m g1 none = .ok T1)
    (hnd : (rearrangeOpt m re T1).node.vars.Nodup)
    (hrv : (rearrangeOpt m re T1).node.resetVariables u.isAlpha u.lower fmt = .ok N')
    (hl : WfLayout u.isAlpha m N') (hnn : noNullN N' = true)
    (hwt : Spec.WfTreeText cfg N') (hwm : Spec.WfMeta u.isSpace T1.metadata)
    (hcanon : canonStep m canon ⟨N', T1.metadata⟩ = .ok ⟨N', T1.metadata⟩)
    (hfix : StagesFixed u.isAlpha m (varOpts canon re rE dE rA fmt i c) ⟨N', T1.metadata⟩)
    (hre : rearrangeOpt m re ⟨N', T1.metadata⟩ = ⟨N', T1.metadata⟩) :
    let out1 := format ⟨N', T1.metadata⟩ i c ++ ['\n']
    processInput cfg u m (varOpts canon re rE dE rA fmt i c) x = (out1, .ok 0) ∧
    processInput cfg u m (varOpts canon re rE dE rA fmt i c) out1 = (out1, .ok 0) :=
  single_fixed hwc hsep u m (varOpts canon re rE dE rA fmt i c) x T ⟨N', T1.metadata⟩ hp
    (tree_normal_form_vars (cfg := cfg) u m canon re rE dE rA fmt i c T g1 T1 N' hin hcf hnd hrv hl hnn
      hwt hwm hcanon hfix hre)

/-! ## non-vacuity -/

open Penman.C20nf in
/-- relabelling `(a / alpha :ARG0-of (b / beta) :mod 5 :ARG1 b)` with `{prefix}{j}` gives
    `(a / alpha :ARG0-of (b / beta) …)` again (the names already are the default ones); with `x{i}` it gives
    `(x0 / alpha :ARG0-of (x1 / beta) :mod 5 :ARG1 x1)`, and relabelling that changes nothing -/
example :
    exTree.node.resetVariables uT.isAlpha uT.lower [.lit (s "x"), .i] =
      .ok (.mk (some (s "x0")) (.atom (s "/") (.str (s "alpha"))
        (.sub (s ":ARG0-of") (.mk (some (s "x1")) (.atom (s "/") (.str (s "beta")) .nil))
        (.atom (s ":mod") (.str (s "5"))
        (.atom (s ":ARG1") (.str (s "x1")) .nil))))) ∧
    exTree.node.vars.Nodup := by eval_decide

open Penman.C20nf in
example (n' : Node) (h : exTree.node.resetVariables uT.isAlpha uT.lower [.lit (s "x"), .i] = .ok n') :
    n'.resetVariables uT.isAlpha uT.lower [.lit (s "x"), .i] = .ok n' :=
  reset_variables_idempotent _ _ _ _ _ (by decide +kernel) h

end Penman.C20gen
