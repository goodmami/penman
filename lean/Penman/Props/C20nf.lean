import Penman.Proofs.NormalFormMain
import Penman.Generated
import Penman.Proofs.Eval
/-!
# C20 (normal-form and identity clauses) — the output of the `penman` command is a fixed point

By composing C01 (text ↔ tree), C02 (tree ↔ graph layout), C05a (`rearrange`), C09 (stream framing)
and C13 (role canonicalisation), this file proves the two clauses of property C20 that
`Penman/Props/C20.lean` (pipeline equality) reduces to round-trip hypotheses:

  "… feeding the output back through the tool with the same options reproduces it byte for byte
   for every option set without --reconfigure, --indicate-branches or a random key; with no
   normalisation options and well-formed input the output decodes to the same graphs as the input."

for the option sets `nfOpts canon re i c` (Spec/NormalForm.lean): `--canonicalize-roles` on/off,
`--rearrange` with any list of the selectable keys and with/without attributes-first or absent,
every `--indent`, `--compact` on/off, every model; all other options off.

Model functions: `processIn`, `processOut`, `processTree`, `processLoop`, `processInput`, `mainRun`,
`fileLines` (Penman/Main.lean), `lexStr`/`lexLines` (Lexer), `parseTree` (Parse), `format`,
`interpret`, `configure`, `rearrange`, `canonicalizeRoles`.
Vocabulary (Penman/Spec/NormalForm.lean): `nfOpts`, `canonStep` (first line of `_process_in`),
`nfTree m re T'` (the tree that is printed: `dropNullConcept`, then `rearrange`), `streamOut`
(the text printed for one input: each serialisation followed by a line feed, a blank line between),
`NormRolesText cfg m` (decidable: `~` ends a ROLE, `-`,`o`,`f` are ROLE characters, every
normalisation value of the model is a ROLE text); `NF.GraphIn`/`GraphIn.Ok` (one graph of a
stream: its text, its tree, the canonicalised tree; Proofs/NormalFormMain.lean).

Clause ↦ theorem
* identity, one graph in the input ↦ `cli_identity`: the command prints the normal form
  `format ⟨dropNullConcept T.node, T.metadata⟩` + line feed, status 0; the printed text parses
  back to exactly that tree; and that tree is interpreted to the SAME graph as the input tree
  (`NF.interpret_dropNull`: an empty concept slot `(a /)` is invisible to `interpret` — the branch
  `('/', None)` yields the triple `(a :instance None)` with empty epidata at first position, and
  so does the synthetic instance triple of `(a)`).  So the output decodes to the same graphs.
* identity, streams ↦ `cli_identity_stream` (any number of graphs, any separators that produce no
  tokens; `iterparse` of the output yields the normal-form trees in order, each interpreted to
  the same graph as its input tree).
* normal form, one graph ↦ `cli_normal_form_partial`.
* normal form, streams ↦ `cli_normal_form_stream`; several inputs (`mainRun`) ↦ `cli_normal_form_inputs`
  (each input's output fed back on its own is reproduced byte for byte).
* per tree ↦ `NF.tree_normal_form` (first pass prints `format R`, `R` is grammar-valid, second pass
  on `R` prints `format R`), from `NF.processTree_nf` (C02) and `C20gen.processTree_fixed` (the second
  pass, Proofs/NormalFormPass.lean), `NF.nfTree_canon` (C13: every role of
  `R` is a fixed point of `canonicalize_role`), `NF.nfTree_wfLayout` (`WfLayout` is preserved by
  `dropNullConcept` and `rearrangeNode`), `NF.nfTree_noNull`, `NF.rearrangeOpt_idem` (`rearrange_idem`),
  `NF.nfTree_wfText` / `NF.canonStep_wfText` (`WfTreeText` is preserved by `dropNullConcept`,
  `rearrangeNode`, `canonNode`), `NF.parseTree_format` (C01/C07 with full consumption).

Hypotheses of the normal-form theorems and why they are there
* `FmtCfgWf cfg`, `SepChar cfg '\n'` (lexer tables; `fmt_cfg_wf`, by `decide +kernel` for the generated ones).
* the input's graphs parse completely (`parseTree … = .ok (T, [])`): the parser's own output,
  so `C01.parse_wf` makes them grammar-valid; nothing is assumed about metadata.
* `WfLayout u.isAlpha m T'.node` for the CANONICALISED tree `T'` (decidable).  It is not implied
  by `WfLayout` of the input tree: canonicalisation can merge roles (`:mod-of ↦ :domain` under
  AMR), so `(a :domain b :mod-of b)` has distinct triples before and a duplicated triple after —
  see `canon_breaks_wfLayout`.
* with `--canonicalize-roles`: `ModelWf m` (C13) and `NormRolesText cfg m`; both hold for the
  generated default/AMR/no-op models (`normRolesText_generated`).

The other option sets: the graph stages (`--reify-edges`, `--dereify-edges`, `--reify-attributes`) are
covered by `C20gen.cli_normal_form_graph_stages` / `_stream` (Props/C20gen.lean), `--make-variables` by
`C20gen.make_variables_normal_form` / `_stream` (Props/C20vars.lean).  OPEN: `--check` (the `error-N`
metadata the first pass writes would have to be reproduced by the second) — no theorem covers it.
F18 (`--reify-edges --reify-attributes` on an inverted attribute with reifiable base role) is a
true counterexample (`Penman.C20.normal_form_F18`; the hypothesis that excludes it is
`C20gen.NoInvReifiable`, Props/C20genStages.lean).  `--triples` prints a notation that is not PENMAN
input (`Penman.C20.normal_form_needs_no_triples`).
Concrete runs of the command evaluated on the model are in Props/C20nfEval.lean.

FINDING (counterexample, `several_files_not_fixed` in Props/C20nfEval.lean): with SEVERAL input
files the concatenated output is NOT reproduced byte for byte when fed back as one stream: `process` separates the graphs
of one input by a blank line but `main` puts nothing between the outputs of different files, so
`penman a b` prints `(a / x)\n(b / y)\n`, and feeding that back prints `(a / x)\n\n(b / y)\n`
(real penman does the same).  The normal-form clause therefore holds per input stream
(`cli_normal_form_inputs`), not for the concatenation.
-/
namespace Penman.C20nf
open Penman.NF Penman.Framing

/-! ## hypotheses on the generated tables -/

theorem sepChar_generated : SepChar Generated.lexCfg '\n' := by decide

theorem normRolesText_generated :
    NormRolesText Generated.lexCfg Generated.defaultModel = true ∧
    NormRolesText Generated.lexCfg Generated.amrModel = true ∧
    NormRolesText Generated.lexCfg Generated.noopModel = true := by decide +kernel

/-! ## identity: no normalisation option -/

/-- **identity clause, one graph.**  No normalisation option (any indentation, compact or not),
    an input whose token stream parses completely as the tree `T`, `T` well formed for layout:
    * one graph in, one graph out: the normal-form text of `T` and a line feed, exit status 0;
    * the printed text parses back to the normal-form tree `⟨dropNullConcept T.node, T.metadata⟩`;
    * that tree and `T` are interpreted to the same graph (equal `Except` values: same triples,
      top, epidata, metadata). -/
theorem cli_identity {cfg : LexCfg} (hw : Spec.FmtCfgWf cfg = true) (hsep : SepChar cfg '\n')
    (u : UTables) (m : Model) (i : Indent) (c : Bool) (x : Str) (T : Tree)
    (hp : parseTree ⟨eofPos (lexStr cfg cfg.penmanOrder x)⟩ u.isSpace (lexStr cfg cfg.penmanOrder x)
      = .ok (T, []))
    (hl : WfLayout u.isAlpha m T.node) :
    let N : Tree := ⟨dropNullConcept T.node, T.metadata⟩
    processInput cfg u m { indent := i, compact := c } x = (format N i c ++ ['\n'], .ok 0) ∧
    C01.parse cfg u.isSpace (format N i c ++ ['\n']) = .ok N ∧
    interpret u.isAlpha m N = interpret u.isAlpha m T := by
  intro N
  have hwf := C01.parse_wf hw u.isSpace x T (parse_of_parseTree ⟨_, hp⟩)
  have ht := processTree_nf u m false none i c T T rfl hl (metaDict_of_wfMeta hwf.2)
  refine ⟨processInput_single cfg hsep u m _ x T _ 0 hp ht, ?_, interpret_dropNull u.isAlpha m T.node T.metadata hl.1⟩
  unfold C01.parse
  rw [lexStr_append_lf _ _ _ (format_noCR _ _ _)]
  exact C01.C01_roundtrip hw u.isSpace _ _ (wfTreeText_dropNull cfg T.node hwf.1) hwf.2 i c

/-- **identity clause, streams.**  An input whose token stream is, up to line numbers and
    offsets, the concatenation of the token streams of texts `gₖ.s` that parse completely to
    `gₖ.T` (so: any number of graphs, separated by anything that produces no tokens), all
    `WfLayout`: the command prints the normal forms in order (a blank line between, a line feed at
    the end, status 0); `iterparse` of the printed text yields exactly the normal-form trees, in
    order, without error; each is interpreted to the same graph as its input tree. -/
theorem cli_identity_stream {cfg : LexCfg} (hw : Spec.FmtCfgWf cfg = true) (hsep : SepChar cfg '\n')
    (u : UTables) (m : Model) (i : Indent) (c : Bool) (x : Str) (gs : List GraphIn)
    (hg : ∀ g ∈ gs, g.Ok cfg u m false)
    (hx : LSim u.isSpace [] (gs.map fun g => lexStr cfg cfg.penmanOrder g.s).flatten
      (lexStr cfg cfg.penmanOrder x)) :
    let N : GraphIn → Tree := fun g => ⟨dropNullConcept g.T.node, g.T.metadata⟩
    let out := streamOut true (gs.map fun g => format (N g) i c)
    processInput cfg u m { indent := i, compact := c } x = (out, .ok 0) ∧
    iterparseToks u.isSpace (lexStr cfg cfg.penmanOrder out) = (gs.map N, none) ∧
    ∀ g ∈ gs, interpret u.isAlpha m (N g) = interpret u.isAlpha m g.T := by
  intro N out
  -- without canonicalisation `T' = T`, so the printed trees are the `N g`: the first claim is
  -- `stream_normal_form`, the second `iterparse_join` on their formatted texts
  have hT' : ∀ g ∈ gs, g.T' = g.T := fun g hgm => by
    have := (hg g hgm).2.1
    simp only [canonStep, Bool.false_eq_true, if_false, pure, Except.pure, Except.ok.injEq] at this
    exact this.symm
  have hout : out = streamOut true (gs.map fun g => format (nfTree m none g.T') i c) := by
    simp only [out]; congr 1
    apply List.map_congr_left
    intro g hgm; rw [hT' g hgm]; rfl
  have h1 := (stream_normal_form hw hsep u m false none i c (fun h => by cases h) x gs hg hx).1
  refine ⟨by rw [hout]; exact h1, ?_, ?_⟩
  · by_cases hnil : gs = []
    · subst hnil; rfl
    · have hss : (gs.map fun g => format (N g) i c) ≠ [] := by simpa using hnil
      simp only [out]
      rw [streamOut_join _ hss]
      have := iterparse_join u.isSpace cfg cfg.penmanOrder 1 ['\n'] (Or.inr rfl)
        (gs.map fun g => (format (N g) i c, N g))
        (by intro p hp; simp only [List.mem_map] at hp; obtain ⟨g, _, rfl⟩ := hp; exact format_noCR _ _ _)
        (by
          intro p hp; simp only [List.mem_map] at hp
          obtain ⟨g, hgm, rfl⟩ := hp
          have hwf := C01.parse_wf hw u.isSpace g.s g.T (parse_of_parseTree (hg g hgm).1)
          exact ⟨⟨(0, 0)⟩, parseTree_format hw u.isSpace _ _ (wfTreeText_dropNull cfg g.T.node hwf.1) hwf.2 i c _⟩)
      simpa [List.map_map, Function.comp_def] using this
  · intro g hgm
    have := (hg g hgm).2.2
    rw [hT' g hgm] at this
    exact interpret_dropNull u.isAlpha m g.T.node g.T.metadata this.1

/-! ## normal form: `--canonicalize-roles`, `--rearrange`, `--indent`, `--compact` -/

/-- **normal-form clause, one graph** (`_partial`: for the option sets `nfOpts`).
    Let the input parse completely as `T`, let `T'` be `T` after the canonicalisation step
    (`T' = T` without `--canonicalize-roles`), `WfLayout` for `T'`.  Then the command prints
    `out1 = format (nfTree m re T') ++ "\n"` with status 0, and feeding `out1` back through the
    command with the same options prints `out1` again, byte for byte, with status 0. -/
theorem cli_normal_form_partial {cfg : LexCfg} (hw : Spec.FmtCfgWf cfg = true) (hsep : SepChar cfg '\n')
    (u : UTables) (m : Model) (canon : Bool) (re : Option (List KeyFn × Bool)) (i : Indent) (c : Bool)
    (hm : canon = true → ModelWf m ∧ NormRolesText cfg m = true)
    (x : Str) (T T' : Tree)
    (hp : parseTree ⟨eofPos (lexStr cfg cfg.penmanOrder x)⟩ u.isSpace (lexStr cfg cfg.penmanOrder x)
      = .ok (T, []))
    (hc : canonStep m canon T = .ok T') (hl : WfLayout u.isAlpha m T'.node) :
    let out1 := format (nfTree m re T') i c ++ ['\n']
    processInput cfg u m (nfOpts canon re i c) x = (out1, .ok 0) ∧
    processInput cfg u m (nfOpts canon re i c) out1 = (out1, .ok 0) := by
  have hwf := C01.parse_wf hw u.isSpace x T (parse_of_parseTree ⟨_, hp⟩)
  exact C20gen.single_fixed hw hsep u m (nfOpts canon re i c) x T (nfTree m re T') hp
    (tree_normal_form (cfg := cfg) u m canon re i c hm T T' hwf.1 hwf.2 hc hl)

/-- **normal-form clause, streams**: any number of graphs in one input. -/
theorem cli_normal_form_stream {cfg : LexCfg} (hw : Spec.FmtCfgWf cfg = true) (hsep : SepChar cfg '\n')
    (u : UTables) (m : Model) (canon : Bool) (re : Option (List KeyFn × Bool)) (i : Indent) (c : Bool)
    (hm : canon = true → ModelWf m ∧ NormRolesText cfg m = true)
    (x : Str) (gs : List GraphIn) (hg : ∀ g ∈ gs, g.Ok cfg u m canon)
    (hx : LSim u.isSpace [] (gs.map fun g => lexStr cfg cfg.penmanOrder g.s).flatten
      (lexStr cfg cfg.penmanOrder x)) :
    let out1 := streamOut true (gs.map fun g => format (nfTree m re g.T') i c)
    processInput cfg u m (nfOpts canon re i c) x = (out1, .ok 0) ∧
    processInput cfg u m (nfOpts canon re i c) out1 = (out1, .ok 0) :=
  stream_normal_form hw hsep u m canon re i c hm x gs hg hx

/-- the stream hypothesis holds for texts joined by `k+1` line feeds, with or without a final
    line feed (what `dumps`/`dump` and the command itself write) -/
theorem stream_of_joined (isSpace : Char → Bool) (cfg : LexCfg) (k : Nat) (trail : Str)
    (ht : trail = [] ∨ trail = ['\n']) (ss : List Str) (hcr : ∀ s ∈ ss, s.getLast? ≠ some '\r') :
    LSim isSpace [] (ss.map (lexStr cfg cfg.penmanOrder)).flatten
      (lexStr cfg cfg.penmanOrder (joinStr ('\n' :: List.replicate k '\n') ss ++ trail)) :=
  (lexJoin_sim isSpace cfg cfg.penmanOrder k trail ht ss hcr 1).symm_nil

/-- **several inputs** (`main` over stdin or FILEs): the outputs are concatenated, the status is
    0, and each input's output, fed back on its own, is reproduced byte for byte. -/
theorem cli_normal_form_inputs {cfg : LexCfg} (hw : Spec.FmtCfgWf cfg = true) (hsep : SepChar cfg '\n')
    (u : UTables) (m : Model) (canon : Bool) (re : Option (List KeyFn × Bool)) (i : Indent) (c : Bool)
    (hm : canon = true → ModelWf m ∧ NormRolesText cfg m = true)
    (ins : List (Str × List GraphIn))
    (hg : ∀ p ∈ ins, (∀ g ∈ p.2, g.Ok cfg u m canon) ∧
      LSim u.isSpace [] (p.2.map fun g => lexStr cfg cfg.penmanOrder g.s).flatten
        (lexStr cfg cfg.penmanOrder p.1)) :
    let outOf : Str × List GraphIn → Str :=
      fun p => streamOut true (p.2.map fun g => format (nfTree m re g.T') i c)
    mainRun cfg u m (nfOpts canon re i c) (ins.map (·.1)) [] 0 = ((ins.map outOf).flatten, .ok 0) ∧
    ∀ p ∈ ins, mainRun cfg u m (nfOpts canon re i c) [outOf p] [] 0 = (outOf p, .ok 0) := by
  intro outOf
  constructor
  · have := mainRun_inputs cfg u m (nfOpts canon re i c) (ins.map fun p => (p.1, outOf p, 0))
      (by
        intro q hq; simp only [List.mem_map] at hq
        obtain ⟨p, hpm, rfl⟩ := hq
        exact (stream_normal_form hw hsep u m canon re i c hm p.1 p.2 (hg p hpm).1 (hg p hpm).2).1)
      [] 0
    simp only [List.map_map, Function.comp_def, List.nil_append] at this
    rw [this, C20gen.foldl_or_zero _ _ (by intro q hq; simp only [List.mem_map] at hq; obtain ⟨p, _, rfl⟩ := hq; rfl)]
  · intro p hpm
    have h2 := (stream_normal_form hw hsep u m canon re i c hm p.1 p.2 (hg p hpm).1 (hg p hpm).2).2
    have := mainRun_inputs cfg u m (nfOpts canon re i c) [(outOf p, outOf p, 0)]
      (by intro q hq; simp only [List.mem_singleton] at hq; subst hq; exact h2) [] 0
    simpa using this

/-! ## non-vacuity -/

/- decidable equality of trees and results, for the kernel evaluations (`eval_decide`) only -/
deriving instance DecidableEq for Node, Branches
deriving instance DecidableEq for Tree
deriving instance DecidableEq for Except

/-- ASCII stand-ins for the Unicode tables `str.isspace`, `str.isalpha`, `str.lower` -/
def uT : UTables := ⟨fun c => c = ' ' || c = '\n', isAsciiAlpha, fun c => [c]⟩

abbrev gcfg : LexCfg := Generated.lexCfg
abbrev amr : Model := Generated.amrModel

def s (x : String) : Str := x.toList

/-- the running example `(a / alpha :ARG0-of (b / beta) :mod 5 :ARG1 b)` -/
def exText : Str := s "(a / alpha :ARG0-of (b / beta) :mod 5 :ARG1 b)"
def exTree : Tree :=
  ⟨.mk (some (s "a")) (.atom (s "/") (.str (s "alpha"))
    (.sub (s ":ARG0-of") (.mk (some (s "b")) (.atom (s "/") (.str (s "beta")) .nil))
    (.atom (s ":mod") (.str (s "5"))
    (.atom (s ":ARG1") (.str (s "b")) .nil)))), []⟩

/-- the same graph written with non-canonical roles: `:ARG0-of-of-of`, `:domain-of` -/
def exText2 : Str := s "# ::id 2\n(a / alpha :ARG0-of-of-of (b / beta) :domain-of 5 :ARG1 b)"
def exTree2 : Tree :=
  ⟨.mk (some (s "a")) (.atom (s "/") (.str (s "alpha"))
    (.sub (s ":ARG0-of-of-of") (.mk (some (s "b")) (.atom (s "/") (.str (s "beta")) .nil))
    (.atom (s ":domain-of") (.str (s "5"))
    (.atom (s ":ARG1") (.str (s "b")) .nil)))), [(s "id", s "2")]⟩

/-- options: `--amr --canonicalize-roles --rearrange canonical` (adaptive indentation) -/
def exRe : Option (List KeyFn × Bool) := some ([.canonical], false)

attribute [eval_unfold] s exText exTree exText2 exTree2

theorem ex_parse : parseTree ⟨eofPos (lexStr gcfg gcfg.penmanOrder exText)⟩ uT.isSpace
    (lexStr gcfg gcfg.penmanOrder exText) = .ok (exTree, []) := by eval_decide
theorem ex_parse2 : parseTree ⟨eofPos (lexStr gcfg gcfg.penmanOrder exText2)⟩ uT.isSpace
    (lexStr gcfg gcfg.penmanOrder exText2) = .ok (exTree2, []) := by eval_decide
theorem ex_canon2 : canonStep amr true exTree2 = .ok ⟨exTree.node, exTree2.metadata⟩ := by eval_decide
/-- the canonical roles are a fixed point (`canon_tree_idem`) -/
theorem ex_canon : canonStep amr true exTree = .ok exTree := by
  obtain ⟨n', hn, e⟩ := C13.canonicalizeRoles_ok.1 ex_canon2
  rw [← (Tree.mk.inj e).1] at hn
  exact C13.canonicalizeRoles_ok.2 ⟨_, C13.canon_tree_idem C13.modelWf_amr hn, rfl⟩
theorem ex_layout : WfLayout uT.isAlpha amr exTree.node := by eval_decide

/-- `cli_normal_form_partial` instantiated: AMR, canonicalise + rearrange canonical -/
example (i : Indent) (c : Bool) :
    let out1 := format (nfTree amr exRe exTree) i c ++ ['\n']
    processInput gcfg uT amr (nfOpts true exRe i c) exText = (out1, .ok 0) ∧
    processInput gcfg uT amr (nfOpts true exRe i c) out1 = (out1, .ok 0) :=
  cli_normal_form_partial C01.fmt_cfg_wf sepChar_generated uT amr true exRe i c
    (fun _ => ⟨C13.modelWf_amr, normRolesText_generated.2.1⟩) exText exTree exTree ex_parse ex_canon ex_layout

/-- … and on the non-canonical spelling (canonicalisation really rewrites roles, metadata kept) -/
example (i : Indent) (c : Bool) :
    let out1 := format (nfTree amr exRe ⟨exTree.node, exTree2.metadata⟩) i c ++ ['\n']
    processInput gcfg uT amr (nfOpts true exRe i c) exText2 = (out1, .ok 0) ∧
    processInput gcfg uT amr (nfOpts true exRe i c) out1 = (out1, .ok 0) :=
  cli_normal_form_partial C01.fmt_cfg_wf sepChar_generated uT amr true exRe i c
    (fun _ => ⟨C13.modelWf_amr, normRolesText_generated.2.1⟩) exText2 exTree2 _ ex_parse2 ex_canon2 ex_layout

/-- input for `cli_identity`: two metadata items on one line, an empty concept slot, an inverted edge -/
def idText : Str := s "# ::id 1 ::snt x y\n(a / :ARG0-of (b / beta) :mod 5)"
def idTree : Tree :=
  ⟨.mk (some (s "a")) (.atom (s "/") .none
    (.sub (s ":ARG0-of") (.mk (some (s "b")) (.atom (s "/") (.str (s "beta")) .nil))
    (.atom (s ":mod") (.str (s "5")) .nil))), [(s "snt", s "x y"), (s "id", s "1")]⟩

attribute [eval_unfold] idText idTree

theorem id_parse : parseTree ⟨eofPos (lexStr gcfg gcfg.penmanOrder idText)⟩ uT.isSpace
    (lexStr gcfg gcfg.penmanOrder idText) = .ok (idTree, []) := by eval_decide
theorem id_layout : WfLayout uT.isAlpha amr idTree.node := by eval_decide

/-- `cli_identity` instantiated (AMR model, every indentation, compact or not) -/
example (i : Indent) (c : Bool) :
    let N : Tree := ⟨dropNullConcept idTree.node, idTree.metadata⟩
    processInput gcfg uT amr { indent := i, compact := c } idText = (format N i c ++ ['\n'], .ok 0) ∧
    C01.parse gcfg uT.isSpace (format N i c ++ ['\n']) = .ok N ∧
    interpret uT.isAlpha amr N = interpret uT.isAlpha amr idTree :=
  cli_identity C01.fmt_cfg_wf sepChar_generated uT amr i c idText idTree id_parse id_layout

/-- the normalisation really happens: `(a / :ARG0-of …)` is printed `(a :ARG0-of …)` -/
example : format ⟨dropNullConcept idTree.node, idTree.metadata⟩ none false =
    s "# ::snt x y\n# ::id 1\n(a :ARG0-of (b / beta) :mod 5)" := by eval_decide

/-- two graphs in one stream (blank-line separated, final line feed): the stream hypothesis of
    `cli_normal_form_stream` / `cli_identity_stream` holds by `stream_of_joined` -/
example : LSim uT.isSpace [] ([exText, idText].map (lexStr gcfg gcfg.penmanOrder)).flatten
    (lexStr gcfg gcfg.penmanOrder (joinStr ('\n' :: List.replicate 1 '\n') [exText, idText] ++ ['\n'])) :=
  stream_of_joined uT.isSpace gcfg 1 ['\n'] (Or.inr rfl) [exText, idText] (by eval_decide)

/-! ## boundaries and counterexamples -/

/-- `(a / x :domain b :mod-of b)` and its canonical form `(a / x :domain b :domain b)` -/
def mergeTree : Tree :=
  ⟨.mk (some (s "a")) (.atom (s "/") (.str (s "x"))
    (.atom (s ":domain") (.str (s "b")) (.atom (s ":mod-of") (.str (s "b")) .nil))), []⟩
def mergeTree' : Tree :=
  ⟨.mk (some (s "a")) (.atom (s "/") (.str (s "x"))
    (.atom (s ":domain") (.str (s "b")) (.atom (s ":domain") (.str (s "b")) .nil))), []⟩

attribute [eval_unfold] mergeTree mergeTree'

/-- `WfLayout` is NOT preserved by canonicalisation (AMR merges `:mod-of` into `:domain`): hence the
    hypothesis of the normal-form theorems is on the canonicalised tree.  (The command is still
    idempotent on this input — checked on the model in Props/C20nfEval.lean and on /repo — so the
    hypothesis is sufficient, not necessary: with duplicated triples C02 does not apply.) -/
theorem canon_breaks_wfLayout :
    WfLayout uT.isAlpha amr mergeTree.node ∧ canonStep amr true mergeTree = .ok mergeTree' ∧
    ¬ WfLayout uT.isAlpha amr mergeTree'.node := by eval_decide

/- The clause for the other option sets is proved per family: the graph stages in Props/C20gen.lean
   (`C20gen.cli_normal_form_graph_stages`, `_stream`; F18 is excluded by `C20gen.NoInvReifiable`,
   Props/C20genStages.lean), `--make-variables` in Props/C20vars.lean (`C20gen.make_variables_normal_form`,
   `_stream`).  OPEN: `--check`, where the `error-N` metadata written by the first pass would have to be
   reproduced by the second; no theorem covers it. -/

end Penman.C20nf
