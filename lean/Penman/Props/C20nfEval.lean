import Penman.Props.C20nf
import Penman.Proofs.Cli
import Penman.Props.C20
/-!
# C20 (normal-form clause) — concrete runs of the command evaluated on the model

Companion of `Penman/Props/C20nf.lean`: closed runs of `processInput` / `mainRun`: the two passes on the
running example (`cli_normal_form_partial`, the printed text evaluated) and, through the kernel-evaluable
twins of `Penman/Proofs/Cli.lean` (`processInput_eq_S`, …), the several-files finding, the role-merging
boundary and finding F18.
-/
namespace Penman.C20nf
open Penman Penman.NF

/-- the two passes for `--amr --canonicalize-roles` (adaptive indentation) on the non-canonical spelling:
    `cli_normal_form_partial`, with the text it prints evaluated on the model;
    with `--rearrange` the sort (`List.mergeSort`, well-founded recursion) does not evaluate in the
    kernel — the real command prints `(a / alpha\n   :ARG1 b\n   :mod 5\n   :ARG0-of (b / beta))`
    for the running example and reproduces it (checked on /repo) -/
example :
    processInput gcfg uT amr (nfOpts true none (some (-1)) false) exText2 =
      (s "# ::id 2\n(a / alpha\n   :ARG0-of (b / beta)\n   :mod 5\n   :ARG1 b)\n", .ok 0) ∧
    processInput gcfg uT amr (nfOpts true none (some (-1)) false)
        (s "# ::id 2\n(a / alpha\n   :ARG0-of (b / beta)\n   :mod 5\n   :ARG1 b)\n") =
      (s "# ::id 2\n(a / alpha\n   :ARG0-of (b / beta)\n   :mod 5\n   :ARG1 b)\n", .ok 0) := by
  have e : format (nfTree amr none ⟨exTree.node, exTree2.metadata⟩) (some (-1)) false ++ ['\n'] =
      s "# ::id 2\n(a / alpha\n   :ARG0-of (b / beta)\n   :mod 5\n   :ARG1 b)\n" := by eval_decide
  rw [← e]
  exact cli_normal_form_partial C01.fmt_cfg_wf sepChar_generated uT amr true none (some (-1)) false
    (fun _ => ⟨C13.modelWf_amr, normRolesText_generated.2.1⟩) exText2 exTree2 _ ex_parse2 ex_canon2 ex_layout

/-- FINDING: several input files.  `penman a b` prints the two outputs back to back; feeding that
    text back as one stream inserts a blank line between the graphs (only the third text is a
    fixed point).  Real penman: `penman a.txt b.txt` prints `(a / x)\n(b / y)\n`, and
    `penman` on that prints `(a / x)\n\n(b / y)\n`. -/
theorem several_files_not_fixed :
    mainRun gcfg uT Generated.defaultModel {} [s "(a / x)", s "(b / y)\n"] [] 0 = (s "(a / x)\n(b / y)\n", .ok 0) ∧
    mainRun gcfg uT Generated.defaultModel {} [s "(a / x)\n(b / y)\n"] [] 0 = (s "(a / x)\n\n(b / y)\n", .ok 0) ∧
    mainRun gcfg uT Generated.defaultModel {} [s "(a / x)\n\n(b / y)\n"] [] 0 = (s "(a / x)\n\n(b / y)\n", .ok 0) := by
  cli_decide

example :
    processInput gcfg uT amr (nfOpts true none none false) (s "(a / x :domain b :mod-of b)") =
      (s "(a / x :domain b :domain b)\n", .ok 0) ∧
    processInput gcfg uT amr (nfOpts true none none false) (s "(a / x :domain b :domain b)\n") =
      (s "(a / x :domain b :domain b)\n", .ok 0) := by
  cli_decide

/-- finding F18 (= `Penman.C20.normal_form_F18`): `--amr --reify-edges --reify-attributes` is not
    idempotent on an inverted attribute whose base role is reifiable -/
example :
    processInput gcfg uT amr { reifyEdges := true, reifyAttributes := true } (s "(a / x :mod-of 7)") =
      (s "(a / x\n   :mod-of (_ / 7))\n", .ok 0) ∧
    processInput gcfg uT amr { reifyEdges := true, reifyAttributes := true } (s "(a / x\n   :mod-of (_ / 7))\n") =
      (s "(a / x\n   :ARG2-of (_2 / have-mod-91\n                :ARG1 (_ / 7)))\n", .ok 0) :=
  C20.normal_form_F18

end Penman.C20nf
