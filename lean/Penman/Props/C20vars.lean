import Penman.Proofs.NormalFormVarsCli
import Penman.Props.C20genEval
import Penman.Proofs.Eval
/-!
# C20 (normal-form clause) — `--make-variables FMT`, hypotheses on the FIRST pass only

Property C20 (the `penman` command): "… feeding the tool's output back to it with the same options reproduces
it byte for byte …".  `Penman/Props/C20genVars.lean` has `reset_variables_idempotent` and
`make_variables_normal_form_partial` (hypotheses on the PRINTED, relabelled tree); this file has the clause
from hypotheses on the first pass.

Model functions: `processInput`, `processTree`, `processIn`, `processOut` (Penman/Main.lean), `configure`,
`rearrange`, `Node.resetVariables`, `buildVarmap`, `Node.mapVars` (Penman/Tree.lean), `interpret`,
`canonicalizeRoles`, `reifyEdges`, `dereifyEdges`, `reifyAttributes`.
Vocabulary: `varOpts`, `stageOpts`, `StagesFixed`, `LayoutOK` (Spec/NormalFormGraph.lean), `nfTree`, `canonStep`,
`streamOut` (Spec/NormalForm.lean), `WfReset` (Props/C10.lean), `Spec.symbolB` (Spec/TextWf.lean),
`WfGraph`, `GraphTextOK`, `PushVars`, `NoNum`.

Clause ↦ theorem
* "with `--make-variables FMT` (and any of `--canonicalize-roles`, `--rearrange KEY`, `--reify-edges`,
  `--dereify-edges`, `--reify-attributes`, `--indent`, `--compact`) the output is reproduced byte for byte"
  ↦ `make_variables_normal_form` (one graph) and `make_variables_normal_form_stream` (any number of graphs in
  one input).  Hypotheses, all decidable, on the FIRST pass only: those of
  `Penman.C20gen.cli_normal_form_graph_stages` on the first-pass graph `g1` and on the rearranged tree
  `R = nfTree m re (configure g1)` BEFORE relabelling (`WfGraph`, `LayoutOK`, `GraphTextOK`, `PushVars`, `NoNum`,
  `canonStep R = R`, `StagesFixed R`), plus: the variable map `vm` that `reset_variables` builds for `R`
  satisfies C10's `WfReset` (old variables do not start with `"`, new names contain no `~` and do not start with
  `"`, NO CONSTANT IS SPELLED LIKE A NEW NAME, references hang on roles that do not give `:instance`), and the
  new names are SYMBOL texts (`hnames`).  The template need not be progressive: success of the relabelling
  (`hrv`) is a hypothesis (for a progressive template it follows from C10 `reset_total`).
  Proof: the printed tree is `N' = RV.renNode vm R.node` (C10 `reset_shape`); each fact the second pass needs
  about `N'` is transported along the renaming:
  (a) `WfLayout`, `noNullN` — `RV.wfLayout_ren`, `RV.noNullN_ren` (Proofs/NormalFormVarsLayout.lean);
  (b) `WfTreeText` — `RV.wfTreeText_ren`; (c) rearrangement fixed point — `RV.rearrangeOpt_ren_fixed`;
  (d) canonicalisation fixed point — `RV.canonStep_ren_fixed` (Proofs/NormalFormVarsTree.lean);
  (e) `StagesFixed` — C10 `interpret_ren` + `RV.stagesIdle_interpret_ren` (Proofs/NormalFormVarsStages.lean):
  `NoReifiable`, `NoCollapsible`, `NoAttributes` are invariant under an injective renaming of the variables
  that captures no constant;
  then `tree_normal_form_vars` (second-pass relabelling is the identity by `reset_variables_idempotent`).
* the proviso "no constant is spelled like a new name" is NEEDED ↦ `make_variables_capture_counterexample`:
  `penman --amr --make-variables '{prefix}{j}'` on `(x / foo :ARG0-of f)` prints `(f / foo :ARG0-of f)`, and on
  that prints `(f / foo :ARG0 f)`.  The same runs on /repo print the same two texts (the real `reset_variables` does not
  avoid names that collide with constants), so this is a boundary of the property that the real code shares,
  not a discrepancy of the model.
-/
namespace Penman.C20gen
open Penman.NF Penman.Cfg Penman.C03Text Penman.Framing Penman.C20nf

/-- **normal-form clause with `--make-variables`, one graph, hypotheses on the first pass only.**
    The input parses completely as `T`; the first pass turns it into the graph `g1` and encodes `g1` as `T1`;
    `R = nfTree m re T1` is the rearranged tree, `vm` the variable map `reset_variables` builds for it and `N'`
    its relabelling — the printed tree is `⟨N', metadata⟩`. -/
theorem make_variables_normal_form {cfg : LexCfg} (hwc : Spec.FmtCfgWf cfg = true) (hsep : SepChar cfg '\n')
    (u : UTables) (m : Model) (canon : Bool) (re : Option (List KeyFn × Bool)) (rE dE rA : Bool) (fmt : Fmt)
    (i : Indent) (c : Bool) (hw : ModelWf m) (hnoop : m.noop = false)
    (x : Str) (T : Tree) (g1 : Graph) (T1 : Tree) (N' : Node) (vm : AList Str Str)
    (hp : parseTree ⟨eofPos (lexStr cfg cfg.penmanOrder x)⟩ u.isSpace (lexStr cfg cfg.penmanOrder x)
      = .ok (T, []))
    (hin : processIn u m (varOpts canon re rE dE rA fmt i c) T = .ok g1)
    (hcf : configure m g1 none = .ok T1)
    (hg : WfGraph m g1) (hL : LayoutOK m g1) (htx : GraphTextOK cfg u.isSpace m g1) (hpv : Cfg.PushVars g1)
    (hnum : NoNum g1)
    (hcanon : canonStep m canon (nfTree m re T1) = .ok (nfTree m re T1))
    (hfix : StagesFixed u.isAlpha m (stageOpts canon re rE dE rA i c) (nfTree m re T1))
    (hvm : buildVarmap u.isAlpha u.lower fmt (nfTree m re T1).node.nodes [] [] = some vm)
    (hrv : (nfTree m re T1).node.resetVariables u.isAlpha u.lower fmt = .ok N')
    (hreset : WfReset m vm (nfTree m re T1).node = true)
    (hnames : ∀ v ∈ N'.vars, Spec.symbolB cfg v = true) :
    let out1 := format ⟨N', T1.metadata⟩ i c ++ ['\n']
    processInput cfg u m (varOpts canon re rE dE rA fmt i c) x = (out1, .ok 0) ∧
    processInput cfg u m (varOpts canon re rE dE rA fmt i c) out1 = (out1, .ok 0) :=
  single_fixed hwc hsep u m (varOpts canon re rE dE rA fmt i c) x T ⟨N', T1.metadata⟩ hp
    (tree_normal_form_vars_first (cfg := cfg) hwc u m canon re rE dE rA fmt i c hw hnoop T g1 T1 N' vm
      hin hcf hg hL htx hpv hnum hcanon hfix hvm hrv hreset hnames)

/-- the hypotheses of `make_variables_normal_form` on one graph of a stream: its text `s`, the parsed tree `T`,
    the first-pass graph `g1`, its encoding `T1`, the variable map `vm` and the relabelled node `N'` -/
structure VarRun (cfg : LexCfg) (u : UTables) (m : Model) (canon : Bool) (re : Option (List KeyFn × Bool))
    (rE dE rA : Bool) (fmt : Fmt) (i : Indent) (c : Bool) (s : Str) (T : Tree) (g1 : Graph) (T1 : Tree)
    (vm : AList Str Str) (N' : Node) : Prop where
  parse : ∃ c0, parseTree c0 u.isSpace (lexStr cfg cfg.penmanOrder s) = .ok (T, [])
  first : processIn u m (varOpts canon re rE dE rA fmt i c) T = .ok g1
  enc : configure m g1 none = .ok T1
  wf : WfGraph m g1
  lay : LayoutOK m g1
  text : GraphTextOK cfg u.isSpace m g1
  push : Cfg.PushVars g1
  noNum : NoNum g1
  canonFix : canonStep m canon (nfTree m re T1) = .ok (nfTree m re T1)
  fixed : StagesFixed u.isAlpha m (stageOpts canon re rE dE rA i c) (nfTree m re T1)
  varmap : buildVarmap u.isAlpha u.lower fmt (nfTree m re T1).node.nodes [] [] = some vm
  reset : (nfTree m re T1).node.resetVariables u.isAlpha u.lower fmt = .ok N'
  wfReset : WfReset m vm (nfTree m re T1).node = true
  names : ∀ v ∈ N'.vars, Spec.symbolB cfg v = true

/-- **normal-form clause with `--make-variables`, streams**: any number of graphs in one input (separated by
    anything that produces no tokens) -/
theorem make_variables_normal_form_stream {cfg : LexCfg} (hwc : Spec.FmtCfgWf cfg = true)
    (hsep : SepChar cfg '\n') (u : UTables) (m : Model) (canon : Bool) (re : Option (List KeyFn × Bool))
    (rE dE rA : Bool) (fmt : Fmt) (i : Indent) (c : Bool) (hw : ModelWf m) (hnoop : m.noop = false)
    (x : Str) (gs : List (Str × Tree × Graph × Tree × AList Str Str × Node))
    (hg : ∀ g ∈ gs, VarRun cfg u m canon re rE dE rA fmt i c g.1 g.2.1 g.2.2.1 g.2.2.2.1 g.2.2.2.2.1 g.2.2.2.2.2)
    (hx : LSim u.isSpace [] (gs.map fun g => lexStr cfg cfg.penmanOrder g.1).flatten
      (lexStr cfg cfg.penmanOrder x)) :
    let out1 := streamOut true (gs.map fun g => format ⟨g.2.2.2.2.2, g.2.2.2.1.metadata⟩ i c)
    processInput cfg u m (varOpts canon re rE dE rA fmt i c) x = (out1, .ok 0) ∧
    processInput cfg u m (varOpts canon re rE dE rA fmt i c) out1 = (out1, .ok 0) := by
  have := stream_fixed hwc hsep u m (varOpts canon re rE dE rA fmt i c) x
    (gs.map fun g => ⟨g.1, g.2.1, ⟨g.2.2.2.2.2, g.2.2.2.1.metadata⟩⟩)
    (by
      intro r hr; simp only [List.mem_map] at hr
      obtain ⟨g, hgm, rfl⟩ := hr
      have h := hg g hgm
      exact ⟨h.parse, tree_normal_form_vars_first (cfg := cfg) hwc u m canon re rE dE rA fmt i c hw hnoop g.2.1
        g.2.2.1 g.2.2.2.1 g.2.2.2.2.2 g.2.2.2.2.1 h.first h.enc h.wf h.lay h.text h.push h.noNum h.canonFix h.fixed
        h.varmap h.reset h.wfReset h.names⟩)
    (by simpa [List.map_map, Function.comp_def] using hx)
  simpa [List.map_map, Function.comp_def, varOpts, stageOpts] using this

/-! ## non-vacuity: `penman --amr --make-variables 'v{i}' --rearrange canonical` -/

/-- three nodes and a re-entrancy -/
def vxText : Str := s "(a / alpha :ARG1 (b / beta :ARG0 (g / gamma)) :ARG0 g)"
def vxTree : Tree :=
  ⟨.mk (some (s "a")) (.atom (s "/") (.str (s "alpha"))
    (.sub (s ":ARG1") (.mk (some (s "b")) (.atom (s "/") (.str (s "beta"))
      (.sub (s ":ARG0") (.mk (some (s "g")) (.atom (s "/") (.str (s "gamma")) .nil)) .nil)))
    (.atom (s ":ARG0") (.str (s "g")) .nil))), []⟩

def vxG1 : Graph :=
  { triples := [T3 "a" ":instance" (S3 "alpha"), T3 "a" ":ARG1" (S3 "b"), T3 "b" ":instance" (S3 "beta"),
      T3 "b" ":ARG0" (S3 "g"), T3 "g" ":instance" (S3 "gamma"), T3 "a" ":ARG0" (S3 "g")],
    top := some (s "a"),
    epidata := [(T3 "a" ":instance" (S3 "alpha"), []), (T3 "a" ":ARG1" (S3 "b"), [.push (s "b")]),
      (T3 "b" ":instance" (S3 "beta"), []), (T3 "b" ":ARG0" (S3 "g"), [.push (s "g")]),
      (T3 "g" ":instance" (S3 "gamma"), [.pop, .pop]), (T3 "a" ":ARG0" (S3 "g"), [])],
    metadata := [] }

/-- `--rearrange canonical` -/
abbrev vxRe : Option (List KeyFn × Bool) := some ([.canonical], false)
/-- the template `v{i}` -/
abbrev vxFmt : Fmt := [.lit (s "v"), .i]
abbrev vxOpts (i : Indent) (c : Bool) : Opts := varOpts false vxRe false false false vxFmt i c

/-- the rearranged tree `(a / alpha :ARG0 g :ARG1 (b / beta :ARG0 (g / gamma)))` … -/
def vxR : Node :=
  .mk (some (s "a")) (.atom (s "/") (.str (s "alpha"))
    (.atom (s ":ARG0") (.str (s "g"))
    (.sub (s ":ARG1") (.mk (some (s "b")) (.atom (s "/") (.str (s "beta"))
      (.sub (s ":ARG0") (.mk (some (s "g")) (.atom (s "/") (.str (s "gamma")) .nil)) .nil))) .nil)))
/-- … its variable map (depth-first order of the REARRANGED tree) … -/
def vxVm : AList Str Str := [(s "a", s "v0"), (s "b", s "v1"), (s "g", s "v2")]
/-- … and the printed tree `(v0 / alpha :ARG0 v2 :ARG1 (v1 / beta :ARG0 (v2 / gamma)))` -/
def vxN : Node :=
  .mk (some (s "v0")) (.atom (s "/") (.str (s "alpha"))
    (.atom (s ":ARG0") (.str (s "v2"))
    (.sub (s ":ARG1") (.mk (some (s "v1")) (.atom (s "/") (.str (s "beta"))
      (.sub (s ":ARG0") (.mk (some (s "v2")) (.atom (s "/") (.str (s "gamma")) .nil)) .nil))) .nil)))

attribute [eval_unfold] vxText vxTree vxG1 vxN

theorem vx_parse : parseTree ⟨eofPos (lexStr gcfg gcfg.penmanOrder vxText)⟩ uT.isSpace
    (lexStr gcfg gcfg.penmanOrder vxText) = .ok (vxTree, []) := by eval_decide
theorem vx_in (i : Indent) (c : Bool) : processIn uT amr (vxOpts i c) vxTree = .ok vxG1 := by
  have : processIn uT amr (vxOpts i c) vxTree = processIn uT amr (vxOpts none false) vxTree := rfl
  rw [this]; eval_decide
theorem vx_cf : configure amr vxG1 none = .ok vxTree := by rw [C02.configure_eq]; decide +kernel
theorem vx_wf : WfGraph amr vxG1 ∧ LayoutOK amr vxG1 ∧ GraphTextOK gcfg uT.isSpace amr vxG1 ∧
    Cfg.PushVars vxG1 ∧ NoNum vxG1 := by eval_decide
theorem vx_R : nfTree amr vxRe vxTree = ⟨vxR, []⟩ := by
  have h0 : dropNullConcept vxTree.node = vxTree.node := by decide +kernel
  have hs : s "/" = ['/'] := by decide
  have h2 : ∀ n, branchLe amr [] (some [.canonical]) (s ":ARG1", .node n) (s ":ARG0", .atom (.str (s "g")))
      = false := by
    intro n; simp [branchLe, branchKey, RA.branchTargetInVars_nil]; decide +kernel
  simp only [nfTree, rearrangeOpt, rearrange, h0]
  simp only [vxTree, vxR, hs, rearrangeNode, rearrangeKids, RA.sortBranches_pair, RA.sortBranches_singleton, if_true,
    Bool.false_eq_true, if_false, h2]
  simp [Branches.ofList, sortBranches]
theorem vx_fix (i : Indent) (c : Bool) :
    StagesFixed uT.isAlpha amr (stageOpts false vxRe false false false i c) (nfTree amr vxRe vxTree) :=
  stagesFixed_congr (o := stageOpts false vxRe false false false none false) rfl rfl rfl
    (by rw [vx_R]; decide +kernel)
theorem vx_reset : buildVarmap uT.isAlpha uT.lower vxFmt (nfTree amr vxRe vxTree).node.nodes [] [] = some vxVm ∧
    (nfTree amr vxRe vxTree).node.resetVariables uT.isAlpha uT.lower vxFmt = .ok vxN ∧
    WfReset amr vxVm (nfTree amr vxRe vxTree).node = true ∧
    (∀ v ∈ vxN.vars, Spec.symbolB gcfg v = true) := by
  rw [vx_R]; decide +kernel

/-- `make_variables_normal_form` instantiated: every indentation, compact or not -/
theorem vx_normal_form (i : Indent) (c : Bool) :
    let out1 := format ⟨vxN, []⟩ i c ++ ['\n']
    processInput gcfg uT amr (vxOpts i c) vxText = (out1, .ok 0) ∧
    processInput gcfg uT amr (vxOpts i c) out1 = (out1, .ok 0) :=
  make_variables_normal_form C01.fmt_cfg_wf sepChar_generated uT amr false vxRe false false false vxFmt i c
    C13.modelWf_amr (by decide) vxText vxTree vxG1 vxTree vxN vxVm vx_parse (vx_in i c) vx_cf vx_wf.1 vx_wf.2.1
    vx_wf.2.2.1 vx_wf.2.2.2.1 vx_wf.2.2.2.2 rfl (vx_fix i c) vx_reset.1 vx_reset.2.1 vx_reset.2.2.1 vx_reset.2.2.2

/-- the text that is printed (adaptive indentation); /repo prints the same bytes, twice -/
theorem vx_out : format ⟨vxN, []⟩ (some (-1)) false =
    s "(v0 / alpha\n    :ARG0 v2\n    :ARG1 (v1 / beta\n              :ARG0 (v2 / gamma)))" := by eval_decide

/-- the stream version on two copies of the graph -/
example (i : Indent) (c : Bool) (x : Str)
    (hx : LSim uT.isSpace [] ([vxText, vxText].map (lexStr gcfg gcfg.penmanOrder)).flatten
      (lexStr gcfg gcfg.penmanOrder x)) :
    let out1 := streamOut true [format ⟨vxN, []⟩ i c, format ⟨vxN, []⟩ i c]
    processInput gcfg uT amr (vxOpts i c) x = (out1, .ok 0) ∧
    processInput gcfg uT amr (vxOpts i c) out1 = (out1, .ok 0) := by
  have hr : VarRun gcfg uT amr false vxRe false false false vxFmt i c vxText vxTree vxG1 vxTree vxVm vxN :=
    ⟨⟨_, vx_parse⟩, vx_in i c, vx_cf, vx_wf.1, vx_wf.2.1, vx_wf.2.2.1, vx_wf.2.2.2.1, vx_wf.2.2.2.2, rfl, vx_fix i c,
      vx_reset.1, vx_reset.2.1, vx_reset.2.2.1, vx_reset.2.2.2⟩
  exact make_variables_normal_form_stream C01.fmt_cfg_wf sepChar_generated uT amr false vxRe false false false vxFmt
    i c C13.modelWf_amr (by decide) x
    [(vxText, vxTree, vxG1, vxTree, vxVm, vxN), (vxText, vxTree, vxG1, vxTree, vxVm, vxN)]
    (by
      intro g hg; simp only [List.mem_cons, List.not_mem_nil, or_false, or_self] at hg
      -- the projections are reduced first: unifying `(vxText, …).1` with `vxText` would unfold the text
      rw [hg]; dsimp only; exact hr)
    (by simpa using hx)

/-! ## the proviso of `WfReset` is needed -/

/-- **boundary (shared by the real tool)**: `penman --amr --make-variables '{prefix}{j}'` on `(x / foo :ARG0-of f)`.
    The new name of `x` is `f`, which is also a constant of the graph: the printed `(f / foo :ARG0-of f)` reads back
    as a self-loop, which decoding deinverts, and the second pass prints `(f / foo :ARG0 f)`.  `WfReset` is false. -/
theorem make_variables_capture_counterexample :
    let o := varOpts false none false false false [.pre, .j] (some (-1)) false
    processInput gcfg uT amr o (s "(x / foo :ARG0-of f)") = (s "(f / foo\n   :ARG0-of f)\n", .ok 0) ∧
    processInput gcfg uT amr o (s "(f / foo\n   :ARG0-of f)\n") = (s "(f / foo\n   :ARG0 f)\n", .ok 0) ∧
    WfReset amr [(s "x", s "f")]
      (.mk (some (s "x")) (.atom (s "/") (.str (s "foo")) (.atom (s ":ARG0-of") (.str (s "f")) .nil))) = false := by
  cli_decide

end Penman.C20gen
