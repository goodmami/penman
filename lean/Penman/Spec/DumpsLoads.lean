/-
  Penman.Spec.DumpsLoads — vocabulary of C09 at the level of GRAPHS: `dumps` / `dump` / `loads` / `load`
  of `penman/codec.py`, the hypothesis on a graph (`Encodable`: the hypotheses of `encode_decode_text`,
  Proofs/EncodeDecode.lean — which Props/C03Text.lean states as `C03_text` —, with the
  graph's own top) and the comparison of a loaded graph with the dumped one (`SameGraph`: the
  conclusion of `encode_decode_text`).
-/
import Penman.Proofs.EncodeDecode
import Penman.Main
namespace Penman
namespace C09g
open Penman.Spec Penman.Cfg Penman.C03Text

/-- `[f x for x in xs]` where `f` may raise: the first error wins -/
def mapE {α β ε : Type} (f : α → Except ε β) : List α → Except ε (List β)
  | [] => .ok []
  | x :: xs =>
    match f x with
    | .error e => .error e
    | .ok y =>
      match mapE f xs with
      | .error e => .error e
      | .ok ys => .ok (y :: ys)

/-- `[codec.encode(g, indent=indent, compact=compact) for g in graphs]` (`top=None`) -/
def encodeAll (m : Model) (gs : List Graph) (i : Indent) (c : Bool) : Except PyErr (List Str) :=
  mapE (fun g => encode m g none i c) gs

/-- `sep.join(encode(g) for g in graphs)` -/
def dumpsSep (sep : Str) (m : Model) (gs : List Graph) (i : Indent) (c : Bool) : Except PyErr Str :=
  (encodeAll m gs i c).map (joinStr sep)

/-- `penman.dumps(graphs, model, indent, compact)` = `'\n\n'.join(strings)` -/
def dumps (m : Model) (gs : List Graph) (i : Indent) (c : Bool) : Except PyErr Str :=
  dumpsSep ['\n', '\n'] m gs i c

/-- what `_dump_stream` writes: `print(s₀, file=fh)`, then for every further string
    `print(file=fh); print(s, file=fh)` -/
def dumpStream : List Str → Str
  | [] => []
  | s :: ss => s ++ ['\n'] ++ (ss.map fun x => ['\n'] ++ (x ++ ['\n'])).flatten

/-- the content of the file after `penman.dump(graphs, file, model, indent, compact)`
    (only the case without exception is modelled: on an error Python has already written the
    encodings before the failing one) -/
def dumpFile (m : Model) (gs : List Graph) (i : Indent) (c : Bool) : Except PyErr Str :=
  (encodeAll m gs i c).map dumpStream

/-- `list(codec.iterdecode(tokens))`: `interpret` is applied to each tree as soon as `iterparse` has
    yielded it, so an `interpret` error of a yielded tree comes before a later parse error; if all
    yielded trees are interpreted and the generator then raises, that error is the result -/
def loadToks (isSpace isAlpha : Char → Bool) (m : Model) (toks : List Tok) : Except PyErr (List Graph) :=
  match mapE (interpret isAlpha m) (iterparseToks isSpace toks).1 with
  | .error e => .error e
  | .ok gs =>
    match (iterparseToks isSpace toks).2 with
    | some e => .error e
    | none => .ok gs

/-- `penman.loads(string, model)` -/
def loads (cfg : LexCfg) (isSpace isAlpha : Char → Bool) (m : Model) (s : Str) : Except PyErr (List Graph) :=
  loadToks isSpace isAlpha m (lexStr cfg cfg.penmanOrder s)

/-- `penman.load(file, model)` where the file has content `s` (iterated by lines, universal newlines) -/
def loadFile (cfg : LexCfg) (isSpace isAlpha : Char → Bool) (m : Model) (s : Str) : Except PyErr (List Graph) :=
  loadToks isSpace isAlpha m (lexLines cfg cfg.penmanOrder (fileLines s))

/-- the hypotheses of `encode_decode_text` on a graph that is encoded from its own top (`top = None`) -/
structure Encodable (cfg : LexCfg) (isSpace : Char → Bool) (m : Model) (g : Graph) : Prop where
  wf : WfGraph m g
  text : GraphTextOK cfg isSpace m g
  pushVars : PushVars g
  pushSrc : PushSrcOK g
  top : ∃ t, g.getTop = some t ∧ t ∈ g.variables ∧ ∀ v ∈ g.variables, Reach g t v

/-- the conclusion of `encode_decode_text`: `g'` (loaded) has the content of `g` (dumped) — same top, same
    variables, same triples as a multiset after one de-inversion (constants by their written form),
    every triple of `g'` is the written form of a triple of `g` or its inversion, and the SAME
    metadata (keys, values, order) -/
structure SameGraph (m : Model) (g g' : Graph) : Prop where
  top : g'.getTop = g.getTop
  vars : ∀ x, x ∈ g'.variables ↔ x ∈ g.variables
  triples : (g'.triples.map (deinvert1 m g)).Perm ((g.triples.map writtenTriple).map (deinvert1 m g))
  written : ∀ x ∈ g'.triples, ∃ t0 ∈ g.triples, x = writtenTriple t0 ∨ x = m.invert (writtenTriple t0)
  metadata : g'.metadata = g.metadata

end C09g
end Penman

